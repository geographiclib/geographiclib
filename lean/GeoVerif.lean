-- Root of the `GeoVerif` library: the models and the correspondence handlers the driver runs; the property theorems are built as `GeoVerif.Props.Cxx`.
import GeoVerif.FP.Dy
import GeoVerif.FP.F64
import GeoVerif.Model.MathF
import GeoVerif.Corr.Proto
import GeoVerif.Corr.C16
import GeoVerif.Model.GridCodes
import GeoVerif.Corr.C18
import GeoVerif.Model.UTMUPS
import GeoVerif.Corr.C04
import GeoVerif.Model.MGRS
import GeoVerif.Corr.C05
import GeoVerif.Model.Polygon
import GeoVerif.Corr.C08
import GeoVerif.Proofs.Digits
import GeoVerif.Model.Geoid
import GeoVerif.Corr.C20
import GeoVerif.Model.Mask
import GeoVerif.Corr.C12
import GeoVerif.Basic.RealLike
import GeoVerif.Model.Geocentric
import GeoVerif.Corr.C07
import GeoVerif.Series.Poly
import GeoVerif.Series.GeodSeries
import GeoVerif.Corr.C01
import GeoVerif.Model.GeodInverse
import GeoVerif.Corr.C02
import GeoVerif.Model.GeodLengths
import GeoVerif.Model.Clenshaw
import GeoVerif.Corr.All
