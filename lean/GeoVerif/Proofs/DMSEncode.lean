import GeoVerif.Proofs.DMSGrammar
import GeoVerif.Proofs.F64Val
/-!
# Every output of the model `encode` is a text of the grammar `dmsText` (with sign / hemisphere letter)
-/
namespace GeoVerif.DMSProofs
open GeoVerif GeoVerif.DMS GeoVerif.Gen GeoVerif.Decimal

theorem dyFloor_nonneg (x : Dy) (h : 0 ≤ x.m) : 0 ≤ Dy.floor x := by
  unfold Dy.floor Dy.shl
  split
  · exact Int.mul_nonneg h (Int.pow_nonneg (by decide))
  · exact Int.ediv_nonneg h (Int.pow_nonneg (by decide))

theorem add_signbit_nonneg (a b : Nat) (ea eb : Int) :
    (F64.add (.fin false a ea) (.fin false b eb)).signbit = false := by
  have hd : 0 ≤ (Dy.add (F64.fin false a ea).toDy (F64.fin false b eb).toDy).m := by
    simp only [F64.toDy, Bool.false_eq_true, if_false, Dy.add, Dy.shl]
    split
    · exact Int.add_nonneg (Int.natCast_nonneg _) (Int.mul_nonneg (Int.natCast_nonneg _) (Int.pow_nonneg (by decide)))
    · exact Int.add_nonneg (Int.mul_nonneg (Int.natCast_nonneg _) (Int.pow_nonneg (by decide))) (Int.natCast_nonneg _)
  have hr := roundTo_sign_nonneg 53 (-1074) _ hd
  show (F64.rnd _ (false && false)).signbit = false
  unfold F64.rnd
  simp only []
  split
  · have : ¬ ((Dy.add (F64.fin false a ea).toDy (F64.fin false b eb).toDy).m < 0) := by omega
    simp [F64.signbit, this]
  · have hr' : ¬ ((Dy.round53 (Dy.add (F64.fin false a ea).toDy (F64.fin false b eb).toDy)).m < 0) := by
      unfold Dy.round53; omega
    split
    · simp [F64.signbit, hr']
    · simp [F64.ofDy, F64.signbit, hr']

theorem floor_abs_signbit (y : F64) : (F64.floor (F64.abs y)).signbit = false := by
  cases y with
  | nan => rfl
  | inf s => rfl
  | fin s m e =>
    show (F64.floor (.fin false m e)).signbit = false
    unfold F64.floor
    simp only []
    split
    · rfl
    · split
      · rfl
      · have h0 : 0 ≤ Dy.floor (F64.fin false m e).toDy := dyFloor_nonneg _ (by simp [F64.toDy])
        simpa [F64.ofInt, F64.ofDy, F64.signbit] using h0

theorem degree_signbit (cd : Nat) (idg : F64) (h : idg.signbit = false) : (F64.add (F64.ofNat cd) idg).signbit = false := by
  cases idg with
  | nan => rfl
  | inf s => exact h
  | fin s b eb =>
    obtain rfl : s = false := h
    exact add_signbit_nonneg cd b 0 eb

theorem idegree_signbit (x : F64) (t p : Nat) (ind : Flag) : (encodeHead x t p ind).idegree.signbit = false := by
  show (if t = DMSC.compDEGREE then F64.pzero else F64.floor (F64.abs _)).signbit = false
  split
  · rfl
  · exact floor_abs_signbit _

theorem fmtFixed_unsigned (x : F64) (hx : x.signbit = false) : fmtFixed x 0 = padDigits 1 (fixedUnits x 0) := by
  simp [fmtFixed, hx, unitsToFixed]

theorem field_shape (w : Nat) (I r : Bytes) (hI : AllDigits I) (nI : I ≠ []) :
    ∃ X : Bytes, zfill w (I ++ r) = X ++ r ∧ AllDigits X ∧ X ≠ [] ∧ digitsVal 0 X = digitsVal 0 I :=
  ⟨List.replicate (w - (I ++ r).length) 48 ++ I, by simp [zfill], (AllDigits.zeros _).append hI, by simp [nI],
    digitsVal_zfill _ I⟩

theorem field_shape_if (c : Prop) [Decidable c] (w : Nat) (I r : Bytes) (hI : AllDigits I) (nI : I ≠ []) :
    ∃ X : Bytes, (if c then zfill w (I ++ r) else I ++ r) = X ++ r ∧ AllDigits X ∧ X ≠ [] ∧ digitsVal 0 X = digitsVal 0 I := by
  by_cases h : c
  · simpa only [if_pos h] using field_shape w I r hI nI
  · exact ⟨I, by rw [if_neg h], hI, nI, rfl⟩

theorem padDigits_ne_nil (w n : Nat) : padDigits w n ≠ [] := by
  simp [padDigits, digitBytes_ne_nil]

theorem fracPart_of_len (F : Bytes) (p : Nat) (h : F.length = p) : (if p = 0 then [] else 46 :: F) = fracPart F := by
  unfold fracPart
  by_cases hp : p = 0
  · have : F = [] := by subst hp; exact List.eq_nil_of_length_eq_zero h
    simp [hp, this]
  · have : F ≠ [] := by intro e; subst e; simp at h; omega
    simp [hp, this]

def sgnText (ind : Flag) (neg : Bool) : Bytes := if ind = Flag.none ∧ neg then [45] else []
def hemiText (ind : Flag) (neg : Bool) : Bytes :=
  if ind ≠ Flag.none ∧ ind ≠ Flag.azi then
    [DMSC.hemispheres.getD ((if ind = Flag.lat then 0 else 2) + (if neg then 0 else 1)) 63]
  else []

/-- degrees, minutes, seconds and the fraction digits (as a number of `prec` digits) -/
def encFields (h : Head) (t : Nat) : Nat × Nat × Nat × Nat :=
  let i := h.units / 10 ^ h.prec
  let fr := h.units % 10 ^ h.prec
  if t = 0 then (i, 0, 0, fr)
  else (fixedUnits (F64.add (F64.ofNat (splitFields t i).1) h.idegree) 0, (splitFields t i).2.1, (splitFields t i).2.2, fr)

theorem encodeHead_prec (x : F64) (t p : Nat) (ind : Flag) : (encodeHead x t p ind).prec = clampPrec t p := rfl

/-- the degrees field for trailing MINUTE / SECOND (carry + whole degrees, zero-filled under a hemisphere flag) -/
theorem degField_shape (h : Head) (hs : h.idegree.signbit = false) (t : Nat) (ht : t ≠ 0) (c : Prop) [Decidable c] (w : Nat) :
    let dg := fmtFixed (F64.add (F64.ofNat (splitFields t (h.units / 10 ^ h.prec)).1) h.idegree) 0
    ∃ D : Bytes, (if c then zfill w dg else dg) = D ∧ AllDigits D ∧ D ≠ [] ∧ digitsVal 0 D = (encFields h t).1 := by
  intro dg
  have hdg : dg = padDigits 1 (encFields h t).1 := by
    simp only [encFields, if_neg ht]
    exact fmtFixed_unsigned _ (degree_signbit _ _ hs)
  obtain ⟨D, hz, hD, nD, vD⟩ := field_shape_if c w dg [] (hdg ▸ padDigits_allDigits _ _) (hdg ▸ padDigits_ne_nil _ _)
  simp only [List.append_nil] at hz
  exact ⟨D, hz, hD, nD, by rw [vD, hdg, padDigits_val]⟩

theorem zfill_eq_if (w : Nat) (s : Bytes) : zfill w s = if True then zfill w s else s := by simp

theorem encode_shape (s : Bool) (m : Nat) (e : Int) (t p : Nat) (ind : Flag) (sep : Nat) (ht : t ≤ 2) :
    let h := encodeHead (.fin s m e) t p ind
    ∃ D M S F : Bytes, AllDigits D ∧ AllDigits M ∧ AllDigits S ∧ AllDigits F ∧ D ≠ [] ∧ M ≠ [] ∧ S ≠ [] ∧
      F.length = clampPrec t p ∧
      digitsVal 0 D = (encFields h t).1 ∧ digitsVal 0 M = (encFields h t).2.1 ∧ digitsVal 0 S = (encFields h t).2.2.1 ∧
      digitsVal 0 F = (encFields h t).2.2.2 ∧
      encode (.fin s m e) t p ind sep = sgnText ind h.neg ++ dmsText t sep D M S F ++ hemiText ind h.neg := by
  intro h
  have hP : h.prec = clampPrec t p := rfl
  have ht' : t = 0 ∨ t = 1 ∨ t = 2 := by omega
  have z48 : AllDigits [48] := by intro c hc; simp at hc; subst hc; exact ⟨by omega, by omega⟩
  have hs : h.idegree.signbit = false := idegree_signbit _ t p ind
  rcases ht' with rfl | rfl | rfl
  · -- DEGREE: one number `I.F`, zero-filled as a whole
    obtain ⟨I, F, hu, hI, nI, hF, hFl, vI, vF⟩ := unitsToFixed_shape h.units h.prec
    rw [fracPart_of_len F h.prec hFl] at hu
    obtain ⟨D, hz, hD, nD, vD⟩ := field_shape_if (ind ≠ Flag.none)
      (1 + min ind.code 2 + (if h.prec = 0 then 0 else h.prec + 1)) I (fracPart F) hI nI
    refine ⟨D, [48], [48], F, hD, z48, z48, hF, nD, by simp, by simp, hFl.trans hP, vD.trans vI, rfl, rfl, vF, ?_⟩
    show sgnText ind h.neg ++ (if ind ≠ Flag.none then zfill _ (unitsToFixed h.units h.prec) else unitsToFixed h.units h.prec)
      ++ hemiText ind h.neg = _
    rw [hu, hz]
    rfl
  · -- MINUTE: degrees, then the minutes `M.F` filled to two integer digits
    obtain ⟨F, hfr, hF, hFl, vF⟩ := fracText_shape h.units h.prec
    rw [fracPart_of_len F h.prec hFl] at hfr
    obtain ⟨D, hzd, hD, nD, vD⟩ := degField_shape h hs 1 (by decide) (ind ≠ Flag.none) (1 + min ind.code 2)
    obtain ⟨M, hzm, hM, nM, vM⟩ := field_shape (2 + (if h.prec = 0 then 0 else h.prec + 1))
      (digitBytes (splitFields 1 (h.units / 10 ^ h.prec)).2.1) (fracPart F) (digitBytes_allDigits _) (digitBytes_ne_nil _)
    refine ⟨D, M, [48], F, hD, hM, z48, hF, nD, nM, by simp, hFl.trans hP, vD, vM.trans (digitsVal_digitBytes _), rfl, vF, ?_⟩
    set dg := fmtFixed (F64.add (F64.ofNat (splitFields 1 (h.units / 10 ^ h.prec)).1) h.idegree) 0
    set mi := (splitFields 1 (h.units / 10 ^ h.prec)).2.1
    show sgnText ind h.neg ++ ((if ind ≠ Flag.none then zfill _ dg else dg) ++ [if sep ≠ 0 then sep else 100]
      ++ zfill _ (digitBytes mi ++ fracText h.units h.prec) ++ (if sep = 0 then [39] else [])) ++ hemiText ind h.neg = _
    rw [hfr, hzd, hzm]
    simp [dmsText]
  · -- SECOND: degrees, two-digit minutes, then the seconds `S.F`
    obtain ⟨F, hfr, hF, hFl, vF⟩ := fracText_shape h.units h.prec
    rw [fracPart_of_len F h.prec hFl] at hfr
    obtain ⟨D, hzd, hD, nD, vD⟩ := degField_shape h hs 2 (by decide) (ind ≠ Flag.none) (1 + min ind.code 2)
    obtain ⟨M, hzm, hM, nM, vM⟩ := field_shape 2 (digitBytes (splitFields 2 (h.units / 10 ^ h.prec)).2.1) []
      (digitBytes_allDigits _) (digitBytes_ne_nil _)
    obtain ⟨S, hzs, hS, nS, vS⟩ := field_shape (2 + (if h.prec = 0 then 0 else h.prec + 1))
      (digitBytes (splitFields 2 (h.units / 10 ^ h.prec)).2.2) (fracPart F) (digitBytes_allDigits _) (digitBytes_ne_nil _)
    simp only [List.append_nil] at hzm
    refine ⟨D, M, S, F, hD, hM, hS, hF, nD, nM, nS, hFl.trans hP, vD, vM.trans (digitsVal_digitBytes _),
      vS.trans (digitsVal_digitBytes _), vF, ?_⟩
    set dg := fmtFixed (F64.add (F64.ofNat (splitFields 2 (h.units / 10 ^ h.prec)).1) h.idegree) 0
    set mi := (splitFields 2 (h.units / 10 ^ h.prec)).2.1
    set se := (splitFields 2 (h.units / 10 ^ h.prec)).2.2
    show sgnText ind h.neg ++ ((if ind ≠ Flag.none then zfill _ dg else dg) ++ [if sep ≠ 0 then sep else 100]
      ++ zfill 2 (digitBytes mi) ++ [if sep ≠ 0 then sep else 39]
      ++ zfill _ (digitBytes se ++ fracText h.units h.prec) ++ (if sep = 0 then [34] else [])) ++ hemiText ind h.neg = _
    rw [hfr, hzd, hzm, hzs]
    simp [dmsText]

end GeoVerif.DMSProofs
