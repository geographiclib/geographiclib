import GeoVerif.Model.ErrContract
import Batteries.Data.List.Lemmas
/-! Helper lemmas for `Props/C13.lean` (forms of the table checks that the kernel evaluates quickly, NaN behaviour of the binary64
model, the leaf loop of `Node::Check`). -/
namespace GeoVerif.Proofs.ErrContract
open GeoVerif GeoVerif.ErrContract

/-- `strCode` over the list of bytes: the kernel runs `List.foldl` several times faster than `Array.foldl`, which walks by index -/
theorem strCode_eq_foldl (s : String) : strCode s = s.toUTF8.data.toList.foldl (fun a b => a * 256 + b.toNat) 0 :=
  (Array.foldl_toList ..).symm

/-- a key code (at most 64 bytes, the first not NUL) shifted to fill 64 bytes: these numbers are ordered as the names are -/
def leftAligned (c : Nat) : Nat := c <<< (8 * (64 - (c.log2 / 8 + 1)))

/-- one comparison per neighbour instead of one per pair -/
theorem nodup_of_increasing {α : Type} (f : α → Nat) (l : List α) (h : (l.map f).IsChain (· < ·)) : l.Nodup :=
  List.Pairwise.of_map f (fun _ _ hlt hab => Nat.ne_of_lt hlt (congrArg f hab)) (List.isChain_iff_pairwise.mp h)

theorem lt_nan_right (x : F64) : F64.lt x .nan = false := by cases x <;> rfl
theorem lt_nan_left (x : F64) : F64.lt .nan x = false := rfl
theorem isNaN_eq {x : F64} (h : x.isNaN = true) : x = .nan := by cases x <;> simp_all [F64.isNaN]

/-- the guard the grid encoders and `UTMUPS::Forward` pass before they ask for NaN: a NaN latitude is not "out of range" -/
theorem nan_lat_guard {lat lon : F64} (h : lat.isNaN = true ∨ (lon.isFinite = false ∧ F64.gt (F64.abs lat) MathF.qd = false)) :
    F64.gt (F64.abs lat) MathF.qd = false ∧ (lat.isNaN || !lon.isFinite) = true := by
  rcases h with h | ⟨h, hg⟩
  · rw [isNaN_eq h]; exact ⟨lt_nan_right _, rfl⟩
  · simp [hg, h]

theorem f64_eq_self (x : F64) (h : x.isNaN = false) : F64.eq x x = true := by
  cases x with
  | nan => simp [F64.isNaN] at h
  | inf s => simp [F64.eq]
  | fin s m e =>
    simp only [F64.eq, Dy.eq, Dy.sub, Dy.add, Dy.neg, F64.toDy, Int.le_refl, if_true, Int.sub_self, Dy.shl]
    simp
    omega

theorem leavesOK_bounds (np : Int) : ∀ (start : Bool) (l : Nat) (xs : List Int), leavesOK np start l xs = true →
    ∀ x ∈ xs, -1 ≤ x ∧ x < np ∨ x = -1
  | _, _, [], _ => by simp
  | start, l, x :: rest, h => by
    intro y hy
    simp only [leavesOK, Bool.and_eq_true] at h
    rcases List.mem_cons.mp hy with rfl | hy
    · cases start <;> simp only [if_true, if_false, Bool.false_eq_true, decide_eq_true_eq] at h
      · exact Or.inr h.1
      · exact Or.inl ⟨by have := h.1.1; split at this <;> omega, h.1.2⟩
    · exact leavesOK_bounds np _ _ rest h.2 y hy

theorem mul_nonfinite (a y : F64) (hy : y.isFinite = false) : (a * y).isFinite = false := by
  show (F64.mul a y).isFinite = false
  cases y with
  | nan => cases a <;> rfl
  | inf s => cases a with
    | nan => rfl
    | inf t => rfl
    | fin sa m e => simp only [F64.mul]; split <;> rfl
  | fin s m e => simp [F64.isFinite] at hy

end GeoVerif.Proofs.ErrContract
