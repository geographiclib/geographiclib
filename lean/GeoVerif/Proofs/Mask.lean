import GeoVerif.Model.Mask
/-! Lemmas on `Model/Mask.lean`: single-bit tests, the bit layout of the two `mask` enums, and the tests of `GenPosition`
on the reduced mask in terms of bits. -/
namespace GeoVerif.Mask
open Gen.Mask

theorem and_pow_ne_zero (x k : Nat) : (x &&& (1 <<< k) != 0) = x.testBit k := by
  have h : x &&& 2 ^ k = if x.testBit k then 2 ^ k else 0 := by
    apply Nat.eq_of_testBit_eq; intro i
    rw [Nat.testBit_and]
    by_cases hi : k = i
    · subst hi; cases x.testBit k <;> simp
    · cases x.testBit i <;> cases x.testBit k <;> simp [hi]
  rw [Nat.one_shiftLeft, h]
  cases x.testBit k <;> simp

theorem and_or_ne_zero (x a b : Nat) : (x &&& (a ||| b) != 0) = ((x &&& a != 0) || (x &&& b != 0)) := by
  rw [Nat.and_or_distrib_left, Bool.eq_iff_iff]
  simp only [bne_iff_ne, ne_eq, Nat.or_eq_zero_iff, Bool.or_eq_true]
  exact Classical.not_and_iff_not_or_not

theorem and_eq_right_iff {a b : Nat} : a &&& b = b ↔ ∀ k, b.testBit k = true → a.testBit k = true := by
  constructor
  · intro h k hk
    have := congrArg (·.testBit k) h
    simpa only [Nat.testBit_and, hk, Bool.and_true] using this
  · intro h
    apply Nat.eq_of_testBit_eq; intro k
    rw [Nat.testBit_and]
    cases hb : b.testBit k
    · exact Bool.and_false _
    · rw [h k hb]; rfl

theorem testBit_0x7F80 (k : Nat) : (0x7F80 : Nat).testBit k = (decide (7 ≤ k) && decide (k ≤ 14)) := by
  show ((2 ^ 8 - 1) <<< 7).testBit k = _
  rw [Nat.testBit_shiftLeft, Nat.testBit_two_pow_sub_one]
  by_cases h : 7 ≤ k <;> simp [h]
  omega

theorem testBit_of_and_eq_pow {x m k : Nat} (h : x &&& m = 1 <<< k) : x.testBit k = true := by
  have := congrArg (·.testBit k) h
  simp only [Nat.testBit_and, Nat.one_shiftLeft, Nat.testBit_two_pow_self, Bool.and_eq_true] at this
  exact this.1

theorem isSome_ite {α : Type} (c : Bool) (t : α) : (if c = true then some t else none).isSome = c := by cases c <;> rfl

theorem wantRG_eq (e : Enum) (m : Nat) : wantRG e m = (want e m .m12 || want e m .M12) := and_or_ne_zero _ _ _

theorem wantLen_eq (e : Enum) (m : Nat) : wantLen e m = (want e m .s12 || want e m .m12 || want e m .M12) := by
  rw [wantLen, and_or_ne_zero, and_or_ne_zero]; rfl

theorem wantRG_of_m12 {e : Enum} {m : Nat} (h : want e m .m12 = true) : wantRG e m = true := by
  rw [wantRG_eq, h]; rfl

theorem wantRG_of_M12 {e : Enum} {m : Nat} (h : want e m .M12 = true) : wantRG e m = true := by
  rw [wantRG_eq, h]; exact Bool.or_true _

/-- the outer test `outmask & (REDUCEDLENGTH | GEODESICSCALE)` is implied by each of the inner ones (`M21` has the flag of `M12`) -/
theorem wantRG_and_m12 (e : Enum) (m : Nat) : (wantRG e m && want e m .m12) = want e m .m12 := by
  rw [wantRG_eq]; cases want e m .m12 <;> simp
theorem wantRG_and_M12 (e : Enum) (m : Nat) : (wantRG e m && want e m .M12) = want e m .M12 := by
  rw [wantRG_eq]; cases want e m .M12 <;> simp
theorem wantRG_and_M21 (e : Enum) (m : Nat) : (wantRG e m && want e m .M21) = want e m .M21 := wantRG_and_M12 e m

/-- all that the proofs use of the two enums -/
structure Enum.Layout (e : Enum) : Prop where
  outAll : e.outAll = 0x7F80
  latitude : e.latitude = 1 <<< 7
  azimuth : e.azimuth = 1 <<< 9
  longUnroll : e.longUnroll = 1 <<< longUnrollBit
  flag : ∀ o, e.flag o &&& e.outMask = 1 <<< o.bit
  distanceIn : e.outMask &&& e.distanceIn = 1 <<< distanceInBit

theorem Enum.layout_of {e : Enum} (he : e = geod ∨ e = geodx) : e.Layout := by
  rcases he with rfl | rfl <;> exact ⟨rfl, rfl, rfl, rfl, fun o => by cases o <;> rfl, rfl⟩

section Layout
variable {e : Enum} (h : e.Layout)
include h

theorem lineCaps_eq (caps : Nat) : lineCaps e caps = caps ||| 0x8280 := by
  rw [lineCaps, h.latitude, h.azimuth, h.longUnroll, Nat.or_assoc, Nat.or_assoc]; rfl

theorem lineCaps_testBit (caps k : Nat) : (lineCaps e caps).testBit k = (caps.testBit k || (0x8280 : Nat).testBit k) := by
  rw [lineCaps_eq h, Nat.testBit_or]

theorem lineCaps_ne_zero (caps : Nat) : lineCaps e caps ≠ 0 := by
  intro h0
  have := lineCaps_testBit h caps 7
  rw [h0, Nat.zero_testBit, show (0x8280 : Nat).testBit 7 = true from rfl, Bool.or_true] at this
  cases this

theorem flag_testBit (o : Out) : (e.flag o).testBit o.bit = true := testBit_of_and_eq_pow (h.flag o)

theorem distance_testBit : e.distance.testBit Out.s12.bit = true := flag_testBit h .s12

theorem distanceIn_testBit : e.distanceIn.testBit distanceInBit = true :=
  testBit_of_and_eq_pow (Nat.and_comm .. ▸ h.distanceIn)

theorem want_reduced (x : Nat) (o : Out) : want e (x &&& e.outMask) o = x.testBit o.bit := by
  rw [want, Nat.and_assoc, Nat.and_comm e.outMask, h.flag, and_pow_ne_zero]

theorem want_effective (caps m : Nat) (o : Out) :
    want e (effective e caps m) o = (m.testBit o.bit && (lineCaps e caps).testBit o.bit) := by
  rw [effective, ← Nat.and_assoc, want_reduced h, Nat.testBit_and]

theorem distanceIn_test (x : Nat) : (x &&& (e.outMask &&& e.distanceIn) != 0) = x.testBit distanceInBit := by
  rw [h.distanceIn, and_pow_ne_zero]

theorem locatable_eq (caps : Nat) (arcmode : Bool) : locatable e caps arcmode = (arcmode || caps.testBit distanceInBit) := by
  rw [locatable, distanceIn_test h, lineCaps_testBit h]
  exact congrArg _ (Bool.or_false _)

end Layout

theorem mem_written_iff (e : Enum) (caps outmask : Nat) (arcmode : Bool) (o : Out) :
    o ∈ written e caps outmask arcmode ↔ locatable e caps arcmode = true ∧ want e (effective e caps outmask) o = true := by
  have hall : o ∈ Out.all := by cases o <;> decide
  cases hl : locatable e caps arcmode <;> simp [written, want, hl, hall]

/-- the rhumb solvers list their outputs with the flag of each -/
theorem mem_flagged {m : Nat} {l : List (Out × Nat)} {o : Out} :
    o ∈ l.filterMap (fun p => if (m &&& p.2) != 0 then some p.1 else none) ↔ ∃ f, (o, f) ∈ l ∧ (m &&& f != 0) = true := by
  simp only [List.mem_filterMap, Prod.exists, Option.ite_none_right_eq_some, Option.some.injEq]
  exact ⟨fun ⟨a, f, hm, hf, ha⟩ => ⟨f, ha ▸ hm, hf⟩, fun ⟨f, hm, hf⟩ => ⟨o, f, hm, hf, rfl⟩⟩

theorem genPosG_mask_independent (e : Enum) (lc eff1 eff2 : Nat) (arcmode bigf : Bool) (x : T) (o : Out)
    (h1 : want e eff1 o = true) (h2 : want e eff2 o = true)
    (hu : o = .lon2 → wantUnroll e eff1 = wantUnroll e eff2) :
    genPosG e lc eff1 arcmode bigf x o = genPosG e lc eff2 arcmode bigf x o := by
  cases o
  case lon2 => simp only [genPosG, h1, h2, hu rfl]
  case M21 =>
    have g1 : want e eff1 .M12 = true := h1
    have g2 : want e eff2 .M12 = true := h2
    simp only [genPosG, wantLen_eq, wantRG_eq, h1, h2, g1, g2, Bool.or_true, Bool.and_true]
  all_goals simp only [genPosG, wantLen_eq, wantRG_eq, h1, h2, Bool.or_true, Bool.true_or, Bool.and_true]

theorem genPosX_mask_independent (e : Enum) (lc eff1 eff2 : Nat) (arcmode : Bool) (x : T) (o : Out)
    (h1 : want e eff1 o = true) (h2 : want e eff2 o = true)
    (hu : o = .lon2 → wantUnroll e eff1 = wantUnroll e eff2) :
    genPosX e lc eff1 arcmode x o = genPosX e lc eff2 arcmode x o := by
  cases o
  case lon2 => simp only [genPosX, h1, h2, hu rfl]
  case M21 =>
    have g1 : want e eff1 .M12 = true := h1
    have g2 : want e eff2 .M12 = true := h2
    simp only [genPosX, wantRG_eq, h1, h2, g1, g2, Bool.or_true, Bool.and_true]
  all_goals simp only [genPosX, wantLen_eq, wantRG_eq, h1, h2, Bool.or_true, Bool.true_or, Bool.and_true]

theorem fld_or {lc k : Nat} (h : lc.testBit k = true) (extra : Nat) : fld lc k = fld (lc ||| extra) k := by
  funext name; simp only [fld, Nat.testBit_or, h, Bool.true_or]

/-- in distance mode the start of `GenPosition` reads the fields of `CAP_C1` and `CAP_C1p` (bits 0 and 1), in arc mode none -/
theorem sigG_caps {lc lc' : Nat} {arcmode : Bool} (h : arcmode = false → fld lc 0 = fld lc' 0 ∧ fld lc 1 = fld lc' 1)
    (bigf : Bool) (x : T) : sigG lc arcmode bigf x = sigG lc' arcmode bigf x := by
  cases arcmode
  · simp only [sigG, (h rfl).1, (h rfl).2]
  · rfl

theorem sigX_caps {lc lc' : Nat} {arcmode : Bool} (h : arcmode = false → fld lc 0 = fld lc' 0) (x : T) :
    sigX lc arcmode x = sigX lc' arcmode x := by
  cases arcmode
  · simp only [sigX, h rfl]
  · rfl

/-- the series line reads, besides the fields `sigG` reads, only fields guarded by a capability bit that the flag of
    the output carries (`CAP_C1` = 0, `CAP_C2` = 2, `CAP_C3` = 3, `CAP_C4` = 4) -/
theorem genPosG_caps {lc : Nat} (extra eff : Nat) {arcmode : Bool} (bigf : Bool) (x : T) {o : Out}
    (hc : ∀ k, (geod.flag o).testBit k = true → lc.testBit k = true)
    (hd : arcmode = false → ∀ k, geod.distanceIn.testBit k = true → lc.testBit k = true) :
    genPosG geod lc eff arcmode bigf x o = genPosG geod (lc ||| extra) eff arcmode bigf x o := by
  have s := sigG_caps (fun ha => ⟨fld_or (hd ha 0 rfl) extra, fld_or (hd ha 1 rfl) extra⟩) bigf x
  have c : ∀ k, (geod.flag o).testBit k = true → fld lc k = fld (lc ||| extra) k := fun k hk => fld_or (hc k hk) extra
  cases o
  case lat2 => simp only [genPosG, s]
  case azi2 => simp only [genPosG, s]
  case s12 => simp only [genPosG, s, c 0 rfl]
  case lon2 => simp only [genPosG, s, c 3 rfl]
  case m12 => simp only [genPosG, s, c 0 rfl, c 2 rfl]
  case M12 => simp only [genPosG, s, c 0 rfl, c 2 rfl]
  case M21 => simp only [genPosG, s, c 0 rfl, c 2 rfl]
  case S12 => simp only [genPosG, s, c 4 rfl]

/-- the exact line (`CAP_E` = 0, `CAP_D` = 2, `CAP_H` = 3, `CAP_C4` = 4) -/
theorem genPosX_caps {lc : Nat} (extra eff : Nat) {arcmode : Bool} (x : T) {o : Out}
    (hc : ∀ k, (geodx.flag o).testBit k = true → lc.testBit k = true)
    (hd : arcmode = false → ∀ k, geodx.distanceIn.testBit k = true → lc.testBit k = true) :
    genPosX geodx lc eff arcmode x o = genPosX geodx (lc ||| extra) eff arcmode x o := by
  have s := sigX_caps (fun ha => fld_or (hd ha 0 rfl) extra) x
  have c : ∀ k, (geodx.flag o).testBit k = true → fld lc k = fld (lc ||| extra) k := fun k hk => fld_or (hc k hk) extra
  cases o
  case lat2 => simp only [genPosX, s]
  case azi2 => simp only [genPosX, s]
  case s12 => simp only [genPosX, s, c 0 rfl]
  case lon2 => simp only [genPosX, s, c 3 rfl]
  case m12 => simp only [genPosX, s, c 2 rfl]
  case M12 => simp only [genPosX, s, c 2 rfl]
  case M21 => simp only [genPosX, s, c 2 rfl]
  case S12 => simp only [genPosX, s, c 4 rfl]

theorem genPosG_isSome (e : Enum) (lc eff : Nat) (arcmode bigf : Bool) (x : T) (o : Out) :
    (genPosG e lc eff arcmode bigf x o).isSome = want e eff o := by
  cases o <;> simp only [genPosG, isSome_ite, wantRG_and_m12, wantRG_and_M12, wantRG_and_M21]

theorem genPosX_isSome (e : Enum) (lc eff : Nat) (arcmode : Bool) (x : T) (o : Out) :
    (genPosX e lc eff arcmode x o).isSome = want e eff o := by
  cases o <;> simp only [genPosX, isSome_ite, wantRG_and_m12, wantRG_and_M12, wantRG_and_M21]

theorem genPosition_isSome (e : Enum) (exact : Bool) (caps m : Nat) (arcmode bigf : Bool) (x : T) (o : Out) :
    (genPosition e exact caps m arcmode bigf x o).isSome = (locatable e caps arcmode && want e (effective e caps m) o) := by
  cases hl : locatable e caps arcmode <;> cases exact <;> simp [genPosition, hl, genPosG_isSome, genPosX_isSome]

theorem genPosition_distance_isSome {e : Enum} (h : e.Layout) (exact : Bool) (caps : Nat) (bigf : Bool) (x : T) :
    (genPosition e exact caps e.distance true bigf x .s12).isSome = (lineCaps e caps).testBit Out.s12.bit := by
  rw [genPosition_isSome, want_effective h, distance_testBit h]; rfl

end GeoVerif.Mask
