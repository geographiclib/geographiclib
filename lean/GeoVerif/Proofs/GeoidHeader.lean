import GeoVerif.Model.GeoidHeader
import Mathlib.Tactic.Ring
import Mathlib.Tactic.Linarith
import Mathlib.Tactic.SplitIfs
import Mathlib.Tactic.NormNum
namespace GeoVerif.GeoidHeader
open GeoVerif

def hdrOf (raw : Raw) (ds : Nat) : Header :=
  { offset := raw.st.offset, scale := raw.st.scale, maxerror := raw.st.maxerror, rmserror := raw.st.rmserror,
    description := raw.st.description, datetime := raw.st.datetime, w := raw.w, h := raw.h, datastart := ds }

/-- when `validate` throws which exception: the tests before it pass, its own test fails (the order of the source) -/
def RejectClass (raw : Raw) (len : Nat) : Err → Prop
  | .maxvalValue => raw.maxval ≠ pixelMax
  | .offsetUnset => raw.maxval = pixelMax ∧ F64.eq raw.st.offset Decimal.maxFinite = true
  | .scaleUnset => raw.maxval = pixelMax ∧ F64.eq raw.st.offset Decimal.maxFinite = false ∧ F64.eq raw.st.scale 0 = true
  | .scaleNeg => raw.maxval = pixelMax ∧ F64.eq raw.st.offset Decimal.maxFinite = false ∧ F64.eq raw.st.scale 0 = false ∧
      F64.lt raw.st.scale 0 = true
  | .tooSmall => raw.maxval = pixelMax ∧ F64.eq raw.st.offset Decimal.maxFinite = false ∧ F64.eq raw.st.scale 0 = false ∧
      F64.lt raw.st.scale 0 = false ∧ (raw.h < 2 ∨ raw.w < 2)
  | .widthOdd => raw.maxval = pixelMax ∧ F64.eq raw.st.offset Decimal.maxFinite = false ∧ F64.eq raw.st.scale 0 = false ∧
      F64.lt raw.st.scale 0 = false ∧ 2 ≤ raw.h ∧ 2 ≤ raw.w ∧ raw.w % 2 = 1
  | .heightEven => raw.maxval = pixelMax ∧ F64.eq raw.st.offset Decimal.maxFinite = false ∧ F64.eq raw.st.scale 0 = false ∧
      F64.lt raw.st.scale 0 = false ∧ 2 ≤ raw.h ∧ 2 ≤ raw.w ∧ raw.w % 2 = 0 ∧ raw.h % 2 = 0
  | .tooLarge => raw.maxval = pixelMax ∧ F64.eq raw.st.offset Decimal.maxFinite = false ∧ F64.eq raw.st.scale 0 = false ∧
      F64.lt raw.st.scale 0 = false ∧ 2 ≤ raw.h ∧ 2 ≤ raw.w ∧ raw.w % 2 = 0 ∧ raw.h % 2 = 1 ∧ (2 ^ 30 < raw.w ∨ 2 ^ 30 < raw.h)
  | .wrongLength => raw.maxval = pixelMax ∧ F64.eq raw.st.offset Decimal.maxFinite = false ∧ F64.eq raw.st.scale 0 = false ∧
      F64.lt raw.st.scale 0 = false ∧ 2 ≤ raw.h ∧ 2 ≤ raw.w ∧ raw.w % 2 = 0 ∧ raw.h % 2 = 1 ∧ raw.w ≤ 2 ^ 30 ∧ raw.h ≤ 2 ^ 30 ∧
      (raw.tell = none ∨ ∃ p, raw.tell = some p ∧ lengthOKCoded (p + 1) raw.w raw.h len = false)
  | _ => False

theorem bne_pixelMax {n : Nat} (h : n = pixelMax) : ¬ (n != pixelMax) = true := by simp [h]

theorem validate_of_rejectClass (raw : Raw) (len : Nat) (e : Err) (h : RejectClass raw len e) : validate raw len = .error e := by
  unfold validate
  cases e
  case maxvalValue => exact if_pos (bne_iff_ne.mpr h)
  case offsetUnset =>
    obtain ⟨p1, p2⟩ := h
    rw [if_neg (bne_pixelMax p1), if_pos p2]
  case scaleUnset =>
    obtain ⟨p1, p2, p3⟩ := h
    rw [if_neg (bne_pixelMax p1), if_neg (Bool.eq_false_iff.mp p2), if_pos p3]
  case scaleNeg =>
    obtain ⟨p1, p2, p3, p4⟩ := h
    rw [if_neg (bne_pixelMax p1), if_neg (Bool.eq_false_iff.mp p2), if_neg (Bool.eq_false_iff.mp p3), if_pos p4]
  case tooSmall =>
    obtain ⟨p1, p2, p3, p4, p5⟩ := h
    rw [if_neg (bne_pixelMax p1), if_neg (Bool.eq_false_iff.mp p2), if_neg (Bool.eq_false_iff.mp p3), if_neg (Bool.eq_false_iff.mp p4), if_pos p5]
  case widthOdd =>
    obtain ⟨p1, p2, p3, p4, p5, p5', p6⟩ := h
    rw [if_neg (bne_pixelMax p1), if_neg (Bool.eq_false_iff.mp p2), if_neg (Bool.eq_false_iff.mp p3), if_neg (Bool.eq_false_iff.mp p4),
      if_neg (by omega), if_pos p6]
  case heightEven =>
    obtain ⟨p1, p2, p3, p4, p5, p5', p6, p7⟩ := h
    rw [if_neg (bne_pixelMax p1), if_neg (Bool.eq_false_iff.mp p2), if_neg (Bool.eq_false_iff.mp p3), if_neg (Bool.eq_false_iff.mp p4),
      if_neg (by omega), if_neg (by omega), if_pos p7]
  case tooLarge =>
    obtain ⟨p1, p2, p3, p4, p5, p5', p6, p7, p8⟩ := h
    rw [if_neg (bne_pixelMax p1), if_neg (Bool.eq_false_iff.mp p2), if_neg (Bool.eq_false_iff.mp p3), if_neg (Bool.eq_false_iff.mp p4),
      if_neg (by omega), if_neg (by omega), if_neg (by omega), if_pos (by omega)]
  case wrongLength =>
    obtain ⟨p1, p2, p3, p4, p5, p5', p6, p7, p8, p8', p9⟩ := h
    rw [if_neg (bne_pixelMax p1), if_neg (Bool.eq_false_iff.mp p2), if_neg (Bool.eq_false_iff.mp p3), if_neg (Bool.eq_false_iff.mp p4),
      if_neg (by omega), if_neg (by omega), if_neg (by omega), if_neg (by omega), if_pos]
    rcases p9 with p9 | ⟨p, hp, p9⟩
    · simp [p9]
    · simp [hp, p9]
  case notReadable | notPGM | offsetRead | scaleRead | rasterSize | maxvalRead => exact h.elim   -- thrown by the scanner only

/-- `datastart` is the stream position after maxval plus one, as in the source -/
def AcceptClass (raw : Raw) (len : Nat) (H : Header) : Prop :=
  raw.maxval = pixelMax ∧ F64.eq raw.st.offset Decimal.maxFinite = false ∧ F64.eq raw.st.scale 0 = false ∧
  F64.lt raw.st.scale 0 = false ∧ 2 ≤ raw.w ∧ 2 ≤ raw.h ∧ raw.w % 2 = 0 ∧ raw.h % 2 = 1 ∧ raw.w ≤ 2 ^ 30 ∧ raw.h ≤ 2 ^ 30 ∧
  ∃ p, raw.tell = some p ∧ lengthOKCoded (p + 1) raw.w raw.h len = true ∧ H = hdrOf raw (p + 1)

theorem validate_of_acceptClass (raw : Raw) (len : Nat) (H : Header) (h : AcceptClass raw len H) : validate raw len = .ok H := by
  obtain ⟨p1, p2, p3, p4, p5, p5', p6, p7, p8, p8', p, hp, p9, rfl⟩ := h
  unfold validate
  rw [if_neg (bne_pixelMax p1), if_neg (Bool.eq_false_iff.mp p2), if_neg (Bool.eq_false_iff.mp p3), if_neg (Bool.eq_false_iff.mp p4),
    if_neg (by omega), if_neg (by omega), if_neg (by omega), if_neg (by omega), if_neg (by simp [hp, p9])]
  simp only [hp, hdrOf]

theorem reject_or_accept (raw : Raw) (len : Nat) : (∃ e, RejectClass raw len e) ∨ ∃ H, AcceptClass raw len H := by
  by_cases p1 : raw.maxval = pixelMax
  swap; · exact .inl ⟨.maxvalValue, p1⟩
  rcases Bool.eq_false_or_eq_true (F64.eq raw.st.offset Decimal.maxFinite) with p2 | p2
  · exact .inl ⟨.offsetUnset, p1, p2⟩
  rcases Bool.eq_false_or_eq_true (F64.eq raw.st.scale 0) with p3 | p3
  · exact .inl ⟨.scaleUnset, p1, p2, p3⟩
  rcases Bool.eq_false_or_eq_true (F64.lt raw.st.scale 0) with p4 | p4
  · exact .inl ⟨.scaleNeg, p1, p2, p3, p4⟩
  by_cases p5 : raw.h < 2 ∨ raw.w < 2
  · exact .inl ⟨.tooSmall, p1, p2, p3, p4, p5⟩
  obtain ⟨q5, q5'⟩ : 2 ≤ raw.h ∧ 2 ≤ raw.w := by omega
  by_cases p6 : raw.w % 2 = 1
  · exact .inl ⟨.widthOdd, p1, p2, p3, p4, q5, q5', p6⟩
  have q6 : raw.w % 2 = 0 := by omega
  by_cases p7 : raw.h % 2 = 0
  · exact .inl ⟨.heightEven, p1, p2, p3, p4, q5, q5', q6, p7⟩
  have q7 : raw.h % 2 = 1 := by omega
  by_cases p8 : 2 ^ 30 < raw.w ∨ 2 ^ 30 < raw.h
  · exact .inl ⟨.tooLarge, p1, p2, p3, p4, q5, q5', q6, q7, p8⟩
  obtain ⟨q8, q8'⟩ : raw.w ≤ 2 ^ 30 ∧ raw.h ≤ 2 ^ 30 := by omega
  rcases Option.eq_none_or_eq_some raw.tell with hp | ⟨p, hp⟩
  · exact .inl ⟨.wrongLength, p1, p2, p3, p4, q5, q5', q6, q7, q8, q8', .inl hp⟩
  rcases Bool.eq_false_or_eq_true (lengthOKCoded (p + 1) raw.w raw.h len) with p9 | p9
  · exact .inr ⟨_, p1, p2, p3, p4, q5', q5, q6, q7, q8, q8', p, hp, p9, rfl⟩
  · exact .inl ⟨.wrongLength, p1, p2, p3, p4, q5, q5', q6, q7, q8, q8', .inr ⟨p, hp, p9⟩⟩

theorem validate_error_iff (raw : Raw) (len : Nat) (e : Err) : validate raw len = .error e ↔ RejectClass raw len e := by
  refine ⟨fun h => ?_, validate_of_rejectClass raw len e⟩
  rcases reject_or_accept raw len with ⟨e', c⟩ | ⟨H, c⟩
  · rw [validate_of_rejectClass raw len e' c] at h
    cases h; exact c
  · rw [validate_of_acceptClass raw len H c] at h
    cases h

theorem validate_ok_iff (raw : Raw) (len : Nat) (H : Header) : validate raw len = .ok H ↔ AcceptClass raw len H := by
  refine ⟨fun h => ?_, validate_of_acceptClass raw len H⟩
  rcases reject_or_accept raw len with ⟨e', c⟩ | ⟨H', c⟩
  · rw [validate_of_rejectClass raw len e' c] at h
    cases h
  · rw [validate_of_acceptClass raw len H' c] at h
    cases h; exact c

/-- for dimensions of type `int` and realistic positions the 64-bit arithmetic of the length test does not wrap -/
theorem lengthOKCoded_iff (ds : Nat) (w h : Int) (len : Nat) (hw : 0 ≤ w ∧ w < 2 ^ 31) (hh : 0 ≤ h ∧ h < 2 ^ 31)
    (hds : ds < 2 ^ 62) (hlen : len < 2 ^ 64) :
    lengthOKCoded ds w h len = true ↔ ds + 2 * w.toNat * h.toNat = len := by
  obtain ⟨W, rfl⟩ := Int.eq_ofNat_of_zero_le hw.1
  obtain ⟨Hh, rfl⟩ := Int.eq_ofNat_of_zero_le hh.1
  have hW : W < 2 ^ 31 := by omega
  have hH : Hh < 2 ^ 31 := by omega
  have hWH : W * Hh < 2 ^ 62 := by
    calc W * Hh < 2 ^ 31 * 2 ^ 31 := Nat.mul_lt_mul'' hW hH
      _ = 2 ^ 62 := by norm_num
  unfold lengthOKCoded two64 pixelSize
  have e1 : ((W : Int) % ((2 ^ 64 : Nat) : Int)).toNat = W := by
    rw [Int.emod_eq_of_lt (by omega) (by push_cast; omega)]; simp
  have e2 : ((Hh : Int) % ((2 ^ 64 : Nat) : Int)).toNat = Hh := by
    rw [Int.emod_eq_of_lt (by omega) (by push_cast; omega)]; simp
  rw [e1, e2]
  have e3 : 2 * W % 2 ^ 64 = 2 * W := Nat.mod_eq_of_lt (by omega)
  rw [e3]
  -- for `omega` below, to which the products are atoms
  have e4 : 2 * W * Hh = 2 * (W * Hh) := by ring
  have e5 : 2 * W * Hh % 2 ^ 64 = 2 * W * Hh := Nat.mod_eq_of_lt (by omega)
  rw [e5]
  have e6 : (ds + 2 * W * Hh) % 2 ^ 64 = ds + 2 * W * Hh := Nat.mod_eq_of_lt (by omega)
  rw [e6, Nat.mod_eq_of_lt hlen]
  simp

theorem dropWhile_length_le {α} (p : α → Bool) (l : List α) : (l.dropWhile p).length ≤ l.length :=
  (List.dropWhile_suffix p).length_le

theorem scanDigits_length (v n : Nat) (r : Bytes) : (scanDigits v n r).rest.length ≤ r.length := by
  induction r generalizing v n with
  | nil => simp [scanDigits]
  | cons c r ih =>
    unfold scanDigits
    split
    · exact Nat.le_trans (ih _ _) (by simp)
    · simp

theorem skipws_length (r : Bytes) : (skipws r).length ≤ r.length := dropWhile_length_le _ _

theorem stripSign_length (r : Bytes) : (stripSign r).2.length ≤ r.length := by
  unfold stripSign; split <;> simp

theorem numGetInt_ok_range (r : Bytes) (x : Int) (h : (numGetInt r).1 = .ok x) : -(2:Int) ^ 31 ≤ x ∧ x ≤ 2 ^ 31 - 1 := by
  unfold numGetInt at h
  simp only [] at h
  -- only the last branch returns `.ok`, and its two tests are the claim
  split_ifs at h with h0 h1 hs h2 h3 h2 h3
  · cases h
    exact ⟨not_lt.mp h2, not_lt.mp h3⟩
  · cases h
    exact ⟨not_lt.mp h2, not_lt.mp h3⟩

theorem sizeLine_range (s : Bytes) (w hh : Int) (h : sizeLine s = some (w, hh)) :
    (-(2:Int) ^ 31 ≤ w ∧ w ≤ 2 ^ 31 - 1) ∧ (-(2:Int) ^ 31 ≤ hh ∧ hh ≤ 2 ^ 31 - 1) := by
  unfold sizeLine at h
  split at h
  · rename_i w' hw
    split at h
    · rename_i h' hh'
      simp at h
      obtain ⟨rfl, rfl⟩ := h
      exact ⟨numGetInt_ok_range _ _ hw, numGetInt_ok_range _ _ hh'⟩
    · simp at h
  · simp at h

theorem numGetUnsigned_length (r : Bytes) : (numGetUnsigned r).2.length ≤ r.length := by
  unfold numGetUnsigned
  have h2 := skipws_length r
  have h3 := stripSign_length (skipws r)
  have h1 := scanDigits_length 0 0 (stripSign (skipws r)).2
  simp only []
  split_ifs <;> simp only [List.length_nil] <;> omega

theorem readMaxval_props (st : HState) (w h : Int) (consumed : Nat) (r : Bytes) (raw : Raw)
    (hr : readMaxval st w h consumed r = .ok raw) :
    raw.w = w ∧ raw.h = h ∧ raw.st = st ∧ ∀ p, raw.tell = some p → p < consumed + r.length := by
  unfold readMaxval at hr
  split at hr
  · rename_i mv hu
    simp at hr
    subst hr
    refine ⟨rfl, rfl, rfl, ?_⟩
    intro p hp
    simp only [] at hp
    split_ifs at hp with he
    simp at hp
    have hl := numGetUnsigned_length r
    have : (numGetUnsigned r).2.length ≠ 0 := by
      intro h0; apply he; simp [List.length_eq_zero_iff.mp h0]
    omega
  · simp at hr

theorem getline_length (r s r' : Bytes) (h : getline r = some (s, r')) : r'.length < r.length := by
  unfold getline at h
  split_ifs at h with hne
  simp at h
  obtain ⟨_, rfl⟩ := h
  have h1 : (List.dropWhile (fun x => x != 10) r).length ≤ r.length := dropWhile_length_le _ _
  cases hd : List.dropWhile (fun x => x != 10) r with
  | nil =>
    cases r with
    | nil => simp at hne
    | cons a t => simp
  | cons a t =>
    rw [hd] at h1
    simp at h1 ⊢
    omega

theorem loop_props (cubic : Bool) (total : Nat) (fuel : Nat) (st : HState) (r : Bytes) (raw : Raw)
    (hr : r.length ≤ total) (h : loop cubic total fuel st r = .ok raw) :
    (∃ s, sizeLine s = some (raw.w, raw.h)) ∧ ∀ p, raw.tell = some p → p < total := by
  induction fuel generalizing st r with
  | zero => simp [loop] at h
  | succ n ih =>
    unfold loop at h
    split at h
    · simp at h
    · rename_i s r' hg
      have hl := getline_length r s r' hg
      split at h
      · exact ih st r' (by omega) h
      · rename_i c t
        split_ifs at h with hc
        · split at h
          · simp at h
          · rename_i st' hp
            exact ih st' r' (by omega) h
        · split at h
          · simp at h
          · rename_i w hh hs
            obtain ⟨e1, e2, _, e4⟩ := readMaxval_props _ _ _ _ _ _ h
            refine ⟨⟨_, by rw [e1, e2]; exact hs⟩, ?_⟩
            intro p hp
            have := e4 p hp
            omega

theorem scan_props (cubic : Bool) (file : Bytes) (raw : Raw) (h : scan cubic file = .ok raw) :
    ((-(2:Int) ^ 31 ≤ raw.w ∧ raw.w ≤ 2 ^ 31 - 1) ∧ (-(2:Int) ^ 31 ≤ raw.h ∧ raw.h ≤ 2 ^ 31 - 1)) ∧
    ∀ p, raw.tell = some p → p < file.length := by
  unfold scan at h
  split at h
  · simp at h
  · rename_i s r hg
    split_ifs at h
    have hl := getline_length _ _ _ hg
    obtain ⟨⟨s', hs'⟩, h2⟩ := loop_props cubic file.length _ _ r raw (by omega) h
    exact ⟨sizeLine_range _ _ _ hs', h2⟩

/-- what the loop does with one line that is empty or starts with `#` -/
def procLine (cubic : Bool) (st : HState) (l : Bytes) : Except Err HState :=
  match l with
  | [] => .ok st
  | _ :: _ => procComment cubic st l

def joinLines (ls : List Bytes) : Bytes := ls.flatMap (· ++ [10])

theorem getline_append (l rest : Bytes) (hl : 10 ∉ l) : getline (l ++ 10 :: rest) = some (l, rest) := by
  unfold getline
  have hne : (l ++ 10 :: rest).isEmpty = false := by cases l <;> simp
  rw [hne]
  simp only [Bool.false_eq_true, if_false]
  have h1 : ∀ (l : Bytes), 10 ∉ l → List.takeWhile (· != 10) (l ++ 10 :: rest) = l ∧ List.dropWhile (· != 10) (l ++ 10 :: rest) = 10 :: rest := by
    intro l hl
    induction l with
    | nil => simp
    | cons a t ih =>
      have ha : a ≠ 10 := fun h => hl (by simp [h])
      have ht : 10 ∉ t := fun h => hl (by simp [h])
      obtain ⟨i1, i2⟩ := ih ht
      simp [ha, i1, i2]
  obtain ⟨e1, e2⟩ := h1 l hl
  rw [e1, e2]; simp

theorem loop_comments (cubic : Bool) (total : Nat) (ls : List Bytes)
    (hls : ∀ l ∈ ls, 10 ∉ l ∧ (l = [] ∨ ∃ t, l = 35 :: t)) (st : HState) (tail : Bytes) (k : Nat) :
    loop cubic total (ls.length + k) st (joinLines ls ++ tail) =
      match ls.foldlM (procLine cubic) st with
      | .error e => .error e
      | .ok st' => loop cubic total k st' tail := by
  induction ls generalizing st with
  | nil => simp [joinLines]; rfl
  | cons l ls ih =>
    obtain ⟨h10, hform⟩ := hls l (by simp)
    have hrest : ∀ l' ∈ ls, 10 ∉ l' ∧ (l' = [] ∨ ∃ t, l' = 35 :: t) := fun l' h' => hls l' (by simp [h'])
    have e : joinLines (l :: ls) ++ tail = l ++ 10 :: (joinLines ls ++ tail) := by simp [joinLines]
    rw [e]
    have hf : (l :: ls).length + k = (ls.length + k) + 1 := by simp; omega
    rw [hf]
    conv_lhs => unfold loop
    rw [getline_append l _ h10]
    simp only [List.foldlM_cons]
    rcases hform with rfl | ⟨t, rfl⟩
    · simp only [procLine, bind, Except.bind]
      exact ih hrest st
    · simp only [procLine, if_true, bind, Except.bind]
      cases hp : procComment cubic st (35 :: t) with
      | error e => rfl
      | ok st' => exact ih hrest st'

theorem loop_size (cubic : Bool) (total : Nat) (sz rest : Bytes) (h10 : 10 ∉ sz) (c : Nat) (t : Bytes) (hsz : sz = c :: t) (hc : c ≠ 35)
    (st : HState) (k : Nat) :
    loop cubic total (k + 1) st (sz ++ 10 :: rest) =
      match sizeLine sz with
      | none => .error .rasterSize
      | some (w, h) => readMaxval st w h (total - rest.length) rest := by
  conv_lhs => unfold loop
  rw [getline_append sz _ h10]
  subst hsz
  simp only [hc, if_false]
  rfl

theorem scan_structured (cubic : Bool) (ls : List Bytes) (hls : ∀ l ∈ ls, 10 ∉ l ∧ (l = [] ∨ ∃ t, l = 35 :: t))
    (sz rest : Bytes) (h10 : 10 ∉ sz) (c : Nat) (t : Bytes) (hsz : sz = c :: t) (hc : c ≠ 35) :
    scan cubic (magic ++ 10 :: (joinLines ls ++ (sz ++ 10 :: rest))) =
      match ls.foldlM (procLine cubic) HState.init with
      | .error e => .error e
      | .ok st =>
        match sizeLine sz with
        | none => .error .rasterSize
        | some (w, h) => readMaxval st w h (magic.length + 1 + (joinLines ls).length + sz.length + 1) rest := by
  unfold scan
  rw [getline_append magic _ (by decide)]
  simp only [bne_self_eq_false, Bool.false_eq_true, if_false]
  have hlen : (joinLines ls).length ≥ ls.length := by
    clear hls
    induction ls with
    | nil => simp [joinLines]
    | cons l ls ih => simp [joinLines] at ih ⊢; omega
  have hf : (joinLines ls ++ (sz ++ 10 :: rest)).length + 1 = ls.length + (((joinLines ls).length - ls.length) + sz.length + 1 + rest.length + 1) := by
    simp; omega
  rw [hf, loop_comments cubic _ ls hls]
  cases hfold : ls.foldlM (procLine cubic) HState.init with
  | error e => rfl
  | ok st =>
    simp only []
    rw [loop_size cubic _ sz rest h10 c t hsz hc]
    have : (magic ++ 10 :: (joinLines ls ++ (sz ++ 10 :: rest))).length - rest.length = magic.length + 1 + (joinLines ls).length + sz.length + 1 := by
      simp; omega
    rw [this]

/-- the key of a comment line and the text after it, as `procComment` tokenises the line -/
def lineKey (s : Bytes) : Option (Bytes × Bytes) :=
  match readToken s with
  | none => none
  | some (cid, r1) => if cid != [35] then none else readToken r1

/-- the value a line assigns to `_offset` (`none`: it does not assign one) -/
def offsetOf (s : Bytes) : Option F64 :=
  match lineKey s with
  | some (k, rest) => if k == keyOffset then (match (numGetFloat rest).1 with | .ok v => some v | _ => none) else none
  | none => none

def scaleOf (s : Bytes) : Option F64 :=
  match lineKey s with
  | some (k, rest) => if k == keyScale then (match (numGetFloat rest).1 with | .ok v => some v | _ => none) else none
  | none => none

theorem beq_bytes {a b : Bytes} (h : (a == b) = true) : a = b := by simpa using h

/-- follows the key dispatch of `procComment`: every branch but `Offset` / `Scale` leaves both fields alone and is no
    `Offset` / `Scale` line (the key constants differ); these two store the value that `offsetOf` / `scaleOf` read, or throw -/
theorem procComment_offset_scale (cubic : Bool) (st st' : HState) (s : Bytes) (h : procComment cubic st s = .ok st') :
    st'.offset = (offsetOf s).getD st.offset ∧ st'.scale = (scaleOf s).getD st.scale := by
  unfold procComment at h
  unfold offsetOf scaleOf lineKey
  cases hr : readToken s with
  | none =>
    simp [hr] at h ⊢
    subst h
    simp
  | some p =>
    obtain ⟨cid, r1⟩ := p
    simp only [hr] at h ⊢
    by_cases hcid : (cid != [35]) = true
    · simp [hcid] at h ⊢
      subst h
      simp
    · simp only [hcid, Bool.false_eq_true, if_false] at h ⊢
      cases hr2 : readToken r1 with
      | none =>
        simp [hr2] at h ⊢
        subst h
        simp
      | some q =>
        obtain ⟨key, rest⟩ := q
        simp only [hr2] at h ⊢
        by_cases k1 : (key == keyDescription) = true
        · have := beq_bytes k1
          subst this
          simp only [k1, if_true] at h
          have d1 : (keyDescription == keyOffset) = false := by decide
          have d2 : (keyDescription == keyScale) = false := by decide
          simp only [d1, d2, Bool.false_eq_true, if_false, Option.getD_none]
          injection h with h
          subst h
          cases textAfterKey rest <;> simp
        simp only [k1, Bool.false_eq_true, if_false] at h
        by_cases k2 : (key == keyDateTime) = true
        · have := beq_bytes k2
          subst this
          simp only [k2, if_true] at h
          have d1 : (keyDateTime == keyOffset) = false := by decide
          have d2 : (keyDateTime == keyScale) = false := by decide
          simp only [d1, d2, Bool.false_eq_true, if_false, Option.getD_none]
          injection h with h
          subst h
          cases textAfterKey rest <;> simp
        simp only [k2, Bool.false_eq_true, if_false] at h
        by_cases k3 : (key == keyOffset) = true
        · have := beq_bytes k3
          subst this
          simp only [k3, if_true] at h
          have d2 : (keyOffset == keyScale) = false := by decide
          simp only [d2, Bool.false_eq_true, if_false, Option.getD_none, beq_self_eq_true, if_true]
          cases hv : (numGetFloat rest).1 with
          | ok v =>
            simp only [hv] at h
            injection h with h
            subst h
            simp
          | untouched => simp [hv] at h
          | fail x => simp [hv] at h
        simp only [k3, Bool.false_eq_true, if_false] at h ⊢
        by_cases k4 : (key == keyScale) = true
        · have := beq_bytes k4
          subst this
          simp only [k4, if_true] at h
          simp only [beq_self_eq_true, if_true, Option.getD_none]
          cases hv : (numGetFloat rest).1 with
          | ok v =>
            simp only [hv] at h
            injection h with h
            subst h
            simp
          | untouched => simp [hv] at h
          | fail x => simp [hv] at h
        simp only [k4, Bool.false_eq_true, if_false, Option.getD_none] at h ⊢
        -- `MaxError`, `RMSError`, any other key
        split_ifs at h
        all_goals
          injection h with h
          subst h
          exact ⟨rfl, rfl⟩

theorem procLine_offset_scale (cubic : Bool) (st st' : HState) (l : Bytes) (h : procLine cubic st l = .ok st') :
    st'.offset = (offsetOf l).getD st.offset ∧ st'.scale = (scaleOf l).getD st.scale := by
  cases l with
  | nil =>
    simp [procLine] at h; subst h
    have e1 : offsetOf [] = none := by decide
    have e2 : scaleOf [] = none := by decide
    simp [e1, e2]
  | cons c t => exact procComment_offset_scale cubic st st' _ h

theorem getLast?_filterMap_cons {α β : Type} (f : α → Option β) (l : α) (ls : List α) (d : β) :
    ((l :: ls).filterMap f).getLast?.getD d = (ls.filterMap f).getLast?.getD ((f l).getD d) := by
  cases h : f l with
  | none => simp [h]
  | some v =>
    simp only [List.filterMap_cons, h, Option.getD_some]
    cases hl : ls.filterMap f with
    | nil => rfl
    | cons u us => rw [List.getLast?_cons_cons]; rfl

def dec (n : Nat) : Bytes := if n < 10 then [48 + n] else dec (n / 10) ++ [48 + n % 10]
termination_by n
decreasing_by omega

def digitsVal (ds : Bytes) (v : Nat) : Nat := ds.foldl (fun a d => a * 10 + (d - 48)) v

theorem scanDigits_digits (ds : Bytes) (hds : ∀ d ∈ ds, isdigit d = true) (v k : Nat) (rest : Bytes) :
    scanDigits v k (ds ++ rest) = scanDigits (digitsVal ds v) (k + ds.length) rest := by
  induction ds generalizing v k with
  | nil => simp [digitsVal]
  | cons d ds ih =>
    have hd : isdigit d = true := hds d (by simp)
    have := ih (fun x hx => hds x (by simp [hx])) (v * 10 + (d - 48)) (k + 1)
    simp only [List.cons_append, scanDigits, hd, if_true, digitsVal, List.foldl_cons, List.length_cons] at this ⊢
    rw [this]; congr 1; omega

theorem scanDigits_stop (v k : Nat) (rest : Bytes) (h : ∀ c t, rest = c :: t → isdigit c = false) :
    scanDigits v k rest = ⟨v, k, rest⟩ := by
  cases rest with
  | nil => rfl
  | cons c t => simp [scanDigits, h c t rfl]

theorem dec_digits (n : Nat) : ∀ d ∈ dec n, isdigit d = true := by
  induction n using Nat.strong_induction_on with
  | _ n ih =>
    unfold dec
    split
    · intro d hd; simp at hd; subst hd; simp [isdigit]; omega
    · intro d hd
      simp at hd
      rcases hd with hd | hd
      · exact ih (n / 10) (by omega) d hd
      · subst hd; simp [isdigit]; omega

theorem dec_val (n v : Nat) : digitsVal (dec n) v = v * 10 ^ (dec n).length + n := by
  induction n using Nat.strong_induction_on generalizing v with
  | _ n ih =>
    unfold dec
    split
    · simp [digitsVal]
    · simp only [digitsVal, List.foldl_append, List.foldl_cons, List.foldl_nil, List.length_append, List.length_cons, List.length_nil]
      have := ih (n / 10) (by omega) v
      unfold digitsVal at this
      rw [this]
      have e : 48 + n % 10 - 48 = n % 10 := by omega
      rw [e, Nat.pow_succ]
      have := Nat.div_add_mod n 10
      -- `(v·10^L + n/10)·10 + n%10 = v·(10^L·10) + n`
      rw [Nat.add_mul, Nat.add_assoc, Nat.mul_comm (n / 10), this, Nat.mul_assoc]

theorem dec_ne_nil (n : Nat) : dec n ≠ [] := by
  unfold dec; split <;> simp

theorem dec_head_digit (n : Nat) : ∃ c t, dec n = c :: t ∧ isdigit c = true := by
  cases h : dec n with
  | nil => exact absurd h (dec_ne_nil n)
  | cons c t => exact ⟨c, t, rfl, dec_digits n c (by rw [h]; simp)⟩

theorem dec_length_le (k n : Nat) (hk : 1 ≤ k) (h : n < 10 ^ k) : (dec n).length ≤ k := by
  induction k generalizing n with
  | zero => omega
  | succ k ih =>
    unfold dec
    split
    · simp
    · rename_i h10
      by_cases hk0 : k = 0
      · subst hk0; simp at h; omega
      · have : n / 10 < 10 ^ k := by
          rw [Nat.pow_succ] at h
          exact Nat.div_lt_of_lt_mul (by omega)
        have := ih (n / 10) (by omega) this
        simp; omega

theorem scanDigits_dec (n : Nat) (rest : Bytes) (h : ∀ c t, rest = c :: t → isdigit c = false) :
    scanDigits 0 0 (dec n ++ rest) = ⟨n, (dec n).length, rest⟩ := by
  rw [scanDigits_digits _ (dec_digits n), dec_val, scanDigits_stop _ _ _ h]; simp

deriving instance DecidableEq for F64
deriving instance DecidableEq for HState
deriving instance DecidableEq for Except

def offsetLine : Bytes := str "# Offset -108"
def scaleLine : Bytes := str "# Scale 0.003"
/-- the state after these two lines: offset −108, scale 0.003 correctly rounded -/
def stCanon : HState := { HState.init with offset := F64.fin true 108 0, scale := F64.fin false 6917529027641082 (-61) }

theorem canon_fold (cubic : Bool) : [offsetLine, scaleLine].foldlM (procLine cubic) HState.init = .ok stCanon := by
  cases cubic <;> decide +kernel

theorem numGetInt_dec (n : Nat) (hn : n < 2 ^ 31) (rest : Bytes) (hrest : ∀ c t, rest = c :: t → isdigit c = false) :
    numGetInt (dec n ++ rest) = (.ok (n : Int), rest) := by
  obtain ⟨c, t, hc, hd⟩ := dec_head_digit n
  have hd' : 48 ≤ c ∧ c ≤ 57 := by simpa [isdigit] using hd
  have hsp : isspace c = false := by simp [isspace]; omega
  have sk : skipws (dec n ++ rest) = dec n ++ rest := by rw [hc]; simp [skipws, hsp]
  have ss : stripSign (dec n ++ rest) = (false, dec n ++ rest) := by
    rw [hc]
    unfold stripSign
    split
    · rename_i q heq; simp at heq; omega
    · rename_i q heq; simp at heq; omega
    · rfl
  have ne : (dec n ++ rest).isEmpty = false := by rw [hc]; rfl
  have cnt : (dec n).length ≠ 0 := by rw [hc]; simp
  unfold numGetInt
  simp only [sk, ne, ss, scanDigits_dec n rest hrest, Bool.false_eq_true, if_false, cnt]
  rw [if_neg (by omega), if_neg (by omega)]

theorem sizeLine_dec (w h : Nat) (hw : w < 2 ^ 31) (hh : h < 2 ^ 31) : sizeLine (dec w ++ 32 :: dec h) = some ((w : Int), (h : Int)) := by
  -- the blank is skipped by `skipws`, then `numGetInt_dec` with nothing after the number
  have g2 : numGetInt (32 :: dec h) = (.ok (h : Int), []) := by
    have := numGetInt_dec h hh [] (by intro c t h; cases h)
    rw [List.append_nil] at this
    rw [← this]
    unfold numGetInt
    have : skipws (32 :: dec h) = skipws (dec h) := rfl
    rw [this]
  unfold sizeLine
  rw [numGetInt_dec w hw _ (by intro c t h; cases h; rfl)]
  simp only [g2]

theorem readMaxval_canon (st : HState) (w h : Int) (consumed : Nat) (data : Bytes) :
    readMaxval st w h consumed (str "65535" ++ 10 :: data) = .ok { st, w, h, maxval := 65535, tell := some (consumed + 5) } := by
  have e5 : str "65535" = [54, 53, 53, 51, 53] := by decide
  have g : numGetUnsigned (str "65535" ++ 10 :: data) = (.ok 65535, 10 :: data) := by
    rw [e5]
    simp [numGetUnsigned, skipws, isspace, stripSign, scanDigits, isdigit]
  unfold readMaxval
  rw [g]
  simp [e5]

def canonFile (w h : Nat) (data : Bytes) : Bytes :=
  magic ++ 10 :: (joinLines [offsetLine, scaleLine] ++ ((dec w ++ 32 :: dec h) ++ 10 :: (str "65535" ++ 10 :: data)))

def canonHeaderLen (w h : Nat) : Nat := 39 + (dec w).length + (dec h).length

theorem joinLines_two (a b : Bytes) : joinLines [a, b] = a ++ 10 :: (b ++ [10]) := by simp [joinLines]

theorem canon_lengths : magic.length = 2 ∧ offsetLine.length = 13 ∧ scaleLine.length = 13 := by decide

theorem canonFile_length (w h : Nat) (data : Bytes) : (canonFile w h data).length = canonHeaderLen w h + data.length := by
  obtain ⟨m, o, s⟩ := canon_lengths
  have f : (str "65535").length = 5 := by decide
  unfold canonFile canonHeaderLen
  rw [joinLines_two]
  simp only [List.length_append, List.length_cons, List.length_nil, m, o, s, f]
  omega

theorem canonical_scan (cubic : Bool) (w h : Nat) (hw : w < 2 ^ 31) (hh : h < 2 ^ 31) (data : Bytes) :
    scan cubic (canonFile w h data) =
      .ok { st := stCanon, w := w, h := h, maxval := 65535, tell := some (canonHeaderLen w h - 1) } := by
  obtain ⟨c, t, hc, hd⟩ := dec_head_digit w
  have h10 : 10 ∉ dec w ++ 32 :: dec h := by
    intro hm
    rcases List.mem_append.mp hm with hm | hm
    · have := dec_digits w 10 hm; simp [isdigit] at this
    · rcases List.mem_cons.mp hm with hm | hm
      · omega
      · have := dec_digits h 10 hm; simp [isdigit] at this
  have hc35 : c ≠ 35 := by intro e; subst e; simp [isdigit] at hd
  have hls : ∀ l ∈ [offsetLine, scaleLine], 10 ∉ l ∧ (l = [] ∨ ∃ t, l = 35 :: t) := by
    intro l hl
    simp at hl
    rcases hl with rfl | rfl
    · exact ⟨by decide, Or.inr ⟨offsetLine.tail, by decide⟩⟩
    · exact ⟨by decide, Or.inr ⟨scaleLine.tail, by decide⟩⟩
  unfold canonFile
  rw [scan_structured cubic [offsetLine, scaleLine] hls (dec w ++ 32 :: dec h) _ h10 c (t ++ 32 :: dec h) (by rw [hc]; rfl) hc35]
  rw [canon_fold cubic]
  simp only [sizeLine_dec w h hw hh]
  rw [readMaxval_canon]
  obtain ⟨m, o, s⟩ := canon_lengths
  rw [joinLines_two]
  simp only [canonHeaderLen, List.length_append, List.length_cons, List.length_nil, m, o, s]
  have e : 2 + 1 + (13 + (13 + (0 + 1) + 1)) + ((dec w).length + ((dec h).length + 1)) + 1 + 5 = 39 + (dec w).length + (dec h).length - 1 := by omega
  rw [e]

end GeoVerif.GeoidHeader
