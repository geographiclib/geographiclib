import GeoVerif.Proofs.VPTree
/-!
`NearestNeighbor::init` establishes `TreeInv` and writes what `Load` accepts.  `nth_element` is a parameter of the model `initAux`;
all that is used of it is `NthSpec`.  The calls of `init` are gone through once (`initAux_rule`), carrying `InitOK` and `InitWF`.
-/
namespace GeoVerif.VPTree

theorem ltId_iff {a b : IdItem} : ltId a b = true ↔ a.1 < b.1 ∨ (a.1 = b.1 ∧ a.2 < b.2) := by
  simp [ltId]

theorem fst_le_of_ltId_false {a b : IdItem} (h : ltId b a = false) : a.1 ≤ b.1 := by
  rw [← Bool.not_eq_true, ltId_iff] at h
  omega

theorem fst_le_of_ltId {a b : IdItem} (h : ltId a b = true) : a.1 ≤ b.1 := by
  rw [ltId_iff] at h
  omega

/-- the post-condition of `std::nth_element(first, first + k, last)` -/
structure NthSpec (nth : Nat → List IdItem → List IdItem) : Prop where
  perm : ∀ k l, (nth k l).Perm l
  split : ∀ k l, ∀ x ∈ (nth k l).take k, ∀ y ∈ (nth k l).drop k, ltId y x = false
  pivot : ∀ k l p, (nth k l)[k]? = some p → ∀ y ∈ (nth k l).drop k, ltId y p = false

theorem insId_eq : insId = insBy ltId := by
  funext x l
  induction l with
  | nil => rfl
  | cons y ys ih => simp [insId, insBy, ih]

theorem sortId_eq (l : List IdItem) : sortId l = l.foldr (insBy ltId) [] := by rw [sortId, insId_eq]

theorem sortId_perm (l : List IdItem) : (sortId l).Perm l := sortId_eq l ▸ foldr_insBy_perm ltId l

theorem sortId_sorted (l : List IdItem) : (sortId l).Pairwise (fun a b => ltId b a = false) := by
  rw [sortId_eq]
  refine foldr_insBy_pairwise (fun a b h => ?_) (fun a b c h1 h2 => ?_) (fun _ _ h => h) l
  · rw [← Bool.not_eq_true, ltId_iff]
    rw [ltId_iff] at h
    omega
  · rw [← Bool.not_eq_true, ltId_iff] at h2 ⊢
    rw [ltId_iff] at h1
    omega

theorem maxFrom_spec (xs : List IdItem) : ∀ (best : IdItem) (bi i : Nat),
    (maxFrom best bi i xs).2 ∈ best :: xs ∧ ∀ y ∈ best :: xs, y.1 ≤ (maxFrom best bi i xs).2.1 := by
  induction xs with
  | nil => intro best bi i; simp [maxFrom]
  | cons x xs ih =>
    intro best bi i
    simp only [maxFrom, List.forall_mem_cons] at ih ⊢
    split
    · rename_i h
      obtain ⟨hm, hx, hxs⟩ := ih x i (i + 1)
      exact ⟨List.mem_cons_of_mem _ hm, Int.le_trans (fst_le_of_ltId h) hx, hx, hxs⟩
    · rename_i h
      obtain ⟨hm, hb, hxs⟩ := ih best bi (i + 1)
      have hsub : best :: xs ⊆ best :: x :: xs := ((List.sublist_cons_self x xs).cons_cons best).subset
      exact ⟨hsub hm, hb, Int.le_trans (fst_le_of_ltId_false (by simpa using h)) hb, hxs⟩

theorem maxElement_spec {l : List IdItem} (h : l ≠ []) :
    (maxElement l).2 ∈ l ∧ ∀ y ∈ l, y.1 ≤ (maxElement l).2.1 := by
  cases l with
  | nil => exact absurd rfl h
  | cons x xs => exact maxFrom_spec xs x 0 1

theorem minFrom_spec (xs : List IdItem) : ∀ (best : IdItem),
    minFrom best xs ∈ best :: xs ∧ ∀ y ∈ best :: xs, (minFrom best xs).1 ≤ y.1 := by
  induction xs with
  | nil => intro best; simp [minFrom]
  | cons x xs ih =>
    intro best
    simp only [minFrom, List.forall_mem_cons] at ih ⊢
    split
    · rename_i h
      obtain ⟨hm, hx, hxs⟩ := ih x
      exact ⟨List.mem_cons_of_mem _ hm, Int.le_trans hx (fst_le_of_ltId h), hx, hxs⟩
    · rename_i h
      obtain ⟨hm, hb, hxs⟩ := ih best
      have hsub : best :: xs ⊆ best :: x :: xs := ((List.sublist_cons_self x xs).cons_cons best).subset
      exact ⟨hsub hm, hb, Int.le_trans hb (fst_le_of_ltId_false (by simpa using h)), hxs⟩

theorem minElement_spec {l : List IdItem} (h : l ≠ []) : minElement l ∈ l ∧ ∀ y ∈ l, (minElement l).1 ≤ y.1 := by
  cases l with
  | nil => exact absurd rfl h
  | cons x xs => exact minFrom_spec xs x

theorem set_perm_swap {xs : List IdItem} {j : Nat} {x y : IdItem} (h : xs[j]? = some y) :
    (y :: xs.set j x).Perm (x :: xs) := by
  induction xs generalizing j with
  | nil => simp at h
  | cons a as ih =>
    cases j with
    | zero =>
      simp at h; subst h
      simp only [List.set_cons_zero]
      exact List.Perm.swap x a as
    | succ j =>
      simp at h
      simp only [List.set_cons_succ]
      exact (List.Perm.swap a y _).trans (((ih h).cons a).trans (List.Perm.swap x a as))

theorem swapFront_perm (r : List IdItem) (i : Nat) : (swapFront r i).Perm r := by
  unfold swapFront
  split
  · exact List.Perm.refl _
  · exact List.Perm.refl _
  · rename_i x xs j
    split
    · rename_i y hy
      exact set_perm_swap hy
    · exact List.Perm.refl _

/-- The four cases are the four ways a call of `init` returns: empty range, single point without buckets, bucket node, inner
    node.  In the last, `h0` and `y :: h1` are the two halves `nth_element` leaves behind the vantage point `v`; `a` and `b` are
    the results of the calls on them (for empty `h0` there is no call, and `a` is what `nil` speaks of).  In a bucket node `l`
    is the sorted range; that it is the range in some order is all that is used. -/
theorem initAux_rule {nth : Nat → List IdItem → List IdItem} (hn : NthSpec nth) (d : Nat → Nat → Int) (bucket : Nat)
    (P : Array Node → List IdItem → Array Node × Nat × Int → Prop)
    (nil : ∀ tree cost, P tree [] (tree, cost, -1))
    (single : bucket = 0 → ∀ tree cost x, P tree [x] (tree.push (.inner x.2 0 0 (-1) 0 0 (-1)), cost, tree.size))
    (leaf : bucket ≠ 0 → ∀ tree cost r l, l.Perm r → l ≠ [] → l.length ≤ bucket →
      P tree r (tree.push (.leaf (l.map (fun it => (it.2 : Int)) ++ List.replicate (bucket - l.length) (-1))),
        cost, tree.size))
    (node : ∀ tree r v h0 y h1 a b,
      (v :: (h0 ++ y :: h1).map (·.2)).Perm (r.map (·.2)) → (∀ it ∈ h0 ++ y :: h1, it.1 = d v it.2) →
      (∀ p ∈ h0, p.1 ≤ y.1) → (∀ q ∈ h1, y.1 ≤ q.1) → P tree h0 a → P a.1 (y :: h1) b →
      P tree r (b.1.push (.inner v (minElement h0).1 (maxElement h0).2.1 a.2.2 y.1 (maxElement (y :: h1)).2.1 b.2.2),
        b.2.1, b.1.size)) :
    ∀ (f : Nat) (tree : Array Node) (cost : Nat) (r : List IdItem) (vp : Nat), r.length ≤ f →
      P tree r (initAux nth d bucket f tree cost r vp) := by
  intro f
  induction f with
  | zero =>
    intro tree cost r vp hf
    rw [List.eq_nil_of_length_eq_zero (Nat.le_zero.mp hf)]
    exact nil tree cost
  | succ f ih =>
    intro tree cost r vp hf
    unfold initAux
    by_cases hr : r.isEmpty = true
    · rw [if_pos hr, List.isEmpty_iff.mp hr]
      exact nil tree cost
    rw [if_neg hr]
    have hr0 : r ≠ [] := fun h => hr (List.isEmpty_iff.mpr h)
    by_cases hbig : r.length > (if bucket = 0 then 1 else bucket)
    · rw [if_pos hbig]
      have h2 : 2 ≤ r.length := by
        have := List.length_pos_iff.mpr hr0
        split at hbig
        · omega
        · omega
      have hsw := swapFront_perm r vp
      cases hsf : swapFront r vp with
      | nil => rw [hsf] at hsw; have := hsw.length_eq; simp at this; omega
      | cons xv rest =>
        obtain ⟨x, v⟩ := xv
        rw [hsf] at hsw
        have hrl : rest.length + 1 = r.length := by simpa using hsw.length_eq
        simp only []  -- reduces the `match` on `swapFront r vp` and the `let`s of the body
        generalize hk : (r.length + 1) / 2 - 1 = k
        have hsp := hn.perm k (rest.map fun it => (d v it.2, it.2))
        have hsplit := hn.split k (rest.map fun it => (d v it.2, it.2))
        have hpivot := hn.pivot k (rest.map fun it => (d v it.2, it.2))
        generalize nth k (rest.map fun it => (d v it.2, it.2)) = s at *
        have hsl : s.length = rest.length := by simpa using hsp.length_eq
        have hks : k < s.length := by omega
        obtain ⟨y, h1, hy, hd⟩ : ∃ y h1, s[k]? = some y ∧ s.drop k = y :: h1 :=
          ⟨s[k], s.drop (k + 1), List.getElem?_eq_getElem hks, List.drop_eq_getElem_cons hks⟩
        have hs : s.take k ++ y :: h1 = s := by rw [← hd, List.take_append_drop]
        have hnil : k = 0 → s.take k = [] := fun h => by rw [h, List.take_zero]
        -- `min_element`, `max_element` of an empty range are `(0, 0)` in the model: the test `k = 0` makes no difference to the bounds
        have hz : ∀ g : List IdItem → Int, g [] = 0 → (if k = 0 then 0 else g (s.take k)) = g (s.take k) := by
          intro g hg
          split
          · rename_i h; rw [hnil h, hg]
          · rfl
        rw [hz (fun l => (minElement l).1) rfl, hz (fun l => (maxElement l).2.1) rfl, hd]
        simp only []
        generalize ha : (if k = 0 then (tree, cost + rest.length, (-1 : Int))
          else initAux nth d bucket f tree (cost + rest.length) (s.take k) (maxElement (s.take k)).1) = a
        have hA : P tree (s.take k) a := by
          rw [← ha]
          split
          · rename_i h; rw [hnil h]; exact nil tree _
          · exact ih tree _ _ _ (by rw [List.length_take]; omega)
        generalize hb : initAux nth d bucket f a.1 a.2.1 (y :: h1) (maxElement (y :: h1)).1 = b
        have hB : P a.1 (y :: h1) b := by
          rw [← hb]
          exact ih a.1 _ _ _ (by rw [← hd, List.length_drop]; omega)
        refine node tree r v (s.take k) y h1 a b ?_ ?_ ?_ ?_ hA hB
        · rw [hs]
          have e : (s.map (·.2)).Perm (rest.map (·.2)) := by
            simpa [List.map_map, Function.comp_def] using hsp.map (·.2)
          exact (e.cons v).trans (hsw.map (fun it : IdItem => it.2))
        · rw [hs]
          intro it hit
          obtain ⟨it0, _, rfl⟩ := List.mem_map.mp (hsp.mem_iff.mp hit)
          rfl
        · intro p hp
          exact fst_le_of_ltId_false (hsplit p hp y (by rw [hd]; exact List.mem_cons_self))
        · intro q hq
          exact fst_le_of_ltId_false (hpivot y hy q (by rw [hd]; exact List.mem_cons_of_mem _ hq))
    · rw [if_neg hbig]
      by_cases hb : bucket = 0
      · rw [if_pos hb]
        rw [if_pos hb] at hbig
        cases r with
        | nil => exact absurd rfl hr0
        | cons x xs =>
          have : xs = [] := List.eq_nil_of_length_eq_zero (by simp only [List.length_cons] at hbig; omega)
          subst this
          exact single hb tree cost x
      · rw [if_neg hb]
        rw [if_neg hb] at hbig
        have hp := sortId_perm r
        rw [← hp.length_eq] at hbig ⊢
        exact leaf hb tree cost r (sortId r) hp (fun h => hr0 (h ▸ hp).nil_eq.symm) (by omega)

def Ext (a b : Array Node) : Prop := ∀ (i : Nat) (x : Node), a[i]? = some x → b[i]? = some x

theorem Ext.refl (a : Array Node) : Ext a a := fun _ _ h => h
theorem Ext.trans {a b c : Array Node} (h1 : Ext a b) (h2 : Ext b c) : Ext a c := fun i x h => h2 i x (h1 i x h)

theorem ext_push (a : Array Node) (x : Node) : Ext a (a.push x) := by
  intro i y h
  obtain ⟨hi, rfl⟩ := Array.getElem?_eq_some_iff.mp h
  exact Array.getElem?_push_lt hi

theorem getElem?_push_size_toNat (a : Array Node) (x : Node) : (a.push x)[((a.size : Int)).toNat]? = some x := by
  simp

theorem Rep.mono {a b : Array Node} {bucket : Nat} {n : Int} {t : VT} (h : Rep a bucket n t) (he : Ext a b) :
    Rep b bucket n t := by
  induction h with
  | nil hn => exact Rep.nil hn
  | leaf hn hg hv => exact Rep.leaf hn (he _ _ hg) hv
  | inner hn hg _ _ ih0 ih1 => exact Rep.inner hn (he _ _ hg) ih0 ih1

theorem validLeaves_ids (l : List IdItem) (m : Nat) :
    validLeaves (l.map (fun it => (it.2 : Int)) ++ List.replicate m (-1)) = l.map (·.2) := by
  induction l with
  | nil =>
    cases m with
    | zero => rfl
    | succ m => rfl
  | cons x xs ih =>
    simp only [List.map_cons, List.cons_append, validLeaves]
    rw [if_neg (Int.not_lt.mpr (Int.natCast_nonneg _)), ih, Int.toNat_natCast]

structure InitOK (d : Nat → Nat → Int) (bucket : Nat) (tree : Array Node) (r : List IdItem)
    (out : Array Node × Nat × Int) : Prop where
  ext : Ext tree out.1
  root : r ≠ [] → out.2.2 = (out.1.size : Int) - 1
  rep : ∃ t, Rep out.1 bucket out.2.2 t ∧ Bounded d t ∧ t.pts.Perm (r.map (·.2))

theorem initAux_spec {nth : Nat → List IdItem → List IdItem} (hn : NthSpec nth) (d : Nat → Nat → Int) (bucket : Nat) :
    ∀ (f : Nat) (tree : Array Node) (cost : Nat) (r : List IdItem) (vp : Nat), r.length ≤ f →
      InitOK d bucket tree r (initAux nth d bucket f tree cost r vp) := by
  refine initAux_rule hn d bucket (InitOK d bucket) ?nil ?single ?leaf ?node
  case nil =>
    intro tree cost
    exact ⟨Ext.refl _, fun h => absurd rfl h, .nil, Rep.nil (by show (-1 : Int) < 0; omega), trivial, List.Perm.refl _⟩
  case single =>
    intro _ tree cost x
    refine ⟨ext_push _ _, fun _ => by simp, .inner x.2 0 0 0 0 .nil .nil,
      Rep.inner (Int.natCast_nonneg _) (getElem?_push_size_toNat _ _) (Rep.nil (by omega)) (Rep.nil (by omega)), ?_, ?_⟩
    · exact ⟨by intro p hp; simp [VT.pts] at hp, by intro p hp; simp [VT.pts] at hp, trivial, trivial⟩
    · simp [VT.pts]
  case leaf =>
    intro _ tree cost r l hp hl0 hle
    generalize hls : l.map (fun it => (it.2 : Int)) ++ List.replicate (bucket - l.length) (-1) = ls
    have hlsl : ls.length = bucket := by
      subst hls; simp; omega
    have hvl : validLeaves (ls.take bucket) = l.map (·.2) := by
      rw [List.take_of_length_le (by omega), ← hls]; exact validLeaves_ids _ _
    have hne : validLeaves (ls.take bucket) ≠ [] := by
      rw [hvl]
      exact fun h => hl0 (List.map_eq_nil_iff.mp h)
    refine ⟨ext_push _ _, fun _ => by simp, .leaf (validLeaves (ls.take bucket)),
      Rep.leaf (Int.natCast_nonneg _) (getElem?_push_size_toNat _ _) hne, trivial, ?_⟩
    simp only [VT.pts]
    rw [hvl]
    exact hp.map (·.2)
  case node =>
    intro tree r v h0 y h1 a b hperm hdist _ hhi ⟨eA, _, t0, r0, b0, p0⟩ ⟨eB, _, t1, r1, b1, p1⟩
    refine ⟨(eA.trans eB).trans (ext_push _ _), fun _ => by simp, .inner v _ _ _ _ t0 t1,
      Rep.inner (Int.natCast_nonneg _) (getElem?_push_size_toNat _ _) ((r0.mono eB).mono (ext_push _ _)) (r1.mono (ext_push _ _)),
      ⟨?_, ?_, b0, b1⟩, ?_⟩
    · intro p hp
      obtain ⟨it, hit, rfl⟩ := List.mem_map.mp (p0.mem_iff.mp hp)
      rw [← hdist it (List.mem_append_left _ hit)]
      have hne := List.ne_nil_of_mem hit
      exact ⟨(minElement_spec hne).2 it hit, (maxElement_spec hne).2 it hit⟩
    · intro p hp
      obtain ⟨it, hit, rfl⟩ := List.mem_map.mp (p1.mem_iff.mp hp)
      rw [← hdist it (List.mem_append_right _ hit)]
      refine ⟨?_, (maxElement_spec (List.cons_ne_nil y h1)).2 it hit⟩
      rcases List.mem_cons.mp hit with rfl | hit
      · exact Int.le_refl _
      · exact hhi it hit
    · have := (p0.append p1).cons v
      rw [← List.map_append] at this
      exact this.trans hperm

theorem nodup_kids_inner {v : Nat} {lo0 up0 c0 lo1 up1 c1 : Int} (h : 0 ≤ c0 → c0 ≠ c1) :
    (kids (.inner v lo0 up0 c0 lo1 up1 c1)).Nodup := by
  simp only [kids]
  split
  · split
    · simp
    · simp
  · split
    · simp
    · simpa using h (by omega)

theorem children_append (a b : List Node) : children (a ++ b) = children a ++ children b := by
  induction a with
  | nil => rfl
  | cons x xs ih => simp [children, ih]

theorem nodesOK_append (bucket : Nat) (np : Int) : ∀ (a b : List Node) (i : Nat),
    NodesOK bucket np i (a ++ b) ↔ NodesOK bucket np i a ∧ NodesOK bucket np (i + a.length) b := by
  intro a
  induction a with
  | nil => intro b i; simp [NodesOK]
  | cons x xs ih =>
    intro b i
    simp only [List.cons_append, NodesOK, ih, List.length_cons]
    have e : i + 1 + xs.length = i + (xs.length + 1) := by omega
    rw [e]
    exact and_assoc.symm

theorem checkLeaves_pad (np : Int) (hnp : 0 ≤ np) : ∀ (m : Nat) (start : Bool),
    checkLeaves np false start (List.replicate m (-1)) = true := by
  intro m
  induction m with
  | zero => intro start; rfl
  | succ m ih =>
    intro start
    simp only [List.replicate, checkLeaves, ih, Bool.and_true]
    cases start
    · simp
    · simp; omega

/-- `first` = no index has been seen yet; the padding alone passes only after one -/
theorem checkLeaves_ids (np : Int) : ∀ (l : List IdItem) (m : Nat) (first : Bool), (∀ it ∈ l, (it.2 : Int) < np) →
    (l ≠ [] ∨ (first = false ∧ 0 ≤ np)) →
    checkLeaves np first true (l.map (fun it => (it.2 : Int)) ++ List.replicate m (-1)) = true := by
  intro l
  induction l with
  | nil =>
    intro m first _ h
    rcases h with h | ⟨h, hnp⟩
    · exact absurd rfl h
    · subst h; exact checkLeaves_pad np hnp m true
  | cons x xs ih =>
    intro m first hx _
    have hx0 := hx x List.mem_cons_self
    have h1 : (if first = true then (0 : Int) else -1) ≤ x.2 := by
      split
      · omega
      · omega
    simp only [List.map_cons, List.cons_append, checkLeaves, if_true]
    rw [decide_eq_true (Int.natCast_nonneg x.2 : (x.2 : Int) ≥ 0),
      ih m false (fun y hy => hx y (List.mem_cons_of_mem _ hy)) (Or.inr ⟨rfl, by omega⟩)]
    simp only [Bool.and_true, Bool.and_eq_true, decide_eq_true_eq]
    exact ⟨h1, hx0⟩

/-- `ext`: what one call of `init` appends -/
structure InitWF (np : Int) (bucket : Nat) (tree : Array Node) (r : List IdItem) (out : Array Node × Nat × Int)
    (ext : List Node) : Prop where
  eq : out.1.toList = tree.toList ++ ext
  len : ext.length ≤ r.length
  root : out.2.2 = -1 ∨ (0 < ext.length ∧ out.2.2 = (out.1.size : Int) - 1)
  ok : NodesOK bucket np tree.size ext
  nodup : (children ext).Nodup
  range : ∀ c ∈ children ext, (tree.size : Int) ≤ c ∧ c < (out.1.size : Int) - 1

theorem InitWF.node {np : Int} {bucket : Nat} {tree : Array Node} {r0 r1 r : List IdItem} {a b : Array Node × Nat × Int}
    {ext0 ext1 : List Node} (hA : InitWF np bucket tree r0 a ext0) (hB : InitWF np bucket a.1 r1 b ext1)
    (hlen : r0.length + r1.length + 1 ≤ r.length) {v : Nat} (hv : (v : Int) < np) {lo0 up0 lo1 up1 : Int}
    (hbd : 0 ≤ lo0 ∧ lo0 ≤ up0 ∧ up0 ≤ lo1 ∧ lo1 ≤ up1) (cost : Nat) :
    InitWF np bucket tree r (b.1.push (.inner v lo0 up0 a.2.2 lo1 up1 b.2.2), cost, b.1.size)
      (ext0 ++ ext1 ++ [.inner v lo0 up0 a.2.2 lo1 up1 b.2.2]) := by
  obtain ⟨e0, len0, root0, ok0, nd0, rg0⟩ := hA
  obtain ⟨e1, len1, root1, ok1, nd1, rg1⟩ := hB
  have sa : a.1.size = tree.size + ext0.length := by simpa using congrArg List.length e0
  have sb : b.1.size = a.1.size + ext1.length := by simpa using congrArg List.length e1
  generalize a.2.2 = c0 at root0 ⊢
  generalize b.2.2 = c1 at root1 ⊢
  have hkid : ∀ c ∈ kids (.inner v lo0 up0 c0 lo1 up1 c1),
      (0 < ext0.length ∧ c = (a.1.size : Int) - 1) ∨ (0 < ext1.length ∧ c = (b.1.size : Int) - 1) := by
    intro c hc
    obtain ⟨hc0, rfl | rfl⟩ := mem_kids_inner.mp hc
    · exact Or.inl (root0.resolve_left (by omega))
    · exact Or.inr (root1.resolve_left (by omega))
  have hcs : -1 ≤ c0 ∧ c0 < (a.1.size : Int) ∧ -1 ≤ c1 ∧ c1 < (b.1.size : Int) := by omega
  have hnd : (kids (.inner v lo0 up0 c0 lo1 up1 c1)).Nodup := nodup_kids_inner (by omega)
  clear root0 root1
  refine ⟨?_, ?_, Or.inr ⟨?_, by simp⟩, ?_, ?_, ?_⟩
  · simp only [Array.toList_push, e1, e0, List.append_assoc]
  · simp only [List.length_append, List.length_singleton]; omega
  · simp only [List.length_append, List.length_singleton]; omega
  · rw [nodesOK_append, nodesOK_append]
    refine ⟨⟨ok0, ?_⟩, ?_⟩
    · rw [← sa]; exact ok1
    · have e : tree.size + (ext0 ++ ext1).length = b.1.size := by simp only [List.length_append]; omega
      rw [e]
      simp only [NodesOK, and_true, NodeOK, nodeCheck, Bool.and_eq_true, decide_eq_true_eq]
      refine ⟨⟨⟨hv, ?_⟩, ?_⟩, by intro ls h; cases h⟩
      · omega
      · omega
  · rw [children_append, children_append]
    simp only [children, List.append_nil]
    rw [List.nodup_append, List.nodup_append]
    refine ⟨⟨nd0, nd1, ?_⟩, hnd, ?_⟩
    · intro p hp q hq e
      have := rg0 p hp; have := rg1 q hq; omega
    · intro p hp q hq e
      have := hkid q hq
      rcases List.mem_append.mp hp with hp | hp
      · have := rg0 p hp; omega
      · have := rg1 p hp; omega
  · intro c hc
    rw [children_append, children_append] at hc
    simp only [children, List.append_nil, Array.size_push] at hc ⊢
    rcases List.mem_append.mp hc with hc | hc
    · rcases List.mem_append.mp hc with hc | hc
      · have := rg0 c hc; omega
      · have := rg1 c hc; omega
    · have := hkid c hc; omega

theorem initAux_wf {nth : Nat → List IdItem → List IdItem} (hn : NthSpec nth) (d : Nat → Nat → Int)
    (hd : ∀ i j, 0 ≤ d i j) (np : Int) (bucket : Nat) :
    ∀ (f : Nat) (tree : Array Node) (cost : Nat) (r : List IdItem) (vp : Nat), r.length ≤ f →
      (∀ it ∈ r, (it.2 : Int) < np) → ∃ ext, InitWF np bucket tree r (initAux nth d bucket f tree cost r vp) ext := by
  refine initAux_rule hn d bucket
    (fun tree r out => (∀ it ∈ r, (it.2 : Int) < np) → ∃ ext, InitWF np bucket tree r out ext) ?nil ?single ?leaf ?node
  case nil =>
    intro tree cost _
    exact ⟨[], by simp, by simp, Or.inl rfl, trivial, by simp [children], by simp [children]⟩
  case single =>
    intro _ tree cost x hids
    have hx := hids x List.mem_cons_self
    refine ⟨[.inner x.2 0 0 (-1) 0 0 (-1)], by simp, by simp, Or.inr ⟨by simp, by simp⟩, ?_,
      by simp [children, kids], by simp [children, kids]⟩
    simp only [NodesOK, and_true, NodeOK, nodeCheck]
    refine ⟨?_, by intro ls h; cases h⟩
    simp only [Bool.and_eq_true, decide_eq_true_eq]
    refine ⟨⟨hx, ?_⟩, ?_⟩
    · omega
    · omega
  case leaf =>
    intro _ tree cost r l hp hl0 hle hids
    generalize hls : l.map (fun it => (it.2 : Int)) ++ List.replicate (bucket - l.length) (-1) = ls
    have hlsl : ls.length = bucket := by
      subst hls; simp; omega
    refine ⟨[.leaf ls], by simp, hp.length_eq ▸ List.length_pos_iff.mpr hl0, Or.inr ⟨by simp, by simp⟩, ?_,
      by simp [children, kids], by simp [children, kids]⟩
    simp only [NodesOK, and_true, NodeOK, nodeCheck]
    refine ⟨?_, by intro ls' h; cases h; exact hlsl⟩
    rw [← hls]
    exact checkLeaves_ids np l _ true (fun it hit => hids it (hp.mem_iff.mp hit)) (Or.inl hl0)
  case node =>
    intro tree r v h0 y h1 a b hperm hdist hlo hhi hA hB hids
    have hids' : ∀ i ∈ v :: (h0 ++ y :: h1).map (·.2), (i : Int) < np := by
      intro i hi
      obtain ⟨it, hit, rfl⟩ := List.mem_map.mp (hperm.mem_iff.mp hi)
      exact hids it hit
    have hin : ∀ it ∈ h0 ++ y :: h1, (it.2 : Int) < np := fun it hit =>
      hids' it.2 (List.mem_cons_of_mem _ (List.mem_map_of_mem hit))
    obtain ⟨ext0, wfA⟩ := hA (fun it hit => hin it (List.mem_append_left _ hit))
    obtain ⟨ext1, wfB⟩ := hB (fun it hit => hin it (List.mem_append_right _ hit))
    -- `0 ≤ lower[0] ≤ upper[0] ≤ lower[1] ≤ upper[1]`: distances are non-negative, and `nth_element` has put the
    -- first half below `y`
    have hbd : 0 ≤ (minElement h0).1 ∧ (minElement h0).1 ≤ (maxElement h0).2.1 ∧ (maxElement h0).2.1 ≤ y.1 ∧
        y.1 ≤ (maxElement (y :: h1)).2.1 := by
      have y0 : 0 ≤ y.1 := by rw [hdist y (by simp)]; exact hd _ _
      have yM := (maxElement_spec (List.cons_ne_nil y h1)).2 y List.mem_cons_self
      by_cases hne : h0 = []
      · subst hne; exact ⟨Int.le_refl 0, Int.le_refl 0, y0, yM⟩
      · obtain ⟨hmin, _⟩ := minElement_spec hne
        obtain ⟨hmax, hge⟩ := maxElement_spec hne
        refine ⟨?_, hge _ hmin, hlo _ hmax, yM⟩
        rw [hdist _ (List.mem_append_left _ hmin)]; exact hd _ _
    have hlen : h0.length + (y :: h1).length + 1 ≤ r.length := by
      have := hperm.length_eq
      simp only [List.length_append, List.length_cons, List.length_map] at this ⊢
      omega
    exact ⟨_, wfA.node wfB hlen (hids' v List.mem_cons_self) hbd _⟩

end GeoVerif.VPTree
