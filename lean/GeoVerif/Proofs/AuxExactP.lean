import GeoVerif.Model.AuxExact
import GeoVerif.Spec.RealInstX
import Mathlib.Tactic.Ring
import Mathlib.Tactic.FieldSimp
import Mathlib.Tactic.Linarith
import Mathlib.Tactic.Positivity
import Mathlib.Tactic.NormNum
import Mathlib.Tactic.IntervalCases
import Mathlib.Tactic.LinearCombination
/-!
# `AuxAngle`, the exact methods of `AuxLatitude` and the measures of `Ellipsoid` (`Model/AuxExact.lean` read at `ℝ`)
-/
namespace GeoVerif.Proofs.AuxExactP
open GeoVerif GeoVerif.Elliptic GeoVerif.AuxExact Real

@[simp] theorem sinh_real (x : ℝ) : RealLike.sinh x = Real.sinh x := rfl
@[simp] theorem asinh_real (x : ℝ) : RealLike.asinh x = Real.arsinh x := rfl
@[simp] theorem atan_real (x : ℝ) : RealLike.atan x = Real.arctan x := rfl
@[simp] theorem pi_real : (RealLike.pi : ℝ) = π := rfl
@[simp] theorem atan2_real (y x : ℝ) : RealLike.atan2 y x = Complex.arg ⟨x, y⟩ := rfl
@[simp] theorem exp2_real (x : ℝ) : RealX.exp2 x = (2 : ℝ) ^ x := rfl
@[simp] theorem log2_real (x : ℝ) : RealX.log2 x = Real.logb 2 x := rfl

theorem degree_real : (degree : ℝ) = π / 180 := by
  simp only [degree, pi_real, lit_real]

theorem sc_eq (t : ℝ) : sc t = √(1 ^ 2 + t ^ 2) := by
  simp only [sc, hypot_real, lit_real]; push_cast; rfl

set_option exponentiation.threshold 1024 in
/-- `max()/2 > 1` (all that is used about the overflow guard of `normalized()`) -/
theorem one_lt_maxHalf : (1 : ℝ) < maxHalf := by
  have key : ∀ n : ℕ, 2 ≤ n → ∀ m : ℕ, 1 ≤ m → (1 : ℝ) < ((n * m : ℕ) : ℝ) := by
    intro n hn m hm
    exact Nat.one_lt_cast.mpr (lt_of_lt_of_le (by norm_num : 1 < 2 * 1) (Nat.mul_le_mul hn hm))
  exact key (2 ^ 53 - 1) (by norm_num) (2 ^ 970) Nat.one_le_two_pow

/-- `normalized()` outside its overflow guard: division by `hypot(y, x)` (over `ℝ` no quotient is a NaN) -/
theorem normalized_eq (p : Ang ℝ) (hb : ¬ ((maxHalf : ℝ) < |p.y| ∧ (maxHalf : ℝ) < |p.x|)) :
    p.normalized = ⟨p.y / √(p.y ^ 2 + p.x ^ 2), p.x / √(p.y ^ 2 + p.x ^ 2)⟩ := by
  unfold Ang.normalized
  simp only [isNaN_realx, ltb_real, abs_real, hypot_real, Bool.false_or, Bool.and_eq_true, decide_eq_true_eq]
  rw [if_neg hb]
  simp

theorem abs_le_one_of_unit {y x : ℝ} (h : y ^ 2 + x ^ 2 = 1) : |x| ≤ 1 :=
  (sq_le_one_iff_abs_le_one x).mp (by linarith [sq_nonneg y])

theorem guard_of_unit {p : Ang ℝ} (h : p.y ^ 2 + p.x ^ 2 = 1) : ¬ ((maxHalf : ℝ) < |p.y| ∧ (maxHalf : ℝ) < |p.x|) :=
  fun hh => absurd ((one_lt_maxHalf.trans hh.2).trans_le (abs_le_one_of_unit h)) (lt_irrefl _)

theorem atan2d_real (y x : ℝ) : atan2d y x =
    if |x| < |y| then (if y < 0 then -90 + Complex.arg ⟨-y, x⟩ / (π / 180) else 90 - Complex.arg ⟨y, x⟩ / (π / 180))
    else (if x < 0 then (if y < 0 then -180 else 180) - Complex.arg ⟨-x, y⟩ / (π / 180)
          else Complex.arg ⟨x, y⟩ / (π / 180)) := by
  unfold atan2d
  simp only [ltb_real, signNeg_real, copysign_real, abs_real, atan2_real, degree_real, lit_real]
  push_cast
  by_cases h1 : |x| < |y|
  · by_cases h2 : y < 0
    · simp [h1, h2]
    · simp [h1, h2]
  · by_cases h2 : x < 0
    · by_cases h3 : y < 0
      · simp [h1, h2, h3]
      · simp [h1, h2, h3]
    · simp [h1, h2]

theorem norm_mk (a b : ℝ) : ‖(⟨a, b⟩ : ℂ)‖ = √(a * a + b * b) := by
  rw [Complex.norm_def, Complex.normSq_mk]

/-- `ind` with the enum value `AUXNUMBER = 6` read from `Gen/AuxSeries.lean` -/
theorem ind_eq (o i : Int) : ind o i = if 0 ≤ o ∧ o < 6 ∧ 0 ≤ i ∧ i < 6 then 6 * o + i else -1 := by
  have hA : (Gen.AuxSeries.AUXNUMBER : Int) = 6 := rfl
  unfold ind
  simp only [hA, Bool.and_eq_true, decide_eq_true_eq, and_assoc]

theorem mk2_b (a f : ℝ) : (AL.mk2 a f).b = a * (1 - f) := by simp only [AL.mk2, lit_real]; push_cast; rfl
theorem mk2_fm1 (a f : ℝ) : (AL.mk2 a f).fm1 = 1 - f := by simp only [AL.mk2, lit_real]; push_cast; rfl
theorem mk2_e2 (a f : ℝ) : (AL.mk2 a f).e2 = f * (2 - f) := by simp only [AL.mk2, lit_real]

theorem powFm1_0 (P : AL ℝ) : powFm1 P 0 = 1 := by
  -- the branch of `powFm1` is the `RealLike` literal `1`; `lit_real` rewrites a literal only once `show` has exposed its instance
  show (@OfNat.ofNat ℝ 1 RealLike.Lits.instLit) = 1
  rw [lit_real]; norm_num
theorem powFm1_2 (P : AL ℝ) : powFm1 P 2 = P.fm1 * P.fm1 := rfl

/-- on the exponents that occur `powFm1` is the integer power -/
theorem powFm1_eq (P : AL ℝ) (k : ℤ) (h1 : -2 ≤ k) (h2 : k ≤ 2) : powFm1 P k = P.fm1 ^ k := by
  have one : (@OfNat.ofNat ℝ 1 RealLike.Lits.instLit) = 1 := by rw [lit_real]; norm_num
  interval_cases k
  · show (@OfNat.ofNat ℝ 1 RealLike.Lits.instLit) / (P.fm1 * P.fm1) = _
    rw [one, zpow_neg, zpow_two, one_div]
  · show (@OfNat.ofNat ℝ 1 RealLike.Lits.instLit) / P.fm1 = _
    rw [one, zpow_neg, zpow_one, one_div]
  · rw [powFm1_0, zpow_zero]
  · exact (zpow_one _).symm
  · rw [powFm1_2, zpow_two]

/-- `Convert(GEOGRAPHIC, PARAMETRIC, ·, exact)` -/
theorem convertExact_0_1 (P : AL ℝ) (z : Ang ℝ) : convertExact P 0 1 z = ⟨z.y * P.fm1, z.x⟩ := by
  unfold convertExact
  rw [if_neg (by rw [ind_eq]; norm_num), if_neg (by norm_num), if_pos (by norm_num)]
  rfl

theorem newtonLoop_spec (P : AL ℝ) (auxin : Int) (tzeta ltzeta : ℝ) (fuel : ℕ) (s : Newton ℝ) :
    (∀ t, newtonLoop P auxin tzeta ltzeta fuel s = (t, Exit.exact) → (toAux P auxin (Ang.ofTan t.tphi)).1.tan = tzeta) ∧
    (∀ t, newtonLoop P auxin tzeta ltzeta fuel s = (t, Exit.converged) →
      ∃ tphi : ℝ, t.tphi = tphi - ((toAux P auxin (Ang.ofTan tphi)).1.tan - tzeta) / (toAux P auxin (Ang.ofTan tphi)).2 ∧
        tphi = (2 : ℝ) ^ t.ltphi) ∧
    (s.n ≤ numit → (newtonLoop P auxin tzeta ltzeta fuel s).1.n ≤ numit + 1) := by
  induction fuel generalizing s with
  | zero => exact ⟨by simp [newtonLoop], by simp [newtonLoop], fun h => Nat.le_succ_of_le h⟩
  | succ k ih =>
    -- one copy of the unfolded body, its `let`s kept as local definitions: splitting the zeta-reduced body in place is slow
    generalize hR : newtonLoop P auxin tzeta ltzeta (k + 1) s = R
    rw [newtonLoop] at hR
    extract_lets n r tzeta1 ltzeta1 diff osign up sign bmax bmin dltphi ltphi tphi r2 lt at hR
    split_ifs at hR with hn he hc hb
    · subst hR
      exact ⟨by simp, by simp, fun h => Nat.le_succ_of_le h⟩
    · subst hR
      have hn' : s.n < numit := by simpa using hn
      refine ⟨fun t h => ?_, by simp, fun _ => Nat.succ_le_succ hn'.le⟩
      obtain rfl := (Prod.mk.inj h).1
      exact of_decide_eq_true he
    · subst hR
      have hn' : s.n < numit := by simpa using hn
      refine ⟨by simp, fun t h => ?_, fun _ => Nat.succ_le_succ hn'⟩
      obtain rfl := (Prod.mk.inj h).1
      exact ⟨tphi, rfl, rfl⟩
    · subst hR
      have hn' : s.n < numit := by simpa using hn
      exact ⟨(ih _).1, (ih _).2.1, fun _ => (ih _).2.2 hn'⟩
    · subst hR
      have hn' : s.n < numit := by simpa using hn
      exact ⟨(ih _).1, (ih _).2.1, fun _ => (ih _).2.2 hn'⟩

theorem euler_formula (a e2 s salp calp : ℝ) (ha : a ≠ 0) (he : e2 ≠ 1) (hv : 0 < 1 - e2 * s ^ 2) :
    1 / normalCurvatureRadius a e2 s salp calp =
      calp ^ 2 / meridionalCurvatureRadius a e2 s + salp ^ 2 / transverseCurvatureRadius a e2 s := by
  have h1 : (1 : ℝ) - e2 ≠ 0 := sub_ne_zero.mpr (Ne.symm he)
  have hsv : 0 < √(1 - e2 * s ^ 2) := Real.sqrt_pos.mpr hv
  simp only [normalCurvatureRadius, meridionalCurvatureRadius, transverseCurvatureRadius, vOf, lit_real, sq_real, sqrt_real]
  push_cast
  set v := 1 - e2 * s ^ 2
  have hv' : v ≠ 0 := hv.ne'
  have hsv' : √v ≠ 0 := hsv.ne'
  field_simp

end GeoVerif.Proofs.AuxExactP
