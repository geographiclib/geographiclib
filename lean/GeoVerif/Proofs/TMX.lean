import GeoVerif.Model.TMExact
import GeoVerif.Proofs.TM
import Mathlib.Tactic.FieldSimp
/-!
# Lemmas for the exact transverse Mercator model (`Model/TMExact.lean`), for `Props/C06.lean`

The Newton loop shared by `zetainv` / `sigmainv` for every step function (hence every elliptic-function kernel) over any number type;
its reading over `ℝ`; and the Jacobi functions abstractly (only `sn² + cn² = 1`, `dn² + k² sn² = 1` assumed, `JacobiRel`), with three facts about
complex numbers `(a + ib)/D` that turn the complex Jacobi relations and Lee's 54.17 into polynomial identities between numerators.
-/
namespace GeoVerif.Proofs.TMX
open GeoVerif GeoVerif.TMX GeoVerif.Proofs.TM

section Loop
variable {α : Type} [RealLike α]

def nstep (step : Nat → α → α → α × α) (i : Nat) (w : α × α) : α × α :=
  (w.1 - (step i w.1 w.2).1, w.2 - (step i w.1 w.2).2)

def iterate (step : Nat → α → α → α × α) : Nat → Nat → α × α → α × α
  | 0, _, w => w
  | n + 1, i, w => iterate step n (i + 1) (nstep step i w)

def len2 (step : Nat → α → α → α × α) (i : Nat) (w : α × α) : α :=
  RealLike.sq (step i w.1 w.2).1 + RealLike.sq (step i w.1 w.2).2

/-- the test `delw2 >= thr` at the `m`-th iterate -/
def long (step : Nat → α → α → α × α) (thr : α) (i : Nat) (w : α × α) (m : Nat) : Bool :=
  RealLike.leb thr (len2 step (i + m) (iterate step m i w))

theorem iterate_succ (step : Nat → α → α → α × α) (n i : Nat) (w : α × α) :
    iterate step (n + 1) i w = nstep step (i + n) (iterate step n i w) := by
  induction n generalizing i w with
  | zero => rfl
  | succ n ih =>
    show iterate step (n + 1) (i + 1) (nstep step i w) = _
    rw [ih (i + 1) (nstep step i w)]
    show _ = nstep step (i + (n + 1)) (iterate step n (i + 1) (nstep step i w))
    congr 1
    omega

theorem newton_tripped (step : Nat → α → α → α × α) (thr : α) (fuel i : Nat) (u v : α) :
    let r := newton step thr (fuel + 1) i true u v
    r.steps = i + 1 ∧ r.brk = true ∧ (r.u, r.v) = nstep step i (u, v) :=
  ⟨rfl, rfl, rfl⟩

variable (step : Nat → α → α → α × α) (thr : α)

theorem long_succ (i : Nat) (w : α × α) (m : Nat) :
    long step thr i w (m + 1) = long step thr (i + 1) (nstep step i w) m := by
  unfold long
  rw [Nat.add_right_comm i 1 m]
  rfl

theorem newton_zero (i : Nat) (trip : Bool) (u v : α) : newton step thr 0 i trip u v = ⟨u, v, i, false, trip⟩ := rfl

theorem newton_untripped (fuel i : Nat) (u v : α) :
    newton step thr (fuel + 1) i false u v =
      newton step thr fuel (i + 1) (!long step thr i (u, v) 0) (nstep step i (u, v)).1 (nstep step i (u, v)).2 := rfl

theorem newton_brk_of_short (fuel i : Nat) (u v : α) (h : long step thr i (u, v) 0 = false) :
    (newton step thr (fuel + 2) i false u v).brk = true := by
  rw [newton_untripped, h]
  rfl

theorem long_shift {i : Nat} {w : α × α} (h0 : long step thr i w 0 = true) {n : Nat}
    (h : ∀ m, m < n → long step thr (i + 1) (nstep step i w) m = true) : ∀ m, m < n + 1 → long step thr i w m = true
  | 0, _ => h0
  | m + 1, hm => by rw [long_succ]; exact h m (by omega)

/-- how the loop ends from an untripped start: either through `if (trip) break`, two steps after the first correction that is not
    `≥ thr` (iterate `m`), or with the fuel used up and every correction tested before the last step `≥ thr` -/
theorem newton_spec (fuel i : Nat) (u v : α) :
    let r := newton step thr fuel i false u v
    (r.brk = true ∧ ∃ m, m + 2 ≤ fuel ∧ r.steps = i + m + 2 ∧ long step thr i (u, v) m = false ∧
        (∀ m', m' < m → long step thr i (u, v) m' = true) ∧ (r.u, r.v) = iterate step (m + 2) i (u, v)) ∨
    (r.brk = false ∧ r.steps = i + fuel ∧ (∀ m, m + 1 < fuel → long step thr i (u, v) m = true) ∧
        (r.trip = true → 0 < fuel ∧ long step thr i (u, v) (fuel - 1) = false) ∧ (r.u, r.v) = iterate step fuel i (u, v)) := by
  induction fuel generalizing i u v with
  | zero => exact Or.inr ⟨rfl, rfl, fun m hm => absurd hm (Nat.not_lt_zero _), fun h => Bool.noConfusion h, rfl⟩
  | succ fuel ih =>
    cases h0 : long step thr i (u, v) 0 with
    | true =>
      rw [newton_untripped, h0, Bool.not_true]
      rcases ih (i + 1) (nstep step i (u, v)).1 (nstep step i (u, v)).2 with ⟨hb, m, h1, h2, h3, h4, h5⟩ | ⟨hb, h1, h2, h3, h4⟩
      · exact Or.inl ⟨hb, m + 1, by omega, by omega, by rw [long_succ]; exact h3, long_shift step thr h0 h4, h5⟩
      · refine Or.inr ⟨hb, by omega, fun m hm => long_shift step thr h0 (n := fuel - 1) (fun m' hm' => h2 m' (by omega)) m (by omega), ?_, h4⟩
        intro ht
        obtain ⟨hf, hl⟩ := h3 ht
        refine ⟨by omega, ?_⟩
        rw [show fuel + 1 - 1 = (fuel - 1) + 1 by omega, long_succ]
        exact hl
    | false =>
      rw [newton_untripped, h0, Bool.not_false]
      cases fuel with
      | zero => exact Or.inr ⟨rfl, rfl, fun m hm => by omega, fun _ => ⟨by omega, h0⟩, rfl⟩
      | succ fuel => exact Or.inl ⟨rfl, 0, by omega, rfl, h0, fun m' hm' => by omega, rfl⟩

theorem newton_iterate (fuel i : Nat) (trip : Bool) (u v : α) :
    let r := newton step thr fuel i trip u v
    i ≤ r.steps ∧ r.steps ≤ i + fuel ∧ (r.u, r.v) = iterate step (r.steps - i) i (u, v) := by
  cases trip with
  | true =>
    cases fuel with
    | zero => exact ⟨Nat.le_refl i, Nat.le_refl i, by rw [newton_zero, Nat.sub_self]; rfl⟩
    | succ fuel =>
      show i ≤ i + 1 ∧ i + 1 ≤ i + (fuel + 1) ∧ nstep step i (u, v) = iterate step (i + 1 - i) i (u, v)
      exact ⟨by omega, by omega, by rw [Nat.add_sub_cancel_left]; rfl⟩
  | false =>
    rcases newton_spec step thr fuel i u v with ⟨_, m, h1, h2, _, _, h5⟩ | ⟨_, h1, _, _, h4⟩
    · exact ⟨by omega, by omega, by rw [h5, h2]; congr 1; omega⟩
    · exact ⟨by omega, by omega, by rw [h4, h1]; congr 1; omega⟩

end Loop

section Whole
open GeoVerif.RealLike.Lits
variable {α : Type} [RealLike α]

/-- starting point, step function and threshold of `zetainv` as the code forms them -/
def zStart (p : Par α) (E : Ell α) (taup lam : α) : Start α := zetainv0 p E (RealLike.asinh taup) lam
def zStep (p : Par α) (E : Ell α) (taup lam : α) : Nat → α → α → α × α :=
  zetaStep p E taup lam ((1 : α) / RealLike.hypot (1 : α) taup)
def zThr (p : Par α) (taup : α) : α := p.tol2 / RealLike.sq (RealLike.max (RealLike.asinh taup) (1 : α))

theorem zetainv_unfold (p : Par α) (E : Ell α) (taup lam : α) (hnd : (zStart p E taup lam).done = false) :
    (zetainv p E taup lam).1 = newton (zStep p E taup lam) (zThr p taup) p.numit 0 false (zStart p E taup lam).u (zStart p E taup lam).v := by
  unfold zStart at hnd
  simp only [zetainv, hnd, zStep, zThr, zStart]
  rfl

theorem zetainv_cap (p : Par α) (E : Ell α) (taup lam : α) : (zetainv p E taup lam).1.steps ≤ p.numit := by
  by_cases hnd : (zStart p E taup lam).done = false
  · rw [zetainv_unfold p E taup lam hnd]
    simpa using (newton_iterate (zStep p E taup lam) (zThr p taup) p.numit 0 false (zStart p E taup lam).u (zStart p E taup lam).v).2.1
  · have hd : (zetainv0 p E (RealLike.asinh taup) lam).done = true := by
      unfold zStart at hnd; simpa using hnd
    simp [zetainv, hd]

theorem sigmainv_unfold (p : Par α) (E : Ell α) (xi eta : α) (hnd : (sigmainv0 p E xi eta).done = false) :
    (sigmainv p E xi eta).1 = newton (sigmaStep p E xi eta) p.tol2 p.numit 0 false (sigmainv0 p E xi eta).u (sigmainv0 p E xi eta).v := by
  simp only [sigmainv, hnd]
  rfl

theorem sigmainv_cap (p : Par α) (E : Ell α) (xi eta : α) : (sigmainv p E xi eta).1.steps ≤ p.numit := by
  by_cases hnd : (sigmainv0 p E xi eta).done = false
  · rw [sigmainv_unfold p E xi eta hnd]
    simpa using (newton_iterate (sigmaStep p E xi eta) p.tol2 p.numit 0 false (sigmainv0 p E xi eta).u (sigmainv0 p E xi eta).v).2.1
  · have hd : (sigmainv0 p E xi eta).done = true := by simpa using hnd
    simp [sigmainv, hd]

end Whole

@[simp] theorem sinh_real (x : ℝ) : RealLike.sinh x = Real.sinh x := rfl
@[simp] theorem asinh_real (x : ℝ) : RealLike.asinh x = Real.arsinh x := rfl
theorem max_real (x y : ℝ) : RealLike.max x y = max x y := rfl
theorem ofDec_real (n k : ℕ) : (RealLike.ofDec n k : ℝ) = (n : ℝ) / 10 ^ k := rfl
theorem atan2_zero_pos (x : ℝ) (hx : 0 < x) : RealLike.atan2 (0 : ℝ) x = 0 := by
  rw [atan2_real, arg_pos_real x hx.le]

theorem long_eq_false_iff (step : ℕ → ℝ → ℝ → ℝ × ℝ) (thr : ℝ) (i : ℕ) (w : ℝ × ℝ) (m : ℕ) :
    long step thr i w m = false ↔ len2 step (i + m) (iterate step m i w) < thr := by
  unfold long
  rw [leb_real, decide_eq_false_iff_not, not_le]

/-- the pole test of `Reverse`, coded `!(v == 0) || !(u == K)` -/
theorem pole_test (u v K : ℝ) : (!RealLike.eqb v (RealLike.ofNat 0) || !RealLike.eqb u K) = true ↔ ¬ (v = 0 ∧ u = K) := by
  rw [eqb_real, eqb_real, zero_real, Bool.or_eq_true, Bool.not_eq_true', Bool.not_eq_true', decide_eq_false_iff_not, decide_eq_false_iff_not,
    not_and_or]

noncomputable def artanh (x : ℝ) : ℝ := Real.log ((1 + x) / (1 - x)) / 2

theorem atanh_real (x : ℝ) : RealLike.atanh x = artanh x := rfl

/-- the rewriting of Lee 54.17 that `zeta` uses (stated in its comment) -/
theorem arsinh_div_sqrt (x : ℝ) (h : |x| < 1) : Real.arsinh (x / Real.sqrt (1 - x ^ 2)) = artanh x := by
  have ha : 0 < 1 + x := neg_lt_iff_pos_add'.mp (abs_lt.mp h).1
  have hb : 0 < 1 - x := sub_pos.mpr (abs_lt.mp h).2
  have hs : 0 < Real.sqrt (1 - x ^ 2) := Real.sqrt_pos.mpr (sub_pos.mpr ((sq_lt_one_iff_abs_lt_one x).mpr h))
  have hs2 : Real.sqrt (1 - x ^ 2) ^ 2 = 1 - x ^ 2 := Real.sq_sqrt (Real.sqrt_pos.mp hs).le
  generalize Real.sqrt (1 - x ^ 2) = s at hs hs2
  -- over the common denominator `s = √(1 − x²)`: `√(1 + (x/s)²) = 1/s` and `√((1 + x)/(1 − x)) = (1 + x)/s`
  have e1 : Real.sqrt (1 + (x / s) ^ 2) = 1 / s := by
    rw [Real.sqrt_eq_iff_mul_self_eq_of_pos (one_div_pos.mpr hs), div_mul_div_comm, one_mul, ← sq, div_pow, one_add_div (pow_ne_zero 2 hs.ne'), hs2,
      sub_add_cancel]
  have e2 : Real.sqrt ((1 + x) / (1 - x)) = (1 + x) / s := by
    rw [Real.sqrt_eq_iff_mul_self_eq_of_pos (div_pos ha hs), div_mul_div_comm, ← sq s, hs2, show 1 - x ^ 2 = (1 - x) * (1 + x) by ring,
      mul_div_mul_right _ _ ha.ne']
  rw [artanh, Real.arsinh, ← Real.log_sqrt (div_pos ha hb).le, e1, e2]
  congr 1
  ring

theorem sqrt_one_add_sinh_sq (y : ℝ) : Real.sqrt (1 ^ 2 + Real.sinh y ^ 2) = Real.cosh y := by
  have : 1 ^ 2 + Real.sinh y ^ 2 = Real.cosh y ^ 2 := by rw [Real.cosh_sq y]; ring
  rw [this, Real.sqrt_sq (Real.cosh_pos y).le]

/-- the cancellation-free form of `sinh ψ` in `zeta` -/
theorem sinh_diff_form (t1 t2 : ℝ) :
    t1 * Real.sqrt (1 ^ 2 + t2 ^ 2) - t2 * Real.sqrt (1 ^ 2 + t1 ^ 2) = Real.sinh (Real.arsinh t1 - Real.arsinh t2) := by
  have h1 : t1 = Real.sinh (Real.arsinh t1) := (Real.sinh_arsinh t1).symm
  have h2 : t2 = Real.sinh (Real.arsinh t2) := (Real.sinh_arsinh t2).symm
  conv_lhs => rw [h1, h2]
  rw [sqrt_one_add_sinh_sq, sqrt_one_add_sinh_sq, Real.sinh_sub]
  ring

/-- the Newton correction of `zetainv` measures the residual of the forward map in the metric `|dw/dζ|²` -/
theorem zStep_len (p : Par ℝ) (E : Ell ℝ) (taup lam : ℝ) (i : ℕ) (w : ℝ × ℝ) :
    len2 (zStep p E taup lam) i w =
      ((dwdzeta p (E.am i w.1 w.2)).1 ^ 2 + (dwdzeta p (E.am i w.1 w.2)).2 ^ 2) *
        ((((zeta p (E.am i w.1 w.2)).1 - taup) * (1 / Real.sqrt (1 ^ 2 + taup ^ 2))) ^ 2 + ((zeta p (E.am i w.1 w.2)).2 - lam) ^ 2) := by
  simp only [len2, zStep, zetaStep, sq_real, hypot_real, one_real]; ring

theorem sigmaStep_len (p : Par ℝ) (E : Ell ℝ) (xi eta : ℝ) (i : ℕ) (w : ℝ × ℝ) :
    len2 (sigmaStep p E xi eta) i w =
      ((dwdsigma p (E.am i w.1 w.2)).1 ^ 2 + (dwdsigma p (E.am i w.1 w.2)).2 ^ 2) *
        (((sigma p (E.am i w.1 w.2) w.2 (E.einc i w.1 w.2 (E.am i w.1 w.2))).1 - xi) ^ 2 +
         ((sigma p (E.am i w.1 w.2) w.2 (E.einc i w.1 w.2 (E.am i w.1 w.2))).2 - eta) ^ 2) := by
  simp only [len2, sigmaStep, sq_real]; ring

/-- the algebraic relations between the Jacobi functions of `u | e²` and `v | 1 − e²` — all that is assumed about them -/
structure JacobiRel (mu : ℝ) (j : Jac ℝ) : Prop where
  u1 : j.snu ^ 2 + j.cnu ^ 2 = 1
  u2 : j.dnu ^ 2 + mu * j.snu ^ 2 = 1
  v1 : j.snv ^ 2 + j.cnv ^ 2 = 1
  v2 : j.dnv ^ 2 + (1 - mu) * j.snv ^ 2 = 1

namespace JacobiRel
variable {mu : ℝ} {j : Jac ℝ} (hj : JacobiRel mu j)
include hj

/-! the relations as rewriting rules that eliminate `cn²` and `dn²`: what is left is a polynomial identity in `sn u`, `sn v`, `μ` -/
theorem cnu_sq : j.cnu ^ 2 = 1 - j.snu ^ 2 := by linarith [hj.u1]
theorem dnu_sq : j.dnu ^ 2 = 1 - mu * j.snu ^ 2 := by linarith [hj.u2]
theorem cnv_sq : j.cnv ^ 2 = 1 - j.snv ^ 2 := by linarith [hj.v1]
theorem dnv_sq : j.dnv ^ 2 = 1 - (1 - mu) * j.snv ^ 2 := by linarith [hj.v2]

end JacobiRel

structure ParOK (p : Par ℝ) : Prop where
  mv : p.mv = 1 - p.mu
  e2 : p.e ^ 2 = p.mu
  e0 : 0 ≤ p.e

/-- the two radicands of `zeta` -/
theorem zeta_den1 (p : Par ℝ) (hp : ParOK p) (j : Jac ℝ) (hj : JacobiRel p.mu j) :
    RealLike.sq j.cnu + p.mv * RealLike.sq (j.snu * j.snv) = 1 - (j.snu * j.dnv) ^ 2 := by
  simp only [sq_real, hp.mv]
  linear_combination hj.u1 + j.snu ^ 2 * hj.v2

theorem zeta_den2 (p : Par ℝ) (hp : ParOK p) (j : Jac ℝ) (hj : JacobiRel p.mu j) :
    p.mu * RealLike.sq j.cnu + p.mv * RealLike.sq j.cnv = j.dnv ^ 2 - p.mu * j.snu ^ 2 := by
  simp only [sq_real, hp.mv]
  linear_combination p.mu * hj.u1 + (1 - p.mu) * hj.v1 - hj.v2

/-- the complex Jacobi functions of `w = u + iv` by the addition theorem (A+S 16.21.2–4), as the code's comments use them; `denW` is
    their common denominator `1 − dn²u sn²v` -/
def denW (mu : ℝ) (j : Jac ℝ) : ℝ := j.cnv ^ 2 + mu * (j.snu * j.snv) ^ 2
noncomputable def snW (mu : ℝ) (j : Jac ℝ) : ℂ := ⟨j.snu * j.dnv / denW mu j, j.cnu * j.dnu * j.snv * j.cnv / denW mu j⟩
noncomputable def cnW (mu : ℝ) (j : Jac ℝ) : ℂ := ⟨j.cnu * j.cnv / denW mu j, -(j.snu * j.dnu * j.snv * j.dnv) / denW mu j⟩
noncomputable def dnW (mu : ℝ) (j : Jac ℝ) : ℂ := ⟨j.dnu * j.cnv * j.dnv / denW mu j, -(mu * j.snu * j.cnu * j.snv) / denW mu j⟩

theorem one_add_mul_conj_one_sub (a b D x y : ℝ) (hD : D ≠ 0) (h1 : D ^ 2 - a ^ 2 - b ^ 2 = D * (x ^ 2 - y ^ 2)) (h2 : b = x * y) :
    (1 + (⟨a / D, b / D⟩ : ℂ)) * (starRingEnd ℂ) (1 - (⟨a / D, b / D⟩ : ℂ)) * (D : ℂ) = (⟨x, y⟩ : ℂ) ^ 2 := by
  apply Complex.ext <;>
    simp only [sq, Complex.mul_re, Complex.mul_im, Complex.add_re, Complex.add_im, Complex.sub_re, Complex.sub_im, Complex.one_re, Complex.one_im,
      Complex.conj_re, Complex.conj_im, Complex.ofReal_re, Complex.ofReal_im]
  · field_simp
    linear_combination D * h1
  · field_simp
    linear_combination 2 * D ^ 2 * h2

theorem normSq_one_add_sub (a b D : ℝ) (hD : D ≠ 0) (h : b ^ 2 = D * (1 + a ^ 2) - D ^ 2 - a ^ 2) :
    Complex.normSq (1 + (⟨a / D, b / D⟩ : ℂ)) * (1 - a) ^ 2 = Complex.normSq (1 - (⟨a / D, b / D⟩ : ℂ)) * (1 + a) ^ 2 := by
  simp only [Complex.normSq_apply, Complex.add_re, Complex.add_im, Complex.sub_re, Complex.sub_im, Complex.one_re, Complex.one_im]
  field_simp
  linear_combination (-4 * a) * h

theorem sq_add_mul_sq (c a b x y D : ℝ) (hD : D ≠ 0) (h1 : x ^ 2 - y ^ 2 + c * (a ^ 2 - b ^ 2) = D ^ 2) (h2 : x * y + c * (a * b) = 0) :
    (⟨x / D, y / D⟩ : ℂ) ^ 2 + (c : ℂ) * (⟨a / D, b / D⟩ : ℂ) ^ 2 = 1 := by
  rw [mk_div, mk_div, div_pow, div_pow, mul_div_assoc', ← add_div, div_eq_one_iff_eq (pow_ne_zero 2 (Complex.ofReal_ne_zero.mpr hD))]
  apply Complex.ext <;> simp only [sq, Complex.add_re, Complex.add_im, Complex.mul_re, Complex.mul_im, Complex.ofReal_re, Complex.ofReal_im]
  · linear_combination h1
  · linear_combination 2 * h2

theorem denW_alt (mu : ℝ) (j : Jac ℝ) (hj : JacobiRel mu j) : denW mu j = 1 - j.dnu ^ 2 * j.snv ^ 2 := by
  unfold denW; linear_combination hj.v1 + j.snv ^ 2 * hj.u2

end GeoVerif.Proofs.TMX
