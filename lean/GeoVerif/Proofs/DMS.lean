import GeoVerif.Model.DMS
/-!
# Lemmas about the discrete stage of the DMS parser
-/
namespace GeoVerif.DMSProofs
open GeoVerif GeoVerif.DMS GeoVerif.Gen

deriving instance DecidableEq for Except

def IsDigit (c : Nat) : Prop := 48 ≤ c ∧ c ≤ 57
def AllDigits (ds : Bytes) : Prop := ∀ c ∈ ds, IsDigit c

def digitsVal (v : Nat) (ds : Bytes) : Nat := ds.foldl (fun v c => 10 * v + (c - 48)) v

theorem digitsVal_nil (v : Nat) : digitsVal v [] = v := by simp only [digitsVal, List.foldl_nil]
theorem digitsVal_cons (v c : Nat) (t : Bytes) : digitsVal v (c :: t) = digitsVal (10 * v + (c - 48)) t := by
  simp only [digitsVal, List.foldl_cons]

theorem toupper_of_lt (c : Nat) (h : c < 97) : toupper c = c := by
  unfold toupper; split <;> omega

theorem indexOf_nonneg_iff (l : Bytes) (x : Nat) : 0 ≤ indexOf l x ↔ x ∈ l := by
  induction l with
  | nil => simp [indexOf]
  | cons a t ih =>
    rw [indexOf, List.mem_cons]
    by_cases h : a = x
    · simp [h]
    · have hx : ¬ x = a := fun e => h e.symm
      rw [if_neg h]
      simp only [hx, false_or, ← ih]
      split <;> omega

theorem lookup_nonneg_iff (tbl : Bytes) (c : Nat) : 0 ≤ lookup tbl c ↔ c ≠ 0 ∧ toupper c ∈ tbl := by
  unfold lookup
  split
  · simp [*]
  · simp [*, indexOf_nonneg_iff]

theorem lookup_zero (tbl : Bytes) : lookup tbl 0 < 0 := by simp [lookup]

theorem isSign_iff (c : Nat) : isSign c = true ↔ (c = 45 ∨ c = 43) := by
  simp only [isSign, ge_iff_le, decide_eq_true_eq, lookup_nonneg_iff, DMSC.signs, List.mem_cons, List.not_mem_nil, or_false]
  unfold toupper; split <;> omega

theorem isHemi_iff (c : Nat) : isHemi c = true ↔
    (c = 83 ∨ c = 78 ∨ c = 87 ∨ c = 69 ∨ c = 115 ∨ c = 110 ∨ c = 119 ∨ c = 101) := by
  simp only [isHemi, ge_iff_le, decide_eq_true_eq, lookup_nonneg_iff, DMSC.hemispheres, List.mem_cons, List.not_mem_nil, or_false]
  unfold toupper; split <;> omega

/-- the table is `0123456789`, and no other character has an upper-case form in it -/
theorem digitVal_spec (c : Nat) : digitVal c = if 48 ≤ c ∧ c ≤ 57 then some (c - 48) else none := by
  have htab : ∀ x ∈ DMSC.digits, indexOf DMSC.digits x = (x - 48 : Nat) := by decide
  by_cases h : 48 ≤ c ∧ c ≤ 57
  · have hm : c ∈ DMSC.digits := by simp only [DMSC.digits, List.mem_cons, List.not_mem_nil, or_false]; omega
    have hl : lookup DMSC.digits c = (c - 48 : Nat) := by
      rw [lookup, if_neg (by omega), toupper_of_lt c (by omega), htab c hm]
    simp only [digitVal, hl, h, and_self, if_true, ge_iff_le, Int.natCast_nonneg, Int.toNat_natCast]
  · have hl : ¬ 0 ≤ lookup DMSC.digits c := by
      simp only [lookup_nonneg_iff, DMSC.digits, List.mem_cons, List.not_mem_nil, or_false]
      unfold toupper; split <;> omega
    simp only [digitVal, ge_iff_le, hl, h, if_false]

theorem digitVal_digit {c : Nat} (h : IsDigit c) : digitVal c = some (c - 48) := by
  rw [digitVal_spec]; simp [h.1, h.2]

theorem digitVal_nondigit {c : Nat} (h : ¬ IsDigit c) : digitVal c = none := by
  rw [digitVal_spec]; unfold IsDigit at h; simp [h]

instance (c : Nat) : Decidable (IsDigit c) := inferInstanceAs (Decidable (48 ≤ c ∧ c ≤ 57))

theorem mem_dropWhile_of_false {p : Nat → Bool} {x : Nat} :
    ∀ {s : Bytes}, x ∈ s → p x = false → x ∈ s.dropWhile p := by
  intro s
  induction s with
  | nil => intro h; cases h
  | cons a t ih =>
    intro h hp
    rw [List.dropWhile_cons]
    split
    · rename_i ha
      rcases List.mem_cons.mp h with h | h
      · subst h; rw [hp] at ha; cases ha
      · exact ih h hp
    · exact h

theorem takeWhile_append_stop {p : Nat → Bool} (a b : Bytes) (ha : ∀ x ∈ a, p x = true)
    (hb : ∀ c t, b = c :: t → p c = false) : (a ++ b).takeWhile p = a := by
  rw [List.takeWhile_append_of_pos ha]
  cases b with
  | nil => simp
  | cons c t => rw [List.takeWhile_cons_of_neg (by simp [hb c t rfl])]; simp

theorem dropWhile_append_stop {p : Nat → Bool} (a b : Bytes) (ha : ∀ x ∈ a, p x = true)
    (hb : ∀ c t, b = c :: t → p c = false) : (a ++ b).dropWhile p = b := by
  rw [List.dropWhile_append_of_pos ha]
  cases b with
  | nil => rfl
  | cons c t => rw [List.dropWhile_cons_of_neg (by simp [hb c t rfl])]

theorem scanDigits_eq (s : Bytes) (v n : Nat) :
    scanDigits v n s = (digitsVal v (s.takeWhile fun c => decide (IsDigit c)),
      n + (s.takeWhile fun c => decide (IsDigit c)).length, s.dropWhile fun c => decide (IsDigit c)) := by
  induction s generalizing v n with
  | nil => rfl
  | cons c t ih =>
    by_cases hc : IsDigit c
    · rw [scanDigits, digitVal_digit hc, List.takeWhile_cons_of_pos (by simpa using hc),
        List.dropWhile_cons_of_pos (by simpa using hc)]
      simp only [ih, digitsVal_cons, List.length_cons, Nat.add_assoc, Nat.add_comm 1]
    · rw [scanDigits, digitVal_nondigit hc, List.takeWhile_cons_of_neg (by simpa using hc),
        List.dropWhile_cons_of_neg (by simpa using hc)]
      rfl

theorem scanDigits_digits (ds rest : Bytes) (v n : Nat) (hd : AllDigits ds)
    (hr : ∀ c t, rest = c :: t → ¬ IsDigit c) :
    scanDigits v n (ds ++ rest) = (digitsVal v ds, n + ds.length, rest) := by
  have ha : ∀ x ∈ ds, decide (IsDigit x) = true := fun x hx => decide_eq_true (hd x hx)
  have hb : ∀ c t, rest = c :: t → decide (IsDigit c) = false := fun c t h => decide_eq_false (hr c t h)
  rw [scanDigits_eq, takeWhile_append_stop ds rest ha hb, dropWhile_append_stop ds rest ha hb]

theorem number_int (ds rest : Bytes) (hd : AllDigits ds)
    (hr : ∀ c t, rest = c :: t → ¬ IsDigit c ∧ c ≠ 46) :
    number (ds ++ rest) = ({ int := digitsVal 0 ds, nint := ds.length }, rest) := by
  unfold number
  rw [scanDigits_digits ds rest 0 0 hd (fun c t h => (hr c t h).1)]
  cases rest with
  | nil => simp
  | cons c t =>
    have := (hr c t rfl).2
    simp only [Nat.zero_add]
    split
    · rename_i h; cases h; exact absurd rfl this
    · rename_i h; cases h; rfl

theorem number_frac (ds fs rest : Bytes) (hd : AllDigits ds) (hf : AllDigits fs)
    (hr : ∀ c t, rest = c :: t → ¬ IsDigit c) :
    number (ds ++ 46 :: (fs ++ rest)) =
      ({ int := digitsVal 0 ds, nint := ds.length, point := true, frac := digitsVal 0 fs, nfrac := fs.length }, rest) := by
  unfold number
  rw [scanDigits_digits ds (46 :: (fs ++ rest)) 0 0 hd (by intro c t h; cases h; unfold IsDigit; omega)]
  simp only [Nat.zero_add]
  rw [scanDigits_digits fs rest 0 0 hf hr]
  simp

theorem ind_d : lookup DMSC.dmsindicators 100 = ((0 : Nat) : Int) := by decide
theorem ind_m : lookup DMSC.dmsindicators 39 = ((1 : Nat) : Int) := by decide
theorem ind_s : lookup DMSC.dmsindicators 34 = ((2 : Nat) : Int) := by decide
theorem ind_c : lookup DMSC.dmsindicators 58 = 3 := by decide

theorem nd (c : Nat) (h : c = 100 ∨ c = 39 ∨ c = 34 ∨ c = 58) : ¬ IsDigit c ∧ c ≠ 46 := by
  unfold IsDigit; omega

theorem number_rest_mem (s : Bytes) (x : Nat) (hx : x ∈ s) (hnd : ¬ IsDigit x) (h46 : x ≠ 46) : x ∈ (number s).2 := by
  have hx1 := mem_dropWhile_of_false (p := fun c => decide (IsDigit c)) hx (decide_eq_false hnd)
  unfold number
  rw [scanDigits_eq]
  generalize s.dropWhile _ = r at hx1
  cases r with
  | nil => cases hx1
  | cons c r' =>
    by_cases hc : c = 46
    · subst hc
      have hx2 : x ∈ r' := (List.mem_cons.mp hx1).resolve_left h46
      simp only [scanDigits_eq]
      exact mem_dropWhile_of_false hx2 (decide_eq_false hnd)
    · split
      · rename_i heq; cases heq; exact absurd rfl hc
      · rename_i heq; cases heq; exact hx1

theorem error_of_not_ok {α : Type} {x : Except Err α} (h : ∀ r, x ≠ .ok r) : ∃ e, x = .error e := by
  cases x with
  | error e => exact ⟨e, rfl⟩
  | ok r => exact absurd rfl (h r)

theorem error_ne_ok {α : Type} {e : Err} (r : α) : (Except.error e : Except Err α) ≠ .ok r := fun h => nomatch h

theorem ite_ok {α : Type} {c : Prop} [Decidable c] {t x : Except Err α} {r : α} (ht : ∀ r, t ≠ .ok r)
    (h : (if c then t else x) = .ok r) : ¬ c ∧ x = .ok r := by
  by_cases hc : c
  · rw [if_pos hc] at h; exact absurd h (ht r)
  · rw [if_neg hc] at h; exact ⟨hc, h⟩

theorem comps_end (f np : Nat) (sl : Slots) (s : Bytes) (n : Num) (hn : number s = (n, [])) :
    comps (f + 1) np sl s =
      if np ≥ 3 then .error "Extra text following seconds"
      else if n.nint + n.nfrac = 0 then .error "Missing numbers in trailing component"
      else .ok (sl.set np n) := by
  rw [comps, hn]

-- The tests of `comps` are passed one by one with `if_neg`: `split` and `simp` are slow on the whole chain.
/-- one accepted step: a number `n` followed by a character `c` that names slot `k` — an indicator `d ' "` names its
    own slot, a `:` (not at the end of the text) the next expected one -/
theorem comps_step (f np k : Nat) (sl : Slots) (s rest : Bytes) (n : Num) (c : Nat)
    (hn : number s = (n, c :: rest)) (hc : c ≠ 46)
    (hk : lookup DMSC.dmsindicators c = (k : Int) ∨ 3 ≤ lookup DMSC.dmsindicators c ∧ rest ≠ [] ∧ k = np)
    (hord : np ≤ k) (hk3 : k < 3) (hne : n.nint + n.nfrac ≠ 0) :
    comps (f + 1) np sl s =
      if rest.isEmpty then .ok (sl.set k n)
      else if n.point then .error "Decimal point in non-terminal component"
      else comps f (k + 1) (sl.set k n) rest := by
  have hslot : (if lookup DMSC.dmsindicators c ≥ 3 then np else (lookup DMSC.dmsindicators c).toNat) = k := by
    rcases hk with hk | ⟨h3, _, rfl⟩
    · rw [if_neg (by omega), hk, Int.toNat_natCast]
    · rw [if_pos h3]
  have hend : ¬ (lookup DMSC.dmsindicators c ≥ 3 ∧ rest.isEmpty = true) := by
    rcases hk with hk | ⟨_, hr, _⟩
    · omega
    · exact fun h => hr (List.isEmpty_iff.mp h.2)
  rw [comps, hn]
  dsimp only
  rw [if_neg hc, if_neg (by omega), if_neg hend, hslot, if_neg (by omega), if_neg (by omega), if_neg (by omega),
    if_neg hne]

theorem comps_ok_cons {f np : Nat} {sl : Slots} {s rest : Bytes} {n : Num} {c : Nat} {r : Slots}
    (hn : number s = (n, c :: rest)) (h : comps (f + 1) np sl s = .ok r) :
    c ≠ 46 ∧ n.nint + n.nfrac ≠ 0 ∧
    ∃ k : Nat, (lookup DMSC.dmsindicators c = (k : Int) ∨ 3 ≤ lookup DMSC.dmsindicators c ∧ rest ≠ [] ∧ k = np) ∧
      np ≤ k ∧ k < 3 := by
  rw [comps, hn] at h
  dsimp only at h
  obtain ⟨hc, h⟩ := ite_ok error_ne_ok h
  obtain ⟨h0, h⟩ := ite_ok (fun r h => by split at h <;> cases h) h
  obtain ⟨hend, h⟩ := ite_ok error_ne_ok h
  generalize hk : (if lookup DMSC.dmsindicators c ≥ 3 then np else (lookup DMSC.dmsindicators c).toNat) = k at h
  obtain ⟨h3, h⟩ := ite_ok error_ne_ok h
  obtain ⟨hrep, h⟩ := ite_ok error_ne_ok h
  obtain ⟨hord, h⟩ := ite_ok error_ne_ok h
  obtain ⟨hne, _⟩ := ite_ok error_ne_ok h
  refine ⟨hc, hne, k, ?_, by omega, by omega⟩
  by_cases hcolon : lookup DMSC.dmsindicators c ≥ 3
  · rw [if_pos hcolon] at hk
    exact Or.inr ⟨hcolon, fun hr => hend ⟨hcolon, by rw [hr]; rfl⟩, hk.symm⟩
  · rw [if_neg hcolon] at hk
    exact Or.inl (by omega)

/-- the NUL is not part of a number and not an indicator, so every accepted step leaves it in the text still to be read -/
theorem comps_nul (f : Nat) : ∀ (np : Nat) (sl : Slots) (s : Bytes), 0 ∈ s → ∃ e, comps f np sl s = .error e := by
  induction f with
  | zero => intro np sl s _; exact ⟨_, rfl⟩
  | succ f ih =>
    intro np sl s h0
    refine error_of_not_ok fun r h => ?_
    rcases hnum : number s with ⟨n, rest⟩
    have hmem : 0 ∈ rest := by
      have := number_rest_mem s 0 h0 (by unfold IsDigit; omega) (by omega)
      rwa [hnum] at this
    cases rest with
    | nil => cases hmem
    | cons c rest' =>
      obtain ⟨hc, hne, k, hk, hord, hk3⟩ := comps_ok_cons hnum h
      have hc0 : c ≠ 0 := by
        rintro rfl
        have := lookup_zero DMSC.dmsindicators
        omega
      have hm' : 0 ∈ rest' := (List.mem_cons.mp hmem).resolve_left (Ne.symm hc0)
      have hne' : ¬ rest'.isEmpty = true := fun he => by rw [List.isEmpty_iff.mp he] at hm'; cases hm'
      rw [comps_step f np k sl s rest' n c hnum hc hk hord hk3 hne, if_neg hne'] at h
      split at h
      · cases h
      · obtain ⟨e, he⟩ := ih _ _ _ hm'
        rw [he] at h; cases h

end GeoVerif.DMSProofs
