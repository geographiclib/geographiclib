import GeoVerif.Proofs.TwoSum
import GeoVerif.Model.Accum
/-!
The accumulator state machine of `Model/Accum.lean`: one `Add(y)` step by step, `Add(0)` as renormalisation, the exact
value and the error bound tracked along a history, and the side conditions `OpOk`, `NoOverflow` of the history theorem
(`Props/C16.lean`) with their decidable versions.
-/
namespace GeoVerif
open Dy

namespace Accum
open F64

theorem le_1018 {x : ℚ} {k : ℤ} (h : |x| ≤ (2:ℚ) ^ k) (hk : k ≤ 1018) : |x| ≤ (2:ℚ) ^ (1018:ℤ) :=
  le_trans h (Dy.two_zpow_le hk)

def hval (a : Acc) : ℚ := a.s.val + a.t.val

/-- `p`, `q` are the two TwoSum steps `(y₁, u) = sum(y, _t)`, `(s₁, t₁) = sum(y₁, _s)` of `Accumulator::Add`; the new state is
`(u, 0)` when `s₁ = 0` and `(s₁, t₁ ⊕ u)` otherwise.  With all magnitudes `≤ 2^1017` nothing overflows -/
theorem add_step (a : Acc) (y : F64) (hs : IsRep a.s) (ht : IsRep a.t) (hy : IsRep y)
    (bs : |a.s.val| ≤ (2:ℚ) ^ (1017:ℤ)) (bt : |a.t.val| ≤ (2:ℚ) ^ (1017:ℤ)) (by' : |y.val| ≤ (2:ℚ) ^ (1017:ℤ)) :
    let p := MathF.sum y a.t
    let q := MathF.sum p.1 a.s
    RN (y.val + a.t.val) p.1.val ∧ p.1.val + p.2.val = y.val + a.t.val ∧
    RN (p.1.val + a.s.val) q.1.val ∧ q.1.val + q.2.val = p.1.val + a.s.val ∧ Rep q.2.val ∧
    IsRep (add a y).s ∧ IsRep (add a y).t ∧
    (q.1.val = 0 → q.2.val = 0 ∧ (add a y).s.val = p.2.val ∧ (add a y).t.val = 0) ∧
    (q.1.val ≠ 0 → (add a y).s.val = q.1.val ∧ RN (q.2.val + p.2.val) (add a y).t.val) := by
  intro p q
  have by18 := le_1018 by' (by norm_num)
  have bt18 := le_1018 bt (by norm_num)
  have bs18 := le_1018 bs (by norm_num)
  obtain ⟨_, pf1, pf2, pr1, prep2, psum⟩ := twoSum_exact y a.t hy ht by18 bt18
  obtain ⟨_, plow⟩ := twoSum_low_le y a.t hy ht by18 bt18
  have pb1 : |p.1.val| ≤ (2:ℚ) ^ (1018:ℤ) :=
    RN.abs_le_zpow pr1 1018 (by norm_num) (bound_add by' bt (by norm_num) (by norm_num))
  have hp1 : IsRep p.1 := ⟨pf1, pr1.rep⟩
  obtain ⟨_, qf1, qf2, qr1, qrep2, qsum⟩ := twoSum_exact p.1 a.s hp1 hs pb1 bs18
  obtain ⟨_, qlow⟩ := twoSum_low_le p.1 a.s hp1 hs pb1 bs18
  have hadd : add a y = if F64.eq q.1 0 = true then ⟨p.2, q.2⟩ else ⟨q.1, q.2 + p.2⟩ := rfl
  have heq0 : F64.eq q.1 0 = true ↔ q.1.val = 0 := by rw [eq_fin_iff _ _ qf1 rfl, val_zero]
  refine ⟨pr1, psum, qr1, qsum, qrep2, ?_⟩
  by_cases hz : q.1.val = 0
  · -- the exact sum `y₁ + _s` rounds to 0, hence is 0, and so is the error `t₁`
    have hq2 : q.2.val = 0 := by
      have hrep : Rep (p.1.val + a.s.val) := by
        have := err_rep hp1.2 hs.2 qr1
        rwa [show q.1.val = 0 from hz, sub_zero] at this
      have := hrep.rn_eq qr1
      linarith
    rw [hadd, if_pos (heq0.mpr hz)]
    exact ⟨⟨pf2, prep2⟩, ⟨qf2, qrep2⟩, fun _ => ⟨hq2, rfl, hq2⟩, fun h => absurd hz h⟩
  · rw [hadd, if_neg (mt heq0.mp hz)]
    obtain ⟨tf, tr, _⟩ := add_rn q.2 p.2 qf2 pf2 1018 (by norm_num) (by norm_num)
      (bound_add (qlow.trans bs) (plow.trans bt) (by norm_num) (by norm_num))
    exact ⟨⟨qf1, qr1.rep⟩, ⟨tf, tr.rep⟩, fun h => absurd h hz, fun _ => ⟨rfl, tr⟩⟩

theorem add_zero_renorm (b : Acc) (hs : IsRep b.s) (ht : IsRep b.t)
    (bs : |b.s.val| ≤ (2:ℚ) ^ (1017:ℤ)) (bt : |b.t.val| ≤ (2:ℚ) ^ (1017:ℤ)) :
    IsRep (add b 0).s ∧ IsRep (add b 0).t ∧
    (add b 0).s.val + (add b 0).t.val = b.s.val + b.t.val ∧
    RN (b.s.val + b.t.val) (add b 0).s.val := by
  obtain ⟨pr1, psum, qr1, qsum, qrep2, r1, r2, h0, hn⟩ := add_step b 0 hs ht isRep_zero bs bt
    (by rw [val_zero, abs_zero]; exact (Dy.two_zpow_pos _).le)
  -- `sum(0, t) = (t, 0)`
  rw [val_zero, zero_add] at pr1 psum
  have hp2v : (MathF.sum 0 b.t).2.val = 0 := by linarith [ht.2.rn_eq pr1]
  rw [ht.2.rn_eq pr1, add_comm b.t.val] at qr1 qsum
  refine ⟨r1, r2, ?_⟩
  by_cases hz : (MathF.sum (MathF.sum 0 b.t).1 b.s).1.val = 0
  · obtain ⟨hq2, e1, e2⟩ := h0 hz
    have hsum0 : b.s.val + b.t.val = 0 := by linarith
    rw [e1, e2, hp2v, hsum0]
    exact ⟨by ring, Dy.isRN_zero 53 (-1074)⟩
  · obtain ⟨e1, tr⟩ := hn hz
    rw [hp2v, add_zero] at tr
    rw [e1, qrep2.rn_eq tr]
    exact ⟨qsum, qr1⟩

theorem low_word_le {a b hi lo : ℚ} (hr : RN (a + b) hi) (hs : hi + lo = a + b) :
    |lo| ≤ (|a| + |b|) * (2:ℚ) ^ (-(53:ℤ)) + (2:ℚ) ^ (-(1075:ℤ)) ∧ |hi| ≤ |a| + |b| + |lo| := by
  have hab := abs_add_le a b
  have hu := Dy.two_zpow_pos (-(53:ℤ))
  have hw := Dy.two_zpow_pos (-(1075:ℤ))
  constructor
  · have herr := hr.err
    rw [show hi - (a + b) = -lo by rw [← hs]; ring, abs_neg, show ((-1074:ℤ) - 1) = -(1075:ℤ) by norm_num,
      Nat.cast_ofNat] at herr
    refine herr.trans (max_le ?_ ?_)
    · linarith [mul_le_mul_of_nonneg_right hab hu.le]
    · linarith [mul_nonneg (add_nonneg (abs_nonneg a) (abs_nonneg b)) hu.le]
  · rw [show hi = (a + b) + -lo by rw [← hs]; ring]
    have := abs_add_le (a + b) (-lo)
    rw [abs_neg] at this
    linarith

/-- bound on the only rounding error of one `Add(y)`: that of `_t = t₁ ⊕ u` -/
noncomputable def addErr (a : Acc) (y : F64) : ℚ :=
  let p := MathF.sum y a.t
  let q := MathF.sum p.1 a.s
  if q.1.val = 0 then 0 else max (|q.2.val + p.2.val| * (2:ℚ) ^ (-(53:ℤ))) ((2:ℚ) ^ (-(1075:ℤ)))

/-- the two multiplications (`*= int`, `*= T`) are `False`: `accum_step_spec` / `accum_history` (`Props/C16.lean`) do not
cover them -/
def OpOk : Op → Prop
  | .set y => IsRep y ∧ |y.val| ≤ (2:ℚ) ^ (1016:ℤ)
  | .add y => IsRep y ∧ |y.val| ≤ (2:ℚ) ^ (1016:ℤ)
  | .sub y => IsRep y ∧ |y.val| ≤ (2:ℚ) ^ (1016:ℤ)
  | .rem y => IsRep y ∧ y.val ≠ 0
  | .neg => True
  | .nop => True
  | .mulInt _ => False
  | .mulF _ => False

def InRange (a : Acc) : Prop := |a.s.val| ≤ (2:ℚ) ^ (1016:ℤ) ∧ |a.t.val| ≤ (2:ℚ) ^ (1016:ℤ)

/-- no intermediate state of the history leaves the range in which no binary64 operation of `Add` overflows -/
def NoOverflow : Acc → List Op → Prop
  | a, [] => InRange a
  | a, op :: ops => InRange a ∧ OpOk op ∧ NoOverflow (step a op) ops

/-- one operation applied to the pair `ve` = (exact rational value, bound on the error committed so far), read
along the actual run (`remainder` subtracts the multiple of `y` the code chose from the high word) -/
noncomputable def trackStep (a : Acc) (ve : ℚ × ℚ) : Op → ℚ × ℚ
  | .set y => (y.val, 0)
  | .add y => (ve.1 + y.val, ve.2 + addErr a y)
  | .sub y => (ve.1 - y.val, ve.2 + addErr a (F64.neg y))
  | .neg => (-ve.1, ve.2)
  | .rem y => (ve.1 - (F64.remquoN a.s y : ℚ) * y.val, ve.2)
  | .nop => ve
  | .mulInt _ => ve
  | .mulF _ => ve

noncomputable def track : Acc → ℚ × ℚ → List Op → ℚ × ℚ
  | _, ve, [] => ve
  | a, ve, op :: ops => track (step a op) (trackStep a ve op) ops

theorem run_cons (a : Acc) (op : Op) (ops : List Op) : run a (op :: ops) = run (step a op) ops := rfl

-- decidable versions of the side conditions, for the non-vacuity examples
def repB (x : F64) : Bool := x.isFinite && F64.representable x.toDy
def inRangeB (a : Acc) : Bool := Dy.le (Dy.abs a.s.toDy) ⟨1, 1016⟩ && Dy.le (Dy.abs a.t.toDy) ⟨1, 1016⟩

theorem isRep_of_repB (x : F64) (h : repB x = true) : IsRep x := by
  unfold repB F64.representable at h
  simp only [Bool.and_eq_true] at h
  refine ⟨h.1, ?_⟩
  have := RN.rep (roundTo_isRN 53 (-1074) x.toDy)
  rwa [show (Dy.roundTo 53 (-1074) x.toDy).val = x.toDy.val from (Dy.eq_iff _ _).mp h.2.1] at this

theorem abs_le_of_leB (d : Dy) (h : Dy.le (Dy.abs d) ⟨1, 1016⟩ = true) : |d.val| ≤ (2:ℚ) ^ (1016:ℤ) := by
  have := (Dy.le_iff _ _).mp h
  rwa [Dy.val_abs, show (⟨1, 1016⟩ : Dy).val = (2:ℚ) ^ (1016:ℤ) by simp [Dy.val]] at this

theorem inRange_of_inRangeB (a : Acc) (h : inRangeB a = true) : InRange a := by
  unfold inRangeB at h
  rw [Bool.and_eq_true] at h
  exact ⟨abs_le_of_leB _ h.1, abs_le_of_leB _ h.2⟩

def opOkB : Op → Bool
  | .set y => repB y && Dy.le (Dy.abs y.toDy) ⟨1, 1016⟩
  | .add y => repB y && Dy.le (Dy.abs y.toDy) ⟨1, 1016⟩
  | .sub y => repB y && Dy.le (Dy.abs y.toDy) ⟨1, 1016⟩
  | .rem y => repB y && !(Dy.eq y.toDy ⟨0, 0⟩)
  | .neg => true
  | .nop => true
  | .mulInt _ => false
  | .mulF _ => false

def noOverflowB : Acc → List Op → Bool
  | a, [] => inRangeB a
  | a, op :: ops => inRangeB a && opOkB op && noOverflowB (step a op) ops

theorem opOk_of_opOkB (op : Op) (h : opOkB op = true) : OpOk op := by
  have key : ∀ y : F64, (repB y && Dy.le (Dy.abs y.toDy) ⟨1, 1016⟩) = true → IsRep y ∧ |y.val| ≤ (2:ℚ) ^ (1016:ℤ) := by
    intro y hy
    rw [Bool.and_eq_true] at hy
    exact ⟨isRep_of_repB y hy.1, abs_le_of_leB _ hy.2⟩
  cases op with
  | set y => exact key y h
  | add y => exact key y h
  | sub y => exact key y h
  | rem y =>
    unfold opOkB at h
    rw [Bool.and_eq_true] at h
    refine ⟨isRep_of_repB y h.1, ?_⟩
    intro hc
    have h2 : Dy.eq y.toDy ⟨0, 0⟩ = true := by
      rw [Dy.eq_iff]; show y.val = _; rw [hc]; simp [Dy.val]
    rw [h2] at h; simp at h
  | neg => trivial
  | nop => trivial
  | mulInt n => simp [opOkB] at h
  | mulF y => simp [opOkB] at h

theorem noOverflow_of_B (ops : List Op) : ∀ a : Acc, noOverflowB a ops = true → NoOverflow a ops := by
  induction ops with
  | nil => intro a h; exact inRange_of_inRangeB a h
  | cons op ops ih =>
    intro a h
    unfold noOverflowB at h
    simp only [Bool.and_eq_true] at h
    exact ⟨inRange_of_inRangeB a h.1.1, opOk_of_opOkB op h.1.2, ih _ h.2⟩

def noAdd : Op → Bool
  | .add _ => false
  | .sub _ => false
  | _ => true

theorem track_err_noAdd (ops : List Op) : ∀ (a : Acc) (v e : ℚ), 0 ≤ e → (∀ op ∈ ops, noAdd op = true) → (track a (v, e) ops).2 ≤ e := by
  induction ops with
  | nil => intro a v e _ _; exact le_refl _
  | cons op ops ih =>
    intro a v e he h
    have hop := h op (by simp)
    have hrest : ∀ o ∈ ops, noAdd o = true := fun o ho => h o (by simp [ho])
    show (track (step a op) (trackStep a (v, e) op) ops).2 ≤ e
    cases op with
    | add y => simp [noAdd] at hop
    | sub y => simp [noAdd] at hop
    | set y => exact le_trans (ih _ _ 0 (le_refl _) hrest) he
    | neg => exact ih _ _ _ he hrest
    | rem y => exact ih _ _ _ he hrest
    | nop => exact ih _ _ _ he hrest
    | mulInt n => exact ih _ _ _ he hrest
    | mulF y => exact ih _ _ _ he hrest

end Accum
end GeoVerif
