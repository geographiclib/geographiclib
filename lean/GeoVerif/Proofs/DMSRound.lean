import GeoVerif.Proofs.TwoSum
import GeoVerif.Proofs.DMSEncode
/-!
# DMS: the numeric half of `Decode (Encode x) ≈ x`

Encoder side: the one rounding of
`printf("%.*f")` is within half a unit (`fixedUnits_half`), `angle − floor(angle)` is exact (`frac_exact`), hence
`encodeHead_bound`. Decoder side: the digit loop `icur` is exact below `2^53`, `strtod` (`ofDec`, `ofDecIO`) is one
correct rounding, hence `evalSlots_bound` (relative error `4·2^-53` on slots satisfying `SlotsOK`).
`ofDec_fixedUnits` is `Utility::val ∘ Utility::str`.
-/
namespace GeoVerif.DMSProofs
open GeoVerif GeoVerif.DMS GeoVerif.Gen GeoVerif.Decimal

theorem abs_val_fin (s : Bool) (m : ℕ) (e : ℤ) : |(F64.fin s m e).val| = (m:ℚ) * (2:ℚ) ^ e := by
  rw [← F64.val_abs_fin]; show (F64.fin false m e).val = _; rw [F64.val_fin]; simp

/-- the integer kernel of `fixedUnits` -/
theorem halfEven_half (num den : ℕ) (hd : 0 < den) :
    |(((if 2 * (num % den) < den then num / den else if 2 * (num % den) > den then num / den + 1
        else (if (num / den) % 2 = 0 then num / den else num / den + 1) : ℕ)) : ℚ) - (num:ℚ) / den| ≤ 1 / 2 := by
  have hdq : (0:ℚ) < den := by exact_mod_cast hd
  have h1 := Nat.div_add_mod num den
  have h2 := Nat.mod_lt num hd
  set q := num / den
  set r := num % den
  have hn : (num:ℚ) = den * q + r := by exact_mod_cast h1.symm
  have hdiv : (num:ℚ) / den = q + (r:ℚ) / den := by rw [hn]; field_simp
  rw [hdiv]
  have hr0 : (0:ℚ) ≤ (r:ℚ) / den := by positivity
  have hdn : 2 * r ≤ den → |((q : ℕ) : ℚ) - (q + (r:ℚ) / den)| ≤ 1 / 2 := by
    intro h
    have : (2:ℚ) * r ≤ den := by exact_mod_cast h
    have : (r:ℚ) / den ≤ 1 / 2 := by rw [div_le_iff₀ hdq]; linarith
    rw [abs_le]; constructor <;> linarith
  have hup : den ≤ 2 * r → |((q + 1 : ℕ) : ℚ) - (q + (r:ℚ) / den)| ≤ 1 / 2 := by
    intro h
    have : (den:ℚ) ≤ 2 * r := by exact_mod_cast h
    have h3 : 1 / 2 ≤ (r:ℚ) / den := by rw [le_div_iff₀ hdq]; linarith
    have h4 : (r:ℚ) / den < 1 := by rw [div_lt_one hdq]; exact_mod_cast h2
    push_cast
    rw [abs_le]; constructor <;> linarith
  split_ifs with a b c
  · exact hdn (by omega)
  · exact hup (by omega)
  · exact hdn (by omega)
  · exact hup (by omega)

theorem fixedUnits_half (s : Bool) (m : ℕ) (e : ℤ) (p : ℕ) :
    |((fixedUnits (F64.fin s m e) p : ℕ) : ℚ) - |(F64.fin s m e).val| * 10 ^ p| ≤ 1 / 2 := by
  rw [abs_val_fin]
  unfold fixedUnits
  simp only []
  by_cases he : e ≥ 0
  · rw [if_pos he]
    have : (2:ℚ) ^ e = (2:ℚ) ^ e.toNat := by
      rw [← zpow_natCast, Int.toNat_of_nonneg he]
    rw [this]; push_cast
    rw [sub_self]; norm_num
  · rw [if_neg he]
    have hd : 0 < 2 ^ (-e).toNat := by positivity
    have h := halfEven_half (m * 10 ^ p) (2 ^ (-e).toNat) hd
    have e2 : (m:ℚ) * (2:ℚ) ^ e * 10 ^ p = ((m * 10 ^ p : ℕ) : ℚ) / ((2 ^ (-e).toNat : ℕ) : ℚ) := by
      have e3 : (2:ℚ) ^ e = ((2:ℚ) ^ (-e).toNat)⁻¹ := by
        rw [← zpow_natCast, Int.toNat_of_nonneg (by omega), zpow_neg, inv_inv]
      rw [e3]; push_cast
      field_simp
    rw [e2]; exact h


theorem rep_abs {x : ℚ} (h : Rep x) : Rep |x| := by
  rcases abs_cases x with ⟨e, _⟩ | ⟨e, _⟩ <;> rw [e]
  · exact h
  · exact h.neg

theorem rep_fract {y : ℚ} (h : Rep y) (hy : 0 ≤ y) : Rep (y - ⌊y⌋) := by
  obtain ⟨g, c, hg, hc, hx⟩ := h
  have hf0 : 0 ≤ y - ⌊y⌋ := by linarith [Int.floor_le y]
  have hf1 : y - ⌊y⌋ < 1 := by linarith [Int.lt_floor_add_one y]
  by_cases hc0 : 0 ≤ c
  · -- an integer
    have : y = ((g * 2 ^ c.toNat : ℤ) : ℚ) := by
      rw [hx]; push_cast; rw [← zpow_natCast, Int.toNat_of_nonneg hc0]
    rw [this, Int.floor_intCast, sub_self]; exact Rep.zero
  · by_cases hc53 : -53 ≤ c
    · refine Rep.of_grid (c := c) ?_ hc ?_
      · exact OnGrid.sub ⟨g, hx⟩ (OnGrid.coarsen (c := 0) ⟨⌊y⌋, by simp⟩ (by omega))
      · rw [abs_of_nonneg hf0]
        have : (1:ℚ) ≤ (2:ℚ) ^ (c + 53) := by
          have := Dy.two_zpow_le (show (0:ℤ) ≤ c + 53 by omega)
          simpa using this
        linarith
    · -- |y| < 1
      have hgq : |(g:ℚ)| < (2:ℚ) ^ (53:ℤ) := by
        rw [← Int.cast_abs]
        have e : (2:ℚ) ^ (53:ℤ) = ((2 ^ 53 : ℤ) : ℚ) := by norm_num
        rw [e]; exact_mod_cast hg
      have hp := Dy.two_zpow_pos c
      have hlt : y < 1 := by
        have h1 : |y| < (2:ℚ) ^ (53:ℤ) * (2:ℚ) ^ c := by
          rw [hx, abs_mul, abs_of_pos hp]; exact mul_lt_mul_of_pos_right hgq hp
        rw [← Dy.two_zpow_split] at h1
        have h2 : (2:ℚ) ^ (53 + c) ≤ (2:ℚ) ^ (0:ℤ) := Dy.two_zpow_le (by omega)
        rw [zpow_zero] at h2
        rw [abs_of_nonneg hy] at h1; linarith
      have : ⌊y⌋ = 0 := Int.floor_eq_iff.mpr ⟨by simpa using hy, by simpa using hlt⟩
      rw [this]; simp only [Int.cast_zero, sub_zero]
      exact ⟨g, c, hg, hc, hx⟩

/-- the integer split `angle − floor(angle)` of `DMS::Encode` is exact -/
theorem frac_exact (s : Bool) (m : ℕ) (e : ℤ) (hx : F64.IsRep (F64.fin s m e)) :
    let x := F64.fin s m e
    let a := F64.abs x
    let fl := F64.floor a
    fl.isFinite = true ∧ fl.signbit = false ∧ fl.val = ((⌊|x.val|⌋ : ℤ) : ℚ) ∧
    (F64.sub a fl).isFinite = true ∧ (F64.sub a fl).val = |x.val| - ((⌊|x.val|⌋ : ℤ) : ℚ) ∧
    0 ≤ (F64.sub a fl).val ∧ (F64.sub a fl).val < 1 := by
  intro x a fl
  have ha : a = F64.fin false m e := rfl
  have hav : a.val = |x.val| := F64.val_abs_fin s m e
  have hy0 : 0 ≤ |x.val| := abs_nonneg _
  obtain ⟨hff, hfv⟩ := F64.floor_val false m e
  obtain ⟨f1, f2⟩ := Dy.floor_spec (F64.fin false m e).toDy
  have hv' : (F64.fin false m e).toDy.val = |x.val| := hav
  rw [hv'] at f1 f2
  have hfl : Dy.floor (F64.fin false m e).toDy = ⌊|x.val|⌋ := by
    symm; exact Int.floor_eq_iff.mpr ⟨f1, f2⟩
  have hflv : fl.val = ((⌊|x.val|⌋ : ℤ) : ℚ) := by rw [← hfl]; exact hfv
  have hsign : fl.signbit = false := floor_abs_signbit x
  have hf0 : 0 ≤ |x.val| - ((⌊|x.val|⌋ : ℤ) : ℚ) := by linarith [Int.floor_le |x.val|]
  have hf1 : |x.val| - ((⌊|x.val|⌋ : ℤ) : ℚ) < 1 := by linarith [Int.lt_floor_add_one |x.val|]
  have hrep : Rep (|x.val| - ((⌊|x.val|⌋ : ℤ) : ℚ)) := rep_fract (rep_abs hx.2) hy0
  obtain ⟨g1, g2, _⟩ := F64.sub_rn a fl rfl hff 0 (by norm_num) (by norm_num) (by
    rw [hav, hflv, abs_of_nonneg hf0]; simpa using hf1.le)
  rw [hav, hflv] at g2
  have hval : (a - fl).val = |x.val| - ((⌊|x.val|⌋ : ℤ) : ℚ) := hrep.rn_eq g2
  refine ⟨hff, hsign, hflv, g1, hval, ?_, ?_⟩
  · show 0 ≤ (a - fl).val; rw [hval]; exact hf0
  · show (a - fl).val < 1; rw [hval]; exact hf1

theorem lt_huge_of_le53 {r : ℚ} (h : |r| ≤ 2 ^ 53) : |r| < (2:ℚ) ^ (1024:ℤ) := by
  have h53 : (2:ℚ) ^ (53:ℕ) < (2:ℚ) ^ (1024:ℤ) := by
    rw [← zpow_natCast]; exact Dy.two_zpow_lt_iff.mpr (by norm_num)
  exact lt_of_le_of_lt h h53

theorem rep_int53 (n : ℤ) (hn : |n| ≤ 2 ^ 53) : Rep (n : ℚ) := RN.rep (IsRN.int53 n hn)

/-- DEGREE case: `angle − 0` is `angle` -/
theorem sub_zero_exact (s : Bool) (m : ℕ) (e : ℤ) (hx : F64.IsRep (F64.fin s m e))
    (hb : |(F64.fin s m e).val| < (2:ℚ) ^ (1024:ℤ)) :
    (F64.sub (F64.abs (F64.fin s m e)) F64.pzero).isFinite = true ∧
    (F64.sub (F64.abs (F64.fin s m e)) F64.pzero).val = |(F64.fin s m e).val| := by
  have hz : (F64.abs (F64.fin s m e)).val - F64.pzero.val = |(F64.fin s m e).val| := by
    rw [F64.val_abs_fin, show F64.pzero.val = 0 from F64.val_fin_zero _ _, sub_zero]
  rw [← hz]
  exact F64.sub_exact _ _ rfl rfl (by rw [hz]; exact rep_abs hx.2) (by rw [hz, abs_abs]; exact hb)

example : F64.IsRep (F64.fin false 21 (-1)) := ⟨rfl, 21, -1, by norm_num, by norm_num, by rw [F64.val_fin]; simp⟩

theorem fds_eq : fds = F64.fin false 3600 0 := rfl
theorem one_eq : F64.ofInt 1 = F64.fin false 1 0 := rfl
theorem mone_eq : F64.ofInt (-1) = F64.fin true 1 0 := rfl

theorem encodeHead_eq (x : F64) (trailing prec : ℕ) (ind : Flag) (hind : ind ≠ Flag.azi) :
    encodeHead x trailing prec ind =
      ⟨x.signbit, (if trailing = DMSC.compDEGREE then F64.pzero else F64.floor (F64.abs x)),
        fixedUnits (F64.mul (F64.sub (F64.abs x) (if trailing = DMSC.compDEGREE then F64.pzero else F64.floor (F64.abs x)))
          (if trailing = DMSC.compMINUTE then fdm else if trailing = DMSC.compSECOND then fds else F64.ofInt 1))
          (clampPrec trailing prec), clampPrec trailing prec⟩ := by
  unfold encodeHead
  simp only [if_neg hind]

theorem fixedUnits_half' (fd : F64) (hf : fd.isFinite = true) (h0 : 0 ≤ fd.val) (p : ℕ) :
    |((fixedUnits fd p : ℕ) : ℚ) - fd.val * 10 ^ p| ≤ 1 / 2 := by
  obtain ⟨s, m, e, rfl⟩ := F64.exists_fin_of_isFinite fd hf
  have := fixedUnits_half s m e p
  rwa [abs_of_nonneg h0] at this

/-- `f` the exact fraction, `fd` its rounded scaled value, `N` the rounded count -/
theorem chain_bound {f fd N sc T err : ℚ} (hsc : 0 < sc) (hT : 0 < T)
    (h1 : |N - fd * T| ≤ 1 / 2) (h2 : |fd - f * sc| ≤ err) :
    |N / (sc * T) - f| ≤ (1 / 2) / (sc * T) + err / sc := by
  have hpos : 0 < sc * T := mul_pos hsc hT
  have e : N / (sc * T) - f = ((N - fd * T) + (fd - f * sc) * T) / (sc * T) := by
    field_simp; ring
  rw [e, abs_div, abs_of_pos hpos]
  have h3 : |(N - fd * T) + (fd - f * sc) * T| ≤ 1 / 2 + err * T := by
    refine le_trans (abs_add_le _ _) ?_
    rw [abs_mul, abs_of_pos hT]
    have := mul_le_mul_of_nonneg_right h2 hT.le
    linarith
  have e2 : (1 / 2) / (sc * T) + err / sc = (1 / 2 + err * T) / (sc * T) := by
    field_simp
  rw [e2]
  exact div_le_div_of_nonneg_right h3 hpos.le

def scaleOf (trailing : ℕ) : ℕ :=
  if trailing = DMSC.compMINUTE then 60 else if trailing = DMSC.compSECOND then 3600 else 1

theorem two_m53_pos : (0:ℚ) < (2:ℚ) ^ (-(53:ℤ)) := Dy.two_zpow_pos _

/-- the scaling by `n` is one binary rounding (`2^-53`), the printing with `P` decimals one decimal rounding (half a unit) -/
theorem scaled_units (d : F64) (hd : d.isFinite = true) (hd0 : 0 ≤ d.val) (hd1 : d.val < 1) (n : ℕ) (hn1 : 1 ≤ n)
    (hn2 : n ≤ 3600) (P : ℕ) :
    |((fixedUnits (F64.mul d (F64.fin false n 0)) P : ℕ) : ℚ) / ((n:ℚ) * 10 ^ P) - d.val| ≤
      (1 / 2) / ((n:ℚ) * 10 ^ P) + (2:ℚ) ^ (-(53:ℤ)) ∧
    ((fixedUnits (F64.mul d (F64.fin false n 0)) P : ℕ) : ℚ) ≤ (n:ℚ) * 10 ^ P := by
  have hn1q : (1:ℚ) ≤ n := by exact_mod_cast hn1
  have hn2q : (n:ℚ) ≤ 3600 := by exact_mod_cast hn2
  have hn0 : (0:ℚ) < n := by linarith
  have hT : (0:ℚ) < 10 ^ P := by positivity
  have hdn0 : 0 ≤ d.val * n := mul_nonneg hd0 hn0.le
  have hdn : d.val * n ≤ 3600 := le_trans (mul_le_of_le_one_left hn0.le hd1.le) hn2q
  obtain ⟨m1, m2, -⟩ := F64.mul_rn d (F64.ofNat n) hd rfl 12 (by norm_num) (by norm_num) (by
    rw [F64.ofNat_val, abs_of_nonneg hdn0]; exact le_trans hdn (by norm_num))
  rw [F64.ofNat_val] at m2
  have m3 := m2.nonneg hdn0
  set fd := F64.mul d (F64.fin false n 0)
  have hN := fixedUnits_half' fd m1 m3 P
  constructor
  · refine le_trans (chain_bound hn0 hT hN (IsRN.err m2)) ?_
    have : max (|d.val * n| * (2:ℚ) ^ (-((53:ℕ):ℤ))) ((2:ℚ) ^ ((-1074:ℤ) - 1)) / n ≤ (2:ℚ) ^ (-(53:ℤ)) := by
      rw [div_le_iff₀ hn0]
      apply max_le
      · rw [abs_of_nonneg (mul_nonneg hd0 hn0.le)]
        have := mul_le_mul_of_nonneg_right hd1.le (mul_nonneg hn0.le two_m53_pos.le)
        push_cast
        linarith
      · exact le_trans (Dy.two_zpow_le (by norm_num)) (le_mul_of_one_le_right two_m53_pos.le hn1q)
    linarith
  · -- fd ≤ n, so the count is at most n·10^P
    have hle : fd.val ≤ ((n:ℤ):ℚ) := m2.le_int n (by
      rw [abs_of_nonneg (by positivity)]; have : (n:ℤ) ≤ 3600 := by exact_mod_cast hn2
      omega) (by push_cast; exact mul_le_of_le_one_left hn0.le hd1.le)
    push_cast at hle
    have h4 : fd.val * 10 ^ P ≤ n * 10 ^ P := mul_le_mul_of_nonneg_right hle hT.le
    have h5 := (abs_le.mp hN).2
    have h6 : ((fixedUnits fd P : ℕ) : ℚ) < ((n * 10 ^ P + 1 : ℕ) : ℚ) := by push_cast; linarith
    have h7 : fixedUnits fd P < n * 10 ^ P + 1 := by exact_mod_cast h6
    exact_mod_cast Nat.lt_succ_iff.mp h7

theorem encodeHead_bound_ms (s : Bool) (m : ℕ) (e : ℤ) (hx : F64.IsRep (F64.fin s m e))
    (trailing prec : ℕ) (ht : trailing = 1 ∨ trailing = 2) (ind : Flag) (hind : ind ≠ Flag.azi) :
    let x := F64.fin s m e
    let h := encodeHead x trailing prec ind
    let P := clampPrec trailing prec
    let sc : ℚ := scaleOf trailing
    h.neg = s ∧ h.prec = P ∧
    h.idegree.isFinite = true ∧ h.idegree.signbit = false ∧ h.idegree.val = ((⌊|x.val|⌋ : ℤ) : ℚ) ∧
    |(h.idegree.val + (h.units : ℚ) / (sc * 10 ^ P) - |x.val|)| ≤ (1 / 2) / (sc * 10 ^ P) + (2:ℚ) ^ (-(53:ℤ)) ∧
    (h.units : ℚ) ≤ sc * 10 ^ P := by
  intro x h P sc
  obtain ⟨hff, hsign, hflv, g1, hval, hf0, hf1⟩ := frac_exact s m e hx
  obtain ⟨n, hn1, hn2, hscn, hscale⟩ : ∃ n : ℕ, 1 ≤ n ∧ n ≤ 3600 ∧ sc = n ∧
      (if trailing = DMSC.compMINUTE then fdm else if trailing = DMSC.compSECOND then fds else F64.ofInt 1) =
        F64.fin false n 0 := by
    rcases ht with rfl | rfl
    · exact ⟨60, by norm_num, by norm_num, rfl, rfl⟩
    · exact ⟨3600, by norm_num, by norm_num, rfl, rfl⟩
  have htd : ¬ trailing = DMSC.compDEGREE := by rcases ht with rfl | rfl <;> decide
  have hh : h = ⟨s, F64.floor (F64.abs x),
      fixedUnits (F64.mul (F64.sub (F64.abs x) (F64.floor (F64.abs x))) (F64.fin false n 0)) P, P⟩ := by
    show encodeHead x trailing prec ind = _
    rw [encodeHead_eq x trailing prec ind hind, if_neg htd, hscale]; rfl
  obtain ⟨k1, k2⟩ := scaled_units _ g1 hf0 hf1 n hn1 hn2 P
  rw [hh, hscn]
  refine ⟨rfl, rfl, hff, hsign, hflv, ?_, k2⟩
  have e1 : ∀ U : ℚ, (F64.floor (F64.abs x)).val + U - |x.val| = U - (F64.sub (F64.abs x) (F64.floor (F64.abs x))).val := by
    intro U; rw [hval, hflv]; ring
  rw [e1]
  exact k1

theorem encodeHead_bound_deg (s : Bool) (m : ℕ) (e : ℤ) (hx : F64.IsRep (F64.fin s m e))
    (hb : |(F64.fin s m e).val| < (2:ℚ) ^ (1024:ℤ))
    (prec : ℕ) (ind : Flag) (hind : ind ≠ Flag.azi) :
    let x := F64.fin s m e
    let h := encodeHead x 0 prec ind
    let P := clampPrec 0 prec
    h.neg = s ∧ h.prec = P ∧
    h.idegree.isFinite = true ∧ h.idegree.signbit = false ∧ h.idegree.val = 0 ∧
    |((h.units : ℚ) / 10 ^ P - |x.val|)| ≤ (1 / 2) / 10 ^ P := by
  intro x h P
  obtain ⟨d1, d2⟩ := sub_zero_exact s m e hx hb
  set d := F64.sub (F64.abs x) F64.pzero with hd
  have hh : h = ⟨s, F64.pzero, fixedUnits (F64.mul d (F64.fin false 1 0)) P, P⟩ := by
    show encodeHead x 0 prec ind = _
    rw [encodeHead_eq x 0 prec ind hind]; rfl
  have hd0 : 0 ≤ d.val := by rw [d2]; exact abs_nonneg _
  -- the product by 1 is exact
  have h1 : d.val * (F64.fin false 1 0).val = |x.val| := by rw [F64.val_fin, d2]; simp [x]
  obtain ⟨m1, m2⟩ := F64.mul_exact d (F64.fin false 1 0) d1 rfl (by rw [h1]; exact rep_abs hx.2)
    (by rw [h1, abs_abs]; exact hb)
  have m2' : (F64.mul d (F64.fin false 1 0)).val = |x.val| := m2.trans h1
  have hN := fixedUnits_half' (F64.mul d (F64.fin false 1 0)) m1 (by rw [m2']; exact abs_nonneg _) P
  rw [m2'] at hN
  have hT : (0:ℚ) < 10 ^ P := by positivity
  refine ⟨by rw [hh], by rw [hh], by rw [hh]; rfl, by rw [hh]; rfl, by rw [hh]; exact F64.val_fin_zero _ _, ?_⟩
  have hu : h.units = fixedUnits (F64.mul d (F64.fin false 1 0)) P := by rw [hh]
  rw [hu]
  have e1 : ((fixedUnits (F64.mul d (F64.fin false 1 0)) P : ℕ) : ℚ) / 10 ^ P - |x.val|
      = (((fixedUnits (F64.mul d (F64.fin false 1 0)) P : ℕ) : ℚ) - |x.val| * 10 ^ P) / 10 ^ P := by
    field_simp
  rw [e1, abs_div, abs_of_pos hT]
  exact div_le_div_of_nonneg_right hN hT.le

/-- All three trailing units: the one rounding of `encodeHead` is within half a unit of the last
printed digit, plus at most `2^-53` of round-off (none for DEGREE, see `encodeHead_bound_deg`) -/
theorem encodeHead_bound (s : Bool) (m : ℕ) (e : ℤ) (hx : F64.IsRep (F64.fin s m e))
    (hb : |(F64.fin s m e).val| < (2:ℚ) ^ (1024:ℤ))
    (trailing prec : ℕ) (ht : trailing = 0 ∨ trailing = 1 ∨ trailing = 2) (ind : Flag) (hind : ind ≠ Flag.azi) :
    let x := F64.fin s m e
    let h := encodeHead x trailing prec ind
    let P := clampPrec trailing prec
    let sc : ℚ := scaleOf trailing
    h.neg = s ∧ h.prec = P ∧
    h.idegree.isFinite = true ∧ h.idegree.signbit = false ∧
    h.idegree.val = (if trailing = 0 then 0 else ((⌊|x.val|⌋ : ℤ) : ℚ)) ∧
    |(h.idegree.val + (h.units : ℚ) / (sc * 10 ^ P) - |x.val|)| ≤ (1 / 2) / (sc * 10 ^ P) + (2:ℚ) ^ (-(53:ℤ)) := by
  intro x h P sc
  rcases ht with rfl | ht
  · obtain ⟨a1, a2, a3, a4, a5, a6⟩ := encodeHead_bound_deg s m e hx hb prec ind hind
    refine ⟨a1, a2, a3, a4, by simpa using a5, ?_⟩
    have hsc : sc = 1 := by simp [sc, scaleOf, DMSC.compMINUTE, DMSC.compSECOND]
    rw [hsc, one_mul, a5, zero_add]
    have := two_m53_pos
    linarith
  · obtain ⟨a1, a2, a3, a4, a5, a6, _⟩ := encodeHead_bound_ms s m e hx trailing prec ht ind hind
    have h0 : trailing ≠ 0 := by rcases ht with rfl | rfl <;> decide
    exact ⟨a1, a2, a3, a4, by rw [if_neg h0]; exact a5, a6⟩

/-! non-vacuity: `10.5` is a binary64 value below the overflow threshold -/
example : F64.IsRep (F64.fin false 21 (-1)) :=
  ⟨rfl, 21, -1, by norm_num, by norm_num, by rw [F64.val_fin]; simp⟩
example : |(F64.fin false 21 (-1)).val| < (2:ℚ) ^ (1024:ℤ) := by
  rw [abs_val_fin]
  have : (2:ℚ) ^ (4:ℤ) < (2:ℚ) ^ (1024:ℤ) := Dy.two_zpow_lt_iff.mpr (by norm_num)
  exact lt_trans (by norm_num) this
example : Flag.lat ≠ Flag.azi := by decide

theorem le_digitsVal (v : ℕ) (ds : Bytes) : v ≤ digitsVal v ds := by
  induction ds generalizing v with
  | nil => rw [digitsVal_nil]
  | cons c t ih => rw [digitsVal_cons]; exact le_trans (by omega) (ih _)

theorem mul_int_exact (a b : F64) (ha : a.isFinite = true) (hb : b.isFinite = true) (n : ℤ)
    (hn : |n| ≤ 2 ^ 53) (hv : a.val * b.val = n) :
    (F64.mul a b).isFinite = true ∧ (F64.mul a b).val = n := by
  rw [← hv]
  exact F64.mul_exact a b ha hb (by rw [hv]; exact rep_int53 n hn)
    (lt_huge_of_le53 (by rw [hv, ← Int.cast_abs]; exact_mod_cast hn))

theorem add_int_exact (a b : F64) (ha : a.isFinite = true) (hb : b.isFinite = true) (n : ℤ)
    (hn : |n| ≤ 2 ^ 53) (hv : a.val + b.val = n) :
    (F64.add a b).isFinite = true ∧ (F64.add a b).val = n := by
  rw [← hv]
  exact F64.add_exact a b ha hb (by rw [hv]; exact rep_int53 n hn)
    (lt_huge_of_le53 (by rw [hv, ← Int.cast_abs]; exact_mod_cast hn))

theorem icur_fold (ds : Bytes) (hd : AllDigits ds) (v : ℕ) (acc : F64)
    (hf : acc.isFinite = true) (hv : acc.val = v) (hlt : digitsVal v ds < 2 ^ 53) :
    let r := ds.foldl (fun a c => F64.add (F64.mul (F64.ofNat 10) a) (F64.ofNat (c - 48))) acc
    r.isFinite = true ∧ r.val = (digitsVal v ds : ℕ) := by
  induction ds generalizing v acc with
  | nil => intro r; exact ⟨hf, by rw [digitsVal_nil]; exact hv⟩
  | cons c t ih =>
    intro r
    rw [digitsVal_cons] at hlt
    have hle := le_digitsVal (10 * v + (c - 48)) t
    have hdt : AllDigits t := fun x hx => hd x (List.mem_cons_of_mem _ hx)
    obtain ⟨p1, p2⟩ := mul_int_exact (F64.ofNat 10) acc rfl hf ((10 * v : ℕ) : ℤ)
      (by rw [abs_of_nonneg (by positivity)]; exact_mod_cast (by omega : 10 * v ≤ 2 ^ 53))
      (by rw [F64.ofNat_val, hv]; push_cast; ring)
    obtain ⟨q1, q2⟩ := add_int_exact (F64.mul (F64.ofNat 10) acc) (F64.ofNat (c - 48)) p1 rfl
      ((10 * v + (c - 48) : ℕ) : ℤ)
      (by rw [abs_of_nonneg (by positivity)]; exact_mod_cast (by omega : 10 * v + (c - 48) ≤ 2 ^ 53))
      (by rw [p2, F64.ofNat_val]; push_cast; ring)
    have := ih hdt (10 * v + (c - 48)) _ q1 (by rw [q2]; push_cast; rfl) hlt
    rw [digitsVal_cons]
    exact this

theorem icur_exact (n : ℕ) (hn : n < 2 ^ 53) : (icur n).isFinite = true ∧ (icur n).val = n := by
  have h := icur_fold (digitBytes n) (digitBytes_allDigits n) 0 F64.pzero rfl (F64.val_fin_zero _ _)
    (by rw [digitsVal_digitBytes]; exact hn)
  rwa [digitsVal_digitBytes] at h

example : (12345678901234 : ℕ) < 2 ^ 53 := by norm_num

/-- the tail of `ofDecExp` -/
theorem ofDy_tail (q : Dy) :
    let v := if q.m = 0 then F64.pzero else if F64.overflow q then F64.inf false else F64.ofDy q
    |q.val| < (2:ℚ) ^ (1024:ℤ) → v.isFinite = true ∧ v.val = q.val := by
  intro v hlt
  by_cases h0 : q.m = 0
  · have : v = F64.pzero := by simp only [v, if_pos h0]
    rw [this]
    exact ⟨rfl, by rw [Dy.val_of_m_zero _ h0]; exact F64.val_fin_zero _ _⟩
  · have : v = F64.ofDy q := by
      simp only [v, if_neg h0, F64.overflow_false_of_lt _ hlt, Bool.false_eq_true, if_false]
    rw [this]
    exact ⟨rfl, F64.val_ofDy q⟩

/-- `h1`, `h2`: neither early exit of `ofDecExp` fires -/
theorem ofDecExp_isRN (num : ℕ) (e10 : ℤ) (hnum : num ≠ 0)
    (h1 : e10 + (ndigits num : ℤ) ≤ 320) (h2 : -340 ≤ e10 + (ndigits num : ℤ)) :
    ∃ r : ℚ, RN ((num:ℚ) * (10:ℚ) ^ e10) r ∧
      (|r| < (2:ℚ) ^ (1024:ℤ) →
        (ofDecExp num e10).isFinite = true ∧ (ofDecExp num e10).val = r) := by
  have hz : (0:ℚ) ≤ (num:ℚ) * (10:ℚ) ^ e10 := by positivity
  unfold ofDecExp
  rw [if_neg hnum]
  simp only []
  rw [if_neg (by omega), if_neg (by omega)]
  by_cases he : e10 ≥ 0
  · rw [if_pos he]
    have hv : (⟨(num : ℤ) * (10 : ℤ) ^ e10.toNat, 0⟩ : Dy).val = (num:ℚ) * (10:ℚ) ^ e10 := by
      unfold Dy.val; push_cast
      rw [mul_one, ← zpow_natCast, Int.toNat_of_nonneg he]
    have hq : RN ((num:ℚ) * (10:ℚ) ^ e10) (Dy.round53 ⟨(num : ℤ) * (10 : ℤ) ^ e10.toNat, 0⟩).val := by
      have := roundTo_isRN 53 (-1074) ⟨(num : ℤ) * (10 : ℤ) ^ e10.toNat, 0⟩
      rw [hv] at this; exact this
    exact ⟨_, hq, ofDy_tail _⟩
  · rw [if_neg he]
    have hy : (⟨(10 : ℤ) ^ (-e10).toNat, 0⟩ : Dy).m ≠ 0 := by
      show (10 : ℤ) ^ (-e10).toNat ≠ 0; positivity
    have hv : (⟨(num : ℤ), 0⟩ : Dy).val / (⟨(10 : ℤ) ^ (-e10).toNat, 0⟩ : Dy).val = (num:ℚ) * (10:ℚ) ^ e10 := by
      unfold Dy.val; push_cast
      rw [mul_one, mul_one, ← zpow_natCast, Int.toNat_of_nonneg (by omega), zpow_neg, div_eq_mul_inv, inv_inv]
    have hq := Dy.divTo_isRN 53 (-1074) ⟨(num : ℤ), 0⟩ ⟨(10 : ℤ) ^ (-e10).toNat, 0⟩ hy
    rw [hv] at hq
    exact ⟨_, hq, ofDy_tail _⟩

theorem ndigits_le (num k : ℕ) (hk : 0 < k) (h : num < 10 ^ k) : ndigits num ≤ k := by
  unfold ndigits
  split
  · omega
  · exact (Nat.length_toDigits_le_iff (by decide) hk).mpr h

theorem ofDec_isRN (num k : ℕ) (hnum : num ≠ 0) (hk : k ≤ 340) (hlt : num < 10 ^ 320) :
    ∃ r : ℚ, RN ((num:ℚ) / 10 ^ k) r ∧
      (|r| < (2:ℚ) ^ (1024:ℤ) →
        (ofDec num k).isFinite = true ∧ (ofDec num k).val = r) := by
  have hnd := ndigits_le num 320 (by norm_num) hlt
  obtain ⟨r, hr, hf⟩ := ofDecExp_isRN num (-(k:ℤ)) hnum (by omega) (by omega)
  have e : (num:ℚ) * (10:ℚ) ^ (-(k:ℤ)) = (num:ℚ) / 10 ^ k := by
    rw [zpow_neg, zpow_natCast, div_eq_mul_inv]
  rw [e] at hr
  exact ⟨r, hr, hf⟩

theorem ofDec_zero (k : ℕ) : ofDec 0 k = F64.pzero := rfl

theorem ofDecIO_of_finite (num k : ℕ) (h : (ofDec num k).isFinite = true) : ofDecIO num k = ofDec num k := by
  unfold ofDecIO
  generalize ofDec num k = v at *
  cases v <;> simp_all [F64.isFinite]

/-- `ofDecIO`: `strtod` as used by `operator>>` -/
theorem ofDecIO_isRN (num k : ℕ) (hk : k ≤ 340) (hlt : num < 10 ^ 320) (hb : (num:ℚ) / 10 ^ k ≤ 2 ^ 52) :
    (ofDecIO num k).isFinite = true ∧ RN ((num:ℚ) / 10 ^ k) (ofDecIO num k).val := by
  by_cases hnum : num = 0
  · subst hnum
    have : ofDecIO 0 k = F64.pzero := rfl
    rw [this]
    refine ⟨rfl, ?_⟩
    have : (F64.pzero).val = 0 := F64.val_fin_zero _ _
    rw [this]; simpa using Dy.isRN_zero 53 (-1074)
  · obtain ⟨r, hr, hf⟩ := ofDec_isRN num k hnum hk hlt
    have hnn : (0:ℚ) ≤ (num:ℚ) / 10 ^ k := by positivity
    obtain ⟨f1, f2⟩ := hf (hr.lt_huge (by rw [abs_of_nonneg hnn]; exact hb))
    rw [ofDecIO_of_finite num k f1]
    exact ⟨f1, by rw [f2]; exact hr⟩

theorem lt_pow320 {n : ℕ} (h : n < 10 ^ 30) : n < 10 ^ 320 :=
  lt_of_lt_of_le h (pow_le_pow_right₀ (by norm_num) (by norm_num))

example : (105 : ℕ) ≠ 0 ∧ (1 : ℕ) ≤ 340 ∧ (105 : ℕ) < 10 ^ 320 ∧ ((105 : ℕ) : ℚ) / 10 ^ 1 ≤ 2 ^ 52 :=
  ⟨by norm_num, by norm_num, lt_pow320 (by norm_num), by norm_num⟩

theorem ge_false_of_lt (a b : F64) (ha : a.isFinite = true) (hb : b.isFinite = true) (h : a.val < b.val) :
    F64.ge a b = false := by
  have : ¬ (F64.le b a = true) := by rw [F64.le_iff hb ha]; linarith
  unfold F64.ge; simpa using this
theorem gt_false_of_le (a b : F64) (ha : a.isFinite = true) (hb : b.isFinite = true) (h : a.val ≤ b.val) :
    F64.gt a b = false := by
  have : ¬ (F64.lt b a = true) := by rw [F64.lt_iff hb ha]; linarith
  unfold F64.gt; simpa using this
theorem RN.relerr {z r : ℚ} (h : RN z r) (hz : (2:ℚ) ^ (-(1022:ℤ)) ≤ |z|) : |r - z| ≤ |z| * (2:ℚ) ^ (-(53:ℤ)) := by
  have h0 : z ≠ 0 := by
    rintro rfl; rw [abs_zero] at hz; exact absurd hz (not_le.mpr (Dy.two_zpow_pos _))
  obtain ⟨E, k, h1, h2, h3, h4, _⟩ := h.nz h0
  have hE : -1022 < E := Dy.two_zpow_lt_iff.mp (lt_of_le_of_lt hz h2)
  have hm : max (E - ((53:ℕ):ℤ)) (-1074) = E - 53 := by push_cast; omega
  rw [hm] at h4
  have e1 : (2:ℚ) ^ (E - 53) = 2 * ((2:ℚ) ^ (E - 1) * (2:ℚ) ^ (-(53:ℤ))) := by
    rw [← Dy.two_zpow_split]
    have := F64.two_zpow_succ (E - 1 + -53)
    rw [← this]; congr 1; ring
  rw [e1] at h4
  have := mul_le_mul_of_nonneg_right h1 (Dy.two_zpow_pos (-(53:ℤ))).le
  linarith

theorem abs_ite_neg (neg : Bool) (a : ℚ) : |if neg then -a else a| = |a| := by
  cases neg <;> simp

theorem abs_ite_neg_sub (neg : Bool) (a b : ℚ) : |(if neg then -a else a) - (if neg then -b else b)| = |a - b| := by
  cases neg
  · simp
  · simp only [if_true]; rw [neg_sub_neg, abs_sub_comm]

/-- the final `sign * v` of `evalSlots` is exact -/
theorem sign_mul (neg : Bool) (v : F64) (hv : v.isFinite = true) (hrep : Rep v.val) (hb : |v.val| < (2:ℚ) ^ (1024:ℤ)) :
    (F64.mul (if neg then F64.ofInt (-1) else F64.ofInt 1) v).isFinite = true ∧
    (F64.mul (if neg then F64.ofInt (-1) else F64.ofInt 1) v).val = (if neg then -v.val else v.val) := by
  cases neg
  · have h1 : (F64.ofInt 1).val * v.val = v.val := by rw [one_eq, F64.val_fin]; simp
    simp only [Bool.false_eq_true, if_false]
    rw [← h1]
    exact F64.mul_exact _ v rfl hv (by rw [h1]; exact hrep) (by rw [h1]; exact hb)
  · have h1 : (F64.ofInt (-1)).val * v.val = -v.val := by rw [mone_eq, F64.val_fin]; simp
    simp only [if_true]
    rw [← h1]
    exact F64.mul_exact _ v rfl hv (by rw [h1]; exact hrep.neg) (by rw [h1, abs_neg]; exact hb)

theorem cube_up {u : ℚ} (h0 : 0 ≤ u) (h1 : u ≤ 1 / 4) : (1 + u) * (1 + u) * (1 + u) ≤ 1 + 4 * u := by
  nlinarith [mul_nonneg h0 h0, mul_nonneg (mul_nonneg h0 h0) h0]
theorem cube_dn {u : ℚ} (h0 : 0 ≤ u) (h1 : u ≤ 1 / 4) : 1 - 4 * u ≤ (1 - u) * (1 - u) * (1 - u) := by
  nlinarith [mul_nonneg h0 h0, mul_nonneg (mul_nonneg h0 h0) h0]

theorem three_roundings {B W f s q u sc : ℚ} (hB : 0 ≤ B) (hW : 0 ≤ W) (hsc : 0 < sc) (h0 : 0 ≤ u) (h1 : u ≤ 1 / 4)
    (e1 : |f - W| ≤ W * u) (e2 : |s - (B + f)| ≤ (B + f) * u) (e3 : |q - s / sc| ≤ s / sc * u) :
    |q - (B + W) / sc| ≤ 4 * u * ((B + W) / sc) := by
  obtain ⟨a1, a2⟩ := abs_le.mp e1
  obtain ⟨b1, b2⟩ := abs_le.mp e2
  obtain ⟨c1, c2⟩ := abs_le.mp e3
  set T := B + W with hT
  have hT0 : 0 ≤ T := add_nonneg hB hW
  have hu1 : 0 ≤ 1 - u := by linarith
  have hBu := mul_nonneg hB h0
  have f1 : B + f ≤ T * (1 + u) := by rw [hT]; linarith
  have f2 : T * (1 - u) ≤ B + f := by rw [hT]; linarith
  have s1 : s ≤ T * (1 + u) * (1 + u) := by
    have : s ≤ (B + f) * (1 + u) := by linarith
    exact le_trans this (mul_le_mul_of_nonneg_right f1 (by linarith))
  have s2 : T * (1 - u) * (1 - u) ≤ s := by
    have : (B + f) * (1 - u) ≤ s := by linarith
    exact le_trans (mul_le_mul_of_nonneg_right f2 hu1) this
  set X := T / sc with hX
  have hX0 : 0 ≤ X := div_nonneg hT0 hsc.le
  have z1 : s / sc ≤ X * (1 + u) * (1 + u) := by
    have := div_le_div_of_nonneg_right s1 hsc.le
    rw [hX]; calc s / sc ≤ T * (1 + u) * (1 + u) / sc := this
      _ = T / sc * (1 + u) * (1 + u) := by ring
  have z2 : X * (1 - u) * (1 - u) ≤ s / sc := by
    have := div_le_div_of_nonneg_right s2 hsc.le
    rw [hX]; calc T / sc * (1 - u) * (1 - u) = T * (1 - u) * (1 - u) / sc := by ring
      _ ≤ s / sc := this
  have q1 : q ≤ X * ((1 + u) * (1 + u) * (1 + u)) := by
    have : q ≤ s / sc * (1 + u) := by linarith
    have := le_trans this (mul_le_mul_of_nonneg_right z1 (by linarith : (0:ℚ) ≤ 1 + u))
    linarith
  have q2 : X * ((1 - u) * (1 - u) * (1 - u)) ≤ q := by
    have : s / sc * (1 - u) ≤ q := by linarith
    have := le_trans (mul_le_mul_of_nonneg_right z2 hu1) this
    linarith
  have q1' := le_trans q1 (mul_le_mul_of_nonneg_left (cube_up h0 h1) hX0)
  have q2' := le_trans (mul_le_mul_of_nonneg_left (cube_dn h0 h1) hX0) q2
  rw [abs_le]; constructor <;> linarith

def numVal (n : Num) : ℚ := if n.point then (n.int : ℚ) + (n.frac : ℚ) / 10 ^ n.nfrac else (n.int : ℚ)

theorem two_m50_le : (2:ℚ) ^ (-(50:ℤ)) ≤ 1 / 10 ^ 15 := by
  rw [zpow_neg, ← one_div]
  apply one_div_le_one_div_of_le (by norm_num)
  norm_num

/-- hypotheses on one slot: a decimal with at most 15 fraction digits (with an integer part `< 2^41` the mantissa stays
    below `10^30`, within what `ofDecIO_isRN` covers) -/
def NumOK (n : Num) : Prop := n.point = true → n.nfrac ≤ 15 ∧ n.frac < 10 ^ n.nfrac

/-- `fpieces[k]`: one correct rounding of the denoted decimal (exact when there is no point) -/
theorem numF_spec (n : Num) (hI : n.int < 2 ^ 41) (hn : NumOK n) :
    (numF n).isFinite = true ∧ RN (numVal n) (numF n).val ∧ 0 ≤ numVal n ∧ numVal n < (n.int : ℚ) + 1 ∧
    (numVal n = 0 ∨ (2:ℚ) ^ (-(50:ℤ)) ≤ numVal n) := by
  unfold numF numVal
  by_cases hpt : n.point = true
  · rw [if_pos hpt, if_pos hpt]
    obtain ⟨hp', hF'⟩ := hn hpt
    have hT : (0:ℚ) < 10 ^ n.nfrac := by positivity
    have hval : ((n.int * 10 ^ n.nfrac + n.frac : ℕ) : ℚ) / 10 ^ n.nfrac = (n.int : ℚ) + (n.frac : ℚ) / 10 ^ n.nfrac := by
      push_cast; field_simp
    have hFq : (n.frac : ℚ) / 10 ^ n.nfrac < 1 := by
      rw [div_lt_one hT]; exact_mod_cast hF'
    have hFq0 : (0:ℚ) ≤ (n.frac : ℚ) / 10 ^ n.nfrac := by positivity
    have hIq : (n.int : ℚ) + 1 ≤ 2 ^ 41 := by exact_mod_cast hI
    have h10 : (10:ℕ) ^ n.nfrac ≤ 10 ^ 15 := Nat.pow_le_pow_right (by norm_num) hp'
    have hmant : n.int * 10 ^ n.nfrac + n.frac < 10 ^ 30 := by
      have h1 : n.int * 10 ^ n.nfrac + n.frac < (n.int + 1) * 10 ^ n.nfrac := by
        rw [Nat.add_mul, Nat.one_mul]; omega
      have h2 : (n.int + 1) * 10 ^ n.nfrac ≤ 2 ^ 41 * 10 ^ 15 := Nat.mul_le_mul (by omega) h10
      have h3 : (2:ℕ) ^ 41 * 10 ^ 15 < 10 ^ 30 := by norm_num
      omega
    obtain ⟨f1, f2⟩ := ofDecIO_isRN (n.int * 10 ^ n.nfrac + n.frac) n.nfrac (by omega) (lt_pow320 hmant)
      (by rw [hval]; have : (2:ℚ) ^ 41 ≤ 2 ^ 52 := by norm_num
          linarith)
    rw [hval] at f2
    refine ⟨f1, f2, by positivity, by linarith, ?_⟩
    by_cases hm : n.int * 10 ^ n.nfrac + n.frac = 0
    · left; rw [← hval, hm]; simp
    · right
      rw [← hval]
      have h1 : (1:ℚ) ≤ ((n.int * 10 ^ n.nfrac + n.frac : ℕ) : ℚ) := by exact_mod_cast Nat.one_le_iff_ne_zero.mpr hm
      have h2 : (10:ℚ) ^ n.nfrac ≤ 10 ^ 15 := by exact_mod_cast h10
      refine le_trans two_m50_le ?_
      rw [div_le_div_iff₀ (by positivity) hT]
      exact mul_le_mul h1 h2 (by positivity) (by positivity)
  · have hpt' : n.point = false := by simpa using hpt
    simp only [hpt', Bool.false_eq_true, if_false]
    obtain ⟨i1, i2⟩ := icur_exact n.int (Nat.lt_trans hI (by norm_num))
    refine ⟨i1, ?_, by positivity, by linarith, ?_⟩
    · rw [i2]
      have := IsRN.int53 (n.int : ℤ) (by
        rw [abs_of_nonneg (by positivity)]
        have : (2:ℕ) ^ 41 < 2 ^ 53 := by norm_num
        exact_mod_cast (by omega : n.int ≤ 2 ^ 53))
      exact_mod_cast this
    · by_cases h0 : n.int = 0
      · left; rw [h0]; simp
      · right
        have h1 : (1:ℚ) ≤ (n.int : ℚ) := by exact_mod_cast Nat.one_le_iff_ne_zero.mpr h0
        have h2 : (2:ℚ) ^ (-(50:ℤ)) ≤ (2:ℚ) ^ (0:ℤ) := Dy.two_zpow_le (by norm_num)
        rw [zpow_zero] at h2; linarith

/-- `ipieces[k]`: the integer when there is no point, `+0` otherwise -/
theorem numI_spec (n : Num) (hI : n.int < 2 ^ 41) :
    (numI n).isFinite = true ∧ (numI n).val = (if n.point then 0 else (n.int : ℚ)) := by
  unfold numI
  by_cases hpt : n.point = true
  · rw [if_pos hpt, if_pos hpt]; exact ⟨rfl, F64.val_fin_zero _ _⟩
  · rw [if_neg hpt, if_neg hpt]
    obtain ⟨i1, i2⟩ := icur_exact n.int (Nat.lt_trans hI (by norm_num))
    exact ⟨i1, i2⟩

theorem numF_int (n : Num) (hpt : n.point = false) (hI : n.int < 2 ^ 53) :
    (numF n).isFinite = true ∧ (numF n).val = n.int := by
  unfold numF
  simp only [hpt, Bool.false_eq_true, if_false]
  obtain ⟨i1, i2⟩ := icur_exact n.int hI
  exact ⟨i1, i2⟩

/-- the range test `ipieces[k] >= 60 || fpieces[k] > 60` is false for a component below 60 -/
theorem range_ok (n : Num) (hI : n.int < 60) (hn : NumOK n) :
    (F64.ge (numI n) (F64.fin false 60 0) || F64.gt (numF n) (F64.fin false 60 0)) = false := by
  obtain ⟨a1, a2⟩ := numI_spec n (by omega)
  obtain ⟨b1, b2, b3, b4, _⟩ := numF_spec n (by omega) hn
  have h60 : (F64.fin false 60 0).val = 60 := by rw [F64.val_fin]; simp
  have hIq : (n.int : ℚ) + 1 ≤ 60 := by exact_mod_cast hI
  have h1 : F64.ge (numI n) (F64.fin false 60 0) = false := by
    apply ge_false_of_lt _ _ a1 rfl
    rw [a2, h60]; split <;> linarith
  have h2 : F64.gt (numF n) (F64.fin false 60 0) = false := by
    apply gt_false_of_le _ _ b1 rfl
    rw [h60]
    have := b2.le_int 60 (by norm_num) (by push_cast; linarith)
    exact_mod_cast this
  rw [h1, h2]; rfl

theorem u_le_quarter : (2:ℚ) ^ (-(53:ℤ)) ≤ 1 / 4 := by
  have h := Dy.two_zpow_le (show (-(53:ℤ)) ≤ -2 by norm_num)
  have e : (2:ℚ) ^ (-(2:ℤ)) = 1 / 4 := by norm_num
  rw [e] at h; exact h

theorem rep_zpow_le_of_pos {z r : ℚ} (h : RN z r) (k : ℤ) (hk : -1074 ≤ k) (hz : (2:ℚ) ^ k ≤ z) : (2:ℚ) ^ k ≤ r :=
  h.ge_of_ge_rep (rep_two_zpow k hk) hz

/-- the common tail `(b + f) / sc` of the MINUTE and SECOND formulas: `b` an exact integer, `f` one rounding of `W`,
then one rounded sum and one rounded quotient -/
theorem tail_bound (b f : F64) (B : ℕ) (W : ℚ) (sc : ℕ)
    (hbf : b.isFinite = true) (hbv : b.val = B) (hB : (B:ℚ) + 60 ≤ 2 ^ 53)
    (hff : f.isFinite = true) (hfr : RN W f.val) (hW0 : 0 ≤ W) (hW1 : W ≤ 60)
    (hWlow : W = 0 ∨ (2:ℚ) ^ (-(50:ℤ)) ≤ W) (hfne : f.val ≠ 0) (hsc1 : 1 ≤ sc) (hsc2 : sc ≤ 3600) :
    let v := F64.div (F64.add b f) (F64.fin false sc 0)
    v.isFinite = true ∧ Rep v.val ∧ 0 ≤ v.val ∧ v.val ≤ 2 ^ 53 ∧
    |v.val - ((B:ℚ) + W) / sc| ≤ 4 * (2:ℚ) ^ (-(53:ℤ)) * (((B:ℚ) + W) / sc) := by
  intro v
  have hu := two_m53_pos
  have hB0 : (0:ℚ) ≤ B := by positivity
  have hscq1 : (1:ℚ) ≤ sc := by exact_mod_cast hsc1
  have hscq2 : (sc:ℚ) ≤ 3600 := by exact_mod_cast hsc2
  have hscpos : (0:ℚ) < sc := by linarith
  have hWlow' : (2:ℚ) ^ (-(50:ℤ)) ≤ W := by
    rcases hWlow with h | h
    · exact absurd (hfr.zero h) hfne
    · exact h
  have h50 := Dy.two_zpow_pos (-(50:ℤ))
  have hlow : ∀ x : ℚ, (2:ℚ) ^ (-(50:ℤ)) ≤ x → (2:ℚ) ^ (-(1022:ℤ)) ≤ |x| := by
    intro x hx
    rw [abs_of_nonneg (by linarith)]
    exact le_trans (Dy.two_zpow_le (by norm_num)) hx
  have f_lo : (2:ℚ) ^ (-(50:ℤ)) ≤ f.val := rep_zpow_le_of_pos hfr _ (by norm_num) hWlow'
  have f_hi : f.val ≤ 60 := by
    have := hfr.le_int 60 (by norm_num) (by push_cast; exact hW1)
    exact_mod_cast this
  have e1 : |f.val - W| ≤ W * (2:ℚ) ^ (-(53:ℤ)) := by
    have := RN.relerr hfr (hlow W hWlow')
    rwa [abs_of_nonneg hW0] at this
  have hsum0 : 0 ≤ b.val + f.val := by rw [hbv]; linarith
  have e53 : (2:ℚ) ^ (53:ℤ) = 2 ^ 53 := by norm_num
  obtain ⟨s1, s2, s3⟩ := F64.add_rn b f hbf hff 53 (by norm_num) (by norm_num) (by
    rw [abs_of_nonneg hsum0, hbv, e53]; linarith)
  set s := (b + f).val with hs
  rw [hbv] at s2 hsum0
  have s_lo : (2:ℚ) ^ (-(50:ℤ)) ≤ s := rep_zpow_le_of_pos s2 _ (by norm_num) (by linarith)
  have s_hi : s ≤ 2 ^ 53 := by rw [← e53]; exact le_trans (le_abs_self _) s3
  have e2 : |s - ((B:ℚ) + f.val)| ≤ ((B:ℚ) + f.val) * (2:ℚ) ^ (-(53:ℤ)) := by
    have := RN.relerr s2 (hlow _ (by linarith))
    rwa [abs_of_nonneg hsum0] at this
  have hz0 : 0 ≤ s / sc := div_nonneg (by linarith) hscpos.le
  have hz_hi : s / sc ≤ 2 ^ 53 := by
    rw [div_le_iff₀ hscpos]; exact le_trans s_hi (le_mul_of_one_le_right (by norm_num) hscq1)
  obtain ⟨q1, q2, -⟩ : v.isFinite = true ∧ RN (s / (F64.ofNat sc).val) v.val ∧ |v.val| ≤ (2:ℚ) ^ (53:ℤ) :=
    F64.rn_of_isRN (F64.div_isRN (b + f) (F64.ofNat sc) s1 rfl (by rw [F64.ofNat_val]; exact hscpos.ne')) 53 (by norm_num)
      (by norm_num) (by rw [F64.ofNat_val, abs_of_nonneg hz0, e53]; exact hz_hi)
  rw [F64.ofNat_val] at q2
  have hz_lo : (2:ℚ) ^ (-(62:ℤ)) ≤ s / sc := by
    rw [le_div_iff₀ hscpos]
    have e62 : (2:ℚ) ^ (-(50:ℤ)) = (2:ℚ) ^ (-(62:ℤ)) * 4096 := by
      norm_num
    have := mul_le_mul_of_nonneg_left hscq2 (Dy.two_zpow_pos (-(62:ℤ))).le
    linarith
  have e3 : |v.val - s / sc| ≤ s / sc * (2:ℚ) ^ (-(53:ℤ)) := by
    have := RN.relerr q2 (by
      rw [abs_of_nonneg hz0]; exact le_trans (Dy.two_zpow_le (by norm_num)) hz_lo)
    rwa [abs_of_nonneg hz0] at this
  have v0 : 0 ≤ v.val := q2.nonneg hz0
  have v1 : v.val ≤ 2 ^ 53 := by
    have := q2.le_int (2 ^ 53) (by norm_num) (by push_cast; exact hz_hi)
    exact_mod_cast this
  exact ⟨q1, q2.rep, v0, v1, three_roundings hB0 hW0 hscpos hu.le u_le_quarter e1 e2 e3⟩

theorem fdm_mul_deg (n : Num) (hpt : n.point = false) (hI : n.int < 2 ^ 41) :
    (F64.mul fdm (numF n)).isFinite = true ∧ (F64.mul fdm (numF n)).val = ((60 * n.int : ℕ) : ℚ) := by
  obtain ⟨i1, i2⟩ := numF_int n hpt (Nat.lt_trans hI (by norm_num))
  have h60 : fdm.val = 60 := F64.ofNat_val 60
  obtain ⟨b1, b2⟩ := mul_int_exact fdm (numF n) rfl i1 ((60 * n.int : ℕ) : ℤ) (by
    rw [abs_of_nonneg (by positivity)]
    have : 60 * (2:ℕ) ^ 41 ≤ 2 ^ 53 := by norm_num
    exact_mod_cast (by omega : 60 * n.int ≤ 2 ^ 53)) (by rw [h60, i2]; push_cast; ring)
  exact ⟨b1, by rw [b2]; push_cast; ring⟩

theorem evalSlots_ok (neg : Bool) (sl : Slots)
    (h1 : (F64.ge (numI sl.m) fdm || F64.gt (numF sl.m) fdm) = false)
    (h2 : (F64.ge (numI sl.s) fms || F64.gt (numF sl.s) fms) = false) :
    evalSlots neg sl = .ok (F64.mul (if neg then F64.ofInt (-1) else F64.ofInt 1)
      (if F64.ne (numF sl.s) F64.pzero then (fms * (fdm * numF sl.d + numF sl.m) + numF sl.s) / fds
       else if F64.ne (numF sl.m) F64.pzero then (fdm * numF sl.d + numF sl.m) / fdm
       else numF sl.d)) := by
  unfold evalSlots
  simp only [h1, h2, Bool.false_eq_true, if_false]

theorem rn_zero_iff {W r : ℚ} (h : RN W r) (hW : W = 0 ∨ (2:ℚ) ^ (-(50:ℤ)) ≤ W) : r = 0 ↔ W = 0 := by
  constructor
  · intro hr
    rcases hW with h0 | h1
    · exact h0
    · have := rep_zpow_le_of_pos h _ (by norm_num) h1
      have := Dy.two_zpow_pos (-(50:ℤ))
      linarith
  · exact h.zero

theorem numVal_of_nopoint (n : Num) (h : n.point = false) : numVal n = n.int := by
  unfold numVal; simp [h]

def slotsVal (sl : Slots) : ℚ := numVal sl.d + numVal sl.m / 60 + numVal sl.s / 3600

/-- the last two clauses: a decimal point only in the last non-zero component -/
def SlotsOK (sl : Slots) : Prop :=
  sl.d.int < 2 ^ 41 ∧ sl.m.int < 60 ∧ sl.s.int < 60 ∧ NumOK sl.d ∧ NumOK sl.m ∧ NumOK sl.s ∧
  (numVal sl.s ≠ 0 → sl.d.point = false ∧ sl.m.point = false) ∧ (numVal sl.m ≠ 0 → sl.d.point = false)

/-- `4·2^-53`: three roundings at most (`strtod`, one sum, one quotient) -/
theorem evalSlots_bound (neg : Bool) (sl : Slots) (hsl : SlotsOK sl) :
    ∃ v : F64, evalSlots neg sl = .ok v ∧ F64.IsRep v ∧ |v.val| ≤ 2 ^ 53 ∧
      |v.val - (if neg then -slotsVal sl else slotsVal sl)| ≤ 4 * (2:ℚ) ^ (-(53:ℤ)) * slotsVal sl := by
  obtain ⟨hD, hM, hS, hd, hm, hs, hlast_s, hlast_m⟩ := hsl
  unfold slotsVal
  set V : ℚ := numVal sl.d + numVal sl.m / 60 + numVal sl.s / 3600
  obtain ⟨d1, d2, d3, d4, d5⟩ := numF_spec sl.d hD hd
  obtain ⟨m1, m2, m3, m4, m5⟩ := numF_spec sl.m (by omega) hm
  obtain ⟨s1, s2, s3, s4, s5⟩ := numF_spec sl.s (by omega) hs
  rw [evalSlots_ok neg sl (range_ok sl.m hM hm) (range_ok sl.s hS hs)]
  have hu := two_m53_pos
  have hDq : (sl.d.int : ℚ) + 1 ≤ 2 ^ 41 := by exact_mod_cast hD
  have hMq : (sl.m.int : ℚ) + 1 ≤ 60 := by exact_mod_cast hM
  have hSq : (sl.s.int : ℚ) + 1 ≤ 60 := by exact_mod_cast hS
  have h60 : fms.val = 60 := F64.ofNat_val 60
  have core : ∃ v0 : F64,
      (if F64.ne (numF sl.s) F64.pzero then (fms * (fdm * numF sl.d + numF sl.m) + numF sl.s) / fds
       else if F64.ne (numF sl.m) F64.pzero then (fdm * numF sl.d + numF sl.m) / fdm
       else numF sl.d) = v0 ∧ v0.isFinite = true ∧ Rep v0.val ∧ 0 ≤ v0.val ∧ v0.val ≤ 2 ^ 53 ∧
      |v0.val - V| ≤ 4 * (2:ℚ) ^ (-(53:ℤ)) * V := by
    rw [F64.ne_pzero_eq _ s1, F64.ne_pzero_eq _ m1]
    by_cases hs0 : (numF sl.s).val = 0
    · have hWs : numVal sl.s = 0 := (rn_zero_iff s2 s5).mp hs0
      by_cases hm0 : (numF sl.m).val = 0
      · -- only degrees
        have hWm : numVal sl.m = 0 := (rn_zero_iff m2 m5).mp hm0
        refine ⟨numF sl.d, by simp [hs0, hm0], d1, d2.rep, d2.nonneg d3, ?_, ?_⟩
        · have := d2.le_int (2 ^ 53) (by norm_num) (by push_cast; linarith)
          exact_mod_cast this
        · have hV : V = numVal sl.d := by simp only [V, hWm, hWs]; ring
          rw [hV]
          rcases d5 with h0 | hlo
          · rw [h0, d2.zero h0]; simp
          · have := RN.relerr d2 (by
              rw [abs_of_nonneg d3]; exact le_trans (Dy.two_zpow_le (by norm_num)) hlo)
            rw [abs_of_nonneg d3] at this
            have := mul_nonneg d3 hu.le
            linarith
      · -- degrees and minutes
        have hWm : numVal sl.m ≠ 0 := fun h => hm0 (m2.zero h)
        have hdp := hlast_m hWm
        have hWd : numVal sl.d = sl.d.int := numVal_of_nopoint _ hdp
        obtain ⟨b1, b2'⟩ := fdm_mul_deg sl.d hdp hD
        obtain ⟨v1, v2, v3, v4, v5⟩ := tail_bound (F64.mul fdm (numF sl.d)) (numF sl.m) (60 * sl.d.int) (numVal sl.m) 60
          b1 b2' (by push_cast; linarith) m1 m2 m3 (by linarith) m5 hm0 (by norm_num) (by norm_num)
        refine ⟨_, by simp [hs0, hm0]; rfl, v1, v2, v3, v4, ?_⟩
        have hV : V = (((60 * sl.d.int : ℕ) : ℚ) + numVal sl.m) / ((60:ℕ):ℚ) := by
          simp only [V, hWs, hWd]; push_cast; ring
        rw [hV]; exact v5
    · -- degrees, minutes and seconds
      have hWs : numVal sl.s ≠ 0 := fun h => hs0 (s2.zero h)
      obtain ⟨hdp, hmp⟩ := hlast_s hWs
      obtain ⟨j1, j2⟩ := numF_int sl.m hmp (by omega)
      have hWd : numVal sl.d = sl.d.int := numVal_of_nopoint _ hdp
      have hWm : numVal sl.m = sl.m.int := numVal_of_nopoint _ hmp
      have hbig : 60 * (60 * sl.d.int + sl.m.int) + 60 ≤ 2 ^ 53 := by
        have : 3600 * (2:ℕ) ^ 41 ≤ 2 ^ 53 := by norm_num
        omega
      obtain ⟨a1, a2⟩ := fdm_mul_deg sl.d hdp hD
      obtain ⟨b1, b2⟩ := add_int_exact (F64.mul fdm (numF sl.d)) (numF sl.m) a1 j1 ((60 * sl.d.int + sl.m.int : ℕ) : ℤ) (by
        rw [abs_of_nonneg (by positivity)]
        exact_mod_cast (by omega : 60 * sl.d.int + sl.m.int ≤ 2 ^ 53)) (by rw [a2, j2]; push_cast; ring)
      obtain ⟨c1, c2⟩ := mul_int_exact fms (F64.add (F64.mul fdm (numF sl.d)) (numF sl.m)) rfl b1
        ((60 * (60 * sl.d.int + sl.m.int) : ℕ) : ℤ) (by
        rw [abs_of_nonneg (by positivity)]
        exact_mod_cast (by omega : 60 * (60 * sl.d.int + sl.m.int) ≤ 2 ^ 53)) (by rw [h60, b2]; push_cast; ring)
      have c2' : (F64.mul fms (F64.add (F64.mul fdm (numF sl.d)) (numF sl.m))).val
          = ((60 * (60 * sl.d.int + sl.m.int) : ℕ) : ℚ) := by rw [c2]; push_cast; ring
      obtain ⟨v1, v2, v3, v4, v5⟩ := tail_bound (F64.mul fms (F64.add (F64.mul fdm (numF sl.d)) (numF sl.m))) (numF sl.s)
        (60 * (60 * sl.d.int + sl.m.int)) (numVal sl.s) 3600
        c1 c2' (by exact_mod_cast hbig) s1 s2 s3 (by linarith) s5 hs0 (by norm_num) (by norm_num)
      refine ⟨_, by simp [hs0]; rfl, v1, v2, v3, v4, ?_⟩
      have hV : V = (((60 * (60 * sl.d.int + sl.m.int) : ℕ) : ℚ) + numVal sl.s) / ((3600:ℕ):ℚ) := by
        simp only [V, hWd, hWm]; push_cast; ring
      rw [hV]; exact v5
  obtain ⟨v0, hv0, w1, w2, w3, w4, w5⟩ := core
  rw [hv0]
  obtain ⟨g1, g2⟩ := sign_mul neg v0 w1 w2 (lt_huge_of_le53 (by rw [abs_of_nonneg w3]; exact w4))
  refine ⟨_, rfl, ⟨g1, ?_⟩, ?_, ?_⟩
  · rw [g2]; cases neg
    · exact w2
    · exact w2.neg
  · rw [g2, abs_ite_neg, abs_of_nonneg w3]; exact w4
  · rw [g2, abs_ite_neg_sub]; exact w5

theorem numOK_empty : NumOK {} := fun h => Bool.noConfusion h
theorem numVal_empty : numVal {} = 0 := by
  rw [numVal_of_nopoint _ rfl]; rfl
theorem numVal_int (I ni F p : ℕ) : numVal ⟨I, ni, false, F, p⟩ = I := numVal_of_nopoint _ rfl
theorem numVal_point (I ni F p : ℕ) : numVal ⟨I, ni, true, F, p⟩ = (I:ℚ) + (F:ℚ) / 10 ^ p := rfl

theorem evalSlots_degree (neg : Bool) (n : Num) (hD : n.int < 2 ^ 41) (hn : NumOK n) :
    let V : ℚ := numVal n
    ∃ v : F64, evalSlots neg { d := n } = .ok v ∧ F64.IsRep v ∧ |v.val| ≤ 2 ^ 53 ∧
      |v.val - (if neg then -V else V)| ≤ 4 * (2:ℚ) ^ (-(53:ℤ)) * V := by
  intro V
  obtain ⟨v, h1, h2, h3, h4⟩ := evalSlots_bound neg { d := n } ⟨hD, by show (0:ℕ) < 60; norm_num,
    by show (0:ℕ) < 60; norm_num, hn, numOK_empty, numOK_empty,
    fun h => absurd numVal_empty h, fun h => absurd numVal_empty h⟩
  have hV : slotsVal { d := n } = V := by
    show numVal n + numVal {} / 60 + numVal {} / 3600 = numVal n
    rw [numVal_empty]; ring
  rw [hV] at h4
  exact ⟨v, h1, h2, h3, h4⟩

theorem evalSlots_minute (neg : Bool) (D nd F0 p0 : ℕ) (n : Num) (hD : D < 2 ^ 41) (hM : n.int < 60) (hn : NumOK n) :
    let V : ℚ := (D:ℚ) + numVal n / 60
    ∃ v : F64, evalSlots neg { d := ⟨D, nd, false, F0, p0⟩, m := n } = .ok v ∧ F64.IsRep v ∧ |v.val| ≤ 2 ^ 53 ∧
      |v.val - (if neg then -V else V)| ≤ 4 * (2:ℚ) ^ (-(53:ℤ)) * V := by
  intro V
  obtain ⟨v, h1, h2, h3, h4⟩ := evalSlots_bound neg { d := ⟨D, nd, false, F0, p0⟩, m := n } ⟨hD, hM,
    by show (0:ℕ) < 60; norm_num, fun h => Bool.noConfusion h, hn, numOK_empty,
    fun h => absurd numVal_empty h, fun _ => rfl⟩
  have hV : slotsVal { d := ⟨D, nd, false, F0, p0⟩, m := n } = V := by
    show numVal (⟨D, nd, false, F0, p0⟩ : Num) + numVal n / 60 + numVal {} / 3600 = V
    rw [numVal_empty, numVal_int]; ring
  exact ⟨v, h1, h2, h3, by rw [← hV]; exact h4⟩

theorem evalSlots_second (neg : Bool) (D nd F0 p0 M nm F1 p1 : ℕ) (n : Num) (hD : D < 2 ^ 41) (hM : M < 60)
    (hS : n.int < 60) (hn : NumOK n) :
    let V : ℚ := (D:ℚ) + (M:ℚ) / 60 + numVal n / 3600
    ∃ v : F64, evalSlots neg { d := ⟨D, nd, false, F0, p0⟩, m := ⟨M, nm, false, F1, p1⟩, s := n } = .ok v ∧
      F64.IsRep v ∧ |v.val| ≤ 2 ^ 53 ∧
      |v.val - (if neg then -V else V)| ≤ 4 * (2:ℚ) ^ (-(53:ℤ)) * V := by
  intro V
  obtain ⟨v, h1, h2, h3, h4⟩ := evalSlots_bound neg { d := ⟨D, nd, false, F0, p0⟩, m := ⟨M, nm, false, F1, p1⟩, s := n }
    ⟨hD, hM, hS, fun h => Bool.noConfusion h, fun h => Bool.noConfusion h, hn, fun _ => ⟨rfl, rfl⟩, fun _ => rfl⟩
  have hV : slotsVal { d := ⟨D, nd, false, F0, p0⟩, m := ⟨M, nm, false, F1, p1⟩, s := n } = V := by
    show numVal (⟨D, nd, false, F0, p0⟩ : Num) + numVal (⟨M, nm, false, F1, p1⟩ : Num) / 60 + numVal n / 3600 = V
    rw [numVal_int, numVal_int]
  exact ⟨v, h1, h2, h3, by rw [← hV]; exact h4⟩

/-! non-vacuity: `12d34'56.789"` -/
example : (12:ℕ) < 2 ^ 41 ∧ (34:ℕ) < 60 ∧ (⟨56, 2, true, 789, 3⟩ : Num).int < 60 ∧ NumOK ⟨56, 2, true, 789, 3⟩ :=
  ⟨by norm_num, by norm_num, by show (56:ℕ) < 60; norm_num, fun _ => ⟨by show (3:ℕ) ≤ 15; norm_num, by show (789:ℕ) < 10 ^ 3; norm_num⟩⟩

/-- `decode` adds the first piece to `-0`: exact -/
theorem add_nzero_exact (v : F64) (hv : F64.IsRep v) (hb : |v.val| < (2:ℚ) ^ (1024:ℤ)) :
    (F64.add F64.nzero v).isFinite = true ∧ (F64.add F64.nzero v).val = v.val := by
  have h0 : F64.nzero.val + v.val = v.val := by
    rw [show F64.nzero.val = 0 from F64.val_fin_zero _ _, zero_add]
  rw [← h0]
  exact F64.add_exact F64.nzero v rfl hv.1 (by rw [h0]; exact hv.2) (by rw [h0]; exact hb)

theorem fixedUnits_int (x : F64) (hx : x.isFinite = true) (n : ℕ) (h : x.val = n) : fixedUnits x 0 = n := by
  have := fixedUnits_half' x hx (by rw [h]; positivity) 0
  rw [h, pow_zero, mul_one] at this
  obtain ⟨a, b⟩ := abs_le.mp this
  have h1 : ((fixedUnits x 0 : ℕ) : ℚ) < ((n + 1 : ℕ) : ℚ) := by push_cast; linarith
  have h2 : ((n : ℕ) : ℚ) < ((fixedUnits x 0 + 1 : ℕ) : ℚ) := by push_cast; linarith
  have h1' : fixedUnits x 0 < n + 1 := by exact_mod_cast h1
  have h2' : n < fixedUnits x 0 + 1 := by exact_mod_cast h2
  omega

/-- the degrees field of `Encode`: carry `cd` plus the whole degrees, exact -/
theorem add_carry_exact (cd : ℕ) (idg : F64) (hf : idg.isFinite = true) (k : ℕ) (hk : idg.val = k)
    (hb : cd + k ≤ 2 ^ 53) :
    (F64.add (F64.ofNat cd) idg).isFinite = true ∧ (F64.add (F64.ofNat cd) idg).val = ((cd + k : ℕ) : ℚ) := by
  obtain ⟨a1, a2⟩ := add_int_exact (F64.ofNat cd) idg rfl hf ((cd + k : ℕ) : ℤ)
    (by rw [abs_of_nonneg (by positivity)]; exact_mod_cast hb) (by rw [F64.ofNat_val, hk]; push_cast; ring)
  exact ⟨a1, by rw [a2]; push_cast; ring⟩

/-- reading back the `%.*f` digits of `x`: half a unit of the last digit plus one rounding -/
theorem ofDec_fixedUnits (x : F64) (hx : x.isFinite = true) (hb : |x.val| ≤ 2 ^ 52) (p : ℕ) (hp : p ≤ 30) :
    (ofDec (fixedUnits x p) p).isFinite = true ∧
    |((ofDec (fixedUnits x p) p).val - |x.val|)| ≤ (1 / 2) / 10 ^ p + (2:ℚ) ^ (-(53:ℤ)) * (|x.val| + 1) := by
  obtain ⟨s, m, e, rfl⟩ := F64.exists_fin_of_isFinite x hx
  have hN := fixedUnits_half s m e p
  set N := fixedUnits (F64.fin s m e) p with hNdef
  set y := |(F64.fin s m e).val| with hy
  have hy0 : 0 ≤ y := abs_nonneg _
  have hT : (0:ℚ) < 10 ^ p := by positivity
  have hu := two_m53_pos
  obtain ⟨n1, n2⟩ := abs_le.mp hN
  have hdiv : |(N:ℚ) / 10 ^ p - y| ≤ (1 / 2) / 10 ^ p := by
    have e1 : (N:ℚ) / 10 ^ p - y = ((N:ℚ) - y * 10 ^ p) / 10 ^ p := by field_simp
    rw [e1, abs_div, abs_of_pos hT]
    exact div_le_div_of_nonneg_right hN hT.le
  by_cases h0 : N = 0
  · rw [h0]
    rw [ofDec_zero]
    refine ⟨rfl, ?_⟩
    have hz : F64.pzero.val = 0 := F64.val_fin_zero _ _
    rw [hz]
    rw [h0] at hdiv
    simp only [Nat.cast_zero, zero_div] at hdiv
    have : 0 ≤ (2:ℚ) ^ (-(53:ℤ)) * (y + 1) := by positivity
    linarith
  · obtain ⟨d1, d2⟩ := abs_le.mp hdiv
    have h10 : (1:ℚ) ≤ 10 ^ p := one_le_pow₀ (by norm_num)
    have hT1 : (1 / 2 : ℚ) / 10 ^ p ≤ 1 / 2 := by
      rw [div_le_iff₀ hT]; linarith
    have hz0 : (0:ℚ) ≤ (N:ℚ) / 10 ^ p := by positivity
    have hzle : (N:ℚ) / 10 ^ p ≤ y + 1 / 2 := by linarith
    have hNlt : N < 10 ^ 320 := by
      apply lt_of_lt_of_le (b := 10 ^ 47)
      · have h1 : (N:ℚ) ≤ 2 ^ 52 * 10 ^ p + 1 / 2 := by
          have := mul_le_mul_of_nonneg_right hb hT.le
          linarith
        have h2 : (10:ℚ) ^ p ≤ 10 ^ 30 := pow_le_pow_right₀ (by norm_num) hp
        have h3 : (N:ℚ) < ((10 ^ 47 : ℕ) : ℚ) := by
          push_cast
          have : (2:ℚ) ^ 52 * 10 ^ 30 + 1 / 2 < 10 ^ 47 := by norm_num
          have := mul_le_mul_of_nonneg_left h2 (by norm_num : (0:ℚ) ≤ 2 ^ 52)
          linarith
        exact_mod_cast h3
      · exact pow_le_pow_right₀ (by norm_num) (by norm_num)
    obtain ⟨r, hr, hf⟩ := ofDec_isRN N p h0 (by omega) hNlt
    have hrle : |r| ≤ (2:ℚ) ^ (53:ℤ) := RN.abs_le_zpow hr 53 (by norm_num) (by
      rw [abs_of_nonneg hz0]
      have : (2:ℚ) ^ (53:ℤ) = 2 ^ 53 := by norm_num
      rw [this]
      have : (2:ℚ) ^ 52 + 1 / 2 ≤ 2 ^ 53 := by norm_num
      linarith)
    obtain ⟨f1, f2⟩ := hf (lt_of_le_of_lt hrle (Dy.two_zpow_lt_iff.mpr (by norm_num)))
    refine ⟨f1, ?_⟩
    rw [f2]
    have herr := IsRN.err hr
    rw [abs_of_nonneg hz0] at herr
    have hmax : max ((N:ℚ) / 10 ^ p * (2:ℚ) ^ (-((53:ℕ):ℤ))) ((2:ℚ) ^ ((-1074:ℤ) - 1)) ≤ (2:ℚ) ^ (-(53:ℤ)) * (y + 1) := by
      apply max_le
      · have := mul_le_mul_of_nonneg_right hzle hu.le
        push_cast; linarith
      · have h3 : (2:ℚ) ^ ((-1074:ℤ) - 1) ≤ (2:ℚ) ^ (-(53:ℤ)) := Dy.two_zpow_le (by norm_num)
        exact le_trans h3 (le_mul_of_one_le_right hu.le (by linarith))
    have : |r - y| ≤ |r - (N:ℚ) / 10 ^ p| + |(N:ℚ) / 10 ^ p - y| := by
      have := abs_add_le (r - (N:ℚ) / 10 ^ p) ((N:ℚ) / 10 ^ p - y)
      rwa [show r - (N:ℚ) / 10 ^ p + ((N:ℚ) / 10 ^ p - y) = r - y by ring] at this
    linarith

example : (F64.fin false 21 (-1)).isFinite = true ∧ |(F64.fin false 21 (-1)).val| ≤ 2 ^ 52 := by
  refine ⟨rfl, ?_⟩
  rw [abs_val_fin]; norm_num
end GeoVerif.DMSProofs
