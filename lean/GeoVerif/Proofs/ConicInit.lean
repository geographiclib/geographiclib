import GeoVerif.Proofs.Conic
import GeoVerif.Proofs.ConicDD
import Mathlib.Tactic.Ring
import Mathlib.Tactic.LinearCombination
import Mathlib.Tactic.FieldSimp
import Mathlib.Tactic.Positivity
import Mathlib.Tactic.NormNum
import Mathlib.Tactic.Linarith
/-!
# `Init` of the two conic classes over ℝ: the careful `1 − n` of `LambertConformalConic`, and `s`, `1 − s`, `C`, the Newton
function of `AlbersEqualArea`

In the long statements the exponents are ascribed, `x ^ (2 : ℕ)`: a bare `x ^ 2` costs the elaborator one default-instance round per
occurrence in the same expression, and with a dozen squares that is most of what checking the statement costs.
-/
namespace GeoVerif.Proofs.ConicInit
open GeoVerif GeoVerif.Conic GeoVerif.Proofs.Conic GeoVerif.Proofs.ConicDD

theorem one_le_hyp (x : ℝ) : 1 ≤ hyp x := by
  have h := hyp_sq x; have p := hyp_pos x
  nlinarith [sq_nonneg x]

theorem e2_eq (E : Ell ℝ) : E.e2 = 1 - E.fm ^ 2 := by rw [fm_sq]; ring

/-- the conformal secant: for `tchi = ch·t − sh·sc` (`ch = hyp sh`, `sc = hyp t`), `hyp tchi = ch·sc − sh·t` -/
theorem hyp_tchi (t sh : ℝ) : hyp (hyp sh * t - sh * hyp t) = hyp sh * hyp t - sh * t := by
  have h1 := hyp_sq t; have h2 := hyp_sq sh
  have p1 := hyp_pos t; have p2 := hyp_pos sh
  have a1 := abs_lt_hyp t; have a2 := abs_lt_hyp sh
  have hpos : 0 < hyp sh * hyp t - sh * t := by
    have : |sh * t| < hyp sh * hyp t := by
      rw [abs_mul]
      exact mul_lt_mul'' a2 a1 (abs_nonneg _) (abs_nonneg _)
    have := (abs_lt.mp this).2
    linarith
  rw [hyp_real]
  have e : 1 + (hyp sh * t - sh * hyp t) ^ 2 = (hyp sh * hyp t - sh * t) ^ 2 := by
    linear_combination (-(hyp t ^ 2 - t ^ 2)) * h2 - h1
  rw [e]
  exact Real.sqrt_sq hpos.le

/-- `s1 = scbet1² − scchi1²` (written without the two ones: `tbet1² − tchi1²`) -/
theorem lccS_eq (E : Ell ℝ) (t sh : ℝ) :
    lccS E.e2 t (hyp t) sh (hyp sh) = (E.fm * t) ^ (2 : ℕ) - (hyp sh * t - sh * hyp t) ^ (2 : ℕ) := by
  have h1 := hyp_sq t; have h2 := hyp_sq sh
  rw [e2_eq]
  unfold lccS
  simp only [sq_real, one_real, two_real]
  linear_combination (t ^ 2) * h2 + (sh ^ 2) * h1

/-- `t1 = scbet1 − tchi1`, both forms -/
theorem lccT_eq (s tchi scbet : ℝ) (hs : s + 1 = scbet ^ (2 : ℕ) - tchi ^ (2 : ℕ)) (hb : 0 < scbet) :
    lccT s tchi scbet = scbet - tchi := by
  unfold lccT
  simp only [ltb_real, zero_real, one_real, decide_eq_true_eq]
  split_ifs with h
  · rfl
  · rw [hs, div_eq_iff (by linarith [not_lt.mp h])]
    ring

/-- `1 + a1 = (tchi1 + scchi1)/(2 scbet1)` -/
theorem lccA_eq (s t tchi scchi scbet : ℝ) (hs : s = scbet ^ (2 : ℕ) - scchi ^ (2 : ℕ)) (ht : t = scbet - tchi) (hb : 0 < scbet) (hc : 0 < scchi) :
    1 + lccA s t scchi scbet = (tchi + scchi) / (2 * scbet) := by
  unfold lccA
  simp only [two_real]
  have h1 : scbet + scchi ≠ 0 := by positivity
  rw [hs, ht]
  field_simp
  ring

theorem lccSecMinusTan_eq (tb : ℝ) : lccSecMinusTan tb (hyp tb) = hyp tb - tb := by
  unfold lccSecMinusTan
  simp only [ltb_real, zero_real, one_real, decide_eq_true_eq]
  split_ifs
  · rw [div_eq_iff (by rw [add_comm]; exact (add_hyp_pos tb).ne')]
    linear_combination -hyp_sq tb
  · rfl

/-- `tbm = 1 − (tbet2 + tbet1)/(scbet2 + scbet1)` -/
theorem lccTbm_eq (tb1 tb2 : ℝ) : lccTbm tb1 (hyp tb1) tb2 (hyp tb2) = 1 - (tb2 + tb1) / (hyp tb2 + hyp tb1) := by
  have p1 := hyp_pos tb1; have p2 := hyp_pos tb2
  unfold lccTbm
  rw [lccSecMinusTan_eq, lccSecMinusTan_eq]
  field_simp
  ring

/-- `dbet = (scbet2 + scbet1)/fm − (scphi2 + scphi1)` -/
theorem lccDbet_eq (E : Ell ℝ) (t1 t2 : ℝ) (hfm : 0 < E.fm) :
    lccDbet E.e2 E.fm (hyp t1) (hyp (E.fm * t1)) (hyp t2) (hyp (E.fm * t2)) =
      (hyp (E.fm * t2) + hyp (E.fm * t1)) / E.fm - (hyp t2 + hyp t1) := by
  rw [e2_eq]
  generalize E.fm = fm at *
  -- `(1 − fm²)/(scbet + fm scphi) = scbet − fm scphi`
  have e : ∀ t : ℝ, (1 - fm ^ 2) / (hyp (fm * t) + fm * hyp t) = hyp (fm * t) - fm * hyp t := fun t => by
    rw [div_eq_iff (add_pos (hyp_pos _) (mul_pos hfm (hyp_pos _))).ne']
    linear_combination (fm ^ 2) * hyp_sq t - hyp_sq (fm * t)
  unfold lccDbet
  simp only [one_real]
  rw [show (1 - fm ^ 2) / fm * (1 / (hyp (fm * t2) + fm * hyp t2) + 1 / (hyp (fm * t1) + fm * hyp t1)) =
      ((1 - fm ^ 2) / (hyp (fm * t2) + fm * hyp t2) + (1 - fm ^ 2) / (hyp (fm * t1) + fm * hyp t1)) / fm by ring, e, e,
    show hyp (fm * t2) - fm * hyp t2 + (hyp (fm * t1) - fm * hyp t1) = hyp (fm * t2) + hyp (fm * t1) - fm * (hyp t2 + hyp t1) by ring,
    sub_div, mul_div_cancel_left₀ _ hfm.ne']

theorem one_sub_sn (t : ℝ) : 1 - t / hyp t = 1 / (hyp t * (t + hyp t)) := by
  have h := hyp_sq t; have p := hyp_pos t; have a := abs_lt_hyp t
  have : 0 < t + hyp t := by have := neg_abs_le t; linarith
  field_simp
  linear_combination h

/-- `dxiZ1 = Deatanhe(1, sphi1)·(1 − sphi1)` -/
theorem lccDxiZ_eq (e2 es t : ℝ) :
    lccDxiZ e2 es (t / hyp t) t (hyp t) = Deatanhe e2 es 1 (t / hyp t) * (1 - t / hyp t) := by
  unfold lccDxiZ
  simp only [one_real]
  rw [one_sub_sn]
  have p := hyp_pos t; have a := abs_lt_hyp t
  have : 0 < t + hyp t := by have := neg_abs_le t; linarith
  field_simp

/-- **`D(nu2, nu1)`**: with `dshxiZ = shxiZ − shxi`, `dchxiZ = chxiZ − chxi` (cosh and sinh of `xi`), `dxi = (xi2 − xi1)/(tphi2 − tphi1)`,
    either arm of the code is the divided difference of `nu = scphi·dshxiZ − tphi·dchxiZ` -/
theorem lccDnu12_eq (f t1 t2 x1 x2 shZ chZ : ℝ) (h12 : t1 ≠ t2) (dxi : ℝ) (hdxi : dxi * (t2 - t1) = x2 - x1) :
    lccDnu12 f t1 (hyp t1) x1 (Real.sinh x1) (hyp (Real.sinh x1)) (shZ - Real.sinh x1) (chZ - hyp (Real.sinh x1))
        t2 (hyp t2) x2 (Real.sinh x2) (hyp (Real.sinh x2)) (shZ - Real.sinh x2) (chZ - hyp (Real.sinh x2)) dxi =
      ((hyp t2 * (shZ - Real.sinh x2) - t2 * (chZ - hyp (Real.sinh x2))) -
        (hyp t1 * (shZ - Real.sinh x1) - t1 * (chZ - hyp (Real.sinh x1)))) / (t2 - t1) := by
  have hΔ : t2 - t1 ≠ 0 := sub_ne_zero.mpr (Ne.symm h12)
  have hs := Dsinh_mul x1 x2
  have hh := Dhyp_mul (Real.sinh x1) (Real.sinh x2)
  have ht := Dhyp_mul t1 t2
  set S := Dsinh x1 x2 (Real.sinh x1) (Real.sinh x2) (hyp (Real.sinh x1)) (hyp (Real.sinh x2)) with hS
  set H := Dhyp (Real.sinh x1) (Real.sinh x2) (hyp (Real.sinh x1)) (hyp (Real.sinh x2)) with hH
  set T := Dhyp t1 t2 (hyp t1) (hyp t2) with hT
  -- sinh and cosh differences through the chain of divided differences
  have e1 : S * dxi * (t2 - t1) = Real.sinh x2 - Real.sinh x1 := by linear_combination S * hdxi - hs
  have e2 : H * S * dxi * (t2 - t1) = hyp (Real.sinh x2) - hyp (Real.sinh x1) := by linear_combination H * e1 - hh
  have e3 : T * (t2 - t1) = hyp t2 - hyp t1 := by linear_combination -ht
  unfold lccDnu12
  simp only [ltb_real, two_real]
  rw [eq_div_iff hΔ]
  split
  · -- the branch of `lccDnu12` through divided differences
    linear_combination (shZ - Real.sinh x1 + (shZ - Real.sinh x2)) / 2 * e3 - (hyp t1 + hyp t2) / 2 * e1 + (t1 + t2) / 2 * e2
  · -- its branch through the quotient of the differences
    rw [sub_mul, add_mul, div_mul_cancel₀ _ hΔ]
    linear_combination (t1 + t2) / 2 * e2

/-- `dchia = amu12 − dnu12·(scphi2 + scphi1)` of the careful `1 − n` in terms of `tan χ = ch·t − sh·sc` and `sec χ = ch·sc − sh·t`:
    `(scchi1 + scchi2) − dtchi·(scphi2 + scphi1)`; the terms in `sinh ξZ`, `cosh ξZ` cancel -/
theorem lcc_dchia (t1 t2 sc1 sc2 sh1 sh2 ch1 ch2 shZ chZ : ℝ) (hΔ : t2 - t1 ≠ 0)
    (hsc1 : sc1 ^ (2 : ℕ) = 1 + t1 ^ (2 : ℕ)) (hsc2 : sc2 ^ (2 : ℕ) = 1 + t2 ^ (2 : ℕ)) :
    -(sc1 * (chZ - ch1)) + t1 * (shZ - sh1) - sc2 * (chZ - ch2) + t2 * (shZ - sh2) -
        ((sc2 * (shZ - sh2) - t2 * (chZ - ch2)) - (sc1 * (shZ - sh1) - t1 * (chZ - ch1))) / (t2 - t1) * (sc2 + sc1) =
      (ch1 * sc1 - sh1 * t1) + (ch2 * sc2 - sh2 * t2) - ((ch2 * t2 - sh2 * sc2) - (ch1 * t1 - sh1 * sc1)) / (t2 - t1) * (sc2 + sc1) := by
  rw [sub_eq_sub_iff_sub_eq_sub, ← sub_mul, ← sub_div, div_mul_eq_mul_div, eq_div_iff hΔ]
  linear_combination shZ * hsc1 - shZ * hsc2

/-- the algebraic core of the careful `1 − n`, `T = tan χ`, `S = sec χ`, `tb = tan β`, `sb = sec β`, `Δ = tphi2 − tphi1`:
    `fm·(tbm − tam)·(e^ψ2 + e^ψ1)/(4 scbet1 scbet2)` is the divided difference of `e^ψ/(2 scbet)` -/
theorem lcc_core_algebra (fm Δ tb1 tb2 sc T1 T2 S1 S2 sb1 sb2 : ℝ) (hfm : fm ≠ 0) (hΔ : Δ ≠ 0)
    (hST1 : S1 ^ (2 : ℕ) - T1 ^ (2 : ℕ) = 1) (hST2 : S2 ^ (2 : ℕ) - T2 ^ (2 : ℕ) = 1)
    (hsb1 : sb1 ^ (2 : ℕ) = 1 + tb1 ^ (2 : ℕ)) (hsb2 : sb2 ^ (2 : ℕ) = 1 + tb2 ^ (2 : ℕ)) (htb : tb2 - tb1 = fm * Δ)
    (psb1 : 0 < sb1) (psb2 : 0 < sb2) (pS1 : 0 < S1) (pS2 : 0 < S2) (pE1 : 0 < T1 + S1) (pE2 : 0 < T2 + S2) :
    (T2 + S2 + (T1 + S1)) / (4 * sb1 * sb2) * fm *
        (1 - (tb2 + tb1) / (sb2 + sb1) - (S1 + S2 - (T2 - T1) / Δ * sc - (T2 - T1) / Δ * ((sb2 + sb1) / fm - sc)) / (S1 + S2)) =
      ((T2 + S2) / (2 * sb2) - (T1 + S1) / (2 * sb1)) / Δ := by
  have hS : S1 + S2 ≠ 0 := (add_pos pS1 pS2).ne'
  have hE : T2 + S2 + (T1 + S1) ≠ 0 := (add_pos pE2 pE1).ne'
  have hsb : sb2 + sb1 ≠ 0 := (add_pos psb2 psb1).ne'
  -- `S² − T² = 1` turns the difference of `T` into that of `e^ψ = T + S`
  have hX : (T2 - T1) / (S1 + S2) = (T2 + S2 - (T1 + S1)) / (T2 + S2 + (T1 + S1)) := by
    rw [div_eq_div_iff hS hE]; linear_combination hST1 - hST2
  have hY : (tb2 + tb1) / (sb2 + sb1) = (sb2 - sb1) / (fm * Δ) := by
    rw [← htb, div_eq_div_iff hsb (by rw [htb]; exact mul_ne_zero hfm hΔ)]; linear_combination hsb1 - hsb2
  have htam : (S1 + S2 - (T2 - T1) / Δ * sc - (T2 - T1) / Δ * ((sb2 + sb1) / fm - sc)) / (S1 + S2) =
      1 - (T2 - T1) / (S1 + S2) * ((sb2 + sb1) / (fm * Δ)) := by
    rw [div_eq_iff hS, sub_mul, one_mul, mul_right_comm, div_mul_cancel₀ _ hS]; field_simp; ring
  rw [hY, htam, hX]
  field_simp
  ring

/-- the conformal tangent `tan χ = cosh ξ · tan φ − sinh ξ · sec φ` from `tan φ` and `ξ = eatanhe(sin φ)` -/
noncomputable def tchiR (t x : ℝ) : ℝ := hyp (Real.sinh x) * t - Real.sinh x * hyp t

theorem arsinh_tchiR (t x : ℝ) : Real.arsinh (tchiR t x) = Real.arsinh t - x := by
  have h : Real.sinh (Real.arsinh t - x) = tchiR t x := by
    rw [Real.sinh_sub, Real.sinh_arsinh, Real.cosh_arsinh, ← hyp_real, ← hyp_sinh]
    unfold tchiR; ring
  rw [← h, Real.arsinh_sinh]

/-- One parallel of the careful `1 − n`, `T = tan χ`, `sb = sec β`: the coded `s`, `t` are `tbet² − tchi²`, `scbet − tchi`, and the coded
    `a` has `1 + a = e^ψ/(2 scbet)` -/
theorem lcc_parallel (E : Ell ℝ) (t x : ℝ) :
    lccS E.e2 t (hyp t) (Real.sinh x) (hyp (Real.sinh x)) = (E.fm * t) ^ (2 : ℕ) - tchiR t x ^ (2 : ℕ) ∧
    lccT ((E.fm * t) ^ (2 : ℕ) - tchiR t x ^ (2 : ℕ)) (tchiR t x) (hyp (E.fm * t)) = hyp (E.fm * t) - tchiR t x ∧
    1 + lccA ((E.fm * t) ^ (2 : ℕ) - tchiR t x ^ (2 : ℕ)) (hyp (E.fm * t) - tchiR t x) (hyp (tchiR t x)) (hyp (E.fm * t)) =
      Real.exp (Real.arsinh (tchiR t x)) / (2 * hyp (E.fm * t)) := by
  have hb := hyp_sq (E.fm * t); have pb := hyp_pos (E.fm * t)
  refine ⟨lccS_eq E t (Real.sinh x), lccT_eq _ _ _ (by linear_combination -hb) pb, ?_⟩
  rw [lccA_eq _ _ (tchiR t x) _ _ (by linear_combination hyp_sq (tchiR t x) - hb) rfl pb (hyp_pos _), exp_arsinh_hyp]

theorem log_of_one_add {a ψ sb : ℝ} (h : 1 + a = Real.exp ψ / (2 * sb)) (psb : 0 < sb) :
    -1 < a ∧ Real.log (1 + a) = ψ - Real.log 2 - Real.log sb := by
  have : 0 < Real.exp ψ / (2 * sb) := div_pos (Real.exp_pos ψ) (by positivity)
  refine ⟨by linarith, ?_⟩
  rw [h, Real.log_div (Real.exp_pos _).ne' (by positivity), Real.log_exp, Real.log_mul two_ne_zero psb.ne']
  ring

theorem lccOneMinusN_eq (E : Ell ℝ) (t1 t2 x1 x2 den n : ℝ) (hfm : 0 < E.fm) (h12 : t1 ≠ t2)
    (hDe1 : Deatanhe E.e2 E.es 1 (t1 / hyp t1) * (1 - t1 / hyp t1) = eatanhe 1 E.es - x1)
    (hDe2 : Deatanhe E.e2 E.es 1 (t2 / hyp t2) * (1 - t2 / hyp t2) = eatanhe 1 E.es - x2)
    (hDe12 : Deatanhe E.e2 E.es (t1 / hyp t1) (t2 / hyp t2) * (t1 / hyp t1 - t2 / hyp t2) = x1 - x2)
    (hden : den * (t2 - t1) = Real.arsinh (tchiR t2 x2) - Real.arsinh (tchiR t1 x1)) (hden0 : den ≠ 0)
    (hn : n * den * (t2 - t1) = Real.log (hyp (E.fm * t2)) - Real.log (hyp (E.fm * t1))) :
    lccOneMinusN E den
        (t1 / hyp t1) t1 (hyp t1) (Real.sinh x1) (hyp (Real.sinh x1)) x1 (tchiR t1 x1) (hyp (tchiR t1 x1)) (E.fm * t1) (hyp (E.fm * t1))
        (t2 / hyp t2) t2 (hyp t2) (Real.sinh x2) (hyp (Real.sinh x2)) x2 (tchiR t2 x2) (hyp (tchiR t2 x2)) (E.fm * t2) (hyp (E.fm * t2))
      = 1 - n := by
  have hΔ : t2 - t1 ≠ 0 := sub_ne_zero.mpr (Ne.symm h12)
  have hdenΔ : den * (t2 - t1) ≠ 0 := mul_ne_zero hden0 hΔ
  obtain ⟨hs1, ht1, ha1⟩ := lcc_parallel E t1 x1
  obtain ⟨hs2, ht2, ha2⟩ := lcc_parallel E t2 x2
  set fm := E.fm
  have hS1 : hyp (tchiR t1 x1) = hyp (Real.sinh x1) * hyp t1 - Real.sinh x1 * t1 := hyp_tchi t1 _
  have hS2 : hyp (tchiR t2 x2) = hyp (Real.sinh x2) * hyp t2 - Real.sinh x2 * t2 := hyp_tchi t2 _
  have hT1 : tchiR t1 x1 = hyp (Real.sinh x1) * t1 - Real.sinh x1 * hyp t1 := rfl
  have hT2 : tchiR t2 x2 = hyp (Real.sinh x2) * t2 - Real.sinh x2 * hyp t2 := rfl
  set T1 := tchiR t1 x1
  set T2 := tchiR t2 x2
  set sb1 := hyp (fm * t1)
  set sb2 := hyp (fm * t2)
  have psb1 : 0 < sb1 := hyp_pos _
  have psb2 : 0 < sb2 := hyp_pos _
  set a1 := lccA ((fm * t1) ^ 2 - T1 ^ 2) (sb1 - T1) (hyp T1) sb1
  set a2 := lccA ((fm * t2) ^ 2 - T2 ^ 2) (sb2 - T2) (hyp T2) sb2
  obtain ⟨pa1, hlog1⟩ := log_of_one_add ha1 psb1
  obtain ⟨pa2, hlog2⟩ := log_of_one_add ha2 psb2
  rw [exp_arsinh_hyp] at ha1 ha2
  have hW : Dlog1p a2 a1 * (a2 - a1) = (1 - n) * (den * (t2 - t1)) := by
    rw [Dlog1p_mul a2 a1 pa2 pa1, hlog1, hlog2]
    linear_combination hn - hden
  have hda : a2 - a1 = (T2 + hyp T2) / (2 * sb2) - (T1 + hyp T1) / (2 * sb1) := by linear_combination ha2 - ha1
  -- `dtchi = den / Dasinh(tchi2, tchi1)` is the divided difference of `tchi`
  have hDa : Dasinh T2 T1 (hyp T2) (hyp T1) * (T2 - T1) = den * (t2 - t1) := by rw [hden]; exact Dasinh_mul T2 T1
  have hDane : Dasinh T2 T1 (hyp T2) (hyp T1) ≠ 0 := left_ne_zero_of_mul (hDa ▸ hdenΔ)
  have hdtchi : den / Dasinh T2 T1 (hyp T2) (hyp T1) = (T2 - T1) / (t2 - t1) := by
    rw [div_eq_div_iff hDane hΔ]; linear_combination -hDa
  -- the differences of the hyperbolic functions of `xi`
  set xiZ := eatanhe 1 E.es
  have hdx1 : lccDxiZ E.e2 E.es (t1 / hyp t1) t1 (hyp t1) = xiZ - x1 := by rw [lccDxiZ_eq]; exact hDe1
  have hdx2 : lccDxiZ E.e2 E.es (t2 / hyp t2) t2 (hyp t2) = xiZ - x2 := by rw [lccDxiZ_eq]; exact hDe2
  have hdxi : Deatanhe E.e2 E.es (t1 / hyp t1) (t2 / hyp t2) * Dsn t2 t1 (t2 / hyp t2) (t1 / hyp t1) * (t2 - t1) = x2 - x1 := by
    rw [mul_assoc, Dsn_mul t2 t1]
    linear_combination -hDe12
  have hnu := lccDnu12_eq E.f t1 t2 x1 x2 (Real.sinh xiZ) (hyp (Real.sinh xiZ)) h12 _ hdxi
  have hdchia := lcc_dchia t1 t2 (hyp t1) (hyp t2) (Real.sinh x1) (Real.sinh x2) (hyp (Real.sinh x1)) (hyp (Real.sinh x2))
    (Real.sinh xiZ) (hyp (Real.sinh xiZ)) hΔ (hyp_sq t1) (hyp_sq t2)
  rw [← hT1, ← hT2, ← hS1, ← hS2] at hdchia
  have hcore := lcc_core_algebra fm (t2 - t1) (fm * t1) (fm * t2) (hyp t2 + hyp t1) T1 T2 (hyp T1) (hyp T2) sb1 sb2 hfm.ne' hΔ
    (sub_eq_of_eq_add (hyp_sq T1)) (sub_eq_of_eq_add (hyp_sq T2)) (hyp_sq _) (hyp_sq _) (mul_sub fm t2 t1).symm psb1 psb2
    (hyp_pos T1) (hyp_pos T2) (add_hyp_pos T1) (add_hyp_pos T2)
  unfold lccOneMinusN
  simp only [sinh_real, four_real, one_real]
  rw [hs1, hs2, ht1, ht2, epPsi_real, epPsi_real, exp_arsinh_hyp, exp_arsinh_hyp, hdtchi, hdx1, hdx2, Dsinh_mul, Dsinh_mul,
    Dhyp_mul, Dhyp_mul, hnu, lccTbm_eq, lccDbet_eq E t1 t2 hfm, hdchia, mul_assoc (Dlog1p a2 a1 / den), hcore, ← hda,
    div_mul_div_comm, hW, mul_div_assoc, div_self hdenΔ, mul_one]

/-- the numerator of `n`: `D ln sec β` -/
theorem lccNraw_num (fm t1 t2 : ℝ) :
    Dlog1p (RealLike.sq (fm * t2) / (1 + hyp (fm * t2))) (RealLike.sq (fm * t1) / (1 + hyp (fm * t1))) *
        Dhyp (fm * t2) (fm * t1) (hyp (fm * t2)) (hyp (fm * t1)) * fm * (t2 - t1) =
      Real.log (hyp (fm * t2)) - Real.log (hyp (fm * t1)) := by
  have p1 := one_le_hyp (fm * t1); have p2 := one_le_hyp (fm * t2)
  rw [sq_over_one_add_hyp, sq_over_one_add_hyp]
  have hm := Dlog1p_mul (hyp (fm * t2) - 1) (hyp (fm * t1) - 1) (by linarith) (by linarith)
  have hh := Dhyp_mul (fm * t2) (fm * t1)
  have e1 : (1 : ℝ) + (hyp (fm * t2) - 1) = hyp (fm * t2) := by ring
  have e2 : (1 : ℝ) + (hyp (fm * t1) - 1) = hyp (fm * t1) := by ring
  rw [e1, e2] at hm
  rw [← hm]
  have : Dhyp (fm * t2) (fm * t1) (hyp (fm * t2)) (hyp (fm * t1)) * fm * (t2 - t1) =
      Dhyp (fm * t2) (fm * t1) (hyp (fm * t2)) (hyp (fm * t1)) * (fm * t2 - fm * t1) := by ring
  calc _ = Dlog1p (hyp (fm * t2) - 1) (hyp (fm * t1) - 1) *
        (Dhyp (fm * t2) (fm * t1) (hyp (fm * t2)) (hyp (fm * t1)) * fm * (t2 - t1)) := by ring
    _ = _ := by rw [this, hh]; ring_nf

theorem lccNraw_closed (E : Ell ℝ) (t1 t2 x1 x2 : ℝ) (h12 : t1 ≠ t2)
    (hDe : Deatanhe E.e2 E.es (t2 / hyp t2) (t1 / hyp t1) * (t2 / hyp t2 - t1 / hyp t1) = x2 - x1) :
    let nd := lccNraw E (t1 / hyp t1) t1 (hyp t1) (E.fm * t1) (hyp (E.fm * t1)) (t2 / hyp t2) t2 (hyp t2) (E.fm * t2) (hyp (E.fm * t2))
    nd.2 * (t2 - t1) = (Real.arsinh t2 - x2) - (Real.arsinh t1 - x1) ∧
    (nd.2 ≠ 0 → nd.1 * nd.2 * (t2 - t1) = Real.log (hyp (E.fm * t2)) - Real.log (hyp (E.fm * t1))) := by
  intro nd
  have hΔ : t2 - t1 ≠ 0 := sub_ne_zero.mpr (Ne.symm h12)
  have hden : nd.2 * (t2 - t1) = (Real.arsinh t2 - x2) - (Real.arsinh t1 - x1) := by
    show (Dasinh t2 t1 (hyp t2) (hyp t1) - Deatanhe E.e2 E.es (t2 / hyp t2) (t1 / hyp t1) * Dsn t2 t1 (t2 / hyp t2) (t1 / hyp t1)) * (t2 - t1) = _
    have h1 := Dasinh_mul t2 t1
    have h2 := Dsn_mul t2 t1
    calc _ = Dasinh t2 t1 (hyp t2) (hyp t1) * (t2 - t1) -
          Deatanhe E.e2 E.es (t2 / hyp t2) (t1 / hyp t1) * (Dsn t2 t1 (t2 / hyp t2) (t1 / hyp t1) * (t2 - t1)) := by ring
      _ = _ := by rw [h1, h2, hDe]; ring
  refine ⟨hden, fun h0 => ?_⟩
  have hnum := lccNraw_num E.fm t1 t2
  have e : nd.1 = Dlog1p (RealLike.sq (E.fm * t2) / (1 + hyp (E.fm * t2))) (RealLike.sq (E.fm * t1) / (1 + hyp (E.fm * t1))) *
        Dhyp (E.fm * t2) (E.fm * t1) (hyp (E.fm * t2)) (hyp (E.fm * t1)) * E.fm / nd.2 := by
    simp only [nd, lccNraw, one_real]
  rw [e, ← hnum]
  field_simp

theorem lccNcCareful_eq (E : Ell ℝ) (t1 t2 x1 x2 : ℝ) (hfm : 0 < E.fm) (h12 : t1 ≠ t2)
    (hDe1 : Deatanhe E.e2 E.es 1 (t1 / hyp t1) * (1 - t1 / hyp t1) = eatanhe 1 E.es - x1)
    (hDe2 : Deatanhe E.e2 E.es 1 (t2 / hyp t2) * (1 - t2 / hyp t2) = eatanhe 1 E.es - x2)
    (hDe12 : Deatanhe E.e2 E.es (t1 / hyp t1) (t2 / hyp t2) * (t1 / hyp t1 - t2 / hyp t2) = x1 - x2)
    (hDe21 : Deatanhe E.e2 E.es (t2 / hyp t2) (t1 / hyp t1) * (t2 / hyp t2 - t1 / hyp t1) = x2 - x1)
    (hψ : Real.arsinh t2 - x2 ≠ Real.arsinh t1 - x1) :
    let nd := lccNraw E (t1 / hyp t1) t1 (hyp t1) (E.fm * t1) (hyp (E.fm * t1)) (t2 / hyp t2) t2 (hyp t2) (E.fm * t2) (hyp (E.fm * t2))
    lccNcCareful E nd.1 nd.2
        (t1 / hyp t1) t1 (hyp t1) (Real.sinh x1) (hyp (Real.sinh x1)) x1 (tchiR t1 x1) (hyp (tchiR t1 x1)) (E.fm * t1) (hyp (E.fm * t1))
        (t2 / hyp t2) t2 (hyp t2) (Real.sinh x2) (hyp (Real.sinh x2)) x2 (tchiR t2 x2) (hyp (tchiR t2 x2)) (E.fm * t2) (hyp (E.fm * t2))
      = Real.sqrt (max 0 (1 - nd.1) * (1 + nd.1)) := by
  intro nd
  have hΔ : t2 - t1 ≠ 0 := sub_ne_zero.mpr (Ne.symm h12)
  obtain ⟨hden, hn⟩ := lccNraw_closed E t1 t2 x1 x2 h12 hDe21
  have hden0 : nd.2 ≠ 0 := by
    intro h
    have h' : nd.2 * (t2 - t1) = 0 := by rw [h, zero_mul]
    have : (Real.arsinh t2 - x2) - (Real.arsinh t1 - x1) = 0 := by
      rw [← hden]; exact h'
    apply hψ; linarith
  have hden' : nd.2 * (t2 - t1) = Real.arsinh (tchiR t2 x2) - Real.arsinh (tchiR t1 x1) := by
    rw [arsinh_tchiR, arsinh_tchiR]; exact hden
  have h1 := lccOneMinusN_eq E t1 t2 x1 x2 nd.2 nd.1 hfm h12 hDe1 hDe2 hDe12 hden' hden0 (hn hden0)
  unfold lccNcCareful
  simp only [fmax_real, zero_real, one_real, sqrt_real]
  rw [h1]

theorem hyp_tan (s c : ℝ) (hc : 0 < c) (hsc : s ^ (2 : ℕ) + c ^ (2 : ℕ) = 1) : hyp (s / c) = 1 / c := by
  rw [hyp_real]
  have : 1 + (s / c) ^ 2 = (1 / c) ^ 2 := by field_simp; linarith
  rw [this, Real.sqrt_sq (by positivity)]

theorem albRatio_eq (sphi cphi sxi cxi : ℝ) (hc : 0 < cphi) (hsc : sphi ^ (2 : ℕ) + cphi ^ (2 : ℕ) = 1) (hx : sxi ^ (2 : ℕ) + cxi ^ (2 : ℕ) = 1) (hcx : 0 < cxi) :
    albRatio sphi cphi sxi cxi = (1 - sxi) / (1 - sphi) := by
  obtain ⟨_, h1⟩ := sin_bounds hc hsc
  obtain ⟨h2, _⟩ := sin_bounds hcx hx
  unfold albRatio
  simp only [leb_real, zero_real, one_real, sq_real, decide_eq_true_eq]
  split_ifs
  · rfl
  · rw [div_eq_div_iff (by linarith) (by linarith), div_pow, div_mul_eq_mul_div, div_mul_eq_mul_div, div_eq_iff (pow_ne_zero 2 hc.ne')]
    linear_combination cphi ^ 2 * hx - cxi ^ 2 * hsc

theorem albOneMinus_eq (sphi cphi : ℝ) (hsc : sphi ^ (2 : ℕ) + cphi ^ (2 : ℕ) = 1) (hc : 0 < cphi) : albOneMinus sphi cphi = 1 - sphi := by
  obtain ⟨h1, _⟩ := sin_bounds hc hsc
  unfold albOneMinus
  simp only [leb_real, zero_real, one_real, sq_real, decide_eq_true_eq]
  split_ifs
  · rfl
  · rw [div_eq_iff (by linarith)]
    linear_combination hsc

/-- the product rule for divided differences, in the shape `AlbersEqualArea::Init` codes `1 − s`: if `F` and `R` have the divided
    differences `−A/B` and `N/Q` over the step `δ`, then `−(R₂ + R₁)·A/B + (F₂ + F₁)·N/Q` is twice that of `F·R` -/
theorem dd_product (F1 F2 R1 R2 A B N Q δ : ℝ) (hB : B ≠ 0) (hQ : Q ≠ 0)
    (hF : (F2 - F1) * B = -A * δ) (hR : (R2 - R1) * Q = N * δ) :
    (-(R2 + R1) * A / B + (F2 + F1) * N / Q) * δ = 2 * (F2 * R2 - F1 * R1) := by
  have eF : -(R2 + R1) * A / B * δ = (R2 + R1) * (F2 - F1) := by
    rw [div_mul_eq_mul_div, div_eq_iff hB]; linear_combination -(R2 + R1) * hF
  have eR : (F2 + F1) * N / Q * δ = (F2 + F1) * (R2 - R1) := by
    rw [div_mul_eq_mul_div, div_eq_iff hQ]; linear_combination -(F2 + F1) * hR
  rw [add_mul, eF, eR]; ring

/-- `dsxi` as coded is the divided difference of `sxi = Q(sphi)/QZ` over `tphi` -/
theorem alb_dsxi (e2 s1 s2 sx1 sx2 dA dsn A1 A2 QZ Δ : ℝ) (hQZ : QZ ≠ 0)
    (hw1 : 1 - e2 * s1 ^ (2 : ℕ) ≠ 0) (hw2 : 1 - e2 * s2 ^ (2 : ℕ) ≠ 0)
    (hdsn : dsn * Δ = s2 - s1) (hDA : dA * (s2 - s1) = A2 - A1)
    (hsx1 : sx1 * QZ = s1 / (1 - e2 * s1 ^ (2 : ℕ)) + A1) (hsx2 : sx2 * QZ = s2 / (1 - e2 * s2 ^ (2 : ℕ)) + A2) :
    ((1 + e2 * s1 * s2) / ((1 - e2 * s2 ^ (2 : ℕ)) * (1 - e2 * s1 ^ (2 : ℕ))) + dA) * dsn / (2 * (QZ / 2)) * Δ = sx2 - sx1 := by
  have h : (1 + e2 * s1 * s2) / ((1 - e2 * s2 ^ 2) * (1 - e2 * s1 ^ 2)) * (s2 - s1) = s2 / (1 - e2 * s2 ^ 2) - s1 / (1 - e2 * s1 ^ 2) := by
    rw [div_sub_div _ _ hw2 hw1, div_mul_eq_mul_div]; congr 1; ring
  rw [mul_div_cancel₀ _ two_ne_zero, div_mul_eq_mul_div, div_eq_iff hQZ]
  linear_combination ((1 + e2 * s1 * s2) / ((1 - e2 * s2 ^ 2) * (1 - e2 * s1 ^ 2)) + dA) * hdsn + h + hDA - hsx2 + hsx1

/-- `F = scbet²(1 − sphi) = (1 − e² sphi²)/(1 + sphi)` has the divided difference `−(1 + e² σ)/(1 + σ)`, `σ = sphi1 + sphi2 + sphi1 sphi2` -/
theorem alb_dF (e2 b1 b2 s1 s2 : ℝ) (h1 : b1 * (1 - s1 ^ (2 : ℕ)) = 1 - e2 * s1 ^ (2 : ℕ)) (h2 : b2 * (1 - s2 ^ (2 : ℕ)) = 1 - e2 * s2 ^ (2 : ℕ)) :
    (b2 * (1 - s2) - b1 * (1 - s1)) * (1 + (s1 + s2 + s1 * s2)) = -(1 + e2 * (s1 + s2 + s1 * s2)) * (s2 - s1) := by
  linear_combination (1 + s1) * h2 - (1 + s2) * h1

/-- `(1 ± e² s)/((1 − e²)(1 − e² s²))·(1 ∓ s) = 1/(1 − e²) ∓ s/(1 − e² s²)`: what is left of `QZ ∓ Q(s)` besides `atanhee 1 ∓ atanhee s` -/
theorem q_split (e2 s : ℝ) (he : 1 - e2 ≠ 0) (hw : 1 - e2 * s ^ (2 : ℕ) ≠ 0) :
    (1 + e2 * s) / ((1 - e2) * (1 - e2 * s ^ (2 : ℕ))) * (1 - s) = 1 / (1 - e2) - s / (1 - e2 * s ^ (2 : ℕ)) ∧
    (1 - e2 * s) / ((1 - e2) * (1 - e2 * s ^ (2 : ℕ))) * (1 + s) = 1 / (1 - e2) + s / (1 - e2 * s ^ (2 : ℕ)) := by
  constructor
  · rw [div_sub_div _ _ he hw, div_mul_eq_mul_div]; congr 1; ring
  · rw [div_add_div _ _ he hw, div_mul_eq_mul_div]; congr 1; ring

/-- `R = (1 − sxi)/(1 − sphi)` times `qZ = (1 − e²) QZ`, for `sxi = Q(sphi)/QZ`, `Q(s) = s/(1 − e² s²) + atanhee s` -/
theorem alb_R (e2 s sx A AZ QZ : ℝ) (he : 1 - e2 ≠ 0) (hQZd : QZ = 1 / (1 - e2) + AZ) (hw : 1 - e2 * s ^ (2 : ℕ) ≠ 0) (hm : 1 - s ≠ 0)
    (hsx : sx * QZ = s / (1 - e2 * s ^ (2 : ℕ)) + A) :
    (1 - sx) / (1 - s) * ((1 - e2) * QZ) = (1 + e2 * s) / (1 - e2 * s ^ (2 : ℕ)) + (1 - e2) * (AZ - A) / (1 - s) := by
  have h : (1 - sx) * ((1 - e2) * QZ) = (1 - s) * (1 + e2 * s) / (1 - e2 * s ^ 2) + (1 - e2) * (AZ - A) := by
    have e : (1 - s) * (1 + e2 * s) / (1 - e2 * s ^ 2) = 1 - (1 - e2) * (s / (1 - e2 * s ^ 2)) := by
      rw [eq_sub_iff_add_eq, ← mul_div_assoc, ← add_div, div_eq_one_iff_eq hw]; ring
    have e1 : (1 - e2) * QZ = 1 + (1 - e2) * AZ := by rw [hQZd, mul_add, mul_one_div_cancel he]
    rw [e]
    linear_combination e1 - (1 - e2) * hsx
  rw [div_mul_eq_mul_div, h, add_div, mul_div_assoc, mul_div_cancel_left₀ _ hm]

/-- the divided difference of `R` over `sphi`, with `dd` the second divided difference of `atanhee` on the nodes `1, sphi1, sphi2` -/
theorem alb_dR (e2 s1 s2 sx1 sx2 dd A1 A2 AZ QZ : ℝ) (he : 1 - e2 ≠ 0) (hQZd : QZ = 1 / (1 - e2) + AZ)
    (hw1 : 1 - e2 * s1 ^ (2 : ℕ) ≠ 0) (hw2 : 1 - e2 * s2 ^ (2 : ℕ) ≠ 0) (hm1 : 1 - s1 ≠ 0) (hm2 : 1 - s2 ≠ 0)
    (hsx1 : sx1 * QZ = s1 / (1 - e2 * s1 ^ (2 : ℕ)) + A1) (hsx2 : sx2 * QZ = s2 / (1 - e2 * s2 ^ (2 : ℕ)) + A2)
    (hdd : dd * (s2 - s1) = (AZ - A2) / (1 - s2) - (AZ - A1) / (1 - s1)) :
    ((1 - sx2) / (1 - s2) - (1 - sx1) / (1 - s1)) * ((1 - e2) * QZ) =
      (e2 * (1 + s1 + s2 + e2 * s1 * s2) / ((1 - e2 * s1 ^ (2 : ℕ)) * (1 - e2 * s2 ^ (2 : ℕ))) + (1 - e2) * dd) * (s2 - s1) := by
  have h : (1 + e2 * s2) / (1 - e2 * s2 ^ 2) - (1 + e2 * s1) / (1 - e2 * s1 ^ 2) =
      e2 * (1 + s1 + s2 + e2 * s1 * s2) / ((1 - e2 * s1 ^ 2) * (1 - e2 * s2 ^ 2)) * (s2 - s1) := by
    rw [div_sub_div _ _ hw2 hw1, div_mul_eq_mul_div, mul_comm (1 - e2 * s2 ^ 2) (1 - e2 * s1 ^ 2)]; congr 1; ring
  have r1 := alb_R e2 s1 sx1 A1 AZ QZ he hQZd hw1 hm1 hsx1
  have r2 := alb_R e2 s2 sx2 A2 AZ QZ he hQZd hw2 hm2 hsx2
  rw [mul_div_assoc] at r1 r2
  linear_combination r2 - r1 + h - (1 - e2) * hdd

/-- `1 − s = (den − 2 dtbet2)/den` when `G` is the divided difference of `2 scbet²(1 − sxi)` -/
theorem alb_sm1 (Δ δ dsn dt den G b1 b2 x1 x2 : ℝ) (hΔ : Δ ≠ 0) (hden0 : den ≠ 0) (hdsn : dsn * Δ = δ) (hdt : dt * Δ = b2 - b1)
    (hden : den * Δ = 2 * (b2 * x2 - b1 * x1)) (hG : G * δ = 2 * (b2 * (1 - x2) - b1 * (1 - x1))) :
    -dsn * G / den = 1 - 2 * dt / den := by
  rw [eq_sub_iff_add_eq, ← add_div, div_eq_one_iff_eq hden0]
  apply mul_right_cancel₀ hΔ
  linear_combination -G * hdsn - hG + 2 * hdt - hden

/-- **`s`, `1 − s` of `AlbersEqualArea::Init`** in the variables of the code: `b = scbet²`, `dt = dtbet2`, `Δ = tphi2 − tphi1`, `sx = sxi`.
    `den` is the divided difference of `2 scbet² sxi` (product rule), so `s = 2 dtbet2/den` is the quotient of the differences of `tbet²` and
    `scbet² sxi`; `1 − s` is coded as the divided difference of `scbet²(1 − sxi) = F·R`, `F = scbet²(1 − sphi)`, `R = (1 − sxi)/(1 − sphi)`. -/
theorem alb_core_algebra (e2 Δ b1 b2 dt s1 s2 sx1 sx2 dA dsn dd A1 A2 AZ QZ dsxi den : ℝ)
    (he2m : 1 - e2 ≠ 0) (hQZ : QZ ≠ 0) (hQZd : QZ = 1 / (1 - e2) + AZ) (hΔ : Δ ≠ 0)
    (hw1 : 1 - e2 * s1 ^ (2 : ℕ) ≠ 0) (hw2 : 1 - e2 * s2 ^ (2 : ℕ) ≠ 0)
    (hp1 : 1 + s1 ≠ 0) (hp2 : 1 + s2 ≠ 0) (hm1 : 1 - s1 ≠ 0) (hm2 : 1 - s2 ≠ 0)
    (hscb1 : b1 * (1 - s1 ^ (2 : ℕ)) = 1 - e2 * s1 ^ (2 : ℕ)) (hscb2 : b2 * (1 - s2 ^ (2 : ℕ)) = 1 - e2 * s2 ^ (2 : ℕ))
    (hdt : dt * Δ = b2 - b1) (hdsn : dsn * Δ = s2 - s1) (hDA : dA * (s2 - s1) = A2 - A1)
    (hsx1 : sx1 * QZ = s1 / (1 - e2 * s1 ^ (2 : ℕ)) + A1) (hsx2 : sx2 * QZ = s2 / (1 - e2 * s2 ^ (2 : ℕ)) + A2)
    (hdd : dd * (s2 - s1) = (AZ - A2) / (1 - s2) - (AZ - A1) / (1 - s1))
    (hdsxi : dsxi = ((1 + e2 * s1 * s2) / ((1 - e2 * s2 ^ (2 : ℕ)) * (1 - e2 * s1 ^ (2 : ℕ))) + dA) * dsn / (2 * (QZ / 2)))
    (hden : den = (sx2 + sx1) * dt + (b2 + b1) * dsxi) :
    dsxi * Δ = sx2 - sx1 ∧ den * Δ = 2 * (b2 * sx2 - b1 * sx1) ∧
      (b2 * sx2 - b1 * sx1 ≠ 0 → 2 * dt / den = (b2 - b1) / (b2 * sx2 - b1 * sx1) ∧
        -dsn * (-((1 - sx2) / (1 - s2) + (1 - sx1) / (1 - s1)) * (1 + e2 * (s1 + s2 + s1 * s2)) / (1 + (s1 + s2 + s1 * s2))
            + (b2 * (1 - s2) + b1 * (1 - s1)) *
              (e2 * (1 + s1 + s2 + e2 * s1 * s2) / ((1 - e2 * s1 ^ (2 : ℕ)) * (1 - e2 * s2 ^ (2 : ℕ))) + (1 - e2) * dd) / ((1 - e2) * QZ)) / den
          = 1 - 2 * dt / den) := by
  have h1 : dsxi * Δ = sx2 - sx1 := by
    rw [hdsxi]; exact alb_dsxi e2 s1 s2 sx1 sx2 dA dsn A1 A2 QZ Δ hQZ hw1 hw2 hdsn hDA hsx1 hsx2
  have h2 : den * Δ = 2 * (b2 * sx2 - b1 * sx1) := by
    rw [hden]; linear_combination (sx2 + sx1) * hdt + (b2 + b1) * h1
  refine ⟨h1, h2, fun hN => ?_⟩
  have hden0 : den ≠ 0 := fun h => hN (by rw [h, zero_mul] at h2; linear_combination -h2 / 2)
  constructor
  · rw [div_eq_div_iff hden0 hN]
    apply mul_right_cancel₀ hΔ
    linear_combination 2 * (b2 * sx2 - b1 * sx1) * hdt - (b2 - b1) * h2
  · -- `G·(sphi2 − sphi1) = 2 (F₂R₂ − F₁R₁) = 2 (scbet2²(1 − sxi2) − scbet1²(1 − sxi1))`
    have hσ : 1 + (s1 + s2 + s1 * s2) ≠ 0 := by
      rw [show 1 + (s1 + s2 + s1 * s2) = (1 + s1) * (1 + s2) by ring]; exact mul_ne_zero hp1 hp2
    have hG := dd_product (b1 * (1 - s1)) (b2 * (1 - s2)) ((1 - sx1) / (1 - s1)) ((1 - sx2) / (1 - s2)) _ _ _ _ (s2 - s1) hσ
      (mul_ne_zero he2m hQZ) (alb_dF e2 b1 b2 s1 s2 hscb1 hscb2)
      (alb_dR e2 s1 s2 sx1 sx2 dd A1 A2 AZ QZ he2m hQZd hw1 hw2 hm1 hm2 hsx1 hsx2 hdd)
    rw [mul_assoc b2, mul_div_cancel₀ _ hm2, mul_assoc b1, mul_div_cancel₀ _ hm1] at hG
    exact alb_sm1 Δ (s2 - s1) dsn dt den _ b1 b2 sx1 sx2 hΔ hden0 hdsn hdt h2 hG

theorem albNewtonStep_zero_iff (E : Ell ℝ) (s sm1 t0 : ℝ)
    (hdu : (albNewtonU E s sm1 t0 (atanhxm1 (albNewtonArg E t0))).2.1 ≠ 0) :
    albNewtonStep E s sm1 t0 = 0 ↔ (albNewtonU E s sm1 t0 (atanhxm1 (albNewtonArg E t0))).1 = 0 := by
  have hc : (albNewtonU E s sm1 t0 (atanhxm1 (albNewtonArg E t0))).2.2 = Real.sqrt (1 + t0 ^ 2) * (1 + t0 ^ 2) := by
    simp only [albNewtonU, sq_real, one_real, sqrt_real]
  have hpos : 0 < Real.sqrt (1 + t0 ^ 2) * (1 + t0 ^ 2) := by
    have : 0 < 1 + t0 ^ 2 := by positivity
    exact mul_pos (Real.sqrt_pos.mpr this) this
  unfold albNewtonStep
  simp only [zero_real]
  rw [hc]
  constructor
  · intro h
    have h' : (albNewtonU E s sm1 t0 (atanhxm1 (albNewtonArg E t0))).1 / (albNewtonU E s sm1 t0 (atanhxm1 (albNewtonArg E t0))).2.1 *
        (Real.sqrt (1 + t0 ^ 2) * (1 + t0 ^ 2)) = 0 := by linarith
    rcases mul_eq_zero.mp h' with h1 | h1
    · rcases div_eq_zero_iff.mp h1 with h2 | h2
      · exact h2
      · exact absurd h2 hdu
    · exact absurd h1 hpos.ne'
  · intro h; rw [h]; simp

/-- the (safeguarded) loop stays at a point where the correction vanishes: from the start (`hasPrev = false`) or once the previous
    iterate is that point itself -/
theorem albNewtonLoop_fixed_of_prev (E : Ell ℝ) (s sm1 stol t0 : ℝ) (h : albNewtonStep E s sm1 t0 = 0) (n : ℕ) (hp : Bool) (tp up dp : ℝ)
    (hup : hp = false ∨ up = (albNewtonU E s sm1 t0 (atanhxm1 (albNewtonArg E t0))).1) :
    albNewtonLoop E s sm1 stol n hp tp up dp t0 = t0 := by
  induction n generalizing hp tp up dp with
  | zero => rfl
  | succ n ih =>
    have hd : (0 : ℝ) - (albNewtonU E s sm1 t0 (atanhxm1 (albNewtonArg E t0))).1 / (albNewtonU E s sm1 t0 (atanhxm1 (albNewtonArg E t0))).2.1 *
        (albNewtonU E s sm1 t0 (atanhxm1 (albNewtonArg E t0))).2.2 = 0 := by
      have := h; unfold albNewtonStep at this; simpa [zero_real] using this
    have hcond : (hp && RealLike.ltb (RealLike.abs up) (RealLike.abs (albNewtonU E s sm1 t0 (atanhxm1 (albNewtonArg E t0))).1)) = false := by
      rcases hup with h0 | h0
      · rw [h0]; rfl
      · rw [h0]; simp [ltb_real]
    simp only [albNewtonLoop, hcond, zero_real, hd, add_zero, Bool.false_eq_true, if_false]
    split
    · rfl
    · exact ih true t0 _ 0 (Or.inr rfl)

theorem albNewtonLoop_fixed (E : Ell ℝ) (s sm1 stol t0 : ℝ) (h : albNewtonStep E s sm1 t0 = 0) (n : ℕ) :
    albNewtonLoop E s sm1 stol n false t0 0 0 t0 = t0 :=
  albNewtonLoop_fixed_of_prev E s sm1 stol t0 h n false t0 0 0 (Or.inl rfl)

theorem abs_es_sn_lt (es t : ℝ) (h0 : 0 ≤ es) (h1 : es < 1) : |es * (t / hyp t)| < 1 := by
  have ht := abs_lt_hyp t
  have hp := hyp_pos t
  rw [abs_mul, abs_of_nonneg h0, abs_div, abs_of_pos hp]
  have : |t| / hyp t < 1 := (div_lt_one hp).mpr ht
  have h0' : 0 ≤ |t| / hyp t := by positivity
  nlinarith

/-- Snyder's (15-8) for any ellipsoid on which `Deatanhe(sphi2, sphi1)` is a divided difference (for `ψ2 = ψ1` both sides are
    quotients by zero) -/
theorem lcc_n_snyder_gen (E : Ell ℝ) (t1 t2 x1 x2 : ℝ) (h12 : t1 ≠ t2)
    (hDe : Deatanhe E.e2 E.es (t2 / hyp t2) (t1 / hyp t1) * (t2 / hyp t2 - t1 / hyp t1) = x2 - x1) :
    (lccNraw E (t1 / hyp t1) t1 (hyp t1) (E.fm * t1) (hyp (E.fm * t1)) (t2 / hyp t2) t2 (hyp t2) (E.fm * t2) (hyp (E.fm * t2))).1 =
      (Real.log (hyp (E.fm * t2)) - Real.log (hyp (E.fm * t1))) / ((Real.arsinh t2 - x2) - (Real.arsinh t1 - x1)) := by
  obtain ⟨hden, hn⟩ := lccNraw_closed E t1 t2 x1 x2 h12 hDe
  have hΔ : t2 - t1 ≠ 0 := sub_ne_zero.mpr (Ne.symm h12)
  rw [← hden]
  by_cases h0 : (lccNraw E (t1 / hyp t1) t1 (hyp t1) (E.fm * t1) (hyp (E.fm * t1)) (t2 / hyp t2) t2 (hyp t2) (E.fm * t2) (hyp (E.fm * t2))).2 = 0
  · simp only [lccNraw] at h0 ⊢
    rw [h0, div_zero, zero_mul, div_zero]
  · rw [← hn h0, mul_assoc, mul_div_assoc, div_self (mul_ne_zero h0 hΔ), mul_one]

end GeoVerif.Proofs.ConicInit
