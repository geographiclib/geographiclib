import GeoVerif.Proofs.AuxCert0
import GeoVerif.Proofs.AuxCert1
import GeoVerif.Proofs.AuxCert2
import GeoVerif.Proofs.AuxCert3
import GeoVerif.Proofs.AuxCert4
import GeoVerif.Proofs.AuxCert5
import GeoVerif.Proofs.AuxLin
import Mathlib.Tactic.IntervalCases
/-! All 120 ordered triples of distinct auxiliary latitudes, C[c←a] = C[c←b] ∘ C[b←a] modulo n^(L+1), and the 15 reversions,
read off the row certificates of `Proofs/AuxCert0 … 5`. -/
namespace GeoVerif.Proofs.AuxCert
open GeoVerif.Series.Aux

theorem rows (b a : Nat) (hb : b < 6) (ha : a < 6) (h : b ≠ a) : rowCheck b a = true := by
  interval_cases b <;> interval_cases a <;> try exact absurd rfl h
  exacts [row_0_1, row_0_2, row_0_3, row_0_4, row_0_5, row_1_0, row_1_2, row_1_3, row_1_4, row_1_5,
    row_2_0, row_2_1, row_2_3, row_2_4, row_2_5, row_3_0, row_3_1, row_3_2, row_3_4, row_3_5,
    row_4_0, row_4_1, row_4_2, row_4_3, row_4_5, row_5_0, row_5_1, row_5_2, row_5_3, row_5_4]

theorem compose_of_distinct (c b a : Nat) (hc : c < 6) (hb : b < 6) (ha : a < 6) (h1 : c ≠ b) (h2 : b ≠ a) (h3 : a ≠ c) :
    checkCompose c b a = true := by
  have hm : c ∈ outers b a := by simp [outers, hc, h1, h3.symm]
  simpa [h3.symm] using rowCheck_sound (rows b a hb ha h2) hm

theorem revert_of_lt (a b : Nat) (hab : a < b) (hb : b < 6) : checkRevert a b = true := by
  have hm : a ∈ outers b a := by simp [outers, hab, (Nat.ne_of_lt hab), Nat.lt_trans hab hb]
  simpa using rowCheck_sound (rows b a hb (Nat.lt_trans hab hb) (Nat.ne_of_gt hab)) hm

end GeoVerif.Proofs.AuxCert
