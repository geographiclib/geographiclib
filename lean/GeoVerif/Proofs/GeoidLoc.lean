import GeoVerif.Model.Geoid
import GeoVerif.Proofs.F64Div
import GeoVerif.Props.C16
/-!
`_rlonres = rnd(w/360)`, `_rlatres = rnd((h−1)/180)`, and an index is `fl (x * R) = ⌊rnd(x·R)⌋`.  Everything follows
from the monotonicity of correct rounding against representable bounds: `rnd(w/360) ≤ rnd(w/256) = w/256` and
`|rnd(lon·R)| ≤ rnd(180·w/256) = 45w/64 < w`, so `−w ≤ ix < w` before the wrap of `Geoid::height`.
-/
namespace GeoVerif
namespace Geoid
open F64 (hasVal_ofInt hasVal_mul_rn hasVal_div_rn)

theorem fl_eq (x : F64) : fl x = Dy.floor x.toDy := F64.floor_toDy_floor x

theorem fl_spec (x : F64) : ((fl x : ℤ) : ℚ) ≤ x.val ∧ x.val < ((fl x : ℤ) : ℚ) + 1 := F64.intFloor_spec x

theorem abs_mul_le {a R A ρ : ℚ} (ha : |a| ≤ A) (h0 : 0 ≤ R) (hρ : R ≤ ρ) : |a * R| ≤ A * ρ := by
  rw [abs_mul, abs_of_nonneg h0]
  exact mul_le_mul ha hρ h0 (le_trans (abs_nonneg a) ha)

theorem ofInt_div_bounds (n d : ℤ) (k : ℕ) (hn0 : 0 ≤ n) (hn : n ≤ 2 ^ 31) (hk : (2:ℤ) ^ k ≤ d) (hk1 : k ≤ 1074) :
    (F64.ofInt n / F64.ofInt d).isFinite = true ∧ 0 ≤ (F64.ofInt n / F64.ofInt d).val ∧
    (F64.ofInt n / F64.ofInt d).val ≤ (n:ℚ) / 2 ^ k ∧
    (F64.ofInt n / F64.ofInt d).val ≤ (n:ℚ) / d * (1 + (2:ℚ) ^ (-(53:ℤ))) + (2:ℚ) ^ (-(1075:ℤ)) := by
  have hd0 : 0 < d := lt_of_lt_of_le (by positivity) hk
  have hnq : (0:ℚ) ≤ n := by exact_mod_cast hn0
  have hn31 : (n:ℚ) ≤ 2 ^ 31 := by exact_mod_cast hn
  have hkq : (2:ℚ) ^ k ≤ d := by exact_mod_cast hk
  have h1d : (1:ℚ) ≤ d := le_trans (one_le_pow₀ (by norm_num)) hkq
  have hq0 : 0 ≤ (n:ℚ) / d := div_nonneg hnq (by linarith)
  have hqk : (n:ℚ) / d ≤ n / 2 ^ k := div_le_div_of_nonneg_left hnq (by positivity) hkq
  have hqn : (n:ℚ) / d ≤ n := div_le_self hnq h1d
  obtain ⟨r, hr, f1, f2⟩ := (hasVal_div_rn (hasVal_ofInt n) (hasVal_ofInt d) (by linarith)).small
    (by rw [abs_of_nonneg hq0]; exact le_trans hqn (le_trans hn31 (by norm_num)))
  have g := IsRN.self_of_fits (p := 53) (by norm_num) (emin := -1074) n (-(k:ℤ)) (abs_le.mpr ⟨by omega, by omega⟩) (by omega)
  rw [zpow_neg, zpow_natCast, ← div_eq_mul_inv] at g
  have rhi : r ≤ n / 2 ^ k := IsRN.mono (by norm_num) hr g hqk
  have rlo : 0 ≤ r := IsRN.nonneg hr hq0
  rw [f2]
  refine ⟨f1, rlo, rhi, ?_⟩
  have he := hr.err
  rw [abs_of_nonneg hq0, show ((-1074:ℤ) - 1) = -(1075:ℤ) by norm_num] at he
  have hm : max ((n:ℚ) / d * (2:ℚ) ^ (-((53:ℕ):ℤ))) ((2:ℚ) ^ (-(1075:ℤ))) ≤ (n:ℚ) / d * (2:ℚ) ^ (-(53:ℤ)) + (2:ℚ) ^ (-(1075:ℤ)) :=
    max_le (le_add_of_nonneg_right (by positivity)) (le_add_of_nonneg_left (by positivity))
  have := (abs_le.mp (le_trans he hm)).2
  linarith only [this]

theorem angNormalize_bounds (x : F64) (h : (MathF.angNormalize x).isNaN = false) :
    (MathF.angNormalize x).isFinite = true ∧ |(MathF.angNormalize x).val| ≤ 180 := by
  have hx : x.isFinite = true := by
    by_contra hc
    rw [Props.C16.angNormalize_nonfinite x (by simpa using hc)] at h
    cases h
  obtain ⟨s, m, e, rfl⟩ := F64.exists_fin_of_isFinite x hx
  exact ⟨(Props.C16.angNormalize_spec s m e).1, (Props.C16.angNormalize_spec s m e).2.2.1⟩

theorem locF_eq_some {f : File} {lat lon : F64} {ix iy : ℤ} {fx fy : F64} (h : locF f lat lon = some (ix, iy, fx, fy)) :
    (MathF.latFix lat).isNaN = false ∧ (MathF.angNormalize lon).isNaN = false ∧
    ix = fl (MathF.angNormalize lon * (F64.ofInt f.w / F64.ofInt Gen.MathC.td)) +
      (if fl (MathF.angNormalize lon * (F64.ofInt f.w / F64.ofInt Gen.MathC.td)) < 0 then f.w
       else if fl (MathF.angNormalize lon * (F64.ofInt f.w / F64.ofInt Gen.MathC.td)) ≥ f.w then -f.w else 0) ∧
    iy = max (-((f.h - 1) / 2)) (min ((f.h - 1) / 2 - 1)
      (fl (F64.neg (MathF.latFix lat) * (F64.ofInt (f.h - 1) / F64.ofInt Gen.MathC.hd)))) + (f.h - 1) / 2 := by
  unfold locF at h
  simp only [] at h
  split at h
  · cases h
  rename_i hnan
  obtain ⟨n1, n2⟩ := Bool.or_eq_false_iff.mp (Bool.eq_false_iff.mpr hnan)
  simp only [Option.some.injEq, Prod.mk.injEq] at h
  exact ⟨n1, n2, h.1.symm, h.2.1.symm⟩

theorem locF_ix_range (f : File) (h2 : 2 ≤ f.w) (hmax : f.w ≤ 2 ^ 31) (lat lon : F64) (ix iy : ℤ) (fx fy : F64)
    (h : locF f lat lon = some (ix, iy, fx, fy)) : 0 ≤ ix ∧ ix < f.w := by
  obtain ⟨_, hlon, hix, _⟩ := locF_eq_some h
  obtain ⟨fL, bL⟩ := angNormalize_bounds lon hlon
  obtain ⟨fR, r0, r1, _⟩ := ofInt_div_bounds f.w Gen.MathC.td 8 (by omega) hmax (by decide) (by norm_num)
  set L := MathF.angNormalize lon
  set R := F64.ofInt f.w / F64.ofInt Gen.MathC.td
  have hwq : (f.w:ℚ) ≤ 2 ^ 31 := by exact_mod_cast hmax
  have hw2 : (2:ℚ) ≤ (f.w:ℚ) := by exact_mod_cast h2
  -- the exact product is at most `180·w/256 = 45w/64` in magnitude, a representable bound below `w`
  have hz : |L.val * R.val| ≤ 45 * (f.w:ℚ) * (2:ℚ) ^ (-(6:ℤ)) := by
    refine le_trans (abs_mul_le bL r0 r1) (le_of_eq ?_)
    norm_num; ring
  obtain ⟨r, hr, _, hv⟩ := (hasVal_mul_rn ⟨fL, rfl⟩ ⟨fR, rfl⟩).small (le_trans hz (by norm_num; linarith only [hwq]))
  have g := IsRN.self_of_fits (p := 53) (by norm_num) (emin := -1074) (45 * f.w) (-6) (abs_le.mpr ⟨by omega, by omega⟩)
    (by norm_num)
  push_cast at g
  have hz' := abs_le.mp hz
  have rhi : r ≤ 45 * (f.w:ℚ) * (2:ℚ) ^ (-(6:ℤ)) := IsRN.mono (by norm_num) hr g hz'.2
  have rlo : -(45 * (f.w:ℚ) * (2:ℚ) ^ (-(6:ℤ))) ≤ r := IsRN.mono (by norm_num) g.neg hr hz'.1
  obtain ⟨q1, q2⟩ := fl_spec (L * R)
  rw [hv] at q1 q2
  have e6 : (2:ℚ) ^ (-(6:ℤ)) = 1 / 64 := by norm_num
  rw [e6] at rhi rlo
  have b1 : -(f.w) ≤ fl (L * R) := by
    have : ((-(f.w) - 1 : ℤ) : ℚ) < ((fl (L * R) : ℤ) : ℚ) := by push_cast; linarith only [q2, rlo, hw2]
    have : -(f.w) - 1 < fl (L * R) := by exact_mod_cast this
    omega
  have b2 : fl (L * R) < f.w := by
    have : ((fl (L * R) : ℤ) : ℚ) < ((f.w : ℤ) : ℚ) := by linarith only [q1, rhi, hw2]
    exact_mod_cast this
  rw [hix]
  omega

end Geoid
end GeoVerif
