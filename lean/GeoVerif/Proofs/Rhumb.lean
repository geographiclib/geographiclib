import GeoVerif.Model.Rhumb
import GeoVerif.Spec.RealInst
import Mathlib.Tactic.Ring
import Mathlib.Tactic.LinearCombination
import Mathlib.Tactic.FieldSimp
import Mathlib.Tactic.Positivity
import Mathlib.Tactic.NormNum
import Mathlib.Tactic.Linarith
import Mathlib.Tactic.SplitIfs
import Mathlib.Algebra.Order.Floor.Ring
/-!
# Lemmas for C09 (rhumb lines): quotients and chains of divided differences, `Datan`, `Dasinh`, `Dlam` of `Model/Rhumb.lean`
read over ℝ, the contracts of the angle reductions, and the matrix Clenshaw recurrence.
-/
namespace GeoVerif.Proofs.Rhumb
open GeoVerif GeoVerif.Rhumb Real

@[simp] theorem atan_real (x : ℝ) : RealLike.atan x = Real.arctan x := rfl
@[simp] theorem asinh_real (x : ℝ) : RealLike.asinh x = Real.arsinh x := rfl
@[simp] theorem atan2_real (y x : ℝ) : RealLike.atan2 y x = Complex.arg ⟨x, y⟩ := rfl
theorem lit0 : (@OfNat.ofNat ℝ 0 RealLike.Lits.instLit) = 0 := by simp only [lit_real]; norm_num
theorem lit1 : (@OfNat.ofNat ℝ 1 RealLike.Lits.instLit) = 1 := by simp only [lit_real]; norm_num
theorem lit2 : (@OfNat.ofNat ℝ 2 RealLike.Lits.instLit) = 2 := by simp only [lit_real]

theorem sc_real (x : ℝ) : sc x = Real.sqrt (1 + x ^ 2) := by
  unfold sc; simp only [hypot_real, lit1]; norm_num

theorem sc_pos (x : ℝ) : 0 < sc x := by rw [sc_real]; positivity
theorem sc_sq (x : ℝ) : sc x ^ 2 = 1 + x ^ 2 := by rw [sc_real, Real.sq_sqrt]; positivity
theorem sn_real (x : ℝ) : sn x = x / sc x := rfl
theorem hfun_real (x : ℝ) : hfun x = x * (x / sc x) / 2 := by unfold hfun; simp only [sn_real, lit2]

theorem sn_mul_self_nonneg (t : ℝ) : 0 ≤ t / sc t * t := by
  rw [div_mul_eq_mul_div]; exact div_nonneg (mul_self_nonneg t) (sc_pos t).le

theorem sn_mul_self_pos {t : ℝ} (h : t ≠ 0) : 0 < t / sc t * t := by
  rw [div_mul_eq_mul_div]; exact div_pos (mul_self_pos.mpr h) (sc_pos t)

/-- the quotient of two divided differences over the same step `c` is the divided difference of the numerator's function
    with respect to the denominator's -/
theorem dd_div {F G a b c : ℝ} (hF : F * c = a) (hG : G * c = b) (hb : b ≠ 0) : F / G * b = a := by
  subst hF hG
  have hG0 : G ≠ 0 := left_ne_zero_of_mul hb
  field_simp

theorem dd_chain {F G a b c : ℝ} (hF : F * b = a) (hG : G * c = b) : F * G * c = a := by
  rw [mul_assoc, hG, hF]

theorem arctan_sub_ne_zero {x y : ℝ} (h : x ≠ y) : Real.arctan y - Real.arctan x ≠ 0 :=
  sub_ne_zero.mpr fun e => h (Real.arctan_injective e).symm

theorem arsinh_sub_ne_zero {x y : ℝ} (h : x ≠ y) : Real.arsinh y - Real.arsinh x ≠ 0 :=
  sub_ne_zero.mpr fun e => h (Real.arsinh_injective e).symm

/-- the denominators of the branches `x y > 0` of `Dasinh`, `Dh` -/
theorem add_ne_zero_of_mul_pos {x y a b : ℝ} (h : 0 < x * y) (ha : 0 < a) (hb : 0 < b) : x * a + y * b ≠ 0 := by
  rcases mul_pos_iff.mp h with ⟨hx, hy⟩ | ⟨hx, hy⟩
  · exact (add_pos (mul_pos hx ha) (mul_pos hy hb)).ne'
  · exact (add_neg (mul_neg_of_neg_of_pos hx ha) (mul_neg_of_neg_of_pos hy hb)).ne

theorem arctan_sub' (a b : ℝ) (h : -1 < a * b) : Real.arctan ((b - a) / (1 + a * b)) = Real.arctan b - Real.arctan a := by
  have h' := Real.arctan_add (x := b) (y := -a) (by nlinarith)
  rw [Real.arctan_neg] at h'
  rw [sub_eq_add_neg (Real.arctan b), h']; congr 1; ring

theorem datan_dd (x y : ℝ) : Datan x y * (y - x) = Real.arctan y - Real.arctan x := by
  unfold Datan
  simp only [eqb_real, ltb_real, decide_eq_true_eq, lit1, lit2, atan_real]
  by_cases h1 : x = y
  · subst h1; simp
  rw [if_neg h1, div_mul_cancel₀ _ (sub_ne_zero.mpr (Ne.symm h1))]
  split_ifs with h2
  · exact arctan_sub' x y (by linarith)
  · rfl

theorem arsinh_sub (x y : ℝ) : Real.arsinh y - Real.arsinh x = Real.arsinh (y * sc x - x * sc y) := by
  have h := Real.sinh_sub (Real.arsinh y) (Real.arsinh x)
  rw [Real.sinh_arsinh, Real.sinh_arsinh, Real.cosh_arsinh, Real.cosh_arsinh] at h
  rw [sc_real, sc_real, mul_comm x, ← h, Real.arsinh_sinh]

theorem arsinh_sub_arg {x y : ℝ} (h : 0 < x * y) :
    y * sc x - x * sc y = (y - x) * ((x + y) / (x * sc y + y * sc x)) := by
  rw [mul_div_assoc', eq_div_iff (add_ne_zero_of_mul_pos h (sc_pos y) (sc_pos x))]
  linear_combination y ^ 2 * sc_sq x - x ^ 2 * sc_sq y

theorem dasinh_dd (x y : ℝ) : Dasinh x y * (y - x) = Real.arsinh y - Real.arsinh x := by
  unfold Dasinh
  simp only [eqb_real, ltb_real, decide_eq_true_eq, lit0, lit1, asinh_real]
  by_cases h1 : x = y
  · subst h1; simp
  rw [if_neg h1, div_mul_cancel₀ _ (sub_ne_zero.mpr (Ne.symm h1))]
  split_ifs with h2 h3
  · rw [arsinh_sub, arsinh_sub_arg h2]
  · -- `x y ≥ 1`: the same quotient with numerator and denominator divided by `x y`
    have hx0 : x ≠ 0 := by rintro rfl; simp at h2
    have hy0 : y ≠ 0 := by rintro rfl; simp at h2
    have e : (1 / x + 1 / y) / (sc y / y + sc x / x) = (x + y) / (x * sc y + y * sc x) := by
      rw [div_add_div _ _ hx0 hy0, div_add_div _ _ hy0 hx0, mul_comm y x, div_div_div_cancel_right₀ (mul_ne_zero hx0 hy0)]
      ring
    rw [arsinh_sub, arsinh_sub_arg h2, e]
  · rfl

theorem dlam_dd (x y : ℝ) : Dlam x y * (Real.arctan y - Real.arctan x) = Real.arsinh y - Real.arsinh x := by
  by_cases h : x = y
  · subst h; simp
  · simp only [Dlam, eqb_real, h, decide_false, Bool.false_eq_true, if_false]
    exact dd_div (dasinh_dd x y) (datan_dd x y) (arctan_sub_ne_zero h)

theorem dlam_confluent (x : ℝ) : Dlam x x = Real.sqrt (1 + x ^ 2) := by
  unfold Dlam; simp only [eqb_real, decide_true, if_true, sc_real]

noncomputable def angReal : AngOps ℝ := ⟨fun a b => a - b, fun a => |a|, fun a b => decide (a > b), 90, 180⟩

/-- the contract of `Math::AngNormalize` (C16): the result lies in [−180, 180] and differs from the argument by a multiple of 360 -/
def NormContract (norm : ℝ → ℝ) : Prop := ∀ x, |norm x| ≤ 180 ∧ ∃ k : ℤ, norm x = x - 360 * k

theorem int_eq_of_lt_of_lt {k a : ℤ} (h1 : (a : ℝ) - 1 < k) (h2 : (k : ℝ) < a + 1) : k = a := by
  have h1' : a - 1 < k := by exact_mod_cast h1
  have h2' : k < a + 1 := by exact_mod_cast h2
  omega

noncomputable def floorNorm (x : ℝ) : ℝ := x - 360 * (⌊(x + 180) / 360⌋ : ℤ)

theorem floorNorm_contract : NormContract floorNorm := by
  intro x
  refine ⟨?_, ⌊(x + 180) / 360⌋, rfl⟩
  unfold floorNorm
  have h1 := Int.floor_le ((x + 180) / 360)
  have h2 := Int.lt_floor_add_one ((x + 180) / 360)
  rw [abs_le]; constructor <;> linarith

theorem floorNorm_300 : floorNorm 300 = -60 := by
  unfold floorNorm
  have : ⌊((300:ℝ) + 180) / 360⌋ = 1 := by rw [Int.floor_eq_iff]; norm_num
  rw [this]; norm_num

theorem floorNorm_m120 : floorNorm (180 - 300) = -120 := by
  unfold floorNorm
  have : ⌊((180:ℝ) - 300 + 180) / 360⌋ = 0 := by rw [Int.floor_eq_iff]; norm_num
  rw [this]; norm_num

/-- what `Math::AngDiff(lon1, lon2)` guarantees (C16): `|lon12| ≤ 180`, `lon12 ≡ lon2 − lon1 (mod 360)` -/
structure DiffContract (lon1 lon2 lon12 : ℝ) : Prop where
  range : |lon12| ≤ 180
  congr : ∃ k : ℤ, lon12 = lon2 - lon1 - 360 * k

theorem sqrt_mul_sin_cos_arg (x y : ℝ) :
    Real.sqrt (y ^ 2 + x ^ 2) * sin (Complex.arg ⟨x, y⟩) = y ∧ Real.sqrt (y ^ 2 + x ^ 2) * cos (Complex.arg ⟨x, y⟩) = x := by
  have hnorm : ‖(⟨x, y⟩ : ℂ)‖ = Real.sqrt (y ^ 2 + x ^ 2) := by
    rw [Complex.norm_def, Complex.normSq_apply]; congr 1; ring
  rw [← hnorm]
  exact ⟨Complex.norm_mul_sin_arg _, Complex.norm_mul_cos_arg _⟩

theorem clen_cons (X c : ℝ) (cs : List ℝ) : clen X (c :: cs) = (X * (clen X cs).1 - (clen X cs).2 + c, (clen X cs).1) := rfl

theorem dclen_cons (Xa Xb D2 c : ℝ) (cs : List ℝ) :
    dclen Xa Xb D2 (c :: cs) =
      ((Xa * (dclen Xa Xb D2 cs).1.1 + D2 * Xb * (dclen Xa Xb D2 cs).1.2 - (dclen Xa Xb D2 cs).2.1 + c,
        Xb * (dclen Xa Xb D2 cs).1.1 + Xa * (dclen Xa Xb D2 cs).1.2 - (dclen Xa Xb D2 cs).2.2), (dclen Xa Xb D2 cs).1) := rfl

/-- the matrix recurrence carries (mean, half divided difference) of the two scalar Clenshaw recurrences with
    `X₂ = Xa + D·Xb`, `X₁ = Xa − D·Xb` -/
theorem dclen_inv (Xa Xb D : ℝ) (cs : List ℝ) :
    (dclen Xa Xb (D * D) cs).1.1 = ((clen (Xa + D * Xb) cs).1 + (clen (Xa - D * Xb) cs).1) / 2 ∧
    (dclen Xa Xb (D * D) cs).1.2 * D = ((clen (Xa + D * Xb) cs).1 - (clen (Xa - D * Xb) cs).1) / 2 ∧
    (dclen Xa Xb (D * D) cs).2.1 = ((clen (Xa + D * Xb) cs).2 + (clen (Xa - D * Xb) cs).2) / 2 ∧
    (dclen Xa Xb (D * D) cs).2.2 * D = ((clen (Xa + D * Xb) cs).2 - (clen (Xa - D * Xb) cs).2) / 2 := by
  induction cs with
  | nil => simp [dclen, clen, lit0]
  | cons c cs ih =>
    obtain ⟨h1, h2, h3, h4⟩ := ih
    rw [dclen_cons, clen_cons, clen_cons]
    refine ⟨?_, ?_, h1, h2⟩
    · show Xa * _ + D * D * Xb * _ - _ + c = _
      linear_combination Xa * h1 + (D * Xb) * h2 - h3
    · show (Xb * _ + Xa * _ - _) * D = _
      linear_combination (D * Xb) * h1 + Xa * h2 - h4

/-- `hΔ` says that the code's `szetamd` satisfies `szetamd · Δ = sin(ζ₂ − ζ₁)`.  The matrix recurrence is read off `dclen_inv` at
    `X₂,₁ = Xa ± Δ·Xb`; what is left is a polynomial identity modulo `hΔ` and the two circle equations, whose cofactors below come
    from a computer algebra system. -/
theorem dclenshaw_gen (sinp : Bool) (Δ s1 c1 s2 c2 : ℝ) (cs : List ℝ) (h1 : s1 ^ 2 + c1 ^ 2 = 1) (h2 : s2 ^ 2 + c2 ^ 2 = 1)
    (hΔ : szetamd Δ s1 c1 s2 c2 * Δ = s2 * c1 - c2 * s1) :
    DClenshaw sinp Δ s1 c1 s2 c2 cs * Δ = clenshaw sinp s2 c2 cs - clenshaw sinp s1 c1 cs := by
  unfold DClenshaw clenshaw
  simp only [lit0, lit1, lit2]
  set smd := szetamd Δ s1 c1 s2 c2 with hsmd
  set Xa := 2 * (c2 * c1 - s2 * s1) * (c2 * c1 + s2 * s1) with hXa
  set Xb := -(2 * (s2 * c1 + c2 * s1) * smd) with hXb
  have hX2 : Xa + Δ * Xb = 2 * (c2 - s2) * (c2 + s2) := by
    rw [hXa, hXb]; linear_combination (-2 * (s2 * c1 + c2 * s1)) * hΔ + (2 * (c2 ^ 2 - s2 ^ 2)) * h1
  have hX1 : Xa - Δ * Xb = 2 * (c1 - s1) * (c1 + s1) := by
    rw [hXa, hXb]; linear_combination (2 * (s2 * c1 + c2 * s1)) * hΔ + (2 * (c1 ^ 2 - s1 ^ 2)) * h2
  obtain ⟨hA, hB, hC, hV⟩ := dclen_inv Xa Xb Δ cs
  rw [hX2, hX1] at hA hB hC hV
  set U2 := (clen (2 * (c2 - s2) * (c2 + s2)) cs).1
  set U1 := (clen (2 * (c1 - s1) * (c1 + s1)) cs).1
  set A := (dclen Xa Xb (Δ * Δ) cs).1.1
  cases sinp
  · -- cosine series
    simp only [Bool.false_eq_true, if_false]
    linear_combination (2 * ((c2 * c1 - s2 * s1) * (c2 * c1 + s2 * s1))) * hB
      - (2 * (s2 * c1 + c2 * s1) * (s2 * c1 - c2 * s1)) * hA - (2 * (s2 * c1 + c2 * s1) * A) * hΔ - 2 * hV
      + ((c2 ^ 2 - s2 ^ 2) * U2) * h1 - ((c1 ^ 2 - s1 ^ 2) * U1) * h2
  · -- sine series
    simp only [if_true]
    linear_combination (2 * ((s2 * c1 + c2 * s1) * (c2 * c1 + s2 * s1))) * hB
      + (2 * (c2 * c1 - s2 * s1) * (s2 * c1 - c2 * s1)) * hA + (2 * (c2 * c1 - s2 * s1) * A) * hΔ
      + (2 * (s2 * c2) * U2) * h1 - (2 * (s1 * c1) * U1) * h2

end GeoVerif.Proofs.Rhumb
