import GeoVerif.Proofs.GeoidLoc
/-!
`fl (x * R)` is one correctly rounded product followed by `floor`: by the monotonicity of correct rounding it is monotone
in `x` (for `R ≥ 0`) and respects integer bounds of the exact product.  With what the tests of `CacheArea` leave of its
four limits (`CacheLimitsOK`) this bounds every window `CacheArea` sets and the two floors of `Geoid::height`.
-/
namespace GeoVerif
namespace Geoid
open F64 (HasVal hasVal_ofInt hasVal_add_rn hasVal_mul_rn)

theorem fl_mul_mono (a b R : F64) (ha : a.isFinite = true) (hb : b.isFinite = true) (hR : R.isFinite = true)
    (hab : a.val ≤ b.val) (hR0 : 0 ≤ R.val) (hza : |a.val * R.val| ≤ 2 ^ 52) (hzb : |b.val * R.val| ≤ 2 ^ 52) :
    fl (a * R) ≤ fl (b * R) := by
  obtain ⟨ra, hra, _, va⟩ := (hasVal_mul_rn ⟨ha, rfl⟩ ⟨hR, rfl⟩).small hza
  obtain ⟨rb, hrb, _, vb⟩ := (hasVal_mul_rn ⟨hb, rfl⟩ ⟨hR, rfl⟩).small hzb
  rw [fl_eq, fl_eq]
  apply Dy.floor_mono
  show (a * R).val ≤ (b * R).val
  rw [va, vb]
  exact IsRN.mono (by norm_num) hra hrb (mul_le_mul_of_nonneg_right hab hR0)

theorem fl_mul_bounds (a R : F64) (ha : a.isFinite = true) (hR : R.isFinite = true) (lo hi : ℤ)
    (hlo : |lo| ≤ 2 ^ 52) (hhi : |hi| ≤ 2 ^ 52) (h1 : (lo:ℚ) ≤ a.val * R.val) (h2 : a.val * R.val ≤ (hi:ℚ)) :
    lo ≤ fl (a * R) ∧ fl (a * R) ≤ hi := by
  have l1 : -(2:ℚ) ^ 52 ≤ (lo:ℚ) := by exact_mod_cast (abs_le.mp hlo).1
  have l2 : (hi:ℚ) ≤ (2:ℚ) ^ 52 := by exact_mod_cast (abs_le.mp hhi).2
  obtain ⟨r, hr, _, v⟩ := (hasVal_mul_rn ⟨ha, rfl⟩ ⟨hR, rfl⟩).small (abs_le.mpr ⟨by linarith, by linarith⟩)
  have b1 := hr.int_le lo (le_trans hlo (by norm_num)) h1
  have b2 := hr.le_int hi (le_trans hhi (by norm_num)) h2
  obtain ⟨q1, q2⟩ := fl_spec (a * R)
  rw [v] at q1 q2
  exact ⟨Int.lt_add_one_iff.mp (by exact_mod_cast lt_of_le_of_lt b1 q2), by exact_mod_cast le_trans q1 b2⟩

theorem fl_mul_abs (a R : F64) (ha : a.isFinite = true) (hR : R.isFinite = true) {A ρ : ℚ} (hi : ℤ) (hA : |a.val| ≤ A)
    (h0 : 0 ≤ R.val) (hρ : R.val ≤ ρ) (hhi : |hi| ≤ 2 ^ 52) (h : A * ρ ≤ hi) : -hi ≤ fl (a * R) ∧ fl (a * R) ≤ hi := by
  have hz := abs_le.mp (le_trans (abs_mul_le hA h0 hρ) h)
  exact fl_mul_bounds a R ha hR (-hi) hi (by rwa [abs_neg]) hhi (by push_cast; exact hz.1) hz.2

theorem windowOfIdx_ok (w h : Int) (cubic : Bool) (iw ie in0 is0 : Int) (hw2 : 2 ≤ w) (hev : w % 2 = 0) (hh : 3 ≤ h)
    (h1 : iw ≤ ie) (h2 : in0 ≤ is0) (hb : 4 ≤ w → -(w - 1) ≤ iw ∧ iw ≤ w - 1) :
    0 ≤ (windowOfIdx w h cubic iw ie in0 is0).1 ∧ (windowOfIdx w h cubic iw ie in0 is0).1 < w ∧
    0 < (windowOfIdx w h cubic iw ie in0 is0).2.2.1 ∧ (windowOfIdx w h cubic iw ie in0 is0).2.2.1 ≤ w ∧
    -1 ≤ (windowOfIdx w h cubic iw ie in0 is0).2.1 ∧ 0 < (windowOfIdx w h cubic iw ie in0 is0).2.2.2 ∧
    (windowOfIdx w h cubic iw ie in0 is0).2.1 + (windowOfIdx w h cubic iw ie in0 is0).2.2.2 ≤ h + 1 := by
  -- columns and rows are independent: the case distinctions of the one do not multiply those of the other
  generalize hP : windowOfIdx w h cubic iw ie in0 is0 = P
  have cols : 0 ≤ P.1 ∧ P.1 < w ∧ 0 < P.2.2.1 ∧ P.2.2.1 ≤ w := by
    rw [← hP]
    simp only [windowOfIdx]
    -- width 2 always caches whole rows; from width 4 on `iw` is within `±(w − 1)`
    have hb' : w = 2 ∨ (-(w - 1) ≤ iw ∧ iw ≤ w - 1) := by
      by_cases h4 : 4 ≤ w
      · exact .inr (hb h4)
      · exact .inl (by omega)
    cases cubic <;> simp only [Bool.false_eq_true, if_false, if_true] <;> omega
  have rows : -1 ≤ P.2.1 ∧ 0 < P.2.2.2 ∧ P.2.1 + P.2.2.2 ≤ h + 1 := by
    rw [← hP]
    simp only [windowOfIdx]
    cases cubic <;> simp only [Bool.false_eq_true, if_false, if_true] <;> omega
  exact ⟨cols.1, cols.2.1, cols.2.2.1, cols.2.2.2, rows⟩

theorem latFix_fin (x : F64) (h : (MathF.latFix x).isFinite = true) : MathF.latFix x = x ∧ |x.val| ≤ 90 := by
  obtain ⟨h1, h2⟩ := Props.C16.latFix_spec x
  have e : MathF.latFix x = x := by
    rcases h1 with h1 | h1
    · exact h1
    · rw [F64.isNaN_of_isFinite _ h] at h1; cases h1
  rw [e] at h
  obtain ⟨s, m, ee, rfl⟩ := F64.exists_fin_of_isFinite x h
  exact ⟨e, (h2 s m ee rfl).mpr e⟩

/-- `LatFix` returns its argument or NaN, and an infinite argument gives NaN -/
theorem latFix_finite_of_not_nan (x : F64) (h : (MathF.latFix x).isNaN = false) : (MathF.latFix x).isFinite = true := by
  rcases (Props.C16.latFix_spec x).1 with h1 | h1
  · rw [h1] at h ⊢
    cases x with
    | nan => cases h
    | fin s m e => rfl
    | inf s => cases s <;> cases h1
  · rw [h1] at h; cases h

theorem add_td (E0 : F64) (hE0 : E0.isFinite = true) (hEb : |E0.val| ≤ 180) :
    ∃ r : ℚ, IsRN 53 (-1074) (E0.val + 360) r ∧ HasVal (E0 + F64.ofInt Gen.MathC.td) r := by
  have hE' := abs_le.mp hEb
  have htd : HasVal (F64.ofInt Gen.MathC.td) 360 := by simpa [Gen.MathC.td] using hasVal_ofInt Gen.MathC.td
  exact (hasVal_add_rn ⟨hE0, rfl⟩ htd).small (by rw [abs_le]; constructor <;> norm_num <;> linarith)

theorem eastOf_val (W E0 : F64) (hW : W.isFinite = true) (hE0 : E0.isFinite = true) (hWb : |W.val| ≤ 180) (hEb : |E0.val| ≤ 180) :
    (eastOf W E0).isFinite = true ∧ W.val ≤ (eastOf W E0).val ∧ (eastOf W E0).val ≤ 540 := by
  unfold eastOf
  have hW' := abs_le.mp hWb
  have hE' := abs_le.mp hEb
  split
  · obtain ⟨r, hr, f1, f2⟩ := add_td E0 hE0 hEb
    have b1 := hr.int_le 180 (by norm_num) (by push_cast; linarith)
    have b2 := hr.le_int 540 (by norm_num) (by push_cast; linarith)
    push_cast at b1 b2
    exact ⟨f1, by rw [f2]; linarith, by rw [f2]; exact b2⟩
  · rename_i hle
    have : ¬ (E0.val ≤ W.val) := fun h => hle ((F64.le_iff hE0 hW).mpr h)
    exact ⟨hE0, by linarith, by linarith⟩

/-- `NaN ≤ west` is false, `±∞ + 360 = ±∞` -/
theorem eastOf_arg_finite (W E0 : F64) (h : (eastOf W E0).isFinite = true) : E0.isFinite = true := by
  cases E0 with
  | fin s m e => rfl
  | nan =>
    unfold eastOf at h
    have : F64.le F64.nan W = false := by cases W <;> rfl
    rw [this] at h; simp [F64.isFinite] at h
  | inf s =>
    unfold eastOf at h
    split at h
    · have : (F64.inf s + F64.ofInt Gen.MathC.td) = F64.inf s := rfl
      rw [this] at h; simp [F64.isFinite] at h
    · simp [F64.isFinite] at h

theorem eastOf_val_neg (W E0 : F64) (hW : W.isFinite = true) (hE0 : E0.isFinite = true) (hWn : W.val < 0) (hEb : |E0.val| ≤ 180) :
    (eastOf W E0).val ≤ 360 := by
  unfold eastOf
  have hE' := abs_le.mp hEb
  split
  · rename_i hle
    have hle' := (F64.le_iff hE0 hW).mp hle
    obtain ⟨r, hr, _, f2⟩ := add_td E0 hE0 hEb
    have b2 := hr.le_int 360 (by norm_num) (by push_cast; linarith)
    push_cast at b2
    rw [f2]; exact b2
  · linarith

/-- the tests `CacheArea` makes before its index arithmetic -/
def CacheLimitsOK (south west north east : F64) : Prop :=
  F64.gt south north = false ∧
  ((MathF.latFix south).isFinite && (MathF.latFix north).isFinite && (MathF.angNormalize west).isFinite &&
      (eastOf (MathF.angNormalize west) (MathF.angNormalize east)).isFinite) = true

theorem CacheLimitsOK.vals {south west north east : F64} (hok : CacheLimitsOK south west north east) :
    (MathF.latFix south = south ∧ south.isFinite = true ∧ |south.val| ≤ 90) ∧
    (MathF.latFix north = north ∧ north.isFinite = true ∧ |north.val| ≤ 90) ∧ south.val ≤ north.val ∧
    (MathF.angNormalize west).isFinite = true ∧ |(MathF.angNormalize west).val| ≤ 180 ∧
    (eastOf (MathF.angNormalize west) (MathF.angNormalize east)).isFinite = true ∧
    (MathF.angNormalize west).val ≤ (eastOf (MathF.angNormalize west) (MathF.angNormalize east)).val ∧
    (eastOf (MathF.angNormalize west) (MathF.angNormalize east)).val ≤ 540 ∧
    ((MathF.angNormalize west).val < 0 → (eastOf (MathF.angNormalize west) (MathF.angNormalize east)).val ≤ 360) := by
  obtain ⟨hgt, hfin⟩ := hok
  simp only [Bool.and_eq_true] at hfin
  obtain ⟨⟨⟨fS, fN⟩, fW⟩, fE⟩ := hfin
  obtain ⟨eS, bS⟩ := latFix_fin south fS
  obtain ⟨eN, bN⟩ := latFix_fin north fN
  rw [eS] at fS; rw [eN] at fN
  have bW := (angNormalize_bounds west (F64.isNaN_of_isFinite _ fW)).2
  have fE0 := eastOf_arg_finite _ _ fE
  have bE0 := (angNormalize_bounds east (F64.isNaN_of_isFinite _ fE0)).2
  obtain ⟨_, e1, e2⟩ := eastOf_val _ _ fW fE0 bW bE0
  refine ⟨⟨eS, fS, bS⟩, ⟨eN, fN, bN⟩, ?_, fW, bW, fE, e1, e2, fun hn => eastOf_val_neg _ _ fW fE0 hn bE0⟩
  by_contra hc
  have := (F64.lt_iff fN fS).mpr (not_le.mp hc)
  unfold F64.gt at hgt; rw [this] at hgt; cases hgt

theorem lonFloors_facts (w : ℤ) (h2 : 2 ≤ w) (hmax : w ≤ 2 ^ 31) (W E : F64) (fW : W.isFinite = true) (fE : E.isFinite = true)
    (bW : |W.val| ≤ 180) (e1 : W.val ≤ E.val) (e2 : E.val ≤ 540) (e3 : W.val < 0 → E.val ≤ 360) :
    fl (W * (F64.ofInt w / F64.ofInt Gen.MathC.td)) ≤ fl (E * (F64.ofInt w / F64.ofInt Gen.MathC.td)) ∧
    (4 ≤ w → -(w - 1) ≤ fl (W * (F64.ofInt w / F64.ofInt Gen.MathC.td)) ∧ fl (W * (F64.ofInt w / F64.ofInt Gen.MathC.td)) ≤ w - 1) ∧
    (-w ≤ fl (W * (F64.ofInt w / F64.ofInt Gen.MathC.td)) ∧ fl (W * (F64.ofInt w / F64.ofInt Gen.MathC.td)) ≤ w) ∧
    fl (E * (F64.ofInt w / F64.ofInt Gen.MathC.td)) ≤ 3 * w / 2 + 1 ∧
    fl (E * (F64.ofInt w / F64.ofInt Gen.MathC.td)) - fl (W * (F64.ofInt w / F64.ofInt Gen.MathC.td)) ≤ 3 * w / 2 + 2 := by
  obtain ⟨fR, r0, r1, r2⟩ := ofInt_div_bounds w Gen.MathC.td 8 (by omega) hmax (by decide) (by norm_num)
  set R := F64.ofInt w / F64.ofInt Gen.MathC.td
  have hwq : (w:ℚ) ≤ 2147483648 := by exact_mod_cast hmax
  -- what is used of the scale factor: `0 ≤ R` and `360·R ≤ w + 1/4`
  have r360 : 360 * R.val ≤ w + 1 / 4 := by
    have e1075 : (2:ℚ) ^ (-(1075:ℤ)) ≤ (2:ℚ) ^ (-(53:ℤ)) := zpow_le_zpow_right₀ (by norm_num) (by norm_num)
    have e53 : (2:ℚ) ^ (-(53:ℤ)) = 1 / 9007199254740992 := by norm_num
    have etd : ((Gen.MathC.td : ℤ) : ℚ) = 360 := by norm_num [Gen.MathC.td]
    rw [e53] at r2 e1075
    rw [etd] at r2
    linarith only [r2, e1075, hwq]
  have hhalf : (w:ℚ) ≤ ((w / 2 : ℤ) : ℚ) * 2 + 1 := by exact_mod_cast (by omega : w ≤ w / 2 * 2 + 1)
  have h32 : 3 * (w:ℚ) ≤ ((3 * w / 2 : ℤ) : ℚ) * 2 + 1 := by exact_mod_cast (by omega : 3 * w ≤ 3 * w / 2 * 2 + 1)
  have hW' := abs_le.mp bW
  have pW1 : -180 * R.val ≤ W.val * R.val := mul_le_mul_of_nonneg_right hW'.1 r0
  have pW2 : W.val * R.val ≤ 180 * R.val := mul_le_mul_of_nonneg_right hW'.2 r0
  have pE1 : W.val * R.val ≤ E.val * R.val := mul_le_mul_of_nonneg_right e1 r0
  have pE2 : E.val * R.val ≤ 540 * R.val := mul_le_mul_of_nonneg_right e2 r0
  -- `|west·R| ≤ 180·R ≤ w/2 + 1/8`
  have lW : ((-(w / 2) - 1 : ℤ) : ℚ) ≤ W.val * R.val := by push_cast; linarith only [pW1, r360, hhalf]
  have uW : W.val * R.val ≤ ((w / 2 + 1 : ℤ) : ℚ) := by push_cast; linarith only [pW2, r360, hhalf]
  have int52 : ∀ {x : ℤ}, -(2 * w + 2) ≤ x → x ≤ 2 * w + 2 → |x| ≤ 2 ^ 52 := fun h1 h2 => abs_le.mpr ⟨by omega, by omega⟩
  have lo52 : |-(w / 2) - 1| ≤ 2 ^ 52 := int52 (by omega) (by omega)
  have hi52 : |w / 2 + 1| ≤ 2 ^ 52 := int52 (by omega) (by omega)
  obtain ⟨a1, a2⟩ := fl_mul_bounds W R fW fR _ _ lo52 hi52 lW uW
  have b2 := (fl_mul_bounds E R fE fR _ (3 * w / 2 + 1) lo52 (int52 (by omega) (by omega)) (le_trans lW pE1)
    (by push_cast; linarith only [pE2, r360, h32])).2
  have h52 : ∀ {a : F64}, |a.val| ≤ 540 → |a.val * R.val| ≤ 2 ^ 52 := fun ha =>
    le_trans (abs_mul_le ha r0 r1) (by norm_num; linarith only [hwq])
  refine ⟨fl_mul_mono W E R fW fE fR e1 r0 (h52 (le_trans bW (by norm_num))) (h52 (abs_le.mpr ⟨by linarith only [hW'.1, e1], e2⟩)),
    fun h4 => by omega, by omega, b2, ?_⟩
  by_cases hWn : W.val < 0
  · -- then `east ≤ 360`: `⌊east·R⌋ ≤ w + 1`, against `−w/2 − 1 ≤ ⌊west·R⌋`
    have pE3 : E.val * R.val ≤ 360 * R.val := mul_le_mul_of_nonneg_right (e3 hWn) r0
    have u1 := (fl_mul_bounds E R fE fR _ (w + 1) lo52 (int52 (by omega) (by omega)) (le_trans lW pE1)
      (by push_cast; linarith only [pE3, r360])).2
    omega
  · have u2 := (fl_mul_bounds W R fW fR 0 _ (by norm_num) hi52 (by push_cast; exact mul_nonneg (not_lt.mp hWn) r0) uW).1
    omega

theorem latFloors_facts (h : ℤ) (hh : 3 ≤ h) (hmax : h ≤ 2 ^ 31) (N S : F64) (fN : N.isFinite = true) (fS : S.isFinite = true)
    (bN : |N.val| ≤ 90) (bS : |S.val| ≤ 90) (hSN : S.val ≤ N.val) :
    fl (F64.neg N * (F64.ofInt (h - 1) / F64.ofInt Gen.MathC.hd)) ≤ fl (F64.neg S * (F64.ofInt (h - 1) / F64.ofInt Gen.MathC.hd)) ∧
    (-h ≤ fl (F64.neg N * (F64.ofInt (h - 1) / F64.ofInt Gen.MathC.hd)) ∧ fl (F64.neg N * (F64.ofInt (h - 1) / F64.ofInt Gen.MathC.hd)) ≤ h) ∧
    (-h ≤ fl (F64.neg S * (F64.ofInt (h - 1) / F64.ofInt Gen.MathC.hd)) ∧ fl (F64.neg S * (F64.ofInt (h - 1) / F64.ofInt Gen.MathC.hd)) ≤ h) := by
  obtain ⟨fL, l0, l1, _⟩ := ofInt_div_bounds (h - 1) Gen.MathC.hd 7 (by omega) (by omega) (by decide) (by norm_num)
  set L := F64.ofInt (h - 1) / F64.ofInt Gen.MathC.hd
  have hhq : (h:ℚ) ≤ 2147483648 := by exact_mod_cast hmax
  have hh3 : (3:ℚ) ≤ (h:ℚ) := by exact_mod_cast hh
  push_cast at l1
  norm_num at l1
  have fnN : (F64.neg N).isFinite = true := by rwa [F64.isFinite_neg]
  have fnS : (F64.neg S).isFinite = true := by rwa [F64.isFinite_neg]
  have bnN : |(F64.neg N).val| ≤ 90 := by rwa [F64.val_neg, abs_neg]
  have bnS : |(F64.neg S).val| ≤ 90 := by rwa [F64.val_neg, abs_neg]
  have hh52 : |h| ≤ 2 ^ 52 := abs_le.mpr ⟨by omega, by omega⟩
  have h52 : ∀ {a : F64}, |a.val| ≤ 90 → |a.val * L.val| ≤ 2 ^ 52 := fun ha =>
    le_trans (abs_mul_le ha l0 l1) (by norm_num; linarith only [hhq])
  have hρ : (90:ℚ) * ((h - 1) / 128) ≤ h := by linarith only [hh3]
  exact ⟨fl_mul_mono _ _ L fnN fnS fL (by rw [F64.val_neg, F64.val_neg]; exact neg_le_neg hSN) l0 (h52 bnN) (h52 bnS),
    fl_mul_abs _ L fnN fL h bnN l0 l1 hh52 hρ, fl_mul_abs _ L fnS fL h bnS l0 l1 hh52 hρ⟩

/-- the four floors of `CacheArea`, `r = _rlonres`, `r' = _rlatres`: `⌊west·r⌋ ≤ ⌊east·r⌋`, `⌊−north·r'⌋ ≤ ⌊−south·r'⌋`,
    `|⌊west·r⌋| ≤ w` (`≤ w − 1` for `w ≥ 4`), `⌊east·r⌋ ≤ 3w/2 + 1`, `⌊east·r⌋ − ⌊west·r⌋ ≤ 3w/2 + 2`, the latitude floors
    within `±h` -/
theorem cacheFloors_facts (f : File) (h2 : 2 ≤ f.w) (hmax : f.w ≤ 2 ^ 30) (hh : 3 ≤ f.h) (hhmax : f.h ≤ 2 ^ 30)
    (south west north east : F64) (hok : CacheLimitsOK south west north east) :
    (cacheFloors f south west north east).1 ≤ (cacheFloors f south west north east).2.1 ∧
    (cacheFloors f south west north east).2.2.1 ≤ (cacheFloors f south west north east).2.2.2 ∧
    (4 ≤ f.w → -(f.w - 1) ≤ (cacheFloors f south west north east).1 ∧ (cacheFloors f south west north east).1 ≤ f.w - 1) ∧
    (-f.w ≤ (cacheFloors f south west north east).1 ∧ (cacheFloors f south west north east).1 ≤ f.w) ∧
    (cacheFloors f south west north east).2.1 ≤ 3 * f.w / 2 + 1 ∧
    (cacheFloors f south west north east).2.1 - (cacheFloors f south west north east).1 ≤ 3 * f.w / 2 + 2 ∧
    (-f.h ≤ (cacheFloors f south west north east).2.2.1 ∧ (cacheFloors f south west north east).2.2.1 ≤ f.h) ∧
    (-f.h ≤ (cacheFloors f south west north east).2.2.2 ∧ (cacheFloors f south west north east).2.2.2 ≤ f.h) := by
  obtain ⟨⟨eS, fS, bS⟩, ⟨eN, fN, bN⟩, hSN, fW, bW, fE, e1, e2, e3⟩ := hok.vals
  obtain ⟨c1, c2, c2', c4, c5⟩ := lonFloors_facts f.w h2 (by omega) _ _ fW fE bW e1 e2 e3
  obtain ⟨c3, c6, c7⟩ := latFloors_facts f.h hh (by omega) north south fN fS bN bS hSN
  simp only [cacheFloors, eS, eN]
  exact ⟨c1, c3, c2, c2', c4, c5, c6, c7⟩

theorem cacheWindow_set_limits (f : File) (cubic : Bool) (south west north east : F64) (xo yo xs ys : ℤ)
    (hw : cacheWindow f cubic south west north east = .set xo yo xs ys) :
    CacheLimitsOK south west north east ∧
    (xo, yo, xs, ys) = windowOfIdx f.w f.h cubic (cacheFloors f south west north east).1 (cacheFloors f south west north east).2.1
      (cacheFloors f south west north east).2.2.1 (cacheFloors f south west north east).2.2.2 := by
  unfold cacheWindow at hw
  by_cases hgt : F64.gt south north = true
  · rw [if_pos hgt] at hw; cases hw
  rw [if_neg hgt] at hw
  by_cases hfin : (!((MathF.latFix south).isFinite && (MathF.latFix north).isFinite && (MathF.angNormalize west).isFinite &&
      (eastOf (MathF.angNormalize west) (MathF.angNormalize east)).isFinite)) = true
  · rw [if_pos hfin] at hw; cases hw
  rw [if_neg hfin] at hw
  refine ⟨⟨by simpa using hgt, by simpa using hfin⟩, ?_⟩
  injection hw with a1 a2 a3 a4
  rw [← a1, ← a2, ← a3, ← a4]

theorem cacheWindow_ok (f : File) (cubic : Bool) (h2 : 2 ≤ f.w) (hev : f.w % 2 = 0) (hmax : f.w ≤ 2 ^ 31)
    (hh : 3 ≤ f.h) (hhmax : f.h ≤ 2 ^ 31) (south west north east : F64) (xo yo xs ys : ℤ)
    (hw : cacheWindow f cubic south west north east = .set xo yo xs ys) :
    0 ≤ xo ∧ xo < f.w ∧ 0 < xs ∧ xs ≤ f.w ∧ -1 ≤ yo ∧ 0 < ys ∧ yo + ys ≤ f.h + 1 := by
  obtain ⟨hok, hwin⟩ := cacheWindow_set_limits f cubic south west north east xo yo xs ys hw
  obtain ⟨⟨eS, fS, bS⟩, ⟨eN, fN, bN⟩, hSN, fW, bW, fE, e1, e2, e3⟩ := hok.vals
  obtain ⟨c1, c2, _⟩ := lonFloors_facts f.w h2 hmax _ _ fW fE bW e1 e2 e3
  obtain ⟨c3, _⟩ := latFloors_facts f.h hh hhmax north south fN fS bN bS hSN
  have key := windowOfIdx_ok f.w f.h cubic _ _ _ _ h2 hev hh c1 c3 c2
  simp only [cacheFloors, eS, eN] at hwin
  rw [← hwin] at key
  exact key

theorem rlatres_fine (h : ℤ) (h2 : 1 ≤ h) (hmax : h ≤ 2 ^ 31) :
    (F64.ofInt (h - 1) / F64.ofInt Gen.MathC.hd).val ≤ ((h - 1 : ℤ):ℚ) / 180 * (1 + (2:ℚ) ^ (-(53:ℤ))) + (2:ℚ) ^ (-(1075:ℤ)) :=
  (ofInt_div_bounds (h - 1) Gen.MathC.hd 7 (by omega) (by omega) (by decide) (by norm_num)).2.2.2

/-- the clamp at both ends (repair 63168e3 of finding F72) keeps latitude +90 in the first row of cells and latitude −90
    in the last one, whatever the two roundings of `90·((h−1)/180)` do -/
theorem locF_iy_range (f : File) (h3 : 3 ≤ f.h) (lat lon : F64) (ix iy : ℤ) (fx fy : F64)
    (h : locF f lat lon = some (ix, iy, fx, fy)) : 0 ≤ iy ∧ iy ≤ f.h - 2 := by
  rw [(locF_eq_some h).2.2.2]
  omega

/-- what the clamp cures: on a raster of height 59 the unclamped row of latitude +90 is `⌊−90·fl(58/180)⌋ = −30`, one
    below `−(h−1)/2 = −29` (the two roundings end above 29) -/
theorem north_row_needs_clamp :
    fl (F64.neg (F64.ofInt 90) * (F64.ofInt (59 - 1) / F64.ofInt Gen.MathC.hd)) = -30 ∧ -((59 - 1) / 2 : ℤ) = -29 := by
  decide +kernel

/-- what makes the two conversions `int(floor(·))` of `Geoid::height` defined -/
theorem heightFloors_facts (f : File) (h2 : 2 ≤ f.w) (hmax : f.w ≤ 2 ^ 30) (hh : 3 ≤ f.h) (hhmax : f.h ≤ 2 ^ 30) (lat lon : F64)
    (hlat : (MathF.latFix lat).isNaN = false) (hlon : (MathF.angNormalize lon).isNaN = false) :
    (-f.w ≤ fl (MathF.angNormalize lon * (F64.ofInt f.w / F64.ofInt Gen.MathC.td)) ∧
      fl (MathF.angNormalize lon * (F64.ofInt f.w / F64.ofInt Gen.MathC.td)) ≤ f.w) ∧
    (-f.h ≤ fl (F64.neg (MathF.latFix lat) * (F64.ofInt (f.h - 1) / F64.ofInt Gen.MathC.hd)) ∧
      fl (F64.neg (MathF.latFix lat) * (F64.ofInt (f.h - 1) / F64.ofInt Gen.MathC.hd)) ≤ f.h) := by
  obtain ⟨fLon, bLon⟩ := angNormalize_bounds lon hlon
  have fLat := latFix_finite_of_not_nan lat hlat
  obtain ⟨eL, bLat⟩ := latFix_fin lat fLat
  rw [eL] at fLat ⊢
  exact ⟨(lonFloors_facts f.w h2 (by omega) _ _ fLon fLon bLon le_rfl (le_trans (le_abs_self _) (le_trans bLon (by norm_num)))
      (fun hn => by linarith)).2.2.1,
    (latFloors_facts f.h hh (by omega) lat lat fLat fLat bLat bLat le_rfl).2.1⟩

end Geoid
end GeoVerif
