import GeoVerif.Model.RhumbSeries
import GeoVerif.Proofs.Rhumb
import GeoVerif.Props.C16
import Mathlib.Analysis.SpecialFunctions.Trigonometric.Sinc
import Mathlib.Analysis.SpecialFunctions.Trigonometric.Deriv
import Mathlib.Analysis.Calculus.Deriv.Slope
/-!
# The series path of `Rhumb` (`Model/RhumbSeries.lean`) read over ℝ: `AuxAngle`, `Convert` / `DConvert`, `DClenshaw` on two angles
with its confluent value, `dmu/dpsi`, `MeanSinXi`, `GenInverse`, the regular branch of `GenPosition`; `Math::atan2d`, `Math::sincosd`
on `[−90, 90]` (octant logic from `Props/C16.lean`).
-/
namespace GeoVerif.Proofs.RhumbSeries
open GeoVerif GeoVerif.Rhumb GeoVerif.RhumbS GeoVerif.Proofs.Rhumb Real

theorem cos_pos_of_abs_lt {x : ℝ} (hx : |x| < π / 2) : 0 < cos x := Real.cos_pos_of_mem_Ioo (abs_lt.mp hx)

theorem cos_ne_zero_of_abs_lt {x : ℝ} (hx : |x| < π / 2) : cos x ≠ 0 := (cos_pos_of_abs_lt hx).ne'

theorem arctan_tan_of_abs_lt {x : ℝ} (hx : |x| < π / 2) : Real.arctan (Real.tan x) = x :=
  Real.arctan_tan (abs_lt.mp hx).1 (abs_lt.mp hx).2

theorem abs_lt_pi_of_lt_half {x : ℝ} (hx : |x| < π / 2) : -π < x ∧ x ≤ π :=
  have h := abs_lt.mp (hx.trans (half_lt_self Real.pi_pos))
  ⟨h.1, h.2.le⟩

theorem sc_tan (x : ℝ) (hx : |x| < π / 2) : sc (Real.tan x) = 1 / cos x := by
  have hc := cos_pos_of_abs_lt hx
  rw [sc_real, Real.tan_eq_sin_div_cos]
  have : 1 + (sin x / cos x) ^ 2 = (1 / cos x) ^ 2 := by
    field_simp; linear_combination Real.sin_sq_add_cos_sq x
  rw [this, Real.sqrt_sq (by positivity)]

theorem sn_tan (x : ℝ) (hx : |x| < π / 2) : sn (Real.tan x) = sin x := by
  rw [sn_real, sc_tan x hx, Real.tan_eq_sin_div_cos]
  have := cos_ne_zero_of_abs_lt hx
  field_simp

theorem arg_unit (η : ℝ) (h1 : -π < η) (h2 : η ≤ π) : Complex.arg ⟨cos η, sin η⟩ = η := by
  simpa only [one_mul] using GeoVerif.Props.C16.arg_of_polar 1 η one_pos h1 h2

theorem normalized_polar (r ζ : ℝ) (hr : 0 < r) : normalized (r * sin ζ, r * cos ζ) = (sin ζ, cos ζ) := by
  unfold normalized
  simp only [hypot_real]
  have : (r * sin ζ) ^ 2 + (r * cos ζ) ^ 2 = r ^ 2 := by linear_combination r ^ 2 * Real.sin_sq_add_cos_sq ζ
  rw [this, Real.sqrt_sq hr.le, mul_div_cancel_left₀ _ hr.ne', mul_div_cancel_left₀ _ hr.ne']

theorem normalized_unit (ζ : ℝ) : normalized (sin ζ, cos ζ) = (sin ζ, cos ζ) := by
  simpa only [one_mul] using normalized_polar 1 ζ one_pos

theorem radians_unit (η : ℝ) (h1 : -π < η) (h2 : η ≤ π) : radians (sin η, cos η) = η := arg_unit η h1 h2

theorem radians_half (a : ℝ) (ha : |a| < π / 2) : radians (sin a, cos a) = a :=
  radians_unit a (abs_lt_pi_of_lt_half ha).1 (abs_lt_pi_of_lt_half ha).2

theorem tanA_unit (η : ℝ) : tanA (sin η, cos η) = Real.tan η := (Real.tan_eq_sin_div_cos η).symm

/-- the series auxiliary latitude `η(ζ) = ζ + Σ_k c_k sin((2k+2)ζ)`, the sum being the code's Clenshaw sum -/
noncomputable def serA (c : List ℝ) (ζ : ℝ) : ℝ := ζ + clenshaw true (sin ζ) (cos ζ) c

theorem rotate_real (sz cz d : ℝ) (hd : |d| < π / 2) :
    AuxLat.rotate sz cz d = (sz * cos d + cz * sin d, cz * cos d - sz * sin d) := by
  have hc := cos_ne_zero_of_abs_lt hd
  unfold AuxLat.rotate
  simp only [sin_real, cos_real, eqb_real, ofNat_real, Nat.cast_zero, decide_eq_true_eq]
  split_ifs with h
  · -- the code skips the rotation when `tan d = 0`: then `d = 0`
    have hs : sin d = 0 := (div_eq_zero_iff.mp h).resolve_right hc
    have hπ := abs_lt.mp (hd.trans (half_lt_self Real.pi_pos))
    have hd0 : d = 0 := (Real.sin_eq_zero_iff_of_lt_of_lt hπ.1 hπ.2).mp hs
    subst hd0; simp
  · rfl

theorem convertS_polar (c : List ℝ) (r ζ : ℝ) (hr : 0 < r) : convertS c (r * sin ζ, r * cos ζ) = convertS c (sin ζ, cos ζ) := by
  unfold convertS; rw [normalized_polar r ζ hr, normalized_unit]

theorem convertS_unit (c : List ℝ) (ζ : ℝ) (hd : |clenshaw true (sin ζ) (cos ζ) c| < π / 2) :
    convertS c (sin ζ, cos ζ) = (sin (serA c ζ), cos (serA c ζ)) := by
  unfold convertS serA
  rw [normalized_unit]
  simp only
  rw [rotate_real _ _ _ hd, Real.sin_add, Real.cos_add]

/-- also in the code's `Delta == 1` reading, where `szetamd` is the difference itself -/
theorem szetamd_angle (z Δ : ℝ) : szetamd Δ (sin z) (cos z) (sin (z + Δ)) (cos (z + Δ)) = Real.sinc Δ := by
  unfold szetamd
  simp only [eqb_real, decide_eq_true_eq, lit0, lit1, sin_real]
  split_ifs with h1 h0
  · subst h1
    rw [Real.sinc_of_ne_zero one_ne_zero, div_one, ← Real.sin_sub, add_sub_cancel_left]
  · subst h0; simp
  · rw [Real.sinc_of_ne_zero h0]

theorem sinc_mul_self (Δ : ℝ) : Real.sinc Δ * Δ = sin Δ := by
  by_cases h : Δ = 0
  · subst h; simp
  · rw [Real.sinc_of_ne_zero h, div_mul_cancel₀ _ h]

theorem dclenshaw_angle (sinp : Bool) (z Δ : ℝ) (cs : List ℝ) :
    DClenshaw sinp Δ (sin z) (cos z) (sin (z + Δ)) (cos (z + Δ)) cs * Δ
      = clenshaw sinp (sin (z + Δ)) (cos (z + Δ)) cs - clenshaw sinp (sin z) (cos z) cs := by
  apply dclenshaw_gen _ _ _ _ _ _ _ (Real.sin_sq_add_cos_sq z) (Real.sin_sq_add_cos_sq (z + Δ))
  rw [szetamd_angle, sinc_mul_self, ← Real.sin_sub, add_sub_cancel_left]

theorem dclenshaw_two_angles (sinp : Bool) (z1 z2 : ℝ) (cs : List ℝ) :
    DClenshaw sinp (z2 - z1) (sin z1) (cos z1) (sin z2) (cos z2) cs * (z2 - z1)
      = clenshaw sinp (sin z2) (cos z2) cs - clenshaw sinp (sin z1) (cos z1) cs := by
  simpa only [add_sub_cancel] using dclenshaw_angle sinp z1 (z2 - z1) cs

theorem dclen_continuous (Xa Xb D2 : ℝ → ℝ) (ha : Continuous Xa) (hb : Continuous Xb) (hd : Continuous D2) (cs : List ℝ) :
    Continuous fun t => dclen (Xa t) (Xb t) (D2 t) cs := by
  induction cs with
  | nil => exact continuous_const
  | cons c cs ih =>
    simp only [dclen_cons]
    fun_prop

theorem dclenshaw_continuous (sinp : Bool) (z : ℝ) (cs : List ℝ) :
    Continuous (fun Δ => DClenshaw sinp Δ (sin z) (cos z) (sin (z + Δ)) (cos (z + Δ)) cs) := by
  have hsinc := Real.continuous_sinc
  have h := dclen_continuous
    (fun Δ : ℝ => 2 * (cos (z + Δ) * cos z - sin (z + Δ) * sin z) * (cos (z + Δ) * cos z + sin (z + Δ) * sin z))
    (fun Δ : ℝ => -(2 * (sin (z + Δ) * cos z + cos (z + Δ) * sin z) * Real.sinc Δ)) (fun Δ : ℝ => Δ * Δ)
    (by fun_prop) (by fun_prop) (by fun_prop) cs
  unfold DClenshaw
  simp only [szetamd_angle, lit0, lit1, lit2]
  cases sinp
  · simp only [Bool.false_eq_true, if_false]
    fun_prop
  · simp only [if_true]
    fun_prop

/-- the confluent case, as the limit `Δ → 0` of `dclenshaw_angle` by continuity of the code's expression in `Δ` -/
theorem dclenshaw_hasDerivAt (sinp : Bool) (z : ℝ) (cs : List ℝ) :
    HasDerivAt (fun x => clenshaw sinp (sin x) (cos x) cs) (DClenshaw sinp 0 (sin z) (cos z) (sin z) (cos z) cs) z := by
  rw [hasDerivAt_iff_tendsto_slope_zero]
  have hG := (dclenshaw_continuous sinp z cs).tendsto 0
  simp only [add_zero] at hG
  refine (hG.mono_left nhdsWithin_le_nhds).congr' ?_
  filter_upwards [self_mem_nhdsWithin] with t ht
  have ht0 : t ≠ 0 := ht
  rw [smul_eq_mul, ← dclenshaw_angle sinp z t cs]
  field_simp

theorem dconvert_polar (c : List ℝ) (r1 r2 z1 z2 : ℝ) (hr1 : 0 < r1) (hr2 : 0 < r2) :
    dconvert c (r1 * sin z1, r1 * cos z1) (r2 * sin z2, r2 * cos z2) = dconvert c (sin z1, cos z1) (sin z2, cos z2) := by
  unfold dconvert; rw [normalized_polar r1 z1 hr1, normalized_polar r2 z2 hr2, normalized_unit, normalized_unit]

theorem dconvert_dd (c : List ℝ) (z1 z2 : ℝ) (h1 : -π < z1 ∧ z1 ≤ π) (h2 : -π < z2 ∧ z2 ≤ π) :
    dconvert c (sin z1, cos z1) (sin z2, cos z2) * (z2 - z1) = serA c z2 - serA c z1 := by
  unfold dconvert serA
  rw [normalized_unit, normalized_unit]
  simp only
  rw [radians_unit z1 h1.1 h1.2, radians_unit z2 h2.1 h2.2, lit1]
  linear_combination dclenshaw_two_angles true z1 z2 c

theorem dconvert_hasDerivAt (c : List ℝ) (z : ℝ) : HasDerivAt (serA c) (dconvert c (sin z, cos z) (sin z, cos z)) z := by
  unfold dconvert
  rw [normalized_unit]
  simp only [sub_self, lit1]
  exact (hasDerivAt_id z).add (dclenshaw_hasDerivAt true z c)

/-- isometric latitude of a conformal latitude (`AuxAngle::lam`) -/
noncomputable def psiOf (χ : ℝ) : ℝ := Real.arsinh (Real.tan χ)

theorem lam_unit (χ : ℝ) : lam (sin χ, cos χ) = psiOf χ := by
  unfold lam psiOf; rw [tanA_unit]; rfl

theorem psiOf_sub_ne_zero {x y : ℝ} (hx : |x| < π / 2) (hy : |y| < π / 2) (h : x ≠ y) : psiOf y - psiOf x ≠ 0 :=
  arsinh_sub_ne_zero fun e =>
    h (Real.tan_inj_of_lt_of_lt_pi_div_two (abs_lt.mp hx).1 (abs_lt.mp hx).2 (abs_lt.mp hy).1 (abs_lt.mp hy).2 e)

theorem dlam_angles (x y : ℝ) (hx : |x| < π / 2) (hy : |y| < π / 2) :
    Dlam (Real.tan x) (Real.tan y) * (y - x) = psiOf y - psiOf x := by
  have h := dlam_dd (Real.tan x) (Real.tan y)
  rwa [arctan_tan_of_abs_lt hx, arctan_tan_of_abs_lt hy] at h

theorem dconv_dlam_dd (c : List ℝ) (x y : ℝ) (hx : |x| < π / 2) (hy : |y| < π / 2) :
    dconvert c (sin x, cos x) (sin y, cos y) / Dlam (Real.tan x) (Real.tan y) * (psiOf y - psiOf x) = serA c y - serA c x := by
  by_cases hne : x = y
  · subst hne; simp
  · exact dd_div (dconvert_dd c x y (abs_lt_pi_of_lt_half hx) (abs_lt_pi_of_lt_half hy)) (dlam_angles x y hx hy)
      (psiOf_sub_ne_zero hx hy hne)

/-- on a parallel -/
theorem dmudpsiS_confluent (P : Params ℝ) (x : ℝ) (hx : |x| < π / 2) :
    ∃ m' : ℝ, HasDerivAt (serA P.cMuChi) m' x ∧ dmudpsiS P (sin x, cos x) (sin x, cos x) = m' * cos x := by
  refine ⟨_, dconvert_hasDerivAt P.cMuChi x, ?_⟩
  unfold dmudpsiS
  rw [tanA_unit, dlam_confluent, ← sc_real, sc_tan x hx, div_div_eq_mul_div, div_one]

/-- spherical rhumb-area term of `MeanSinXi`, `= log sec χ` -/
noncomputable def p0Of (χ : ℝ) : ℝ := Real.arsinh (hfun (Real.tan χ))

/-- ellipsoidal correction `p(β) = Σ_l P_l cos((2l+2)β)` of `MeanSinXi` -/
noncomputable def pOf (pP : List ℝ) (β : ℝ) : ℝ := clenshaw false (sin β) (cos β) pP

/-- the parametric latitude `MeanSinXi` forms from a conformal latitude: χ→φ series, then φ→β series -/
noncomputable def betaVia (P : Params ℝ) (χ : ℝ) : ℝ := serA P.cBetaPhi (serA P.cPhiChi χ)

/-- the two-step conversion χ → φ → β of `MeanSinXi` stays on the principal branch -/
structure BetaOK (P : Params ℝ) (χ : ℝ) : Prop where
  dphi : |clenshaw true (sin χ) (cos χ) P.cPhiChi| < π / 2
  dbeta : |clenshaw true (sin (serA P.cPhiChi χ)) (cos (serA P.cPhiChi χ)) P.cBetaPhi| < π / 2
  range : -π < betaVia P χ ∧ betaVia P χ ≤ π

/-- `MeanSinXi` away from the poles: `Dp0Dpsi + DpbetaDbeta · DbetaDpsi` -/
theorem meanSinXi_unit (P : Params ℝ) (x y : ℝ) (hx : |x| < π / 2) (hy : |y| < π / 2) (bx : BetaOK P x) (by' : BetaOK P y) :
    meanSinXi P (sin x, cos x) (sin y, cos y) =
      Dp0Dpsi (Real.tan x) (Real.tan y) +
      DClenshaw false (betaVia P y - betaVia P x) (sin (betaVia P x)) (cos (betaVia P x)) (sin (betaVia P y)) (cos (betaVia P y)) P.pP
        * (dconvert P.cBetaChi (sin x, cos x) (sin y, cos y) / Dlam (Real.tan x) (Real.tan y)) := by
  unfold meanSinXi
  simp only [eqb_real, lit0, decide_eq_true_eq, if_neg (cos_ne_zero_of_abs_lt hx), if_neg (cos_ne_zero_of_abs_lt hy)]
  unfold meanSinXiReg
  dsimp only
  rw [convertS_unit _ x bx.dphi, convertS_unit _ y by'.dphi, convertS_unit _ _ bx.dbeta, convertS_unit _ _ by'.dbeta,
    normalized_unit, normalized_unit, tanA_unit, tanA_unit]
  dsimp only
  have rx := radians_unit _ bx.range.1 bx.range.2
  have ry := radians_unit _ by'.range.1 by'.range.2
  unfold betaVia at rx ry ⊢
  rw [rx, ry]

open GeoVerif.Props.C16 in
theorem angOps_real : (angOps : MathF.AngOps ℝ) = realOps := by
  unfold angOps realOps
  rw [MathF.AngOps.mk.injEq]
  refine ⟨rfl, rfl, ?_, rfl, rfl, rfl, ?_, ?_, ?_⟩
  · funext a; simp only [ltb_real, lit0]
  · funext a b; simp only [ltb_real, abs_real, decide_eq_true_eq, lit0]
  · simp only [lit_real]
  · simp only [lit_real]

theorem degree_real : (degree : ℝ) = π / 180 := by
  unfold degree; simp only [lit_real]; rfl

open GeoVerif.Props.C16 in
theorem atan2d_real (y x : ℝ) (h : ¬ (x = 0 ∧ y = 0)) : atan2d y x = argd y x := by
  unfold atan2d
  rw [angOps_real]
  have := (atan2d_octant x y h).2.2
  have e : ∀ a b : ℝ, RealLike.atan2 a b / (degree : ℝ) = argd a b := by
    intro a b; rw [degree_real]; unfold argd; simp only [atan2_real]; field_simp
  simp only [e]
  exact this

open GeoVerif.Props.C16 in
theorem argd_sin_cos (y x : ℝ) :
    Real.sqrt (y ^ 2 + x ^ 2) * sin (argd y x * π / 180) = y ∧ Real.sqrt (y ^ 2 + x ^ 2) * cos (argd y x * π / 180) = x := by
  have e : argd y x * π / 180 = Complex.arg ⟨x, y⟩ := by unfold argd; field_simp
  rw [e]; exact sqrt_mul_sin_cos_arg x y

/-- the φ→χ correction is below a right angle and `χ` is not a pole -/
structure ChiOK (P : Params ℝ) (φ : ℝ) : Prop where
  d : |clenshaw true (sin φ) (cos φ) P.cChiPhi| < π / 2
  range : |serA P.cChiPhi φ| < π / 2

theorem genInverseS_unfold (P : Params ℝ) (φ1 φ2 lon12 : ℝ) (h1 : ChiOK P φ1) (h2 : ChiOK P φ2) :
    genInverseS P (sin φ1, cos φ1) (sin φ2, cos φ2) lon12 =
      (Real.sqrt ((lon12 * (π / 180)) ^ 2 + (psiOf (serA P.cChiPhi φ2) - psiOf (serA P.cChiPhi φ1)) ^ 2)
          * dmudpsiS P (sin (serA P.cChiPhi φ1), cos (serA P.cChiPhi φ1)) (sin (serA P.cChiPhi φ2), cos (serA P.cChiPhi φ2)) * P.rm,
       atan2d (lon12 * (π / 180)) (psiOf (serA P.cChiPhi φ2) - psiOf (serA P.cChiPhi φ1)),
       P.c2 * lon12 * meanSinXi P (sin (serA P.cChiPhi φ1), cos (serA P.cChiPhi φ1)) (sin (serA P.cChiPhi φ2), cos (serA P.cChiPhi φ2))) := by
  unfold genInverseS
  dsimp only
  rw [convertS_unit _ φ1 h1.d, convertS_unit _ φ2 h2.d, lam_unit, lam_unit, degree_real]
  have c1 := cos_ne_zero_of_abs_lt h1.range
  have c2 := cos_ne_zero_of_abs_lt h2.range
  simp only [eqb_real, lit0, hypot_real, c1, c2, decide_false, Bool.or_self, Bool.false_eq_true, if_false]

theorem sqrt_half : Real.sqrt (1 / 2) = Real.sqrt 2 / 2 := by
  rw [show (1:ℝ) / 2 = 2 / 2 ^ 2 by norm_num, Real.sqrt_div (by norm_num), Real.sqrt_sq (by norm_num)]

theorem sin_cos_deg_abs (d : ℝ) :
    (if d * (π / 180) < 0 then -sin (|d| * (π / 180)) else sin (|d| * (π / 180))) = sin (d * (π / 180)) ∧
    cos (|d| * (π / 180)) = cos (d * (π / 180)) := by
  have hpi : 0 < π / 180 := by positivity
  rcases lt_or_ge d 0 with h | h
  · rw [if_pos (mul_neg_of_neg_of_pos h hpi), abs_of_neg h, neg_mul, Real.sin_neg, Real.cos_neg, neg_neg]
    exact ⟨rfl, rfl⟩
  · rw [if_neg (not_lt.mpr (mul_nonneg h hpi.le)), abs_of_nonneg h]
    exact ⟨rfl, rfl⟩

/-- the values `sincosd` substitutes at `±45°` and `±30°` -/
theorem sincosd_special (d : ℝ) :
    (if 2 * |d| = 90 then ((if d * (π / 180) < 0 then -Real.sqrt (1 / 2) else Real.sqrt (1 / 2)), Real.sqrt (1 / 2))
     else if 3 * |d| = 90 then ((if d * (π / 180) < 0 then -(1 / 2) else 1 / 2), Real.sqrt 3 / 2)
     else (sin (d * (π / 180)), cos (d * (π / 180)))) = (sin (d * (π / 180)), cos (d * (π / 180))) := by
  obtain ⟨hs, hc⟩ := sin_cos_deg_abs d
  by_cases h2 : 2 * |d| = 90
  · have e : |d| * (π / 180) = π / 4 := by linear_combination (π / 360) * h2
    rw [if_pos h2, ← hs, ← hc, e, Real.sin_pi_div_four, Real.cos_pi_div_four, sqrt_half]
  rw [if_neg h2]
  by_cases h3 : 3 * |d| = 90
  · have e : |d| * (π / 180) = π / 6 := by linear_combination (π / 540) * h3
    rw [if_pos h3, ← hs, ← hc, e, Real.sin_pi_div_six, Real.cos_pi_div_six]
  rw [if_neg h3]

theorem sincosd90_real (x : ℝ) : sincosd90 x = (sin (x * (π / 180)), cos (x * (π / 180))) := by
  unfold sincosd90
  simp only [leb_real, ltb_real, eqb_real, abs_real, sin_real, cos_real, sqrt_real, degree_real, lit_real, decide_eq_true_eq]
  push_cast
  by_cases h45 : |x| ≤ 45
  · simp only [h45, if_true, beq_self_eq_true]
    rw [sincosd_special]
  · by_cases hpos : 0 < x
    · simp only [h45, hpos, if_true, if_false, Int.reduceBEq, Bool.false_eq_true]
      rw [sincosd_special, show (x - 90) * (π / 180) = x * (π / 180) - π / 2 by ring, Real.cos_sub_pi_div_two,
        Real.sin_sub_pi_div_two, neg_neg]
    · simp only [h45, hpos, if_false, Int.reduceNeg, Int.reduceBEq, Bool.false_eq_true]
      rw [sincosd_special, show (x + 90) * (π / 180) = x * (π / 180) + π / 2 by ring, Real.cos_add_pi_div_two,
        Real.sin_add_pi_div_two, neg_neg]

open GeoVerif.Props.C16 in
theorem degreesA_unit (μ : ℝ) (h1 : -π < μ) (h2 : μ ≤ π) : degreesA (sin μ, cos μ) = μ * 180 / π := by
  unfold degreesA
  have hne : ¬ (cos μ = 0 ∧ sin μ = 0) := by
    rintro ⟨hc, hs⟩; have := Real.sin_sq_add_cos_sq μ; rw [hc, hs] at this; norm_num at this
  rw [atan2d_real _ _ hne]; unfold argd; rw [arg_unit μ h1 h2]

/-- the hypotheses of `GenDirect ∘ GenInverse = id`: ranges (principal branches), composition and reversion of the series -/
structure ClosureHyp (P : Params ℝ) (φ1 φ2 : ℝ) : Prop where
  chi1 : ChiOK P φ1
  chi2 : ChiOK P φ2
  cos1 : cos φ1 ≠ 0
  rm : P.rm ≠ 0
  mu1d : |clenshaw true (sin φ1) (cos φ1) P.cMuPhi| < π / 2
  mu1r : -π < serA P.cMuPhi φ1 ∧ serA P.cMuPhi φ1 ≤ π
  mu2r : |serA P.cMuPhi φ2| ≤ π / 2
  phid : |clenshaw true (sin (serA P.cMuPhi φ2)) (cos (serA P.cMuPhi φ2)) P.cPhiMu| < π / 2
  /-- composition: the χ→μ series after the φ→χ series is the φ→μ series (for the extracted tables: modulo n⁷, C15 `aux_compose`) -/
  comp1 : serA P.cMuChi (serA P.cChiPhi φ1) = serA P.cMuPhi φ1
  comp2 : serA P.cMuChi (serA P.cChiPhi φ2) = serA P.cMuPhi φ2
  /-- reversion: the μ→φ series inverts the φ→μ series at φ₂ (for the extracted tables: modulo n⁷, C15 `aux_revert`) -/
  rev : serA P.cPhiMu (serA P.cMuPhi φ2) = φ2
  dne : dmudpsiS P (sin (serA P.cChiPhi φ1), cos (serA P.cChiPhi φ1)) (sin (serA P.cChiPhi φ2), cos (serA P.cChiPhi φ2)) ≠ 0

theorem lineInit_unit (P : Params ℝ) (φ salp calp eps2 : ℝ) (hc : cos φ ≠ 0) (hχ : |clenshaw true (sin φ) (cos φ) P.cChiPhi| < π / 2)
    (hμ : |clenshaw true (sin φ) (cos φ) P.cMuPhi| < π / 2) (hr : -π < serA P.cMuPhi φ ∧ serA P.cMuPhi φ ≤ π) :
    lineInit P (sin φ, cos φ) salp calp eps2 =
      { salp := salp, calp := calp, phi1 := (sin φ, cos φ), mu1 := serA P.cMuPhi φ * 180 / π,
        chi1 := (sin (serA P.cChiPhi φ), cos (serA P.cChiPhi φ)), psi1 := psiOf (serA P.cChiPhi φ) } := by
  simp only [lineInit, eqb_real, lit0, hc, decide_false, Bool.false_eq_true, if_false]
  rw [convertS_unit _ φ hχ, convertS_unit _ φ hμ, degreesA_unit _ hr.1 hr.2, lam_unit]

theorem genPositionReg_unit (P : Params ℝ) (L : Line ℝ) (r12 μ φ : ℝ) (hφ : |clenshaw true (sin μ) (cos μ) P.cPhiMu| < π / 2)
    (hrev : serA P.cPhiMu μ = φ) (hχ : |clenshaw true (sin φ) (cos φ) P.cChiPhi| < π / 2) :
    let chi2 : Ang ℝ := (sin (serA P.cChiPhi φ), cos (serA P.cChiPhi φ))
    let lon2x := r12 * L.salp / dmudpsiS P L.chi1 chi2
    genPositionReg P L r12 (μ * 180 / π) =
      { phi2 := (sin φ, cos φ), chi2 := chi2, lat2 := degreesA (sin φ, cos φ), lon2x := lon2x,
        S12 := P.c2 * lon2x * meanSinXi P L.chi1 chi2 } := by
  have hpi := Real.pi_ne_zero
  unfold genPositionReg
  dsimp only
  rw [sincosd90_real, show μ * 180 / π * (π / 180) = μ by field_simp, convertS_unit _ μ hφ, hrev, convertS_unit _ φ hχ]

/-- the unit sphere, for the non-vacuity examples of `Props/C09.lean` -/
def sphereParams : Params ℝ := ⟨[], [], [], [], [], [], [], [], 1, 1⟩

theorem sphere_clenshaw (s c : ℝ) : clenshaw true s c [] = 0 := by simp [clenshaw, clen, lit0]

theorem sphere_clenshaw_lt (s c : ℝ) : |clenshaw true s c []| < π / 2 := by
  rw [sphere_clenshaw, abs_zero]; exact half_pos Real.pi_pos

theorem sphere_serA (x : ℝ) : serA [] x = x := by unfold serA; rw [sphere_clenshaw]; ring

theorem sphere_dmudpsi (x : ℝ) (hx : |x| < π / 2) : dmudpsiS sphereParams (sin x, cos x) (sin x, cos x) = cos x := by
  obtain ⟨m', hd, he⟩ := dmudpsiS_confluent sphereParams x hx
  have hid : HasDerivAt (serA ([] : List ℝ)) 1 x := by
    have : serA ([] : List ℝ) = id := by funext y; exact sphere_serA y
    rw [this]; exact hasDerivAt_id x
  have : m' = 1 := hd.unique hid
  rw [he, this, one_mul]

end GeoVerif.Proofs.RhumbSeries
