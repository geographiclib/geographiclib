import GeoVerif.Proofs.AuxRow
/-! Kernel-checked row certificates `rowCheck 5 a` for the series tables of `AuxLatitude.cpp` (`Gen/AuxSeries.lean`, extracted
from the source): the inner series is `C[ξ←a]`.  One module per inner latitude.  Numbering of the latitudes: 0 φ, 1 β, 2 θ, 3 μ, 4 χ, 5 ξ. -/
namespace GeoVerif.Proofs.AuxCert
open GeoVerif.Series.Aux

theorem row_5_0 : rowCheck 5 0 = true := by decide +kernel
theorem row_5_1 : rowCheck 5 1 = true := by decide +kernel
theorem row_5_2 : rowCheck 5 2 = true := by decide +kernel
theorem row_5_3 : rowCheck 5 3 = true := by decide +kernel
theorem row_5_4 : rowCheck 5 4 = true := by decide +kernel

end GeoVerif.Proofs.AuxCert
