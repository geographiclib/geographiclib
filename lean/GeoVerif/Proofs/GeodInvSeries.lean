import GeoVerif.Model.GeodInvSeries
import GeoVerif.Proofs.Vermeille
import GeoVerif.Spec.RealInst
import Mathlib.Tactic.Ring
import Mathlib.Tactic.Linarith
import Mathlib.Tactic.Positivity
import Mathlib.Tactic.LinearCombination
/-!
# Lemmas about `Geodesic::Astroid` (model `Model/GeodInvSeries.lean`), used by `Props/C02.lean`
The algebra is Ferrari's resolvent and Cardano's formula of `Proofs/Vermeille.lean` at `e² = 1`.
-/
namespace GeoVerif.Proofs.GeodInvSeries
open GeoVerif GeoVerif.GeodInvSeries GeoVerif.Vermeille

/-- the branch `disc ≥ 0` of `Astroid` (Cardano) -/
theorem astroidU_spec (S r : ℝ) (hS : 0 < S) (hdisc : 0 ≤ S * (S + 2 * r ^ 3)) :
    (astroidU S r) ^ 3 - 3 * r * (astroidU S r) ^ 2 = 2 * S := by
  have h3 : 0 ≤ S + 2 * r ^ 3 := (mul_nonneg_iff_of_pos_left hS).mp hdisc
  have hT30 : 0 < S + r ^ 3 := by linarith
  set D := Real.sqrt (S * (S + 2 * r ^ 3)) with hD
  have hD0 : 0 ≤ D := Real.sqrt_nonneg _
  have hD2 : D ^ 2 = S * (2 * r ^ 3 + S) := by rw [hD, Real.sq_sqrt hdisc]; ring
  have hT3 : 0 < S + r ^ 3 + D := by linarith
  set T := (S + r ^ 3 + D) ^ ((1:ℝ)/3) with hTdef
  have hTpos : 0 < T := Real.rpow_pos_of_pos hT3 _
  have hTc : T ^ 3 = S + r ^ 3 + D := rpow_third_cube _ hT3.le
  have hu : astroidU S r = r + (T + r ^ 2 / T) := by
    unfold astroidU
    simp only [sq_real, sqrt_real, leb_real, ltb_real, eqb_real, lit_real, decide_eq_true_eq, Bool.not_eq_true',
      decide_eq_false_iff_not]
    push_cast
    rw [show r * r ^ 2 = r ^ 3 by ring, if_pos hdisc, if_neg (not_lt.mpr hT30.le), ← hD, cbrt_nonneg _ hT3.le, ← hTdef,
      if_pos hTpos.ne']
  rw [hu]
  exact vermeille_cubic r S D T hTc hD2 hTpos.ne'

/-- `Astroid`'s `k` from a root `u` of its resolvent cubic (`q = y²`) -/
noncomputable def astroidK (q u : ℝ) : ℝ :=
  let v := Real.sqrt (u ^ 2 + q)
  let uv := if u < 0 then q / (v - u) else u + v
  let w := (uv - q) / (2 * v)
  uv / (Real.sqrt (uv + w ^ 2) + w)

theorem astroid_eq_astroidK (x y : ℝ) (hy : y ≠ 0) :
    astroid x y = astroidK (y ^ 2) (astroidU (x ^ 2 * y ^ 2 / 4) ((x ^ 2 + y ^ 2 - 1) / 6)) := by
  unfold astroid astroidK
  simp only [sq_real, sqrt_real, leb_real, ltb_real, eqb_real, lit_real]
  push_cast
  have hq0 : decide (y ^ 2 = (0:ℝ)) = false := by simpa using hy
  simp only [hq0, Bool.false_and, Bool.not_false, if_true, decide_eq_true_eq]

/-- Ferrari's step at `e² = 1`; `uv = u + v` whichever way it is computed, and `w` may have either sign -/
theorem astroidK_spec (p q u : ℝ) (hq : 0 < q) (hcub : u ^ 3 - 3 * ((p + q - 1) / 6) * u ^ 2 = 2 * (p * q / 4)) :
    0 < astroidK q u ∧
    astroidK q u ^ 4 + 2 * astroidK q u ^ 3 - (p + q - 1) * astroidK q u ^ 2 - 2 * q * astroidK q u - q = 0 := by
  generalize hv : Real.sqrt (u ^ 2 + q) = v
  have hv2 : v ^ 2 = u ^ 2 + q := by rw [← hv]; exact Real.sq_sqrt (by positivity)
  have hvu : |u| < v := by rw [← hv, Real.lt_sqrt (abs_nonneg u), sq_abs]; exact lt_add_of_pos_right _ hq
  have hvpos : 0 < v := lt_of_le_of_lt (abs_nonneg u) hvu
  have huv : (if u < 0 then q / (v - u) else u + v) = u + v := by
    split_ifs with h
    · rw [div_eq_iff (sub_pos.mpr (h.trans hvpos)).ne']; linear_combination -hv2
    · rfl
  generalize hw : (u + v - q) / (2 * v) = w
  have hk : astroidK q u = (u + v) / (Real.sqrt (u + v + w ^ 2) + w) := by
    unfold astroidK
    dsimp only
    rw [hv, huv, hw]
  obtain ⟨hk2, hkpos⟩ := vermeille_k (u + v) w (neg_lt_iff_pos_add.mp (abs_lt.mp hvu).1)
  rw [hk]
  refine ⟨hkpos, ?_⟩
  have h4 : 2 * v * w = 1 * (u + v - q) := by rw [← hw, one_mul]; exact mul_div_cancel₀ _ (by positivity)
  linear_combination vermeille_quartic p q 1 u v w _ (by linear_combination hcub) (by linear_combination hv2) h4 hk2 hvpos.ne'

end GeoVerif.Proofs.GeodInvSeries
