import GeoVerif.Model.RhumbExact
import GeoVerif.Proofs.RhumbSeries
/-!
# Lemmas for the exact path of `Rhumb` read over ℝ: `atan2` with a positive abscissa (for `DParametric`), `DIsometric`,
the isometric latitude in closed form, and the pieces of `DE` (`Model/RhumbExact.lean`)
-/
namespace GeoVerif.Proofs.RhumbExact
open GeoVerif GeoVerif.Rhumb GeoVerif.RhumbS GeoVerif.RhumbX GeoVerif.Proofs.Rhumb GeoVerif.Proofs.RhumbSeries Real

theorem arg_of_pos (x y : ℝ) (hx : 0 < x) : Complex.arg ⟨x, y⟩ = Real.arctan (y / x) := by
  have h := abs_lt.mp (Complex.abs_arg_lt_pi_div_two_iff.mpr (Or.inl (show 0 < (⟨x, y⟩ : ℂ).re from hx)))
  rw [← Real.arctan_tan h.1 h.2, Complex.tan_arg]

theorem atan2_pos (y x : ℝ) (hx : 0 < x) : RealLike.atan2 y x = Real.arctan (y / x) := by
  simp only [atan2_real]; exact arg_of_pos x y hx

theorem atan2_sub {X Y : ℝ} (a b : ℝ) (hX : 0 < X) (hab : -1 < a * b) (h : Y * (1 + a * b) = (b - a) * X) :
    Complex.arg ⟨X, Y⟩ = Real.arctan b - Real.arctan a := by
  rw [arg_of_pos _ _ hX, ← arctan_sub' a b hab]
  congr 1
  rw [div_eq_div_iff hX.ne' (by linarith), h]

/-- with `f` the code's `_fm1` this is the numerator of `DParametric` in its branch `0 ≤ tx ty ≤ 1`, with `f = 1` the denominator -/
theorem atan2_dparametric (f tx ty : ℝ) (hf : 0 < f) (h0 : 0 ≤ tx * ty) :
    Complex.arg ⟨1 + f * f * tx * ty, f * (ty - tx)⟩ = Real.arctan (f * ty) - Real.arctan (f * tx) := by
  have hp : 0 ≤ f * f * (tx * ty) := mul_nonneg (mul_pos hf hf).le h0
  exact atan2_sub (f * tx) (f * ty) (by linarith) (by linarith) (by ring)

/-- the same two in the code's branch `tx ty > 1`, on the reciprocals, which reverses the order -/
theorem atan2_dparametric_inv (f tx ty : ℝ) (hf : 0 < f) (h1 : 0 < tx * ty) :
    Complex.arg ⟨f * f + 1 / tx * (1 / ty), f * (1 / ty - 1 / tx)⟩ = Real.arctan (f * tx) - Real.arctan (f * ty) := by
  have hx0 : tx ≠ 0 := left_ne_zero_of_mul h1.ne'
  have hy0 : ty ≠ 0 := right_ne_zero_of_mul h1.ne'
  have hpos : 0 < 1 / tx * (1 / ty) := by rw [div_mul_div_comm, one_mul]; exact one_div_pos.mpr h1
  have hp : 0 < f * f * (tx * ty) := mul_pos (mul_pos hf hf) h1
  exact atan2_sub (f * ty) (f * tx) (add_pos (mul_pos hf hf) hpos) (by linarith) (by field_simp; ring)

/-- `DIsometric = (Dasinh − e² Datanhee)/Datan`, for either sign of `f`: `Datanhee` is not yet identified with a divided difference -/
theorem disometric_gen (f e2 e e1 fm1 tx ty : ℝ) :
    DIsometric f e2 e e1 fm1 tx ty * (Real.arctan ty - Real.arctan tx)
      = (Real.arsinh ty - Real.arsinh tx) - e2 * (Datanhee f e e1 fm1 tx ty * (ty - tx)) := by
  by_cases hxy : tx = ty
  · subst hxy; simp
  · refine dd_div ?_ (datan_dd tx ty) (arctan_sub_ne_zero hxy)
    rw [sub_mul, dasinh_dd, mul_assoc]

/-- isometric latitude as a function of `t = tan φ`, oblate form: `ψ = asinh t − e asinh(e′ sn((1−f) t))` `(= asinh tan φ − e atanh(e sin φ))` -/
noncomputable def psiOblate (e e1 fm1 t : ℝ) : ℝ := Real.arsinh t - e * Real.arsinh (e1 * sn (fm1 * t))

/-- prolate form (`e² < 0`, `e = √|e²|`): `ψ = asinh t + e atan(e sn t)` -/
noncomputable def psiProlate (e t : ℝ) : ℝ := Real.arsinh t + e * Real.arctan (e * sn t)

theorem deDs_real (flip : Bool) (x0 y0 : ℝ) :
    deDs flip x0 y0 = (if flip then sin ((x0 + y0) / 2) else cos ((x0 + y0) / 2)) * Real.sinc ((y0 - x0) / 2) := by
  unfold deDs Real.sinc
  simp only [eqb_real, lit0, lit1, lit2, sin_real, cos_real, decide_eq_true_eq]

theorem deDs_self (x : ℝ) : deDs false x x = cos x := by
  rw [deDs_real, sub_self, zero_div, Real.sinc_zero, mul_one, add_self_div_two, if_neg Bool.false_ne_true]

theorem deDs_symm (flip : Bool) (x0 y0 : ℝ) : deDs flip x0 y0 = deDs flip y0 x0 := by
  rw [deDs_real, deDs_real, add_comm x0 y0, ← Real.sinc_neg ((y0 - x0) / 2), ← neg_div, neg_sub]

theorem deDt_symm (k2 Ds sx cx sy cy : ℝ) : deDt k2 Ds sx cx sy cy = deDt k2 Ds sy cy sx cx := by
  unfold deDt
  rw [add_comm sx sy, add_comm cx cy, add_comm (sx * _) _]

theorem deTail_symm (RF RD : ℝ → ℝ → ℝ → ℝ) (k2 den d Dt sx sy : ℝ) :
    (deTail RF RD k2 den (-d) Dt sy sx).val = (deTail RF RD k2 den d Dt sx sy).val := by
  unfold deTail
  simp only [lit1, lit2]
  have e1 : -d * Dt * (-d * Dt) = d * Dt * (d * Dt) := by ring
  have e2 : (1 - -d * Dt) * (1 + -d * Dt) = (1 - d * Dt) * (1 + d * Dt) := by ring
  have e3 : ∀ w : ℝ, -d * w * (-d * w) = d * w * (d * w) := by intro w; ring
  rw [e1, e2, e3]
  have e4 : k2 * sy * sx = k2 * sx * sy := by ring
  rw [e4]

theorem deTail_zero (RF RD : ℝ → ℝ → ℝ → ℝ) (k2 den Dt sx sy : ℝ) :
    (deTail RF RD k2 den 0 Dt sx sy).val = (RF 1 1 1 - k2 * sx * sy) * (2 * Dt) / den := by
  unfold deTail
  simp only [lit1, lit2, zero_mul, mul_zero, add_zero, sub_zero, zero_div, mul_one, div_one]

end GeoVerif.Proofs.RhumbExact
