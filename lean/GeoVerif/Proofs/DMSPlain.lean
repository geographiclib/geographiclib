import GeoVerif.Proofs.DMSNul
/-!
# `Decode` on a plain single-piece text: the substitution table, trimming and splitting do nothing

For a text over plain ASCII (no `*`, no grave accent, no high-bit byte, no white space, at most one `'`) that is a single
signed piece (`FirstPiece`), `decode` is `strip`, `comps`, `evalSlots` and one addition to `-0`.
-/
namespace GeoVerif.DMSProofs
open GeoVerif GeoVerif.DMS GeoVerif.Gen GeoVerif.Decimal

theorem replaceGo_noop (pat : Bytes) (c : Nat) (fuel : Nat) (s : Bytes)
    (h : ∀ t, t <:+ s → pat.isPrefixOf t = false) : replaceGo pat c fuel s = s := by
  induction fuel generalizing s with
  | zero => rfl
  | succ f ih =>
    have h0 := h s (List.suffix_refl s)
    unfold replaceGo
    simp only [h0, Bool.false_eq_true, if_false]
    cases s with
    | nil => rfl
    | cons x t =>
      simp only
      rw [ih t (fun u hu => h u (hu.trans (List.suffix_cons x t)))]

theorem isPrefixOf_false_of_head (a : Nat) (rest t : Bytes) (ha : a ∉ t) : (a :: rest).isPrefixOf t = false := by
  cases t with
  | nil => rfl
  | cons b u =>
    have : a ≠ b := by intro e; subst e; simp at ha
    simp [List.isPrefixOf, this]

def headBad (pat : Bytes) : Bool :=
  match pat with
  | a :: _ => decide (128 ≤ a) || a == 42 || a == 96
  | [] => false

theorem table_heads : ∀ pc ∈ DMSC.replaceTable, pc.1 = [39, 39] ∨ headBad pc.1 = true := by decide +kernel

theorem dbl_not_prefix (s : Bytes) (h39 : s.count 39 ≤ 1) (t : Bytes) (ht : t <:+ s) : [39, 39].isPrefixOf t = false := by
  cases hp : [39, 39].isPrefixOf t with
  | false => rfl
  | true =>
    exfalso
    have hpre : [39, 39] <+: t := List.isPrefixOf_iff_prefix.mp hp
    have h1 : [39, 39].count 39 ≤ t.count 39 := hpre.sublist.count_le 39
    have h2 : t.count 39 ≤ s.count 39 := ht.sublist.count_le 39
    have : [39, 39].count 39 = 2 := by decide
    omega

theorem replaceAll_noop (s : Bytes) (hA : ∀ c ∈ s, c < 128 ∧ c ≠ 42 ∧ c ≠ 96) (h39 : s.count 39 ≤ 1) : replaceAll s = s := by
  refine replaceAll_inv (· = s) (fun pc hpc fuel u hu => ?_) s rfl
  subst hu
  refine replaceGo_noop pc.1 pc.2 fuel u fun t ht => ?_
  rcases table_heads pc hpc with h | h
  · rw [h]; exact dbl_not_prefix u h39 t ht
  · rcases hp : pc.1 with _ | ⟨a, rest⟩
    · rw [hp] at h; simp [headBad] at h
    · rw [hp] at h
      simp only [headBad, Bool.or_eq_true, decide_eq_true_eq, beq_iff_eq] at h
      apply isPrefixOf_false_of_head
      intro ha
      have := hA a (ht.subset ha)
      omega

theorem trim_noop (s : Bytes) (h : ∀ c ∈ s, isspace c = false) : trim s = s := by
  have hd : ∀ l : Bytes, (∀ c ∈ l, isspace c = false) → l.dropWhile isspace = l := by
    intro l hl
    cases l with
    | nil => rfl
    | cons a t => simp [hl a (by simp)]
  unfold trim
  rw [hd s h, hd s.reverse (fun c hc => h c (List.mem_reverse.mp hc)), List.reverse_reverse]

theorem add_nzero_def (v : F64) : F64.add F64.nzero v = F64.add F64.nzero v := rfl

theorem decode_plain (s : Bytes) (st : Stripped) (sl : Slots) (v : F64)
    (hA : ∀ c ∈ s, c < 128 ∧ c ≠ 42 ∧ c ≠ 96 ∧ isspace c = false) (h39 : s.count 39 ≤ 1) (hpiece : FirstPiece s)
    (hstrip : strip s = .ok st) (hc : comps 4 0 {} st.body = .ok sl) (hv : evalSlots st.neg sl = .ok v) :
    decode s = .ok (F64.add F64.nzero v, st.flag) := by
  have hs : [s].flatten = s := by simp
  have hr : replaceAll s = s := replaceAll_noop _ (fun x hx => ⟨(hA x hx).1, (hA x hx).2.1, (hA x hx).2.2.1⟩) h39
  have htr : trim s = s := trim_noop _ (fun x hx => (hA x hx).2.2.2)
  have hd := decode_sum s [] hpiece (fun _ h => nomatch h) (by rw [hs]; exact hr) (by rw [hs]; exact htr)
  have hi : internalDecode s = .ok (v, st.flag) := by
    unfold internalDecode parseFields
    simp only [hstrip, hc, hv]
  rw [hs] at hd
  rw [hd]
  simp only [sumPieces, hi, combineFlags, if_true]

end GeoVerif.DMSProofs
