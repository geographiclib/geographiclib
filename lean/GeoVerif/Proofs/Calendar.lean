import GeoVerif.Model.Calendar
/-!
Lemmas for the calendar theorems of `Props/C10.lean`.

The code counts from March 1: month `m` of 1 … 12 is month `k = (m + 9) % 12` (0 = March, …, 11 = February) of the year
`Y = y + (m + 9) / 12 - 1`, so that the leap day is the last day of the year.  `(1461 * Y) / 4` days precede year `Y` by the Julian
rule (`Y / 100 / 4 - Y / 100 + 2` more by the Gregorian one) and `(153 * k + 2) / 5` days precede month `k` within its year.
`dayE` / `dateE` read the truncating divisions of the C++ code as floor divisions (the two agree from 0001-01-01 on), and `omega`
does the linear arithmetic over the quotients; the month lengths (`monthLength_shift`) are the only table.
-/
namespace GeoVerif.Calendar

def dayE (y m d : Int) : Int :=
  let y1 := y + (m + 9) / 12 - 1
  let m1 := (m + 9) % 12
  (1461 * y1) / 4 + (if gregYMD y m d then (y1 / 100) / 4 - y1 / 100 + 2 else 0) + (153 * m1 + 2) / 5 + d - 1 - 305

def dateE (s : Int) : Int × Int × Int :=
  let greg := gregS s
  let s := s + 305
  let s := if greg then s - 2 else s
  let c := if greg then (4 * s + 3) / 146097 else 0
  let s := if greg then s - (c * 146097) / 4 else s
  let y := (4 * s + 3) / 1461
  let s := s - (1461 * y) / 4
  let y := y + c * 100
  let m := (5 * s + 2) / 153
  let s := s - (153 * m + 2) / 5
  let d := s + 1
  (y + (m + 2) / 12, (m + 2) % 12 + 1, d)

theorem dayRaw_eq (y m d : Int) (hy : 1 ≤ y) (hm : 1 ≤ m) : dayRaw y m d = dayE y m d := by
  unfold dayRaw dayE
  simp (disch := omega) only [Int.tdiv_eq_ediv_of_nonneg, Int.tmod_eq_emod_of_nonneg]

theorem dateRaw_eq (s : Int) (hs : 1 ≤ s) : dateRaw s = dateE s := by
  unfold dateRaw dateE
  by_cases hg : gregS s = true
  · have hg' : s ≥ 639799 := by simpa [gregS] using hg
    simp (disch := omega) only [hg, if_true, Int.tdiv_eq_ediv_of_nonneg, Int.tmod_eq_emod_of_nonneg]
  · have hg' : ¬ s ≥ 639799 := by simpa [gregS] using hg
    simp (disch := omega) only [hg, if_false, Int.tdiv_eq_ediv_of_nonneg, Int.tmod_eq_emod_of_nonneg, Bool.false_eq_true]

theorem dayE_cases (y m d : Int) :
    dayE y m d = (1461 * (y + (m + 9) / 12 - 1)) / 4
      + (if 100 * (100 * y + m) + d ≥ 17520914 then ((y + (m + 9) / 12 - 1) / 100) / 4 - (y + (m + 9) / 12 - 1) / 100 + 2 else 0)
      + (153 * ((m + 9) % 12) + 2) / 5 + d - 1 - 305 := by
  simp only [dayE, gregYMD, decide_eq_true_eq]

theorem leap_iff (y : Int) : leap y = true ↔
    ((y ≤ 1752 ∧ y % 4 = 0) ∨ (¬ y ≤ 1752 ∧ y % 4 = 0 ∧ (y % 100 ≠ 0 ∨ y % 400 = 0))) := by
  unfold leap
  by_cases h : y ≤ 1752
  · simp [h]
  · simp [h]

theorem monthLength_cases (y m : Int) :
    monthLength y m =
      if m = 2 then (if (y ≤ 1752 ∧ y % 4 = 0) ∨ (¬ y ≤ 1752 ∧ y % 4 = 0 ∧ (y % 100 ≠ 0 ∨ y % 400 = 0)) then 29 else 28)
      else if m = 4 ∨ m = 6 ∨ m = 9 ∨ m = 11 then 30 else 31 := by
  simp only [monthLength, leap_iff]

theorem monthLength_bounds (y m : Int) : 28 ≤ monthLength y m ∧ monthLength y m ≤ 31 := by
  unfold monthLength
  split <;> split <;> omega

theorem le_feb (y d : Int) (h : d ≤ monthLength y 2) :
    d ≤ 28 ∨ (d = 29 ∧ ((y ≤ 1752 ∧ y % 4 = 0) ∨ (¬ y ≤ 1752 ∧ y % 4 = 0 ∧ (y % 100 ≠ 0 ∨ y % 400 = 0)))) := by
  rw [monthLength_cases, if_pos rfl] at h
  split at h
  · omega
  · omega

theorem valid_d31 (y m d : Int) (h : Valid y m d) : d ≤ 31 :=
  Int.le_trans h.2.2.2.2.1 (monthLength_bounds y m).2

/-- the switch test `gregorian(y, m, d)` in words: 1752-09-14 or later -/
theorem greg_iff (y m d : Int) (hm1 : 1 ≤ m) (hm2 : m ≤ 12) (hd1 : 1 ≤ d) (hd31 : d ≤ 31) :
    100 * (100 * y + m) + d ≥ 17520914 ↔ 1753 ≤ y ∨ (y = 1752 ∧ (10 ≤ m ∨ (m = 9 ∧ 14 ≤ d))) := by omega

theorem marchShift (m : Int) (h1 : 1 ≤ m) (h2 : m ≤ 12) :
    (m ≤ 2 ∧ (m + 9) / 12 = 0 ∧ (m + 9) % 12 = m + 9) ∨ (3 ≤ m ∧ (m + 9) / 12 = 1 ∧ (m + 9) % 12 = m - 3) := by omega

theorem marchShift_inv (y m : Int) (h1 : 1 ≤ m) (h2 : m ≤ 12) :
    y + (m + 9) / 12 - 1 + ((m + 9) % 12 + 2) / 12 = y ∧ ((m + 9) % 12 + 2) % 12 + 1 = m := by omega

/-- the lengths of March … January as differences of `(153 * k + 2) / 5`; February gets what is left of the year -/
theorem monthLength_shift (y m : Int) (h1 : 1 ≤ m) (h2 : m ≤ 12) (hm : m ≠ 2) :
    (153 * ((m + 9) % 12 + 1) + 2) / 5 - (153 * ((m + 9) % 12) + 2) / 5 = monthLength y m := by
  have : m = 1 ∨ m = 3 ∨ m = 4 ∨ m = 5 ∨ m = 6 ∨ m = 7 ∨ m = 8 ∨ m = 9 ∨ m = 10 ∨ m = 11 ∨ m = 12 := by omega
  rcases this with h|h|h|h|h|h|h|h|h|h|h <;> subst h <;> rfl

/-- for February the bound is 30: enough for the month of `dateE`, the year is settled by the leap rule -/
theorem valid_shift_len (y m d : Int) (h : Valid y m d) :
    d ≤ (153 * ((m + 9) % 12 + 1) + 2) / 5 - (153 * ((m + 9) % 12) + 2) / 5 := by
  obtain ⟨-, hm1, hm2, -, hd2, -⟩ := h
  by_cases h2 : m = 2
  · subst h2
    have := le_feb y d hd2
    omega
  · rw [monthLength_shift y m hm1 hm2 h2]; exact hd2

theorem centuryCore (C t : Int) (ht0 : 0 ≤ t) (ht : t ≤ 36523 ∨ (t = 36524 ∧ C % 4 = 3)) :
    (4 * ((146097 * C) / 4 + t) + 3) / 146097 = C := by omega

/-- year and month from the day count `t` since March 1 of year 0, Julian rule, for the day `d` of month `k` of year `Y`.
Uniform in `k`: `(5 r + 2) / 153 = k` says `(153 k + 2) / 5 ≤ r < (153 (k + 1) + 2) / 5`, and likewise for the year. -/
theorem julCore (Y k d t : Int) (hk0 : 0 ≤ k) (hk : k ≤ 11) (hd : 1 ≤ d)
    (hlen : d ≤ (153 * (k + 1) + 2) / 5 - (153 * k + 2) / 5) (hfeb : k = 11 → d ≤ 28 ∨ (d = 29 ∧ Y % 4 = 3))
    (ht : t = (1461 * Y) / 4 + (153 * k + 2) / 5 + d - 1) :
    (4 * t + 3) / 1461 = Y ∧ (5 * (t - (1461 * Y) / 4) + 2) / 153 = k := by
  subst ht
  exact ⟨by omega, by omega⟩

theorem dateE_jul (s Y k d : Int) (hg : ¬ s ≥ 639799) (hk0 : 0 ≤ k) (hk : k ≤ 11) (hd : 1 ≤ d)
    (hlen : d ≤ (153 * (k + 1) + 2) / 5 - (153 * k + 2) / 5) (hfeb : k = 11 → d ≤ 28 ∨ (d = 29 ∧ Y % 4 = 3))
    (hs : s + 305 = (1461 * Y) / 4 + (153 * k + 2) / 5 + d - 1) :
    dateE s = (Y + (k + 2) / 12, (k + 2) % 12 + 1, d) := by
  obtain ⟨h1, h2⟩ := julCore Y k d (s + 305) hk0 hk hd hlen hfeb hs
  unfold dateE gregS
  simp only [decide_eq_true_eq, hg, if_false, h1, h2, Int.zero_mul, Int.add_zero]
  simp only [Prod.mk.injEq, true_and]; omega

/-- the Gregorian day count by centuries `Y / 100` and years of the century `Y % 100`, as `dateE` takes it apart -/
theorem gregIdentity (Y : Int) :
    (1461 * Y) / 4 + ((Y / 100) / 4 - Y / 100) = (146097 * (Y / 100)) / 4 + (1461 * (Y % 100)) / 4 := by
  have h1 : (1461 * Y) / 4 = 36525 * (Y / 100) + (1461 * (Y % 100)) / 4 := by omega
  have h2 : (146097 * (Y / 100)) / 4 = 36524 * (Y / 100) + (Y / 100) / 4 := by omega
  omega

theorem dateE_greg (s Y k d : Int) (hg : s ≥ 639799) (hk0 : 0 ≤ k) (hk : k ≤ 11) (hd : 1 ≤ d)
    (hlen : d ≤ (153 * (k + 1) + 2) / 5 - (153 * k + 2) / 5)
    (hfeb : k = 11 → d ≤ 28 ∨ (d = 29 ∧ Y % 4 = 3 ∧ (Y % 100 = 99 → Y / 100 % 4 = 3)))
    (hs : s + 305 - 2 = (1461 * Y) / 4 + (Y / 100 / 4 - Y / 100) + (153 * k + 2) / 5 + d - 1) :
    dateE s = (Y + (k + 2) / 12, (k + 2) % 12 + 1, d) := by
  have hs' : s + 305 - 2 = (146097 * (Y / 100)) / 4 + ((1461 * (Y % 100)) / 4 + (153 * k + 2) / 5 + d - 1) := by
    have := gregIdentity Y; omega
  have hc : (4 * (s + 305 - 2) + 3) / 146097 = Y / 100 := by
    rw [hs']; apply centuryCore (Y / 100) _ <;> omega
  have ht : s + 305 - 2 - (Y / 100 * 146097) / 4 = (1461 * (Y % 100)) / 4 + (153 * k + 2) / 5 + d - 1 := by omega
  obtain ⟨h1, h2⟩ := julCore (Y % 100) k d (s + 305 - 2 - (Y / 100 * 146097) / 4) hk0 hk hd hlen (by omega) ht
  unfold dateE gregS
  simp only [decide_eq_true_eq, hg, if_true, hc, h1, h2]
  simp only [Prod.mk.injEq, true_and]; omega

/-- the two switch tests of the code agree on valid dates: day 639799 is 1752-09-14 -/
theorem dayE_switch (y m d : Int) (h : Valid y m d) :
    1 ≤ dayE y m d ∧ (dayE y m d ≥ 639799 ↔ 100 * (100 * y + m) + d ≥ 17520914) := by
  have hd31 := valid_d31 y m d h
  obtain ⟨hy, hm1, hm2, hd1, -, hx⟩ := h
  simp only [dayE_cases, greg_iff y m d hm1 hm2 hd1 hd31]
  rcases marchShift m hm1 hm2 with ⟨hm, hc, hk⟩ | ⟨hm, hc, hk⟩
  · rw [hc, hk]; split <;> omega
  · rw [hc, hk]; split <;> omega

theorem dateE_dayE (y m d : Int) (h : Valid y m d) : dateE (dayE y m d) = (y, m, d) := by
  have ⟨hy, hm1, hm2, hd1, hd2, hx⟩ := h
  obtain ⟨hb1, hb2⟩ := marchShift_inv y m hm1 hm2
  have hk : 0 ≤ (m + 9) % 12 ∧ (m + 9) % 12 ≤ 11 := by omega
  have hfeb : (m + 9) % 12 = 11 → d ≤ 28 ∨ (d = 29 ∧
      ((y ≤ 1752 ∧ y % 4 = 0) ∨ (¬ y ≤ 1752 ∧ y % 4 = 0 ∧ (y % 100 ≠ 0 ∨ y % 400 = 0)))) := by
    intro hk11
    have hm : m = 2 := by omega
    subst hm
    exact le_feb y d hd2
  have hlen := valid_shift_len y m d h
  have hE := dayE_cases y m d
  -- from here on the March-based year and month are variables: `hb1`, `hb2`, `hk`, `hlen`, `hfeb` say all that is needed of them
  generalize y + (m + 9) / 12 - 1 = Y, (m + 9) % 12 = k at *
  by_cases hg : 100 * (100 * y + m) + d ≥ 17520914
  · have hfeb' : k = 11 → d ≤ 28 ∨ (d = 29 ∧ Y % 4 = 3 ∧ (Y % 100 = 99 → Y / 100 % 4 = 3)) :=
      fun hk11 => by have := hfeb hk11; omega
    rw [if_pos hg] at hE
    rw [dateE_greg (dayE y m d) Y k d ((dayE_switch y m d h).2.2 hg) hk.1 hk.2 hd1 hlen hfeb' (by rw [hE]; omega), hb2, hb1]
  · have hfeb' : k = 11 → d ≤ 28 ∨ (d = 29 ∧ Y % 4 = 3) := fun hk11 => by have := hfeb hk11; omega
    have hlt := (dayE_switch y m d h).2
    rw [if_neg hg] at hE
    rw [dateE_jul (dayE y m d) Y k d (by omega) hk.1 hk.2 hd1 hlen hfeb' (by rw [hE]; omega), hb2, hb1]

theorem dayRaw_pos (y m d : Int) (h : Valid y m d) : 1 ≤ dayRaw y m d := by
  rw [dayRaw_eq y m d h.1 h.2.1]; exact (dayE_switch y m d h).1

theorem dateRaw_dayRaw (y m d : Int) (h : Valid y m d) : dateRaw (dayRaw y m d) = (y, m, d) := by
  have hp := dayRaw_pos y m d h
  rw [dateRaw_eq _ hp, dayRaw_eq y m d h.1 h.2.1]; exact dateE_dayE y m d h

theorem dayE_le (y m d : Int) (h : Valid y m d) (hy : y ≤ 200000) : dayE y m d ≤ 74000000 := by
  have hd31 := valid_d31 y m d h
  obtain ⟨hy1, hm1, hm2, hd1, -, -⟩ := h
  rw [dayE_cases]
  rcases marchShift m hm1 hm2 with ⟨hm, hc, hk⟩ | ⟨hm, hc, hk⟩
  · rw [hc, hk]; split <;> omega
  · rw [hc, hk]; split <;> omega

theorem day_of_valid (y m d : Int) (h : Valid y m d) (hy : y ≤ 200000) : day y m d = some (dayRaw y m d) := by
  have hd31 := valid_d31 y m d h
  obtain ⟨hy1, hm1, hm2, hd1, -, -⟩ := h
  have hg : dayGuard y m d = true := by simp only [dayGuard, decide_eq_true_eq]; omega
  simp only [day, hg, if_true]

theorem dayChecked_of_valid (y m d : Int) (h : Valid y m d) (hy : y ≤ 200000) : dayChecked y m d = some (dayRaw y m d) := by
  have hp := dayRaw_pos y m d h
  have hle : dayRaw y m d ≤ 74000000 := by rw [dayRaw_eq y m d h.1 h.2.1]; exact dayE_le y m d h hy
  have hg : dateGuard (dayRaw y m d) = true := by simp only [dateGuard, decide_eq_true_eq]; omega
  have hpos : dayRaw y m d > 0 := by omega
  simp [dayChecked, day_of_valid y m d h hy, date, hg, dateRaw_dayRaw y m d h, hpos]

theorem nextDate_valid (y m d : Int) (h : Valid y m d) :
    Valid (nextDate y m d).1 (nextDate y m d).2.1 (nextDate y m d).2.2 := by
  obtain ⟨hy, hm1, hm2, hd1, hd2, hx⟩ := h
  unfold nextDate
  split
  · decide
  · split
    · show Valid y m (d + 1)
      exact ⟨hy, hm1, hm2, by omega, by omega, by omega⟩
    · split
      · show Valid y (m + 1) 1
        exact ⟨hy, by omega, by omega, by omega, by have := monthLength_bounds y (m + 1); omega, by omega⟩
      · show Valid (y + 1) 1 1
        exact ⟨by omega, by omega, by omega, by omega, by have := monthLength_bounds (y + 1) 1; omega, by omega⟩

theorem yearStep (y : Int) :
    ((1461 * y) / 4 = (1461 * (y - 1)) / 4 + 365 ∧ y % 4 ≠ 0 ∨ (1461 * y) / 4 = (1461 * (y - 1)) / 4 + 366 ∧ y % 4 = 0) ∧
    (y / 100 = (y - 1) / 100 ∧ y % 100 ≠ 0 ∨ y / 100 = (y - 1) / 100 + 1 ∧ y % 100 = 0) ∧
    (y / 100 / 4 = (y - 1) / 100 / 4 ∧ y % 400 ≠ 0 ∨ y / 100 / 4 = (y - 1) / 100 / 4 + 1 ∧ y % 400 = 0) := by
  refine ⟨?_, by omega, by omega⟩
  have h1 : (1461 * y) / 4 = 365 * y + y / 4 := by omega
  have h2 : (1461 * (y - 1)) / 4 = 365 * (y - 1) + (y - 1) / 4 := by omega
  omega

theorem dayE_succ_day (y m d : Int) (hx : 100 * (100 * y + m) + d ≠ 17520913) : dayE y m (d + 1) = dayE y m d + 1 := by
  have hg : 100 * (100 * y + m) + (d + 1) ≥ 17520914 ↔ 100 * (100 * y + m) + d ≥ 17520914 := by omega
  simp only [dayE_cases, hg]
  omega

theorem dayE_succ_month (y m d y' m' : Int) (hY : y' + (m' + 9) / 12 = y + (m + 9) / 12) (hk : (m' + 9) % 12 = (m + 9) % 12 + 1)
    (hd : (153 * ((m + 9) % 12 + 1) + 2) / 5 - (153 * ((m + 9) % 12) + 2) / 5 = d)
    (hg : 100 * (100 * y' + m') + 1 ≥ 17520914 ↔ 100 * (100 * y + m) + d ≥ 17520914) :
    dayE y' m' 1 = dayE y m d + 1 := by
  simp only [dayE_cases, hY, hk, hg]
  omega

/-- from the last of February to March 1, where the March-based year changes: the leap day, by either rule, is what `yearStep` adds -/
theorem dayE_succ_feb (y : Int) : dayE y 3 1 = dayE y 2 (monthLength y 2) + 1 := by
  have hl := monthLength_bounds y 2
  have hg3 : 100 * (100 * y + 3) + 1 ≥ 17520914 ↔ 1753 ≤ y := by omega
  have hg2 : 100 * (100 * y + 2) + monthLength y 2 ≥ 17520914 ↔ 1753 ≤ y := by omega
  simp only [dayE_cases, hg3, hg2]
  rw [monthLength_cases, if_pos rfl]
  simp only [Int.reduceAdd, Int.reduceDiv, Int.reduceMod, Int.reduceMul, Int.add_zero, Int.add_sub_cancel]
  obtain ⟨ha, hb, hc⟩ := yearStep y
  clear hl hg3 hg2
  -- the quotients enter only through `yearStep`: as variables they cost `omega` nothing
  generalize (1461 * y) / 4 = a, (1461 * (y - 1)) / 4 = a', y / 100 / 4 = q, (y - 1) / 100 / 4 = q', y / 100 = c,
    (y - 1) / 100 = c' at *
  by_cases hy : 1753 ≤ y
  · rw [if_pos hy, if_pos hy]
    split
    · omega
    · omega
  · rw [if_neg hy, if_neg hy]
    clear hb hc
    split
    · omega
    · omega

theorem dayE_next (y m d : Int) (h : Valid y m d) :
    dayE (nextDate y m d).1 (nextDate y m d).2.1 (nextDate y m d).2.2 = dayE y m d + 1 := by
  have hd31 := valid_d31 y m d h
  obtain ⟨hy, hm1, hm2, hd1, hd2, hx⟩ := h
  unfold nextDate
  split
  · rename_i h1
    obtain ⟨rfl, rfl, rfl⟩ := h1
    decide
  · split
    · exact dayE_succ_day y m d (by omega)
    · have hd : monthLength y m = d := by omega
      have hl := monthLength_bounds y m
      split
      · show dayE y (m + 1) 1 = dayE y m d + 1
        by_cases h2 : m = 2
        · subst h2
          rw [← hd]
          exact dayE_succ_feb y
        · rw [← monthLength_shift y m hm1 hm2 h2] at hd
          exact dayE_succ_month y m d y (m + 1) (by omega) (by omega) hd (by omega)
      · show dayE (y + 1) 1 1 = dayE y m d + 1
        have h12 : m = 12 := by omega
        subst h12
        rw [← monthLength_shift y 12 hm1 hm2 (by decide)] at hd
        exact dayE_succ_month y 12 d (y + 1) 1 (by omega) (by omega) hd (by omega)

theorem dayRaw_next (y m d : Int) (h : Valid y m d) :
    dayRaw (nextDate y m d).1 (nextDate y m d).2.1 (nextDate y m d).2.2 = dayRaw y m d + 1 := by
  have hn := nextDate_valid y m d h
  rw [dayRaw_eq _ _ _ hn.1 hn.2.1, dayRaw_eq _ _ _ h.1 h.2.1]
  exact dayE_next y m d h

theorem exists_valid (n : Nat) : ∃ y m d, Valid y m d ∧ dayE y m d = (n : Int) + 1 := by
  induction n with
  | zero => exact ⟨1, 1, 1, by decide, by decide⟩
  | succ n ih =>
    obtain ⟨y, m, d, hv, he⟩ := ih
    exact ⟨_, _, _, nextDate_valid y m d hv, by rw [dayE_next y m d hv, he]; omega⟩

theorem dayRaw_dateRaw (s : Int) (hs : 1 ≤ s) :
    Valid (dateRaw s).1 (dateRaw s).2.1 (dateRaw s).2.2 ∧ dayRaw (dateRaw s).1 (dateRaw s).2.1 (dateRaw s).2.2 = s := by
  obtain ⟨y, m, d, hv, he⟩ := exists_valid (s - 1).toNat
  have hs' : dayRaw y m d = s := by rw [dayRaw_eq y m d hv.1 hv.2.1, he]; omega
  have hd := dateRaw_dayRaw y m d hv
  rw [hs'] at hd
  rw [hd]
  exact ⟨hv, hs'⟩

theorem dateRaw_succ (s : Int) (hs : 1 ≤ s) :
    dateRaw (s + 1) = nextDate (dateRaw s).1 (dateRaw s).2.1 (dateRaw s).2.2 := by
  obtain ⟨hv, he⟩ := dayRaw_dateRaw s hs
  have hn := nextDate_valid _ _ _ hv
  have h1 := dayRaw_next _ _ _ hv
  rw [he] at h1
  have := dateRaw_dayRaw _ _ _ hn
  rw [h1] at this
  exact this

/-- the lexicographic order of (y, m, d) as one integer (valid dates have m ≤ 12, d ≤ 31) -/
def dateKey (v : Int × Int × Int) : Int := 10000 * v.1 + 100 * v.2.1 + v.2.2

theorem nextDate_key (y m d : Int) (h : Valid y m d) : dateKey (y, m, d) < dateKey (nextDate y m d) := by
  have hd31 := valid_d31 y m d h
  obtain ⟨hy, hm1, hm2, hd1, hd2, hx⟩ := h
  unfold nextDate dateKey
  split
  · rename_i h1; obtain ⟨rfl, rfl, rfl⟩ := h1; decide
  · split
    · show 10000 * y + 100 * m + d < 10000 * y + 100 * m + (d + 1); omega
    · split
      · show 10000 * y + 100 * m + d < 10000 * y + 100 * (m + 1) + 1; omega
      · show 10000 * y + 100 * m + d < 10000 * (y + 1) + 100 * 1 + 1; omega

theorem strictMono_of_succ (f : Int → Int) (a : Int) (h : ∀ s, a ≤ s → f s < f (s + 1)) (s : Int) (hs : a ≤ s) (n : Nat) :
    f s < f (s + n + 1) := by
  induction n with
  | zero => simpa using h s hs
  | succ n ih =>
    have := h (s + n + 1) (by omega)
    rw [show s + ((n + 1 : Nat) : Int) + 1 = s + n + 1 + 1 by omega]
    omega

theorem dateRaw_strictMono (s t : Int) (hs : 1 ≤ s) (hst : s < t) : dateKey (dateRaw s) < dateKey (dateRaw t) := by
  have step : ∀ s, 1 ≤ s → dateKey (dateRaw s) < dateKey (dateRaw (s + 1)) := by
    intro s hs
    rw [dateRaw_succ s hs]
    exact nextDate_key _ _ _ (dayRaw_dateRaw s hs).1
  have := strictMono_of_succ (fun s => dateKey (dateRaw s)) 1 step s hs (t - s - 1).toNat
  rwa [show s + ((t - s - 1).toNat : Int) + 1 = t by omega] at this

theorem dayRaw_lt_iff (y m d y' m' d' : Int) (h : Valid y m d) (h' : Valid y' m' d') :
    dayRaw y m d < dayRaw y' m' d' ↔ dateKey (y, m, d) < dateKey (y', m', d') := by
  have p := dayRaw_pos y m d h
  have p' := dayRaw_pos y' m' d' h'
  have r := dateRaw_dayRaw y m d h
  have r' := dateRaw_dayRaw y' m' d' h'
  constructor
  · intro hlt
    have := dateRaw_strictMono _ _ p hlt
    rwa [r, r'] at this
  · intro hk
    rcases Int.lt_trichotomy (dayRaw y m d) (dayRaw y' m' d') with hlt | heq | hgt
    · exact hlt
    · rw [heq, r'] at r; rw [r] at hk; omega
    · have := dateRaw_strictMono _ _ p' hgt
      rw [r, r'] at this; omega

theorem valid_jan1 (y : Int) (hy : 1 ≤ y) : Valid y 1 1 :=
  ⟨hy, by omega, by omega, by omega, by have := monthLength_bounds y 1; omega, by omega⟩

end GeoVerif.Calendar
