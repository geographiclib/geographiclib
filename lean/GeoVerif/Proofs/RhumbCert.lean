import GeoVerif.Series.RhumbCert
import GeoVerif.Proofs.AuxRow
/-! kernel evaluation of the rhumb-area certificate (its own module: rebuilt only when the extracted tables change);
`Proofs/AuxRow.lean` is imported for `Trig.powSeries_fold` -/
namespace GeoVerif.Proofs.RhumbCert
open GeoVerif.Series

theorem rhumb_area_table : GeoVerif.Series.RhumbCert.checkRhumbArea = true := by
  -- `cosOf A` and `sinOf A` written over the one list of powers of `A` (`Trig.powSeries_fold`): the kernel then evaluates the
  -- powers of each of the three latitude series once, not once for the cosine and once for the sine
  unfold RhumbCert.checkRhumbArea Aux.cosShift RhumbCert.sinShift Trig.cosOf Trig.sinOf Trig.powSeries
  simp only [Trig.powSeries_fold]
  decide +kernel
end GeoVerif.Proofs.RhumbCert
