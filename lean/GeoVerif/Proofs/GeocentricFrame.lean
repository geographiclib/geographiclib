import GeoVerif.Model.Geocentric
import GeoVerif.Spec.RealInst
import Mathlib.LinearAlgebra.Matrix.Determinant.Basic
import Mathlib.Tactic.FinCases
import Mathlib.Tactic.Ring
import Mathlib.Tactic.LinearCombination
/-!
# Frames: the 3×3 matrices of `Geocentric::Rotation` / `LocalCartesian::MatrixMultiply` as Mathlib matrices,
`Rotate`/`Unrotate` as `mulVec`, and the angle of a unit pair in degrees
-/
namespace GeoVerif.GeocentricProofs
open GeoVerif GeoVerif.Geocentric

/-- the row-major list `M[0..8]` read as a matrix -/
noncomputable def toMat (M : List ℝ) : Matrix (Fin 3) (Fin 3) ℝ := fun i j => el M (3 * i.val + j.val)

def IsRot (M : List ℝ) : Prop := (toMat M).transpose * toMat M = 1 ∧ (toMat M).det = 1

theorem IsRot.rows {M : List ℝ} (h : IsRot M) : toMat M * (toMat M).transpose = 1 := mul_eq_one_comm.mp h.1

/-- both sides are explicit 3×3 matrices with the same entries -/
theorem toMat_matrixMultiply (r M : List ℝ) : toMat (matrixMultiply r M) = (toMat r).transpose * toMat M := by
  rw [Matrix.eta_fin_three (toMat r).transpose, Matrix.eta_fin_three (toMat M), Matrix.mul_fin_three,
    Matrix.eta_fin_three (toMat (matrixMultiply r M))]
  rfl

/-- at the origin of a local system the frame of the point is the frame of the origin -/
theorem matrixMultiply_self (r : List ℝ) (hr : IsRot r) : toMat (matrixMultiply r r) = 1 := by
  rw [toMat_matrixMultiply]; exact hr.1

/-- `Geocentric::Rotation`: the columns are the east, north and up vectors -/
theorem toMat_rotation (s c sl cl : ℝ) :
    toMat (rotation s c sl cl) = !![-sl, -(cl * s), cl * c; cl, -(sl * s), sl * c; 0, c, s] := by
  rw [Matrix.eta_fin_three (toMat (rotation s c sl cl))]
  exact congrArg (fun x : ℝ => !![-sl, -(cl * s), cl * c; cl, -(sl * s), sl * c; x, c, s]) Nat.cast_zero

theorem rotation_isRot (s c sl cl : ℝ) (hp : s ^ 2 + c ^ 2 = 1) (hl : sl ^ 2 + cl ^ 2 = 1) : IsRot (rotation s c sl cl) := by
  rw [IsRot, toMat_rotation]
  constructor
  · ext i j
    -- the scalar products of the columns east, north, up, in the order (i, j) = (0,0), (0,1), …, (2,2)
    fin_cases i <;> fin_cases j <;> simp [Matrix.mul_apply, Fin.sum_univ_three]
    · linear_combination hl
    · ring
    · ring
    · ring
    · linear_combination s ^ 2 * hl + hp
    · linear_combination -(s * c) * hl
    · ring
    · linear_combination -(s * c) * hl
    · linear_combination c ^ 2 * hl + hp
  · rw [Matrix.det_fin_three]
    simp only [Matrix.of_apply, Matrix.cons_val', Matrix.cons_val_zero, Matrix.cons_val_one, Matrix.cons_val]
    linear_combination (sl ^ 2 + cl ^ 2) * hp + hl

theorem det_first_row (A : Matrix (Fin 3) (Fin 3) ℝ) :
    A.det = A 0 0 * (A 1 1 * A 2 2 - A 1 2 * A 2 1) - A 0 1 * (A 1 0 * A 2 2 - A 1 2 * A 2 0)
      + A 0 2 * (A 1 0 * A 2 1 - A 1 1 * A 2 0) := by
  rw [Matrix.det_fin_three]; ring

theorem rotate_eq (M : List ℝ) (x y z : ℝ) :
    rotate M x y z = ((toMat M).mulVec ![x, y, z] 0, (toMat M).mulVec ![x, y, z] 1, (toMat M).mulVec ![x, y, z] 2) := by
  simp only [Matrix.mulVec, dotProduct, Fin.sum_univ_three]; rfl

theorem unrotate_eq (M : List ℝ) (x y z : ℝ) :
    unrotate M x y z = ((toMat M).transpose.mulVec ![x, y, z] 0, (toMat M).transpose.mulVec ![x, y, z] 1,
      (toMat M).transpose.mulVec ![x, y, z] 2) := by
  simp only [Matrix.mulVec, dotProduct, Fin.sum_univ_three]; rfl

theorem vec3_eta (w : Fin 3 → ℝ) : ![w 0, w 1, w 2] = w := FinVec.etaExpand_eq w

theorem unrotate_rotate_cancel {M : List ℝ} (h : (toMat M).transpose * toMat M = 1) (x y z : ℝ) :
    unrotate M (rotate M x y z).1 (rotate M x y z).2.1 (rotate M x y z).2.2 = (x, y, z) := by
  rw [rotate_eq, unrotate_eq, vec3_eta, Matrix.mulVec_mulVec, h, Matrix.one_mulVec]
  rfl

theorem rotate_unrotate_cancel {M : List ℝ} (h : toMat M * (toMat M).transpose = 1) (X Y Z : ℝ) :
    rotate M (unrotate M X Y Z).1 (unrotate M X Y Z).2.1 (unrotate M X Y Z).2.2 = (X, Y, Z) := by
  rw [unrotate_eq, rotate_eq, vec3_eta, Matrix.mulVec_mulVec, h, Matrix.one_mulVec]
  rfl

/-- `‖Mᵀv‖² = v·(M Mᵀ)v` -/
theorem unrotate_norm_sq {M : List ℝ} (h : toMat M * (toMat M).transpose = 1) (x y z : ℝ) :
    (unrotate M x y z).1 ^ 2 + (unrotate M x y z).2.1 ^ 2 + (unrotate M x y z).2.2 ^ 2 = x ^ 2 + y ^ 2 + z ^ 2 := by
  have key : (toMat M).transpose.mulVec ![x, y, z] ⬝ᵥ (toMat M).transpose.mulVec ![x, y, z] = ![x, y, z] ⬝ᵥ ![x, y, z] := by
    rw [Matrix.dotProduct_mulVec, Matrix.vecMul_transpose, Matrix.mulVec_mulVec, h, Matrix.one_mulVec]
  rw [Matrix.vec3_dotProduct, Matrix.vec3_dotProduct'] at key
  rw [unrotate_eq]
  linear_combination key

theorem arg_unit (s c : ℝ) (h : s ^ 2 + c ^ 2 = 1) :
    Real.sin (Complex.arg ⟨c, s⟩) = s ∧ Real.cos (Complex.arg ⟨c, s⟩) = c := by
  have hn : ‖(⟨c, s⟩ : ℂ)‖ = 1 := by
    rw [Complex.norm_eq_sqrt_sq_add_sq]
    show Real.sqrt (c ^ 2 + s ^ 2) = 1
    rw [add_comm, h, Real.sqrt_one]
  have hz : (⟨c, s⟩ : ℂ) ≠ 0 := by
    intro h0; rw [h0, norm_zero] at hn; exact zero_ne_one hn
  constructor
  · rw [Complex.sin_arg, hn, div_one]
  · rw [Complex.cos_arg hz, hn, div_one]

theorem atan2d_real (y x : ℝ) : atan2d y x = Complex.arg ⟨x, y⟩ * 180 / Real.pi := by
  show Complex.arg ⟨x, y⟩ * ((180 : ℕ) : ℝ) / Real.pi = _
  push_cast; rfl

theorem deg_rad (x : ℝ) : x * 180 / Real.pi * Real.pi / 180 = x := by
  rw [div_mul_cancel₀ _ Real.pi_ne_zero, mul_div_assoc, div_self (by norm_num), mul_one]

theorem sind_atan2d (s c : ℝ) (h : s ^ 2 + c ^ 2 = 1) : sind (atan2d s c) = s ∧ cosd (atan2d s c) = c := by
  obtain ⟨h1, h2⟩ := arg_unit s c h
  have e : atan2d s c * Real.pi / ((180 : ℕ) : ℝ) = Complex.arg ⟨c, s⟩ := by
    rw [atan2d_real]; push_cast; exact deg_rad _
  exact ⟨(congrArg Real.sin e).trans h1, (congrArg Real.cos e).trans h2⟩

end GeoVerif.GeocentricProofs
