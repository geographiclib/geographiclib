import GeoVerif.Proofs.Round53
/-!
`divTo p emin x y` computes `q = ⌊a·2^k / b⌋` with `k` chosen so that `q ≥ 2^(p+3)` (`divTo_q_large`), appends a sticky
bit and calls `roundTo`.  The result is `IsRN p emin (x.val / y.val)`: the sticky value and the exact
quotient lie strictly between the same two consecutive multiples of the quotient unit, which is at least four times
finer than the rounding grid, so no grid point or midpoint separates them.  The argument (`sticky_isRN`) needs only
`q ≥ 2^p`: then `2q + 1` has at least `p + 2` bits, so the last kept bit has exponent `t ≥ e' + 2`.
-/
namespace GeoVerif
open Dy

namespace Dy

theorem divTo_q_large (p a b : ℕ) (ha : a ≠ 0) (hb : b ≠ 0) :
    2 ^ (p + 3) ≤ (a * 2 ^ ((p + 3 + blen b) - min (p + 3 + blen b) (blen a) + 1)) / b := by
  obtain ⟨a1, _, a3⟩ := blen_bounds a ha
  obtain ⟨_, b2, _⟩ := blen_bounds b hb
  rw [Nat.le_div_iff_mul_le (Nat.pos_of_ne_zero hb)]
  set k := (p + 3 + blen b) - min (p + 3 + blen b) (blen a) + 1 with hk
  have hexp : p + 3 + blen b ≤ blen a - 1 + k := by omega
  calc 2 ^ (p + 3) * b ≤ 2 ^ (p + 3) * 2 ^ blen b := Nat.mul_le_mul_left _ b2.le
    _ = 2 ^ (p + 3 + blen b) := (Nat.pow_add 2 _ _).symm
    _ ≤ 2 ^ (blen a - 1 + k) := Nat.pow_le_pow_right (by norm_num) hexp
    _ = 2 ^ (blen a - 1) * 2 ^ k := Nat.pow_add 2 _ _
    _ ≤ a * 2 ^ k := Nat.mul_le_mul_right _ a1

theorem sticky_isRN (p : ℕ) (emin : ℤ) (num b : ℕ) (hb : b ≠ 0) (e' : ℤ) (hq : 2 ^ p ≤ num / b) :
    IsRN p emin (((num : ℚ) / b) * (2:ℚ) ^ (e' + 1))
      (roundTo p emin ⟨((2 * (num / b) + (if num % b = 0 then 0 else 1) : ℕ) : ℤ), e'⟩).val := by
  set q := num / b with hqd
  set r := num % b with hrd
  have hdm : b * q + r = num := Nat.div_add_mod num b
  have hrlt : r < b := Nat.mod_lt _ (Nat.pos_of_ne_zero hb)
  have hbq : (0:ℚ) < b := by exact_mod_cast Nat.pos_of_ne_zero hb
  have hV := two_zpow_pos e'
  have hV1 : (2:ℚ) ^ (e' + 1) = 2 * (2:ℚ) ^ e' := by rw [two_zpow_split]; norm_num; ring
  have hq1 : 1 ≤ q := le_trans Nat.one_le_two_pow hq
  -- exact quotient in units of V = 2^e'
  have hz : ((num : ℚ) / b) * (2:ℚ) ^ (e' + 1) = (2 * (q:ℚ) + 2 * ((r:ℚ) / b)) * (2:ℚ) ^ e' := by
    rw [hV1, ← hdm]; push_cast; field_simp
  by_cases hr : r = 0
  · -- exact quotient: the sticky dyadic is the quotient itself
    rw [if_pos hr]
    have : ((num : ℚ) / b) * (2:ℚ) ^ (e' + 1) = (⟨((2 * q + 0 : ℕ) : ℤ), e'⟩ : Dy).val := by
      rw [hz, hr]; simp [val]
    rw [this]
    exact roundTo_isRN p emin _
  · rw [if_neg hr]
    set w : Dy := ⟨((2 * q + 1 : ℕ) : ℤ), e'⟩ with hw
    have hwm : w.m ≠ 0 := by simp [hw]; omega
    have hwa : w.m.natAbs = 2 * q + 1 := by simp [hw]; omega
    obtain ⟨K, hK, h2, _⟩ := roundTo_spec p emin w hwm
    have hwv : w.val = (2 * (q:ℚ) + 1) * (2:ℚ) ^ e' := by simp [hw, val]
    obtain ⟨c1, c2, c3⟩ := blen_bounds (2 * q + 1) (by omega)
    set Ln := blen (2 * q + 1) with hLn
    have hLn2 : p + 2 ≤ Ln := by
      by_contra hc
      have : Ln ≤ p + 1 := by omega
      have := Nat.pow_le_pow_right (show 0 < 2 by norm_num) this
      have e : (2:ℕ) ^ (p + 1) = 2 * 2 ^ p := by rw [Nat.pow_succ]; ring
      omega
    have hbexp : bexp w = e' + Ln := by unfold bexp; rw [hwa]
    have htE : tExp p emin w = max (e' + Ln - p) emin := by rw [tExp_eq, hbexp]
    set t := tExp p emin w with ht
    -- P = 2^(Ln−1) is even
    obtain ⟨P', hP'⟩ : ∃ P', 2 ^ (Ln - 1) = 2 * P' := ⟨2 ^ (Ln - 2), by
      rw [show Ln - 1 = (Ln - 2) + 1 by omega, Nat.pow_succ]; ring⟩
    have hPLn : (2:ℕ) ^ Ln = 2 * 2 ^ (Ln - 1) := by
      conv_lhs => rw [show Ln = (Ln - 1) + 1 by omega]
      rw [Nat.pow_succ]; ring
    have d1 : 2 ^ (Ln - 1) ≤ 2 * q := by omega
    have d2 : 2 * q + 2 ≤ 2 ^ Ln := by omega
    have hρ0 : (0:ℚ) < (r:ℚ) / b := div_pos (by exact_mod_cast Nat.pos_of_ne_zero hr) hbq
    have hρ1 : (r:ℚ) / b < 1 := by rw [div_lt_one hbq]; exact_mod_cast hrlt
    have hzpos : 0 < (2 * (q:ℚ) + 2 * ((r:ℚ) / b)) * (2:ℚ) ^ e' := by positivity
    -- 2^t = 4·D'·V
    have hte : e' + 2 ≤ t := by rw [htE]; omega
    obtain ⟨D', hD, hD1⟩ : ∃ D' : ℕ, (2:ℚ) ^ t = 4 * (D':ℚ) * (2:ℚ) ^ e' ∧ 1 ≤ D' := by
      refine ⟨2 ^ (t - e' - 2).toNat, ?_, Nat.one_le_two_pow⟩
      push_cast
      rw [← zpow_natCast, Int.toNat_of_nonneg (by omega)]
      have : (4:ℚ) = (2:ℚ) ^ (2:ℤ) := by norm_num
      rw [this, ← two_zpow_split, ← two_zpow_split]; congr 1; ring
    -- integer distance I = 4·K·D' − (2q+1), odd, so |I| ≤ 2D' − 1
    rw [hK, hwv, hD] at h2
    have h2' : 2 * |(4 * ((K * D' : ℤ) : ℚ) - (2 * (q:ℚ) + 1))| ≤ 4 * (D':ℚ) := by
      have e : (K:ℚ) * (4 * (D':ℚ) * (2:ℚ) ^ e') - (2 * (q:ℚ) + 1) * (2:ℚ) ^ e'
          = (4 * ((K * D' : ℤ) : ℚ) - (2 * (q:ℚ) + 1)) * (2:ℚ) ^ e' := by push_cast; ring
      rw [e, abs_mul, abs_of_pos hV, ← mul_assoc] at h2
      exact le_of_mul_le_mul_right h2 hV
    have h2i : 2 * |4 * (K * D' : ℤ) - (2 * (q:ℤ) + 1)| ≤ 4 * (D':ℤ) := by
      have : ((2 * |4 * (K * D' : ℤ) - (2 * (q:ℤ) + 1)| : ℤ) : ℚ) ≤ ((4 * (D':ℤ) : ℤ) : ℚ) := by
        push_cast; push_cast at h2'; exact h2'
      exact_mod_cast this
    have hI : |4 * (K * (D':ℤ)) - (2 * (q:ℤ) + 1)| ≤ 2 * (D':ℤ) - 1 := by
      rcases abs_cases (4 * (K * (D':ℤ)) - (2 * (q:ℤ) + 1)) with ⟨e, _⟩ | ⟨e, _⟩
      · rw [e] at h2i ⊢; omega
      · rw [e] at h2i ⊢; omega
    have hIq : |(4 * ((K:ℚ) * (D':ℚ)) - (2 * (q:ℚ) + 1))| ≤ 2 * (D':ℚ) - 1 := by
      have : ((|4 * (K * (D':ℤ)) - (2 * (q:ℤ) + 1)| : ℤ) : ℚ) ≤ ((2 * (D':ℤ) - 1 : ℤ) : ℚ) := by exact_mod_cast hI
      push_cast at this; exact this
    -- the exact quotient differs from the sticky value by less than one unit `V`, so it is strictly inside the half step
    have hstrict : 2 * |(K:ℚ) * (2:ℚ) ^ t - (2 * (q:ℚ) + 2 * ((r:ℚ) / b)) * (2:ℚ) ^ e'| < (2:ℚ) ^ t := by
      have e : (K:ℚ) * (2:ℚ) ^ t - (2 * (q:ℚ) + 2 * ((r:ℚ) / b)) * (2:ℚ) ^ e'
          = ((4 * ((K:ℚ) * (D':ℚ)) - (2 * (q:ℚ) + 1)) + (1 - 2 * ((r:ℚ) / b))) * (2:ℚ) ^ e' := by
        rw [hD]; ring
      rw [e, abs_mul, abs_of_pos hV, hD]
      have hIb := abs_le.mp hIq
      have : |(4 * ((K:ℚ) * (D':ℚ)) - (2 * (q:ℚ) + 1)) + (1 - 2 * ((r:ℚ) / b))| < 2 * (D':ℚ) := by
        rw [abs_lt]; constructor <;> linarith [hIb.1, hIb.2]
      have := mul_lt_mul_of_pos_right this hV
      linarith
    refine ⟨fun h0 => absurd h0 (by rw [hz]; exact hzpos.ne'), fun _ => ⟨e' + Ln, K, ?_, ?_, ?_, ?_, ?_⟩⟩
    · rw [hz, abs_of_pos hzpos]
      have : (2:ℚ) ^ (e' + Ln - 1) = ((2 ^ (Ln - 1) : ℕ) : ℚ) * (2:ℚ) ^ e' := by
        push_cast; rw [← zpow_natCast, ← two_zpow_split]; congr 1
        push_cast [c3]; ring
      rw [this]
      have : ((2 ^ (Ln - 1) : ℕ) : ℚ) ≤ 2 * (q:ℚ) := by exact_mod_cast d1
      apply mul_le_mul_of_nonneg_right _ hV.le
      linarith
    · rw [hz, abs_of_pos hzpos]
      have : (2:ℚ) ^ (e' + (Ln:ℤ)) = ((2 ^ Ln : ℕ) : ℚ) * (2:ℚ) ^ e' := by
        push_cast; rw [← zpow_natCast, ← two_zpow_split]; congr 1; ring
      rw [this]
      have : 2 * (q:ℚ) + 2 ≤ ((2 ^ Ln : ℕ) : ℚ) := by exact_mod_cast d2
      apply mul_lt_mul_of_pos_right _ hV
      linarith
    · rw [← htE]; exact hK
    · rw [← htE, hK, hz]; exact hstrict.le
    · rw [← htE, hK, hz]; exact fun heq => absurd heq hstrict.ne

theorem natAbs_cast_q (m : ℤ) : ((m.natAbs : ℕ) : ℚ) = if m < 0 then -(m:ℚ) else (m:ℚ) := by
  by_cases h : m < 0
  · rw [if_pos h]; have : ((m.natAbs : ℕ) : ℤ) = -m := by omega
    rw [← Int.cast_natCast (R := ℚ) m.natAbs, this]; simp
  · rw [if_neg h]; have : ((m.natAbs : ℕ) : ℤ) = m := by omega
    rw [← Int.cast_natCast (R := ℚ) m.natAbs, this]

theorem divTo_isRN (p : ℕ) (emin : ℤ) (x y : Dy) (hy : y.m ≠ 0) :
    IsRN p emin (x.val / y.val) (divTo p emin x y).val := by
  by_cases hx : x.m = 0
  · have h1 : divTo p emin x y = ⟨0, 0⟩ := by unfold divTo; simp [hx]
    rw [h1, val_of_m_zero x hx]
    simpa [val] using isRN_zero p emin
  · unfold divTo
    dsimp only
    rw [if_neg (by omega : ¬ x.m.natAbs = 0)]
    set a := x.m.natAbs with ha
    set b := y.m.natAbs with hb
    have ha0 : a ≠ 0 := by omega
    have hb0 : b ≠ 0 := by omega
    set k := (p + 3 + blen b) - min (p + 3 + blen b) (blen a) + 1 with hk
    rw [Nat.shiftLeft_eq]
    have hq := divTo_q_large p a b ha0 hb0
    rw [← hk] at hq
    have hq' : 2 ^ p ≤ a * 2 ^ k / b :=
      le_trans (Nat.pow_le_pow_right (by norm_num) (by omega)) hq
    have core := sticky_isRN p emin (a * 2 ^ k) b hb0 (x.e - y.e - k - 1) hq'
    have hbq : (b:ℚ) ≠ 0 := by exact_mod_cast hb0
    have hym : (y.m:ℚ) ≠ 0 := by exact_mod_cast hy
    have hzp : (((a * 2 ^ k : ℕ) : ℚ) / b) * (2:ℚ) ^ (x.e - y.e - k - 1 + 1) = ((a:ℚ) / b) * (2:ℚ) ^ (x.e - y.e) := by
      have : (2:ℚ) ^ (x.e - y.e) = (2:ℚ) ^ (k:ℤ) * (2:ℚ) ^ (x.e - y.e - k - 1 + 1) := by
        rw [← two_zpow_split]; congr 1; ring
      rw [this, zpow_natCast]; push_cast; field_simp
    have hz : x.val / y.val = ((x.m:ℚ) / y.m) * (2:ℚ) ^ (x.e - y.e) := by
      unfold val
      have h1 := (two_zpow_pos y.e).ne'
      have : (2:ℚ) ^ (x.e - y.e) = (2:ℚ) ^ x.e / (2:ℚ) ^ y.e := by
        rw [sub_eq_add_neg, two_zpow_split, zpow_neg]; rfl
      rw [this]; field_simp
    rw [hzp] at core
    have haq := natAbs_cast_q x.m
    have hbq' := natAbs_cast_q y.m
    rw [← ha] at haq; rw [← hb] at hbq'
    by_cases hs : ((decide (x.m < 0)) != (decide (y.m < 0))) = true
    · rw [if_pos hs]
      have hw : (⟨-1 * ((2 * (a * 2 ^ k / b) + (if a * 2 ^ k % b = 0 then 0 else 1) : ℕ) : ℤ), x.e - y.e - k - 1⟩ : Dy)
          = neg ⟨((2 * (a * 2 ^ k / b) + (if a * 2 ^ k % b = 0 then 0 else 1) : ℕ) : ℤ), x.e - y.e - k - 1⟩ := by
        unfold neg; simp
      rw [hw, roundTo_neg, val_neg]
      have : x.val / y.val = -(((a:ℚ) / b) * (2:ℚ) ^ (x.e - y.e)) := by
        rw [hz, haq, hbq']
        by_cases h1 : x.m < 0 <;> by_cases h2 : y.m < 0 <;> simp [h1, h2] at hs ⊢
        · rw [neg_div]; ring
        · rw [div_neg]; ring
      rw [this]
      exact core.neg
    · rw [if_neg hs]
      have hw : (⟨1 * ((2 * (a * 2 ^ k / b) + (if a * 2 ^ k % b = 0 then 0 else 1) : ℕ) : ℤ), x.e - y.e - k - 1⟩ : Dy)
          = ⟨((2 * (a * 2 ^ k / b) + (if a * 2 ^ k % b = 0 then 0 else 1) : ℕ) : ℤ), x.e - y.e - k - 1⟩ := by
        simp
      rw [hw]
      have : x.val / y.val = (((a:ℚ) / b) * (2:ℚ) ^ (x.e - y.e)) := by
        rw [hz, haq, hbq']
        by_cases h1 : x.m < 0 <;> by_cases h2 : y.m < 0 <;> simp [h1, h2] at hs ⊢
      rw [this]
      exact core

end Dy
end GeoVerif
