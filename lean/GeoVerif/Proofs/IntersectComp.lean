import GeoVerif.Model.IntersectSearch
import GeoVerif.Spec.RealInst
import GeoVerif.Proofs.InsBy
import Mathlib.Tactic.Linarith
import Mathlib.Tactic.Ring
import Mathlib.Tactic.NormNum
/-!
# `Intersect`: the L1 metric, the `XPoint` comparators, the set and the sort (lemmas for `Props/C17.lean`)

Real-number reading of `Model/IntersectSearch.lean`.
-/
namespace GeoVerif.IntersectSearch
open GeoVerif GeoVerif.IntersectFix

theorem ofC_real (c : Int) : (ofC c : ℝ) = (c : ℝ) := by
  unfold ofC
  split
  · rename_i h
    rw [ofNat_real, Nat.cast_natAbs, abs_of_neg h]; push_cast; ring
  · rename_i h
    rw [ofNat_real, Nat.cast_natAbs, abs_of_nonneg (by omega)]

theorem l1_real (x y : ℝ) : l1 x y = |x| + |y| := rfl
theorem dist_real (p q : XP ℝ) : dist p q = |p.x - q.x| + |p.y - q.y| := rfl
theorem dist0_real (p : XP ℝ) : dist0 p = |p.x| + |p.y| := rfl
theorem ceq_real (δ : ℝ) (p q : XP ℝ) : ceq δ p q = decide (dist p q ≤ δ) := rfl
theorem zero_real : (zero : ℝ) = 0 := by simp [zero, ofNat_real]
theorem two_real : (two : ℝ) = 2 := by simp [two, ofNat_real]

theorem dist0_eq_dist (p : XP ℝ) : dist0 p = dist p (mk0 zero zero) := by
  rw [dist0_real, dist_real]; simp [mk0, zero_real]

theorem ceq_iff (δ : ℝ) (p q : XP ℝ) : ceq δ p q = true ↔ dist p q ≤ δ := by simp [ceq_real]
theorem ceq_false_iff (δ : ℝ) (p q : XP ℝ) : ceq δ p q = false ↔ δ < dist p q := by
  rw [← Bool.not_eq_true, ceq_iff]; exact not_le

theorem clt_iff (δ : ℝ) (p q : XP ℝ) :
    clt δ p q = true ↔ δ < dist p q ∧ ((δ < |p.x - q.x| ∧ p.x < q.x) ∨ (|p.x - q.x| ≤ δ ∧ p.y < q.y)) := by
  unfold clt
  simp only [Bool.and_eq_true, Bool.not_eq_true', ceq_false_iff, ltb_real, abs_real]
  by_cases h : δ < |p.x - q.x|
  · simp [h]
  · simp [h, not_lt.mp h]

theorem cltOld_iff (δ : ℝ) (p q : XP ℝ) :
    cltOld δ p q = true ↔ δ < dist p q ∧ ((p.x ≠ q.x ∧ p.x < q.x) ∨ (p.x = q.x ∧ p.y < q.y)) := by
  unfold cltOld
  simp only [Bool.and_eq_true, Bool.not_eq_true', ceq_false_iff, ltb_real, eqb_real]
  by_cases h : p.x = q.x
  · simp [h]
  · simp [h]

theorem dist_nonneg (p q : XP ℝ) : 0 ≤ dist p q := by rw [dist_real]; positivity
theorem dist_self (p : XP ℝ) : dist p p = 0 := by simp [dist_real]
theorem dist_symm (p q : XP ℝ) : dist p q = dist q p := by
  rw [dist_real, dist_real, abs_sub_comm p.x, abs_sub_comm p.y]
theorem dist_triangle (p q r : XP ℝ) : dist p r ≤ dist p q + dist q r := by
  rw [dist_real, dist_real, dist_real]
  have h1 := abs_sub_le p.x q.x r.x
  have h2 := abs_sub_le p.y q.y r.y
  linarith
theorem abs_x_le_dist (p q : XP ℝ) : |p.x - q.x| ≤ dist p q := by rw [dist_real]; linarith [abs_nonneg (p.y - q.y)]
theorem abs_y_le_dist (p q : XP ℝ) : |p.y - q.y| ≤ dist p q := by rw [dist_real]; linarith [abs_nonneg (p.x - q.x)]

theorem ceq_refl (δ : ℝ) (hδ : 0 ≤ δ) (p : XP ℝ) : ceq δ p p = true := by rw [ceq_iff, dist_self]; exact hδ
theorem ceq_symm (δ : ℝ) (p q : XP ℝ) : ceq δ p q = ceq δ q p := by rw [ceq_real, ceq_real, dist_symm]

theorem clt_not_ceq (δ : ℝ) (p q : XP ℝ) (h : clt δ p q = true) : ceq δ p q = false := by
  rw [clt_iff] at h; rw [ceq_false_iff]; exact h.1

theorem clt_irrefl (δ : ℝ) (hδ : 0 ≤ δ) (p : XP ℝ) : clt δ p p = false := by
  rw [← Bool.not_eq_true, clt_iff, dist_self]; intro h; linarith [h.1]

theorem clt_asymm (δ : ℝ) (p q : XP ℝ) (h : clt δ p q = true) : clt δ q p = false := by
  rw [← Bool.not_eq_true, clt_iff]; rw [clt_iff] at h
  rw [abs_sub_comm q.x p.x]
  rintro ⟨_, h2⟩
  rcases h.2 with ⟨a, b⟩ | ⟨a, b⟩ <;> rcases h2 with ⟨c, d⟩ | ⟨c, d⟩ <;> linarith

/-- incomparability of the repaired comparator is exactly `SetComp::eq` -/
theorem clt_incomparable_iff (δ : ℝ) (hδ : 0 ≤ δ) (p q : XP ℝ) :
    (clt δ p q = false ∧ clt δ q p = false) ↔ ceq δ p q = true := by
  constructor
  · rintro ⟨h1, h2⟩
    by_contra hne
    rw [Bool.not_eq_true, ceq_false_iff] at hne
    rw [← Bool.not_eq_true, clt_iff] at h1 h2
    rw [dist_symm q p, abs_sub_comm q.x p.x] at h2
    by_cases hx : δ < |p.x - q.x|
    · rcases lt_trichotomy p.x q.x with h | h | h
      · exact h1 ⟨hne, Or.inl ⟨hx, h⟩⟩
      · rw [h] at hx; simp at hx; linarith
      · exact h2 ⟨hne, Or.inl ⟨hx, h⟩⟩
    · have hx' := not_lt.mp hx
      rcases lt_trichotomy p.y q.y with h | h | h
      · exact h1 ⟨hne, Or.inr ⟨hx', h⟩⟩
      · rw [dist_real, h] at hne; simp at hne; linarith
      · exact h2 ⟨hne, Or.inr ⟨hx', h⟩⟩
  · intro h
    have h' : ceq δ q p = true := by rw [ceq_symm]; exact h
    -- `clt` holds only outside the δ-class
    constructor
    · by_contra hc
      rw [Bool.not_eq_false] at hc
      rw [clt_not_ceq δ p q hc] at h; cases h
    · by_contra hc
      rw [Bool.not_eq_false] at hc
      rw [clt_not_ceq δ q p hc] at h'; cases h'

/-- Conditions on a set `S` of points under which `SetComp::operator()` is a strict weak order on `S` whose incomparability
    is `SetComp::eq`: "x within δ" and "L1 within δ" are transitive on `S`, and inside a class of x-close points the
    δ-classes are convex in `y`. -/
structure Consistent (δ : ℝ) (S : XP ℝ → Prop) : Prop where
  xtrans : ∀ p q r, S p → S q → S r → |p.x - q.x| ≤ δ → |q.x - r.x| ≤ δ → |p.x - r.x| ≤ δ
  etrans : ∀ p q r, S p → S q → S r → dist p q ≤ δ → dist q r ≤ δ → dist p r ≤ δ
  convex : ∀ p q r, S p → S q → S r → |p.x - q.x| ≤ δ → |q.x - r.x| ≤ δ → p.y ≤ q.y → q.y ≤ r.y → dist p r ≤ δ → dist p q ≤ δ

theorem clt_trans_on {δ : ℝ} {S : XP ℝ → Prop} (hS : Consistent δ S) {p q r : XP ℝ}
    (hp : S p) (hq : S q) (hr : S r) (h1 : clt δ p q = true) (h2 : clt δ q r = true) : clt δ p r = true := by
  rw [clt_iff] at h1 h2 ⊢
  obtain ⟨d1, c1⟩ := h1
  obtain ⟨d2, c2⟩ := h2
  -- each of `p < q`, `q < r` is decided by `x` (difference above `δ`) or, with `x` within `δ`, by `y`: four cases
  rcases c1 with ⟨a1, b1⟩ | ⟨a1, b1⟩ <;> rcases c2 with ⟨a2, b2⟩ | ⟨a2, b2⟩
  · have e1 : δ < -(p.x - q.x) := abs_of_neg (sub_neg.mpr b1) ▸ a1
    have e2 : δ < -(q.x - r.x) := abs_of_neg (sub_neg.mpr b2) ▸ a2
    have e3 : δ < |p.x - r.x| := by rw [abs_of_neg (by linarith)]; linarith
    exact ⟨lt_of_lt_of_le e3 (abs_x_le_dist p r), Or.inl ⟨e3, by linarith⟩⟩
  · have e1 : δ < -(p.x - q.x) := abs_of_neg (sub_neg.mpr b1) ▸ a1
    have e3 : δ < |p.x - r.x| := by
      by_contra hc
      have := hS.xtrans p r q hp hr hq (not_lt.mp hc) (by rw [abs_sub_comm]; exact a2)
      linarith
    have e4 : p.x < r.x := by
      have := abs_le.mp a2
      linarith [this.1, this.2]
    exact ⟨lt_of_lt_of_le e3 (abs_x_le_dist p r), Or.inl ⟨e3, e4⟩⟩
  · have e2 : δ < -(q.x - r.x) := abs_of_neg (sub_neg.mpr b2) ▸ a2
    have e3 : δ < |p.x - r.x| := by
      by_contra hc
      have := hS.xtrans q p r hq hp hr (by rw [abs_sub_comm]; exact a1) (not_lt.mp hc)
      linarith
    have e4 : p.x < r.x := by
      have := abs_le.mp a1
      linarith [this.1, this.2]
    exact ⟨lt_of_lt_of_le e3 (abs_x_le_dist p r), Or.inl ⟨e3, e4⟩⟩
  · have e3 := hS.xtrans p q r hp hq hr a1 a2
    have e4 : δ < dist p r := by
      by_contra hc
      have := hS.convex p q r hp hq hr a1 a2 b1.le b2.le (not_lt.mp hc)
      linarith
    exact ⟨e4, Or.inr ⟨e3, by linarith⟩⟩

theorem ceq_trans_on {δ : ℝ} {S : XP ℝ → Prop} (hS : Consistent δ S) {p q r : XP ℝ}
    (hp : S p) (hq : S q) (hr : S r) (h1 : ceq δ p q = true) (h2 : ceq δ q r = true) : ceq δ p r = true := by
  rw [ceq_iff] at *; exact hS.etrans p q r hp hq hr h1 h2

def Gapped (δ η : ℝ) (S : XP ℝ → Prop) : Prop :=
  ∀ p q, S p → S q → (|p.x - q.x| ≤ η ∨ δ + η < |p.x - q.x|) ∧ (|p.y - q.y| ≤ η ∨ δ + η < |p.y - q.y|)

section Generic
variable {β : Type}

theorem mem_setInsert {lt : XP β → XP β → Bool} {l : List (XP β)} {q e : XP β} [RealLike β]
    (h : e ∈ setInsert lt l q) : e = q ∨ e ∈ l := by
  induction l with
  | nil => exact Or.inl (List.mem_singleton.mp h)
  | cons a r ih =>
    simp only [setInsert] at h
    split at h
    · rcases List.mem_cons.mp h with rfl | h
      · exact Or.inr List.mem_cons_self
      · exact (ih h).imp id (List.mem_cons_of_mem _)
    · split at h
      · exact List.mem_cons.mp h
      · exact Or.inr h

theorem mem_setInsert_of_mem {lt : XP β → XP β → Bool} {l : List (XP β)} {q e : XP β} [RealLike β]
    (h : e ∈ l) : e ∈ setInsert lt l q := by
  induction l with
  | nil => cases h
  | cons a r ih =>
    simp only [setInsert]
    split
    · rcases List.mem_cons.mp h with h | h
      · rw [h]; exact List.mem_cons_self
      · exact List.mem_cons_of_mem _ (ih h)
    · split
      · exact List.mem_cons_of_mem _ h
      · exact h

theorem setInsert_rep {lt : XP β → XP β → Bool} (l : List (XP β)) (q : XP β) [RealLike β] :
    q ∈ setInsert lt l q ∨ ∃ e ∈ l, e ∈ setInsert lt l q ∧ lt e q = false ∧ lt q e = false := by
  induction l with
  | nil => exact Or.inl List.mem_cons_self
  | cons a r ih =>
    simp only [setInsert]
    by_cases h1 : lt a q = true
    · rw [if_pos h1]
      rcases ih with h | ⟨e, he, hm, h2, h3⟩
      · left; exact List.mem_cons_of_mem _ h
      · right; exact ⟨e, List.mem_cons_of_mem _ he, List.mem_cons_of_mem _ hm, h2, h3⟩
    · rw [if_neg h1]
      by_cases h2 : lt q a = true
      · rw [if_pos h2]; exact Or.inl List.mem_cons_self
      · rw [if_neg h2]; right
        exact ⟨a, List.mem_cons_self, List.mem_cons_self, eq_false_of_ne_true h1, eq_false_of_ne_true h2⟩

theorem setFind_true {lt : XP β → XP β → Bool} {l : List (XP β)} {q : XP β} [RealLike β]
    (h : setFind lt l q = true) : ∃ e ∈ l, lt e q = false ∧ lt q e = false := by
  induction l with
  | nil => cases h
  | cons a r ih =>
    simp only [setFind] at h
    by_cases h1 : lt a q = true
    · rw [if_pos h1] at h
      obtain ⟨e, he, h2⟩ := ih h
      exact ⟨e, List.mem_cons_of_mem _ he, h2⟩
    · rw [if_neg h1] at h
      exact ⟨a, List.mem_cons_self, eq_false_of_ne_true h1, by simpa using h⟩

theorem setInsert_pairwise {lt : XP β → XP β → Bool} {S : XP β → Prop} [RealLike β]
    (htr : ∀ p q r, S p → S q → S r → lt p q = true → lt q r = true → lt p r = true)
    {l : List (XP β)} {q : XP β} (hl : ∀ e ∈ l, S e) (hq : S q) (hp : l.Pairwise (fun a b => lt a b = true)) :
    (setInsert lt l q).Pairwise (fun a b => lt a b = true) := by
  induction l with
  | nil => simp [setInsert]
  | cons a r ih =>
    have hr : ∀ e ∈ r, S e := fun e he => hl e (List.mem_cons_of_mem _ he)
    have ha : S a := hl a (by simp)
    obtain ⟨har, hpr⟩ := List.pairwise_cons.mp hp
    simp only [setInsert]
    by_cases h1 : lt a q = true
    · rw [if_pos h1]
      refine List.pairwise_cons.mpr ⟨?_, ih hr hpr⟩
      intro e he
      rcases mem_setInsert he with h | h
      · rw [h]; exact h1
      · exact har e h
    · rw [if_neg h1]
      by_cases h2 : lt q a = true
      · rw [if_pos h2]
        refine List.pairwise_cons.mpr ⟨?_, hp⟩
        intro e he
        rcases List.mem_cons.mp he with h | h
        · rw [h]; exact h2
        · exact htr q a e hq ha (hr e h) h2 (har e h)
      · rw [if_neg h2]; exact hp

theorem insertBy_eq (lt : XP β → XP β → Bool) : insertBy lt = insBy lt := by
  funext x l
  induction l with
  | nil => rfl
  | cons y ys ih => simp [insertBy, insBy, ih]

theorem sortBy_eq (lt : XP β → XP β → Bool) (l : List (XP β)) : sortBy lt l = l.foldr (insBy lt) [] := by
  rw [sortBy, insertBy_eq]

theorem sortBy_perm (lt : XP β → XP β → Bool) (l : List (XP β)) : (sortBy lt l).Perm l :=
  sortBy_eq lt l ▸ foldr_insBy_perm lt l

theorem mem_sortBy {lt : XP β → XP β → Bool} {e : XP β} {l : List (XP β)} : e ∈ sortBy lt l ↔ e ∈ l :=
  (sortBy_perm lt l).mem_iff

theorem length_sortBy {lt : XP β → XP β → Bool} {l : List (XP β)} : (sortBy lt l).length = l.length :=
  (sortBy_perm lt l).length_eq

theorem pairwise_sortBy {lt : XP β → XP β → Bool} {R : XP β → XP β → Prop} (hsym : ∀ a b, R a b → R b a)
    {l : List (XP β)} (h : l.Pairwise R) : (sortBy lt l).Pairwise R :=
  ((sortBy_perm lt l).pairwise_iff (hsym _ _)).mpr h

theorem sortBy_sorted {lt : XP β → XP β → Bool} (key : XP β → ℝ)
    (h1 : ∀ a b, lt a b = true → key a ≤ key b) (h2 : ∀ a b, lt a b = false → key b ≤ key a) (l : List (XP β)) :
    (sortBy lt l).Pairwise (fun a b => key a ≤ key b) := by
  rw [sortBy_eq]
  exact foldr_insBy_pairwise h1 (fun a b c hab hbc => le_trans (h1 a b hab) hbc) h2 l
end Generic

theorem rlt_key_le (p0 p q : XP ℝ) (h : rlt p0 p q = true) : dist p p0 ≤ dist q p0 := by
  unfold rlt at h
  simp only [eqb_real, ltb_real] at h
  by_cases hd : dist p p0 = dist q p0
  · exact hd.le
  · simp [hd] at h; exact h.le

theorem rlt_false_key_le (p0 p q : XP ℝ) (h : rlt p0 p q = false) : dist q p0 ≤ dist p p0 := by
  unfold rlt at h
  simp only [eqb_real, ltb_real] at h
  by_cases hd : dist p p0 = dist q p0
  · exact hd.ge
  · simp [hd] at h; exact h

end GeoVerif.IntersectSearch
