import GeoVerif.Model.Geocentric
import GeoVerif.Spec.RealInst
import GeoVerif.Proofs.Vermeille
import Mathlib.Tactic.Ring
import Mathlib.Tactic.LinearCombination
import Mathlib.Tactic.FieldSimp
import Mathlib.Tactic.Positivity
import Mathlib.Tactic.NormNum
/-!
# The executed model `Model/Geocentric.lean` read over ℝ

`Merid` is what a branch of `IntReverse` has to establish in the meridian plane; `merid_of_hypot` derives it for all
branches (`revSphere`, `revGeneral`, `revSing`) from one formula.
-/
namespace GeoVerif.GeocentricProofs
open GeoVerif GeoVerif.Geocentric GeoVerif.Vermeille

theorem vermU_real (S r : ℝ) :
    vermU S r =
      let disc := S * (2 * r ^ 3 + S)
      if 0 ≤ disc then
        let T : ℝ := RealLike.cbrt (S + r ^ 3 + (if S + r ^ 3 < 0 then -Real.sqrt disc else Real.sqrt disc))
        r + (T + (if T = 0 then 0 else r ^ 2 / T))
      else r + 2 * r * Real.cos (Complex.arg ⟨-(S + r ^ 3), Real.sqrt (-disc)⟩ / 3) := by
  unfold vermU
  simp only [sq_real, sqrt_real, cos_real, leb_real, ltb_real, eqb_real, lit_real, ofNat_real, decide_eq_true_eq]
  push_cast
  have e1 : r * r ^ 2 = r ^ 3 := by ring
  rw [e1]
  rfl

/-- degenerate cubic (`S = 0`, a point on the axis or in the equatorial plane): the code returns the root `u = 3r` -/
theorem vermU_zero (r : ℝ) : vermU 0 r = 3 * r := by
  rw [vermU_real]
  simp only [zero_mul, le_refl, if_true, zero_add, Real.sqrt_zero, neg_zero, ite_self, add_zero]
  rw [cbrt_cube]
  by_cases hr : r = 0
  · simp [hr]
  · rw [if_neg hr]; field_simp; ring

theorem vermU_trig (S r : ℝ) (hS : 0 < S) (hdisc : S * (2 * r ^ 3 + S) < 0) :
    (vermU S r) ^ 3 - 3 * r * (vermU S r) ^ 2 = 2 * S ∧ 3 * r < vermU S r ∧ vermU S r < 0 := by
  have h3 : 2 * r ^ 3 + S < 0 := (pos_iff_neg_of_mul_neg hdisc).mp hS
  have hr3 : r ^ 3 < 0 := by linarith
  have hr : r < 0 := (Odd.pow_neg_iff ⟨1, rfl⟩).mp hr3
  set D := Real.sqrt (-(S * (2 * r ^ 3 + S)))
  have hDpos : 0 < D := Real.sqrt_pos.mpr (by linarith)
  have hD2 : D ^ 2 = -(S * (2 * r ^ 3 + S)) := Real.sq_sqrt (by linarith)
  -- `z = −(S + r³) + i√(−disc)` has modulus `−r³` and lies in the open upper half plane: `θ = arg z ∈ (0, π]`
  set z : ℂ := ⟨-(S + r ^ 3), D⟩
  have hz0 : z ≠ 0 := fun h => hDpos.ne' (congrArg Complex.im h)
  have hnorm : ‖z‖ = -(r ^ 3) := by
    rw [Complex.norm_eq_sqrt_sq_add_sq]
    show Real.sqrt ((-(S + r ^ 3)) ^ 2 + D ^ 2) = _
    rw [show (-(S + r ^ 3)) ^ 2 + D ^ 2 = (-(r ^ 3)) ^ 2 by rw [hD2]; ring, Real.sqrt_sq (neg_pos.mpr hr3).le]
  have hcos : Real.cos (Complex.arg z) * r ^ 3 = S + r ^ 3 := by
    rw [Complex.cos_arg hz0, hnorm]
    show -(S + r ^ 3) / -(r ^ 3) * r ^ 3 = _
    rw [neg_div_neg_eq, div_mul_cancel₀ _ hr3.ne]
  have hθ0 : 0 < Complex.arg z :=
    lt_of_le_of_ne (Complex.arg_nonneg_iff.mpr hDpos.le) fun h => hDpos.ne' (Complex.arg_eq_zero_iff.mp h.symm).2
  have hθπ := Complex.arg_le_pi z
  have hpi := Real.pi_pos
  have hlo : 0 < Complex.arg z / 3 := by linarith
  have hhi : Complex.arg z / 3 < Real.pi / 2 := by linarith
  have hc1 : Real.cos (Complex.arg z / 3) < 1 :=
    Real.cos_zero ▸ Real.cos_lt_cos_of_nonneg_of_le_pi_div_two le_rfl hhi.le hlo
  have hc0 : 0 < Real.cos (Complex.arg z / 3) := Real.cos_pos_of_mem_Ioo ⟨by linarith, hhi⟩
  have hu : vermU S r = r + 2 * r * Real.cos (Complex.arg z / 3) := by
    rw [vermU_real]; exact if_neg (not_le.mpr hdisc)
  rw [hu]
  have h2r : 2 * r < 0 := by linarith
  refine ⟨vermeille_cubic_trig r S _ hcos, ?_, ?_⟩
  · have := mul_lt_mul_of_neg_left hc1 h2r
    linarith
  · have := mul_neg_of_neg_of_pos h2r hc0
    linarith

theorem vermU_cardano (S r : ℝ) (hS : 0 < S) (hdisc : 0 ≤ S * (2 * r ^ 3 + S)) :
    (vermU S r) ^ 3 - 3 * r * (vermU S r) ^ 2 = 2 * S ∧ 0 < vermU S r ∧ 3 * r < vermU S r := by
  have h3 : 0 ≤ 2 * r ^ 3 + S := nonneg_of_mul_nonneg_right hdisc hS
  have hT30 : 0 < S + r ^ 3 := by linarith
  set D := Real.sqrt (S * (2 * r ^ 3 + S)) with hD
  have hD0 : 0 ≤ D := Real.sqrt_nonneg _
  have hD2 : D ^ 2 = S * (2 * r ^ 3 + S) := Real.sq_sqrt hdisc
  have hT3 : 0 < S + r ^ 3 + D := by linarith
  set T := (S + r ^ 3 + D) ^ ((1:ℝ)/3) with hTdef
  have hTpos : 0 < T := Real.rpow_pos_of_pos hT3 _
  have hTc : T ^ 3 = S + r ^ 3 + D := rpow_third_cube _ hT3.le
  have hu : vermU S r = r + (T + r ^ 2 / T) := by
    rw [vermU_real]
    simp only []
    rw [if_pos hdisc, if_neg (not_lt.mpr hT30.le), ← hD, cbrt_nonneg _ hT3.le, ← hTdef, if_neg hTpos.ne']
  rw [hu]
  have hcub := vermeille_cubic r S D T hTc hD2 hTpos.ne'
  -- `u T = T² + rT + r²`, and `2(T² + rT + r²) = T² + r² + (T + r)²`
  have hupos : 0 < r + (T + r ^ 2 / T) := by
    rw [show r + (T + r ^ 2 / T) = (T ^ 2 + r * T + r ^ 2) / T by field_simp; ring]
    exact div_pos (by linarith [pow_pos hTpos 2, sq_nonneg r, sq_nonneg (T + r)]) hTpos
  refine ⟨hcub, hupos, ?_⟩
  -- `u²(u − 3r) = 2S > 0`
  generalize r + (T + r ^ 2 / T) = u at hcub hupos ⊢
  have h2S : 0 < u ^ 2 * (u - 3 * r) := by rw [show u ^ 2 * (u - 3 * r) = 2 * S by linear_combination hcub]; linarith
  linarith [(mul_pos_iff_of_pos_left (pow_pos hupos 2)).mp h2S]

theorem vermU_root (S r : ℝ) (hS : 0 < S) :
    (vermU S r) ^ 3 - 3 * r * (vermU S r) ^ 2 = 2 * S ∧ 3 * r < vermU S r := by
  by_cases hdisc : 0 ≤ S * (2 * r ^ 3 + S)
  · obtain ⟨h1, _, h3⟩ := vermU_cardano S r hS hdisc; exact ⟨h1, h3⟩
  · obtain ⟨h1, h2, _⟩ := vermU_trig S r hS (not_le.mp hdisc); exact ⟨h1, h2⟩

/-- Vermeille's `k` from a root `u` of the resolvent cubic, `e2 = f(2 − f)` -/
noncomputable def kOfU (e2 q u : ℝ) : ℝ :=
  let v := Real.sqrt (u ^ 2 + e2 ^ 2 * q)
  let uv := if u < 0 then e2 ^ 2 * q / (v - u) else u + v
  let w := max 0 (|e2| * (uv - q) / (2 * v))
  uv / (Real.sqrt (uv + w ^ 2) + w)

/-- Vermeille's `k` as computed by `vermK` (before the oblate/prolate relabelling) -/
noncomputable def vermKk (e2 p q r : ℝ) : ℝ := kOfU e2 q (vermU (e2 ^ 2 * p * q / 4) r)

theorem vermK_real (a f p q r : ℝ) (prolate : Bool) :
    vermK (⟨a, f⟩ : Ell ℝ) p q r prolate =
      (if prolate then vermKk (f * (2 - f)) p q r - f * (2 - f) else vermKk (f * (2 - f)) p q r,
       if prolate then vermKk (f * (2 - f)) p q r else vermKk (f * (2 - f)) p q r + f * (2 - f)) := by
  unfold vermK vermKk kOfU
  simp only [e4a, e2a, e2, sq_real, sqrt_real, ltb_real, lit_real, ofNat_real, abs_real, decide_eq_true_eq]
  push_cast
  rfl

/-- for `u < 0` the code avoids the cancellation in `u + v` -/
theorem uv_eq (u v c : ℝ) (hv : 0 < v) (hv2 : v ^ 2 = u ^ 2 + c) :
    (if u < 0 then c / (v - u) else u + v) = u + v := by
  by_cases hu : u < 0
  · rw [if_pos hu]
    have : 0 < v - u := by linarith
    rw [div_eq_iff this.ne']; linear_combination -hv2
  · rw [if_neg hu]

/-- **Ferrari's step**: from a root `u ≥ 3r` of the resolvent cubic `u³ − 3r u² = e⁴pq/2`, `6r = p + q − e⁴`, with `q > 0`
or (`q = 0` and) `u > 0`, the computed `k` is positive and solves `p/(k + |e²|)² + q/k² = 1` -/
theorem kOfU_spec (e2 p q r u : ℝ) (he : e2 ≠ 0) (hq : 0 ≤ q) (hr : 6 * r = p + q - e2 ^ 2)
    (hcub : u ^ 3 - 3 * r * u ^ 2 = 2 * (e2 ^ 2 * p * q / 4)) (hu3r : 3 * r ≤ u) (hpos : 0 < q ∨ 0 < u) :
    0 < kOfU e2 q u ∧ p / (kOfU e2 q u + |e2|) ^ 2 + q / (kOfU e2 q u) ^ 2 = 1 := by
  set e := |e2| with hedef
  have hepos : 0 < e := abs_pos.mpr he
  have hee : e2 ^ 2 = e ^ 2 := (sq_abs e2).symm
  have he4 : 0 < e2 ^ 2 := sq_pos_of_ne_zero he
  have hv2pos : 0 < u ^ 2 + e2 ^ 2 * q := by
    rcases hpos with h | h
    · exact add_pos_of_nonneg_of_pos (sq_nonneg u) (mul_pos he4 h)
    · exact add_pos_of_pos_of_nonneg (pow_pos h 2) (mul_nonneg he4.le hq)
  set v := Real.sqrt (u ^ 2 + e2 ^ 2 * q) with hv
  have hvpos : 0 < v := Real.sqrt_pos.mpr hv2pos
  have hv2 : v ^ 2 = u ^ 2 + e2 ^ 2 * q := Real.sq_sqrt hv2pos.le
  have huv : 0 < u + v := by
    rcases hpos with h | h
    · have : -u < v := Real.lt_sqrt_of_sq_lt (by rw [neg_sq]; exact lt_add_of_pos_right _ (mul_pos he4 h))
      linarith
    · exact add_pos h hvpos
  -- e⁴(q − u)² = (e⁴ − 2u + 6r) v²  (Ferrari's perfect-square condition)
  have hps : e2 ^ 2 * (q - u) ^ 2 = (e2 ^ 2 - 2 * u + 6 * r) * v ^ 2 := by
    rw [hv2]; linear_combination 2 * hcub - (e2 ^ 2 * q) * hr
  have hle : (u - q) ^ 2 ≤ v ^ 2 := by
    have h1 : (e2 ^ 2 - 2 * u + 6 * r) * v ^ 2 ≤ e2 ^ 2 * v ^ 2 :=
      mul_le_mul_of_nonneg_right (by linarith) (sq_nonneg v)
    rw [← hps, show (q - u) ^ 2 = (u - q) ^ 2 by ring] at h1
    exact le_of_mul_le_mul_left h1 he4
  have huvq : 0 ≤ u + v - q := by
    have := (abs_le_of_sq_le_sq' hle hvpos.le).1
    linarith
  set w := e * (u + v - q) / (2 * v) with hw
  have hw0 : 0 ≤ w := div_nonneg (mul_nonneg hepos.le huvq) (mul_pos two_pos hvpos).le
  obtain ⟨hk2, hkpos⟩ := vermeille_k (u + v) w huv
  set k := (u + v) / (Real.sqrt (u + v + w ^ 2) + w) with hk
  have hkk : kOfU e2 q u = k := by
    unfold kOfU
    simp only []
    rw [← hv, uv_eq u v (e2 ^ 2 * q) hvpos hv2, ← hedef, ← hw, max_eq_right hw0]
  rw [hkk]
  refine ⟨hkpos, ?_⟩
  have h4 : 2 * v * w = e * (u + v - q) := mul_div_cancel₀ _ (mul_pos two_pos hvpos).ne'
  have hcub' : u ^ 3 - 3 * ((p + q - e ^ 2) / 6) * u ^ 2 = e ^ 2 * p * q / 2 := by
    rw [← hee]; linear_combination hcub + (u ^ 2 / 2) * hr
  have hQ := vermeille_quartic p q e u v w k hcub' (by rw [← hee]; exact hv2) h4 hk2 hvpos.ne'
  have hke : 0 < k + e := add_pos hkpos hepos
  field_simp
  linear_combination -hQ

/-- every case the general branch of `IntReverse` is entered with (`0/0 = 0` when `q = 0`).  For `p, q > 0` the root `u` comes
from `vermU_root`; on the axis of the swapped problem (`p = 0`) and in the plane `q = 0` outside the singular disc (`r > 0`)
the cubic is degenerate and `u = 3r` -/
theorem vermKk_spec (e2 p q r : ℝ) (he : e2 ≠ 0) (hp : 0 ≤ p) (hq : 0 ≤ q) (hr6 : 6 * r = p + q - e2 ^ 2)
    (hbr : ¬ (e2 ^ 2 * q = 0 ∧ r ≤ 0)) :
    0 < vermKk e2 p q r ∧ p / (vermKk e2 p q r + |e2|) ^ 2 + q / (vermKk e2 p q r) ^ 2 = 1 := by
  have hqr : 0 < q ∨ 0 < r := by
    rcases hq.lt_or_eq with h | h
    · exact Or.inl h
    · exact Or.inr (not_le.mp fun hc => hbr ⟨by rw [← h, mul_zero], hc⟩)
  have hS : 0 ≤ e2 ^ 2 * p * q / 4 := by positivity
  unfold vermKk
  rcases hS.lt_or_eq with hS | hS
  · obtain ⟨hcub, hu3r⟩ := vermU_root _ r hS
    refine kOfU_spec e2 p q r _ he hq hr6 hcub hu3r.le (hqr.imp_right fun h => ?_)
    linarith
  · rw [← hS, vermU_zero]
    exact kOfU_spec e2 p q r _ he hq hr6 (by rw [← hS]; ring) le_rfl (hqr.imp_right fun h => by linarith)

theorem forward_real (a f s c sl cl h : ℝ) :
    forward (⟨a, f⟩ : Ell ℝ) s c sl cl h =
      ((a / Real.sqrt (1 - f * (2 - f) * s ^ 2) + h) * c * cl,
       (a / Real.sqrt (1 - f * (2 - f) * s ^ 2) + h) * c * sl,
       ((1 - f) ^ 2 * (a / Real.sqrt (1 - f * (2 - f) * s ^ 2)) + h) * s) := by
  simp only [forward, e2, e2m, lit_real, sq_real, sqrt_real]
  push_cast
  rfl

/-- what a branch of the reverse conversion establishes in the meridian half-plane `(R, Z)`, `R ≥ 0`:
`(s, c)` is a unit vector with `c ≥ 0`, the forward image of `(s, c, h)` is `(R, Z)`, and the point lies on the same
side of the axis and of the equatorial plane as its foot point (`N + h ≥ 0`, `(1 − e²)N + h ≥ 0`, `N` the prime-vertical
radius of curvature) -/
structure Merid (a f s c h R Z : ℝ) : Prop where
  unit : s ^ 2 + c ^ 2 = 1
  cpos : 0 ≤ c
  clR : (a / Real.sqrt (1 - f * (2 - f) * s ^ 2) + h) * c = R
  clZ : ((1 - f) ^ 2 * (a / Real.sqrt (1 - f * (2 - f) * s ^ 2)) + h) * s = Z
  sideR : 0 ≤ a / Real.sqrt (1 - f * (2 - f) * s ^ 2) + h
  sideZ : 0 ≤ (1 - f) ^ 2 * (a / Real.sqrt (1 - f * (2 - f) * s ^ 2)) + h

theorem sq_add_sq_eq_zero {x y : ℝ} (h : x ^ 2 + y ^ 2 = 0) : x = 0 ∧ y = 0 := by
  obtain ⟨hx, hy⟩ := (add_eq_zero_iff_of_nonneg (sq_nonneg x) (sq_nonneg y)).mp h
  exact ⟨sq_eq_zero_iff.mp hx, sq_eq_zero_iff.mp hy⟩

/-- the longitude part of `IntReverse` -/
theorem lon_part (X Y : ℝ) :
    let R := Real.sqrt (X ^ 2 + Y ^ 2)
    let slam := if R = 0 then 0 else Y / R
    let clam := if R = 0 then 1 else X / R
    slam ^ 2 + clam ^ 2 = 1 ∧ R * clam = X ∧ R * slam = Y := by
  intro R slam clam
  have hR2 : R ^ 2 = X ^ 2 + Y ^ 2 := Real.sq_sqrt (add_nonneg (sq_nonneg _) (sq_nonneg _))
  by_cases hR : R = 0
  · obtain ⟨hX, hY⟩ : X = 0 ∧ Y = 0 := sq_add_sq_eq_zero (by rw [← hR2, hR]; ring)
    simp only [slam, clam, if_pos hR, hR, hX, hY]
    norm_num
  · simp only [slam, clam, if_neg hR]
    refine ⟨?_, mul_div_cancel₀ X hR, mul_div_cancel₀ Y hR⟩
    rw [div_pow, div_pow, ← add_div, hR2, add_comm, div_self (by rw [← hR2]; exact pow_ne_zero 2 hR)]

theorem one_sub_e2_sq (f s c : ℝ) (hu : s ^ 2 + c ^ 2 = 1) :
    1 - f * (2 - f) * s ^ 2 = c ^ 2 + (1 - f) ^ 2 * s ^ 2 := by linear_combination (-1 : ℝ) * hu

theorem one_sub_e2_sq_pos (f s c : ℝ) (hf : f < 1) (hu : s ^ 2 + c ^ 2 = 1) : 0 < 1 - f * (2 - f) * s ^ 2 := by
  rw [one_sub_e2_sq f s c hu]
  have h1f : 0 < (1 - f) ^ 2 := pow_pos (by linarith) 2
  rcases (sq_nonneg s).lt_or_eq with hs | hs
  · have := mul_pos h1f hs
    positivity
  · rw [← hs] at hu ⊢
    linarith

theorem primeVertical (a f s c : ℝ) (ha : 0 < a) (hf : f < 1) (hu : s ^ 2 + c ^ 2 = 1) :
    0 < a / Real.sqrt (1 - f * (2 - f) * s ^ 2) ∧
    (a / Real.sqrt (1 - f * (2 - f) * s ^ 2)) ^ 2 * (c ^ 2 + (1 - f) ^ 2 * s ^ 2) = a ^ 2 := by
  have hpos := one_sub_e2_sq_pos f s c hf hu
  refine ⟨div_pos ha (Real.sqrt_pos.mpr hpos), ?_⟩
  rw [div_pow, Real.sq_sqrt hpos.le, ← one_sub_e2_sq f s c hu, div_mul_cancel₀ _ hpos.ne']

theorem primeVertical_eq (a f s c N : ℝ) (ha : 0 < a) (hN : 0 < N) (hu : s ^ 2 + c ^ 2 = 1)
    (hA : N ^ 2 * (c ^ 2 + (1 - f) ^ 2 * s ^ 2) = a ^ 2) : a / Real.sqrt (1 - f * (2 - f) * s ^ 2) = N := by
  have e : 1 - f * (2 - f) * s ^ 2 = (a / N) ^ 2 := by
    rw [div_pow, ← hA, mul_div_cancel_left₀ _ (pow_ne_zero 2 hN.ne'), one_sub_e2_sq f s c hu]
  rw [e, Real.sqrt_sq (div_pos ha hN).le, div_div_cancel₀ ha.ne']

/--
**All branches of the reverse conversion are one formula.**  Each branch normalises a vector `(zz, xx)`, `xx ≥ 0`, to
`(sin φ, cos φ)`.  If, for a scale `ν > 0`, the point `ν·(xx, (1−f)² zz)` lies on the ellipse (then `N = ν·H`,
`H = hypot(zz, xx)`), and `(R, Z) = (κ₂ xx, κ₁ zz)` with `κ₁, κ₂ ≥ 0`, `κ₂ = κ₁ + e² ν`, and `h = (κ₁ − (1−f)² ν) H`, then
the meridian relations hold.  General branch: `ν = 1`, `κ = (k₁, k₂)`; singular disc: `ν = a/e²`, `κ = (0, a)`;
singular segment: `ν = a/|e²|`, `κ = (a, 0)`; sphere: `ν = a/|P|`, `κ = (1, 1)`, at the centre `ν = a`, `κ = (0, 0)`.
-/
theorem merid_of_hypot (a f zz xx ν κ1 κ2 h R Z : ℝ) (ha : 0 < a) (hν : 0 < ν) (hκ1 : 0 ≤ κ1) (hκ2 : 0 ≤ κ2)
    (hκ : κ2 = κ1 + f * (2 - f) * ν) (hx : 0 ≤ xx) (hq : ν ^ 2 * (xx ^ 2 + (1 - f) ^ 2 * zz ^ 2) = a ^ 2)
    (hR : κ2 * xx = R) (hZ : κ1 * zz = Z) (hh : h = (κ1 - (1 - f) ^ 2 * ν) * Real.sqrt (zz ^ 2 + xx ^ 2)) :
    Merid a f (zz / Real.sqrt (zz ^ 2 + xx ^ 2)) (xx / Real.sqrt (zz ^ 2 + xx ^ 2)) h R Z := by
  have hH2 : 0 < zz ^ 2 + xx ^ 2 := by
    refine lt_of_le_of_ne (by positivity) (fun h0 => ?_)
    obtain ⟨hz0, hx0⟩ := sq_add_sq_eq_zero h0.symm
    rw [hz0, hx0] at hq
    exact (pow_pos ha 2).ne' (by rw [← hq]; ring)
  set H := Real.sqrt (zz ^ 2 + xx ^ 2) with hHdef
  have hH : 0 < H := Real.sqrt_pos.mpr hH2
  have hHsq : H ^ 2 = zz ^ 2 + xx ^ 2 := Real.sq_sqrt hH2.le
  have hu : (zz / H) ^ 2 + (xx / H) ^ 2 = 1 := by
    rw [div_pow, div_pow, ← add_div, ← hHsq, div_self (pow_ne_zero 2 hH.ne')]
  have hA : (ν * H) ^ 2 * ((xx / H) ^ 2 + (1 - f) ^ 2 * (zz / H) ^ 2) = a ^ 2 := by
    rw [← hq, mul_pow, mul_assoc, mul_add, div_pow, div_pow, mul_div_cancel₀ _ (pow_ne_zero 2 hH.ne'), mul_left_comm,
      mul_div_cancel₀ _ (pow_ne_zero 2 hH.ne')]
  have hN := primeVertical_eq a f (zz / H) (xx / H) (ν * H) ha (mul_pos hν hH) hu hA
  have e1 : ν * H + h = κ2 * H := by rw [hh, hκ]; ring
  have e2 : (1 - f) ^ 2 * (ν * H) + h = κ1 * H := by rw [hh]; ring
  refine ⟨hu, div_nonneg hx hH.le, ?_, ?_, ?_, ?_⟩
  · rw [hN, e1, ← hR, mul_assoc, mul_div_cancel₀ _ hH.ne']
  · rw [hN, e2, ← hZ, mul_assoc, mul_div_cancel₀ _ hH.ne']
  · rw [hN, e1]; exact mul_nonneg hκ2 hH.le
  · rw [hN, e2]; exact mul_nonneg hκ1 hH.le

/-- the far-field branch of `IntReverse` (`|P| > maxrad`): the direction of `(X, Y, Z)/2`, `h = |P|` -/
noncomputable def revFar (X Y Z : ℝ) : Rev ℝ :=
  let R := Real.sqrt ((X / 2) ^ 2 + (Y / 2) ^ 2)
  let H := Real.sqrt ((Z / 2) ^ 2 + R ^ 2)
  ⟨Z / 2 / H, R / H, if R = 0 then 0 else Y / 2 / R, if R = 0 then 1 else X / 2 / R, Real.sqrt (Real.sqrt (X ^ 2 + Y ^ 2) ^ 2 + Z ^ 2)⟩

/-- the sphere branch (`e⁴ = 0`) in the meridian plane; at the centre the direction is taken to be the north pole -/
noncomputable def revSphere (a R Z slam clam : ℝ) : Rev ℝ :=
  let h0 := Real.sqrt (R ^ 2 + Z ^ 2)
  let zz := if h0 = 0 then 1 else Z
  let H := Real.sqrt (zz ^ 2 + R ^ 2)
  ⟨zz / H, R / H, slam, clam, h0 - a⟩

/-- the general branch, given the pair `kk = (k1, k2)` returned by `vermK` -/
noncomputable def revGeneral (f R Z slam clam : ℝ) (kk : ℝ × ℝ) : Rev ℝ :=
  let H := Real.sqrt ((Z / kk.1) ^ 2 + (R / kk.2) ^ 2)
  ⟨Z / kk.1 / H, R / kk.2 / H, slam, clam, (1 - (1 - f) ^ 2 / kk.1) * Real.sqrt ((kk.1 * R / kk.2) ^ 2 + Z ^ 2)⟩

/-- the limiting formulas for `e⁴q = 0`, `r ≤ 0` (`p` the swapped one): inside the singular disc of the equatorial plane
(oblate) resp. the singular segment of the axis (prolate) -/
noncomputable def revSing (a f p Z slam clam : ℝ) : Rev ℝ :=
  let zz := Real.sqrt ((if f < 0 then p else (f * (2 - f)) ^ 2 - p) / (1 - f) ^ 2)
  let xx := Real.sqrt (if f < 0 then (f * (2 - f)) ^ 2 - p else p)
  let H := Real.sqrt (zz ^ 2 + xx ^ 2)
  ⟨if Z < 0 then -(zz / H) else zz / H, xx / H, slam, clam, -(a * (if f < 0 then 1 else (1 - f) ^ 2) * H / |f * (2 - f)|)⟩

/-- `IntReverse` below the far-field threshold: the meridian problem `(R, Z)`; the longitude pair is passed through -/
noncomputable def revNear (a f R Z slam clam : ℝ) : Rev ℝ :=
  let p0 := (R / a) ^ 2
  let q0 := (1 - f) ^ 2 * (Z / a) ^ 2
  let r := (p0 + q0 - (f * (2 - f)) ^ 2) / 6
  let p := if f < 0 then q0 else p0
  let q := if f < 0 then p0 else q0
  if (f * (2 - f)) ^ 2 = 0 then revSphere a R Z slam clam
  else if ¬((f * (2 - f)) ^ 2 * q = 0 ∧ r ≤ 0) then
    revGeneral f R Z slam clam (vermK ⟨a, f⟩ p q r (decide (f < 0)))
  else revSing a f p Z slam clam

theorem reverse_real (a f maxrad X Y Z : ℝ) :
    reverse (⟨a, f⟩ : Ell ℝ) maxrad X Y Z =
      let R := Real.sqrt (X ^ 2 + Y ^ 2)
      if maxrad < Real.sqrt (R ^ 2 + Z ^ 2) then revFar X Y Z
      else revNear a f R Z (if R = 0 then 0 else Y / R) (if R = 0 then 1 else X / R) := by
  unfold reverse revNear
  simp only [e4a, e2m, e2a, e2, sq_real, sqrt_real, hypot_real, ltb_real, leb_real, eqb_real, lit_real, ofNat_real, abs_real,
    Bool.not_eq_true', ← Bool.not_eq_true, Bool.and_eq_true, decide_eq_true_eq]
  push_cast
  rfl

theorem revSphere_merid (a R Z sl cl : ℝ) (ha : 0 < a) (hR : 0 ≤ R) :
    Merid a 0 (revSphere a R Z sl cl).sphi (revSphere a R Z sl cl).cphi (revSphere a R Z sl cl).h R Z := by
  have hh2 : Real.sqrt (R ^ 2 + Z ^ 2) ^ 2 = R ^ 2 + Z ^ 2 := Real.sq_sqrt (add_nonneg (sq_nonneg _) (sq_nonneg _))
  simp only [revSphere]
  by_cases hz : Real.sqrt (R ^ 2 + Z ^ 2) = 0
  · obtain ⟨hR0, hZ0⟩ : R = 0 ∧ Z = 0 := sq_add_sq_eq_zero (by rw [← hh2, hz]; ring)
    rw [if_pos hz, hz, hR0, hZ0]
    refine merid_of_hypot a 0 1 0 a 0 0 _ 0 0 ha ha le_rfl le_rfl (by ring) le_rfl (by ring) (by ring) (by ring) ?_
    rw [show (1 : ℝ) ^ 2 + 0 ^ 2 = 1 by ring, Real.sqrt_one]; ring
  · have hpos : 0 < Real.sqrt (R ^ 2 + Z ^ 2) := lt_of_le_of_ne (Real.sqrt_nonneg _) (Ne.symm hz)
    rw [if_neg hz]
    refine merid_of_hypot a 0 Z R (a / Real.sqrt (R ^ 2 + Z ^ 2)) 1 1 _ R Z ha (div_pos ha hpos) zero_le_one zero_le_one
      (by ring) hR ?_ (one_mul R) (one_mul Z) ?_
    · rw [div_pow, hh2, show R ^ 2 + (1 - 0) ^ 2 * Z ^ 2 = R ^ 2 + Z ^ 2 by ring,
        div_mul_cancel₀ _ (by rw [← hh2]; exact pow_ne_zero 2 hz)]
    · rw [add_comm (Z ^ 2)]; field_simp; ring

theorem revGeneral_merid (a f R Z sl cl : ℝ) (kk : ℝ × ℝ) (ha : 0 < a) (hR : 0 ≤ R) (hk1 : 0 < kk.1) (hk2 : 0 < kk.2)
    (hk : kk.2 = kk.1 + f * (2 - f)) (hq : (R / a) ^ 2 / kk.2 ^ 2 + (1 - f) ^ 2 * (Z / a) ^ 2 / kk.1 ^ 2 = 1) :
    Merid a f (revGeneral f R Z sl cl kk).sphi (revGeneral f R Z sl cl kk).cphi (revGeneral f R Z sl cl kk).h R Z := by
  obtain ⟨k1, k2⟩ := kk
  simp only [revGeneral] at *
  refine merid_of_hypot a f (Z / k1) (R / k2) 1 k1 k2 _ R Z ha one_pos hk1.le hk2.le (by rw [hk]; ring) (by positivity) ?_
    (mul_div_cancel₀ R hk2.ne') (mul_div_cancel₀ Z hk1.ne') ?_
  · have := hq; field_simp at this ⊢; linarith
  · have e : (k1 * R / k2) ^ 2 + Z ^ 2 = k1 ^ 2 * ((Z / k1) ^ 2 + (R / k2) ^ 2) := by
      rw [mul_add, ← mul_pow, ← mul_pow, mul_div_cancel₀ Z hk1.ne', mul_div_assoc, add_comm]
    rw [e, Real.sqrt_mul (sq_nonneg k1), Real.sqrt_sq hk1.le, mul_one, ← mul_assoc, sub_mul, one_mul, div_mul_cancel₀ _ hk1.ne']

/-- inside the singular disc, oblate (`Z = 0`, `R ≤ a e²`) -/
theorem revSing_merid_oblate (a f R sl cl : ℝ) (ha : 0 < a) (hf0 : 0 < f) (hf : f < 1) (hR : 0 ≤ R)
    (hp : (R / a) ^ 2 ≤ (f * (2 - f)) ^ 2) :
    Merid a f (revSing a f ((R / a) ^ 2) 0 sl cl).sphi (revSing a f ((R / a) ^ 2) 0 sl cl).cphi
      (revSing a f ((R / a) ^ 2) 0 sl cl).h R 0 := by
  have he : 0 < f * (2 - f) := mul_pos hf0 (by linarith)
  have hm : 0 < (1 - f) ^ 2 := pow_pos (by linarith) 2
  simp only [revSing, if_neg (not_lt.mpr hf0.le), if_neg (lt_irrefl (0 : ℝ)), abs_of_pos he]
  refine merid_of_hypot a f _ _ (a / (f * (2 - f))) 0 a _ R 0 ha (div_pos ha he) le_rfl ha.le
    (by rw [zero_add, mul_div_cancel₀ a he.ne']) (Real.sqrt_nonneg _) ?_ ?_ (zero_mul _) (by ring)
  · rw [Real.sq_sqrt (sq_nonneg _), Real.sq_sqrt (div_nonneg (sub_nonneg.mpr hp) hm.le), mul_div_cancel₀ _ hm.ne',
      add_sub_cancel, div_pow, div_mul_cancel₀ _ (pow_ne_zero 2 he.ne')]
  · rw [Real.sqrt_sq (div_nonneg hR ha.le), mul_div_cancel₀ R ha.ne']

/-- inside the singular segment, prolate (`R = 0`, `|Z| ≤ a|e²|/(1 − f)`) -/
theorem revSing_merid_prolate (a f Z sl cl : ℝ) (ha : 0 < a) (hf0 : f < 0)
    (hp : (1 - f) ^ 2 * (Z / a) ^ 2 ≤ (f * (2 - f)) ^ 2) :
    Merid a f (revSing a f ((1 - f) ^ 2 * (Z / a) ^ 2) Z sl cl).sphi (revSing a f ((1 - f) ^ 2 * (Z / a) ^ 2) Z sl cl).cphi
      (revSing a f ((1 - f) ^ 2 * (Z / a) ^ 2) Z sl cl).h 0 Z := by
  have he : f * (2 - f) < 0 := mul_neg_of_neg_of_pos hf0 (by linarith)
  have hm : 0 < (1 - f) ^ 2 := pow_pos (by linarith) 2
  simp only [revSing, if_pos hf0, abs_of_neg he, mul_div_cancel_left₀ _ hm.ne']
  -- `zz = |Z/a|`; with the sign restored the normalised vector is `(Z/a, xx)/H`
  have hzz : Real.sqrt ((Z / a) ^ 2) ^ 2 = (Z / a) ^ 2 := Real.sq_sqrt (sq_nonneg _)
  have hs : ∀ H : ℝ, (if Z < 0 then -(Real.sqrt ((Z / a) ^ 2) / H) else Real.sqrt ((Z / a) ^ 2) / H) = Z / a / H := by
    intro H
    by_cases hZ : Z < 0
    · rw [if_pos hZ, Real.sqrt_sq_eq_abs, abs_of_neg (div_neg_of_neg_of_pos hZ ha), neg_div, neg_neg]
    · rw [if_neg hZ, Real.sqrt_sq (div_nonneg (not_lt.mp hZ) ha.le)]
  rw [hs, hzz]
  have hne : f * (2 - f) ≠ 0 := he.ne
  have hh : ∀ H : ℝ, -(a * 1 * H / -(f * (2 - f))) = (a - (1 - f) ^ 2 * (a / -(f * (2 - f)))) * H := by
    intro H
    rw [show (1 - f) ^ 2 = 1 - f * (2 - f) by ring, div_neg, div_neg, neg_neg]
    generalize f * (2 - f) = e at hne
    field_simp; ring
  refine merid_of_hypot a f (Z / a) _ (a / -(f * (2 - f))) a 0 _ 0 Z ha (div_pos ha (neg_pos.mpr he)) ha.le le_rfl
    (by rw [div_neg, mul_neg, mul_div_cancel₀ a he.ne, add_neg_cancel]) (Real.sqrt_nonneg _) ?_ (zero_mul _)
    (mul_div_cancel₀ Z ha.ne') (hh _)
  rw [Real.sq_sqrt (sub_nonneg.mpr hp), sub_add_cancel, div_pow, neg_sq, div_mul_cancel₀ _ (pow_ne_zero 2 he.ne)]

/-- the pair `(k1, k2)` the general branch of `IntReverse` works with, after the oblate/prolate swap of `(p0, q0)` and
back: positive, `k2 = k1 + e²`, and a solution of the quartic in the unswapped `(p0, q0)` -/
theorem vermK_pair (a f p0 q0 : ℝ) (he : f * (2 - f) ≠ 0) (hf : f < 1) (hp0 : 0 ≤ p0) (hq0 : 0 ≤ q0)
    (hbr : ¬ ((f * (2 - f)) ^ 2 * (if f < 0 then p0 else q0) = 0 ∧ (p0 + q0 - (f * (2 - f)) ^ 2) / 6 ≤ 0)) :
    let kk := vermK (⟨a, f⟩ : Ell ℝ) (if f < 0 then q0 else p0) (if f < 0 then p0 else q0)
      ((p0 + q0 - (f * (2 - f)) ^ 2) / 6) (decide (f < 0))
    0 < kk.1 ∧ 0 < kk.2 ∧ kk.2 = kk.1 + f * (2 - f) ∧ p0 / kk.2 ^ 2 + q0 / kk.1 ^ 2 = 1 := by
  intro kk
  have hkk : kk = _ := vermK_real a f _ _ _ _
  rw [hkk]
  by_cases hneg : f < 0
  · have he2 : f * (2 - f) < 0 := mul_neg_of_neg_of_pos hneg (by linarith)
    simp only [if_pos hneg, decide_eq_true hneg, if_true] at hbr ⊢
    obtain ⟨hk, hquart⟩ := vermKk_spec (f * (2 - f)) q0 p0 _ he hq0 hp0 (by ring) hbr
    rw [abs_of_neg he2, ← sub_eq_add_neg] at hquart
    exact ⟨by linarith, hk, by ring, by rw [add_comm]; exact hquart⟩
  · have he2 : 0 < f * (2 - f) :=
      mul_pos (lt_of_le_of_ne (not_lt.mp hneg) (fun h => he (by rw [← h]; ring))) (by linarith)
    simp only [if_neg hneg, decide_eq_false hneg, Bool.false_eq_true, if_false] at hbr ⊢
    obtain ⟨hk, hquart⟩ := vermKk_spec (f * (2 - f)) p0 q0 _ he hp0 hq0 (by ring) hbr
    rw [abs_of_pos he2] at hquart
    exact ⟨hk, by linarith, trivial, hquart⟩

theorem revNear_merid (a f R Z sl cl : ℝ) (ha : 0 < a) (hf : f < 1) (hR : 0 ≤ R) :
    Merid a f (revNear a f R Z sl cl).sphi (revNear a f R Z sl cl).cphi (revNear a f R Z sl cl).h R Z := by
  have hp0 : 0 ≤ (R / a) ^ 2 := sq_nonneg _
  have hq0 : 0 ≤ (1 - f) ^ 2 * (Z / a) ^ 2 := mul_nonneg (sq_nonneg _) (sq_nonneg _)
  unfold revNear
  simp only []
  by_cases he : (f * (2 - f)) ^ 2 = 0
  · obtain rfl : f = 0 := by
      rcases mul_eq_zero.mp (sq_eq_zero_iff.mp he) with h | h
      · exact h
      · linarith
    rw [if_pos he]
    exact revSphere_merid a R Z sl cl ha hR
  rw [if_neg he]
  have he2 : f * (2 - f) ≠ 0 := fun h => he (by rw [h]; ring)
  by_cases hbr : (f * (2 - f)) ^ 2 * (if f < 0 then (R / a) ^ 2 else (1 - f) ^ 2 * (Z / a) ^ 2) = 0 ∧
      ((R / a) ^ 2 + (1 - f) ^ 2 * (Z / a) ^ 2 - (f * (2 - f)) ^ 2) / 6 ≤ 0
  -- the limiting formulas: `e⁴q = 0` and `r ≤ 0` for the swapped `q`
  · rw [if_neg (not_not_intro hbr)]
    obtain ⟨hq, hr⟩ := hbr
    have hq' := (mul_eq_zero.mp hq).resolve_left he
    by_cases hneg : f < 0
    · rw [if_pos hneg] at hq' ⊢
      have hR0 : R = 0 := (div_eq_zero_iff.mp (sq_eq_zero_iff.mp hq')).resolve_right ha.ne'
      rw [hq'] at hr
      rw [hR0]
      exact revSing_merid_prolate a f Z sl cl ha hneg (by linarith)
    · rw [if_neg hneg] at hq' ⊢
      have hf0 : 0 < f := lt_of_le_of_ne (not_lt.mp hneg) (fun h => he2 (by rw [← h]; ring))
      have hZ0 : Z = 0 :=
        (div_eq_zero_iff.mp (sq_eq_zero_iff.mp ((mul_eq_zero.mp hq').resolve_left (pow_ne_zero 2 (by linarith))))).resolve_right ha.ne'
      rw [hq'] at hr
      rw [hZ0]
      exact revSing_merid_oblate a f R sl cl ha hf0 hf hR (by linarith)
  · rw [if_pos hbr]
    obtain ⟨hk1, hk2, hk, hq⟩ := vermK_pair a f _ _ he2 hf hp0 hq0 hbr
    exact revGeneral_merid a f R Z sl cl _ ha hR hk1 hk2 hk hq

theorem nested_norm (X Y Z : ℝ) : Real.sqrt (Real.sqrt (X ^ 2 + Y ^ 2) ^ 2 + Z ^ 2) = Real.sqrt (X ^ 2 + Y ^ 2 + Z ^ 2) := by
  rw [Real.sq_sqrt (add_nonneg (sq_nonneg _) (sq_nonneg _))]

theorem revNear_lon (a f R Z sl cl : ℝ) : (revNear a f R Z sl cl).slam = sl ∧ (revNear a f R Z sl cl).clam = cl := by
  unfold revNear
  simp only []
  split_ifs <;> exact ⟨rfl, rfl⟩

theorem reverse_near (a f maxrad X Y Z : ℝ) (hmax : ¬ maxrad < Real.sqrt (X ^ 2 + Y ^ 2 + Z ^ 2)) :
    reverse (⟨a, f⟩ : Ell ℝ) maxrad X Y Z =
      revNear a f (Real.sqrt (X ^ 2 + Y ^ 2)) Z (if Real.sqrt (X ^ 2 + Y ^ 2) = 0 then 0 else Y / Real.sqrt (X ^ 2 + Y ^ 2))
        (if Real.sqrt (X ^ 2 + Y ^ 2) = 0 then 1 else X / Real.sqrt (X ^ 2 + Y ^ 2)) := by
  rw [reverse_real]
  exact if_neg (by rwa [nested_norm])

theorem reverse_far (a f maxrad X Y Z : ℝ) (hmax : maxrad < Real.sqrt (X ^ 2 + Y ^ 2 + Z ^ 2)) :
    reverse (⟨a, f⟩ : Ell ℝ) maxrad X Y Z = revFar X Y Z := by
  rw [reverse_real]
  exact if_pos (by rwa [nested_norm])

theorem reverse_merid (a f maxrad X Y Z : ℝ) (ha : 0 < a) (hf : f < 1)
    (hmax : ¬ maxrad < Real.sqrt (X ^ 2 + Y ^ 2 + Z ^ 2)) :
    Merid a f (reverse (⟨a, f⟩ : Ell ℝ) maxrad X Y Z).sphi (reverse (⟨a, f⟩ : Ell ℝ) maxrad X Y Z).cphi
      (reverse (⟨a, f⟩ : Ell ℝ) maxrad X Y Z).h (Real.sqrt (X ^ 2 + Y ^ 2)) Z := by
  rw [reverse_near a f maxrad X Y Z hmax]
  exact revNear_merid a f _ Z _ _ ha hf (Real.sqrt_nonneg _)

theorem reverse_lon (a f maxrad X Y Z : ℝ) (hmax : ¬ maxrad < Real.sqrt (X ^ 2 + Y ^ 2 + Z ^ 2)) :
    (reverse (⟨a, f⟩ : Ell ℝ) maxrad X Y Z).slam ^ 2 + (reverse (⟨a, f⟩ : Ell ℝ) maxrad X Y Z).clam ^ 2 = 1 ∧
    Real.sqrt (X ^ 2 + Y ^ 2) * (reverse (⟨a, f⟩ : Ell ℝ) maxrad X Y Z).clam = X ∧
    Real.sqrt (X ^ 2 + Y ^ 2) * (reverse (⟨a, f⟩ : Ell ℝ) maxrad X Y Z).slam = Y := by
  rw [reverse_near a f maxrad X Y Z hmax, (revNear_lon a f _ Z _ _).1, (revNear_lon a f _ Z _ _).2]
  exact lon_part X Y

theorem reverse_far_facts (a f maxrad X Y Z : ℝ) (hmr : 0 ≤ maxrad)
    (hmax : maxrad < Real.sqrt (X ^ 2 + Y ^ 2 + Z ^ 2)) :
    let rv := reverse (⟨a, f⟩ : Ell ℝ) maxrad X Y Z
    rv.sphi ^ 2 + rv.cphi ^ 2 = 1 ∧ 0 ≤ rv.cphi ∧ rv.slam ^ 2 + rv.clam ^ 2 = 1 ∧
    rv.h = Real.sqrt (X ^ 2 + Y ^ 2 + Z ^ 2) ∧
    rv.h * (rv.cphi * rv.clam) = X ∧ rv.h * (rv.cphi * rv.slam) = Y ∧ rv.h * rv.sphi = Z := by
  intro rv
  rw [show rv = revFar X Y Z from reverse_far a f maxrad X Y Z hmax]
  obtain ⟨hu, hcx, hcy⟩ := lon_part (X / 2) (Y / 2)
  have hR2 : Real.sqrt ((X / 2) ^ 2 + (Y / 2) ^ 2) ^ 2 = (X / 2) ^ 2 + (Y / 2) ^ 2 :=
    Real.sq_sqrt (add_nonneg (sq_nonneg _) (sq_nonneg _))
  have hh0 : 0 < Real.sqrt (X ^ 2 + Y ^ 2 + Z ^ 2) := lt_of_le_of_lt hmr hmax
  have hh2 : Real.sqrt (X ^ 2 + Y ^ 2 + Z ^ 2) ^ 2 = X ^ 2 + Y ^ 2 + Z ^ 2 := Real.sq_sqrt (Real.sqrt_pos.mp hh0).le
  -- the code halves the coordinates before taking the hypotenuse: `hypot(Z/2, R/2) = |P|/2`
  have hsum : (Z / 2) ^ 2 + Real.sqrt ((X / 2) ^ 2 + (Y / 2) ^ 2) ^ 2 = (Real.sqrt (X ^ 2 + Y ^ 2 + Z ^ 2) / 2) ^ 2 := by
    linear_combination hR2 - hh2 / 4
  have hH : Real.sqrt ((Z / 2) ^ 2 + Real.sqrt ((X / 2) ^ 2 + (Y / 2) ^ 2) ^ 2) = Real.sqrt (X ^ 2 + Y ^ 2 + Z ^ 2) / 2 := by
    rw [hsum, Real.sqrt_sq (half_pos hh0).le]
  simp only [revFar, nested_norm, hH]
  generalize Real.sqrt (X ^ 2 + Y ^ 2 + Z ^ 2) = h0 at hh0 hsum ⊢
  have e : ∀ t : ℝ, h0 * (t / (h0 / 2)) = 2 * t := fun t => by field_simp
  refine ⟨?_, div_nonneg (Real.sqrt_nonneg _) (half_pos hh0).le, hu, trivial, ?_, ?_, ?_⟩
  · rw [div_pow (Z / 2), div_pow (Real.sqrt _), ← add_div, hsum, div_self (pow_ne_zero 2 (half_pos hh0).ne')]
  · rw [div_mul_eq_mul_div, hcx, e]; ring
  · rw [div_mul_eq_mul_div, hcy, e]; ring
  · rw [e]; ring

/-- **the excess of the squared distance over `h²`**: for a point `(x, y, z)` of the ellipsoid `(x² + y²) m + z² = a² m`
(`m = (1−f)²`) and the point at height `h` above the foot point `(X₀, Y₀, Z₀) = (N c cl, N c sl, m N s)`,
`N m (dist² − h²) = m (N+h) ((x−X₀)² + (y−Y₀)²) + (mN+h) (z−Z₀)²` -/
theorem foot_excess (a m N s c sl cl h x y z : ℝ) (hu : s ^ 2 + c ^ 2 = 1) (hl : sl ^ 2 + cl ^ 2 = 1)
    (hA : N ^ 2 * (c ^ 2 + m * s ^ 2) = a ^ 2) (hQ : (x ^ 2 + y ^ 2) * m + z ^ 2 = a ^ 2 * m) :
    N * m * (((N + h) * c * cl - x) ^ 2 + ((N + h) * c * sl - y) ^ 2 + ((m * N + h) * s - z) ^ 2 - h ^ 2) =
      m * (N + h) * ((x - N * c * cl) ^ 2 + (y - N * c * sl) ^ 2) + (m * N + h) * (z - m * N * s) ^ 2 := by
  linear_combination (N * h ^ 2 * m) * hu + (N * c ^ 2 * h * m * (N + h)) * hl + (h * m) * hA + (-h) * hQ

/-- the foot point of the normal is the nearest point of the ellipsoid when the point lies on the same side of the axis and of
the equatorial plane as its foot (`N + h ≥ 0`, `mN + h ≥ 0`): the excess is non-negative -/
theorem foot_nearest (a m N s c sl cl h x y z : ℝ) (hm : 0 < m) (hN : 0 < N)
    (hu : s ^ 2 + c ^ 2 = 1) (hl : sl ^ 2 + cl ^ 2 = 1) (hA : N ^ 2 * (c ^ 2 + m * s ^ 2) = a ^ 2)
    (hQ : (x ^ 2 + y ^ 2) * m + z ^ 2 = a ^ 2 * m) (hsR : 0 ≤ N + h) (hsZ : 0 ≤ m * N + h) :
    h ^ 2 ≤ ((N + h) * c * cl - x) ^ 2 + ((N + h) * c * sl - y) ^ 2 + ((m * N + h) * s - z) ^ 2 := by
  have hex : 0 ≤ m * (N + h) * ((x - N * c * cl) ^ 2 + (y - N * c * sl) ^ 2) + (m * N + h) * (z - m * N * s) ^ 2 :=
    add_nonneg (mul_nonneg (mul_nonneg hm.le hsR) (add_nonneg (sq_nonneg _) (sq_nonneg _))) (mul_nonneg hsZ (sq_nonneg _))
  rw [← foot_excess a m N s c sl cl h x y z hu hl hA hQ] at hex
  exact sub_nonneg.mp (nonneg_of_mul_nonneg_right hex (mul_pos hN hm))

/-- a point of the meridian ellipse `ρ²(1−f)² + z² = a²(1−f)²` is no farther from the centre than the larger semi-axis -/
theorem ellipse_norm_le (a f r2 z : ℝ) (hf : f < 1) (hr : 0 ≤ r2) (hQ : r2 * (1 - f) ^ 2 + z ^ 2 = a ^ 2 * (1 - f) ^ 2) :
    r2 + z ^ 2 ≤ (a * max 1 (1 - f)) ^ 2 := by
  have h1f : 0 < 1 - f := by linarith
  rcases le_total (1 - f) 1 with hc | hc
  · rw [max_eq_left hc, mul_one]
    have hd : 0 ≤ a ^ 2 - r2 :=
      nonneg_of_mul_nonneg_left (by rw [show (a ^ 2 - r2) * (1 - f) ^ 2 = z ^ 2 by linear_combination -hQ]; exact sq_nonneg z)
        (pow_pos h1f 2)
    have := mul_nonneg hd (sub_nonneg.mpr (pow_le_one₀ h1f.le hc : (1 - f) ^ 2 ≤ 1))
    linarith
  · rw [max_eq_right hc, mul_pow]
    have := mul_nonneg hr (sub_nonneg.mpr (one_le_pow₀ hc : 1 ≤ (1 - f) ^ 2))
    linarith

theorem ellipsoid_poly (a f x y z : ℝ) (ha : 0 < a) (hf : f < 1)
    (hQ : (x ^ 2 + y ^ 2) / a ^ 2 + z ^ 2 / (a * (1 - f)) ^ 2 = 1) :
    (x ^ 2 + y ^ 2) * (1 - f) ^ 2 + z ^ 2 = a ^ 2 * (1 - f) ^ 2 := by
  have h1f : (1 - f) ≠ 0 := by linarith
  field_simp at hQ
  linarith

/-- the forward image of `(s, c, sl, cl, h)` misses the point `h·(c cl, c sl, s)` by the surface point, which is no
farther from the centre than the larger semi-axis -/
theorem forward_miss (a f s c sl cl h : ℝ) (ha : 0 < a) (hf : f < 1) (hu : s ^ 2 + c ^ 2 = 1) (hl : sl ^ 2 + cl ^ 2 = 1) :
    ((forward (⟨a, f⟩ : Ell ℝ) s c sl cl h).1 - h * (c * cl)) ^ 2 + ((forward (⟨a, f⟩ : Ell ℝ) s c sl cl h).2.1 - h * (c * sl)) ^ 2 +
      ((forward (⟨a, f⟩ : Ell ℝ) s c sl cl h).2.2 - h * s) ^ 2 ≤ (a * max 1 (1 - f)) ^ 2 := by
  obtain ⟨_, hA⟩ := primeVertical a f s c ha hf hu
  rw [forward_real]
  generalize a / Real.sqrt (1 - f * (2 - f) * s ^ 2) = N at hA ⊢
  have hb := ellipse_norm_le a f ((N * c) ^ 2) ((1 - f) ^ 2 * N * s) hf (sq_nonneg _) (by linear_combination (1 - f) ^ 2 * hA)
  have e : ((N + h) * c * cl - h * (c * cl)) ^ 2 + ((N + h) * c * sl - h * (c * sl)) ^ 2 + (((1 - f) ^ 2 * N + h) * s - h * s) ^ 2 =
      (N * c) ^ 2 + ((1 - f) ^ 2 * N * s) ^ 2 := by linear_combination ((N * c) ^ 2) * hl
  rw [e]; exact hb

/-- reverse triangle inequality in ℝ³ for `|Q| ≤ M ≤ |P|`: `(|P| − M)² ≤ |P − Q|²` -/
theorem sq_norm_sub_ge (X Y Z x y z M : ℝ) (hM : 0 ≤ M) (hq : x ^ 2 + y ^ 2 + z ^ 2 ≤ M ^ 2)
    (hbig : M ≤ Real.sqrt (X ^ 2 + Y ^ 2 + Z ^ 2)) :
    (Real.sqrt (X ^ 2 + Y ^ 2 + Z ^ 2) - M) ^ 2 ≤ (X - x) ^ 2 + (Y - y) ^ 2 + (Z - z) ^ 2 := by
  set p := Real.sqrt (X ^ 2 + Y ^ 2 + Z ^ 2) with hp
  have hp0 : 0 ≤ p := Real.sqrt_nonneg _
  have hp2 : p ^ 2 = X ^ 2 + Y ^ 2 + Z ^ 2 := Real.sq_sqrt (add_nonneg (add_nonneg (sq_nonneg _) (sq_nonneg _)) (sq_nonneg _))
  set q := Real.sqrt (x ^ 2 + y ^ 2 + z ^ 2) with hqd
  have hq0 : 0 ≤ q := Real.sqrt_nonneg _
  have hq2 : q ^ 2 = x ^ 2 + y ^ 2 + z ^ 2 := Real.sq_sqrt (add_nonneg (add_nonneg (sq_nonneg _) (sq_nonneg _)) (sq_nonneg _))
  have hqM : q ≤ M := (Real.sqrt_le_left hM).mpr hq
  -- Cauchy–Schwarz through Lagrange's identity
  have hcs : (X * x + Y * y + Z * z) ^ 2 ≤ (p * q) ^ 2 := by
    rw [mul_pow, hp2, hq2]
    linarith [sq_nonneg (X * y - Y * x), sq_nonneg (X * z - Z * x), sq_nonneg (Y * z - Z * y)]
  have hdot : X * x + Y * y + Z * z ≤ p * q := (abs_le_of_sq_le_sq' hcs (mul_nonneg hp0 hq0)).2
  have h2 : (p - M) ^ 2 ≤ (p - q) ^ 2 := pow_le_pow_left₀ (by linarith) (by linarith) 2
  have hexp : (X - x) ^ 2 + (Y - y) ^ 2 + (Z - z) ^ 2 = p ^ 2 - 2 * (X * x + Y * y + Z * z) + q ^ 2 := by
    rw [hp2, hq2]; ring
  rw [hexp]
  linarith [show (p - q) ^ 2 = p ^ 2 - 2 * (p * q) + q ^ 2 by ring]

/-- two representations of a meridian point: `N m (h'² − h²)` is the excess of the primed foot point -/
theorem merid_gap (a m N N' s c h s' c' h' : ℝ) (hu : s ^ 2 + c ^ 2 = 1) (hu' : s' ^ 2 + c' ^ 2 = 1)
    (hA : N ^ 2 * (c ^ 2 + m * s ^ 2) = a ^ 2) (hA' : N' ^ 2 * (c' ^ 2 + m * s' ^ 2) = a ^ 2)
    (hR : (N + h) * c = (N' + h') * c') (hZ : (m * N + h) * s = (m * N' + h') * s') :
    N * m * (h' ^ 2 - h ^ 2) = m * (N + h) * (N' * c' - N * c) ^ 2 + (m * N + h) * (m * N' * s' - m * N * s) ^ 2 := by
  -- `foot_excess` in the meridian plane `(sl, cl) = (0, 1)`, `y = 0`, at the primed foot point
  have e := foot_excess a m N s c 0 1 h (N' * c') 0 (m * N' * s') hu (by norm_num) hA (by linear_combination m * hA')
  simp only [mul_one, mul_zero, sub_zero, ne_eq, OfNat.ofNat_ne_zero, not_false_eq_true, zero_pow, add_zero] at e
  rw [hR, hZ] at e
  linear_combination e - (N * m * h' ^ 2) * hu'

/-- two representations `(s, c, h)`, `(s', c', h')` of one meridian point, the first strictly on the near side, coincide;
`N`, `N'` stand for the prime-vertical radii: any positive numbers with `N²(c² + m s²) = a²` -/
theorem merid_unique_aux (a m N N' s c h s' c' h' : ℝ) (hm : 0 < m) (hN : 0 < N) (hN' : 0 < N')
    (hu : s ^ 2 + c ^ 2 = 1) (hu' : s' ^ 2 + c' ^ 2 = 1)
    (hA : N ^ 2 * (c ^ 2 + m * s ^ 2) = a ^ 2) (hA' : N' ^ 2 * (c' ^ 2 + m * s' ^ 2) = a ^ 2)
    (hR : (N + h) * c = (N' + h') * c') (hZ : (m * N + h) * s = (m * N' + h') * s')
    (hsR : 0 < N + h) (hsZ : 0 < m * N + h) (hsR' : 0 ≤ N' + h') (hsZ' : 0 ≤ m * N' + h') :
    s' = s ∧ c' = c ∧ h' = h := by
  have e1 := merid_gap a m N N' s c h s' c' h' hu hu' hA hA' hR hZ
  have e2 := merid_gap a m N' N s' c' h' s c h hu' hu hA' hA hR.symm hZ.symm
  have p1 : 0 ≤ m * (N + h) * (N' * c' - N * c) ^ 2 := mul_nonneg (mul_nonneg hm.le hsR.le) (sq_nonneg _)
  have p2 : 0 ≤ (m * N + h) * (m * N' * s' - m * N * s) ^ 2 := mul_nonneg hsZ.le (sq_nonneg _)
  -- each height is the least: `h'² ≥ h²` and `h² ≥ h'²`
  have g1 : 0 ≤ h' ^ 2 - h ^ 2 := nonneg_of_mul_nonneg_right (by rw [e1]; exact add_nonneg p1 p2) (mul_pos hN hm)
  have g2 : 0 ≤ h ^ 2 - h' ^ 2 := nonneg_of_mul_nonneg_right
    (by rw [e2]; exact add_nonneg (mul_nonneg (mul_nonneg hm.le hsR') (sq_nonneg _)) (mul_nonneg hsZ' (sq_nonneg _)))
    (mul_pos hN' hm)
  -- so the excess vanishes and the foot points coincide
  rw [show h' ^ 2 - h ^ 2 = 0 by linarith, mul_zero] at e1
  obtain ⟨q1, q2⟩ := (add_eq_zero_iff_of_nonneg p1 p2).mp e1.symm
  have r1 : N' * c' = N * c :=
    sub_eq_zero.mp (sq_eq_zero_iff.mp ((mul_eq_zero.mp q1).resolve_left (mul_pos hm hsR).ne'))
  have r2 : N' * s' = N * s := by
    have := sq_eq_zero_iff.mp ((mul_eq_zero.mp q2).resolve_left hsZ.ne')
    exact mul_left_cancel₀ hm.ne' (by linear_combination this)
  have hNN : N' ^ 2 = N ^ 2 := by
    linear_combination (-(N' ^ 2)) * hu' + N ^ 2 * hu + (N' * s' + N * s) * r2 + (N' * c' + N * c) * r1
  obtain rfl : N' = N := (pow_left_inj₀ hN'.le hN.le two_ne_zero).mp hNN
  obtain rfl : s' = s := mul_left_cancel₀ hN.ne' r2
  obtain rfl : c' = c := mul_left_cancel₀ hN.ne' r1
  exact ⟨rfl, rfl, by linear_combination (h - h') * hu - c' * hR - s' * hZ⟩

theorem merid_unique (a f s c h s' c' h' R Z : ℝ) (ha : 0 < a) (hf : f < 1)
    (h1 : Merid a f s c h R Z) (h2 : Merid a f s' c' h' R Z)
    (hsR : 0 < a / Real.sqrt (1 - f * (2 - f) * s ^ 2) + h)
    (hsZ : 0 < (1 - f) ^ 2 * (a / Real.sqrt (1 - f * (2 - f) * s ^ 2)) + h) :
    s' = s ∧ c' = c ∧ h' = h := by
  obtain ⟨hN, hA⟩ := primeVertical a f s c ha hf h1.unit
  obtain ⟨hN', hA'⟩ := primeVertical a f s' c' ha hf h2.unit
  exact merid_unique_aux a ((1 - f) ^ 2) _ _ s c h s' c' h' (pow_pos (by linarith) 2) hN hN' h1.unit h2.unit hA hA'
    (h1.clR.trans h2.clR.symm) (h1.clZ.trans h2.clZ.symm) hsR hsZ h2.sideR h2.sideZ

/-- the meridian solver applied to the forward image of a point strictly on the near side returns `(s, c, h)`
(`N` comes with its defining equation, so that a caller may have abstracted the quotient) -/
theorem revNear_forward (a f s c h N sl cl : ℝ) (ha : 0 < a) (hf : f < 1) (hu : s ^ 2 + c ^ 2 = 1) (hc : 0 ≤ c)
    (hN : a / Real.sqrt (1 - f * (2 - f) * s ^ 2) = N) (hsR : 0 < N + h) (hsZ : 0 < (1 - f) ^ 2 * N + h) :
    (revNear a f ((N + h) * c) (((1 - f) ^ 2 * N + h) * s) sl cl).sphi = s ∧
    (revNear a f ((N + h) * c) (((1 - f) ^ 2 * N + h) * s) sl cl).cphi = c ∧
    (revNear a f ((N + h) * c) (((1 - f) ^ 2 * N + h) * s) sl cl).h = h := by
  subst hN
  exact merid_unique a f s c h _ _ _ _ _ ha hf ⟨hu, hc, rfl, rfl, hsR.le, hsZ.le⟩
    (revNear_merid a f _ _ sl cl ha hf (mul_nonneg hsR.le hc)) hsR hsZ

end GeoVerif.GeocentricProofs
