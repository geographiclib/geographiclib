import GeoVerif.Proofs.DMSDigits
/-!
# The angle grammar written by `DMS::Encode` and its acceptance by the discrete stage of `DMS::Decode`
-/
namespace GeoVerif.DMSProofs
open GeoVerif GeoVerif.DMS GeoVerif.Gen GeoVerif.Decimal

def numOf (ds : Bytes) : Num := { int := digitsVal 0 ds, nint := ds.length }
def numFracOf (ds fs : Bytes) : Num :=
  { int := digitsVal 0 ds, nint := ds.length, point := true, frac := digitsVal 0 fs, nfrac := fs.length }

def fracPart (F : Bytes) : Bytes := if F = [] then [] else 46 :: F
def lastNum (X F : Bytes) : Num := if F = [] then numOf X else numFracOf X F

/-- **the texts `DMS::Encode` writes** (without sign and hemisphere letter): trailing component `t` = 0, 1, 2
    (degrees, minutes, seconds), separator `sep` (0 = the indicators `d ' "`), digit strings `D M S` and fraction digits `F`
    of the trailing component -/
def dmsText (t sep : Nat) (D M S F : Bytes) : Bytes :=
  let dsep := if sep ≠ 0 then sep else 100
  let msep := if sep ≠ 0 then sep else 39
  if t = 0 then D ++ fracPart F
  else if t = 1 then D ++ dsep :: (M ++ (fracPart F ++ (if sep = 0 then [39] else [])))
  else D ++ dsep :: (M ++ msep :: (S ++ (fracPart F ++ (if sep = 0 then [34] else []))))

def slotsOf (t : Nat) (D M S F : Bytes) : Slots :=
  if t = 0 then { d := lastNum D F }
  else if t = 1 then { d := numOf D, m := lastNum M F }
  else { d := numOf D, m := numOf M, s := lastNum S F }

theorem number_last (X F rest : Bytes) (hX : AllDigits X) (hF : AllDigits F)
    (hr : ∀ c t, rest = c :: t → ¬ IsDigit c ∧ c ≠ 46) :
    number (X ++ (fracPart F ++ rest)) = (lastNum X F, rest) := by
  by_cases hF0 : F = []
  · subst hF0
    simp only [fracPart, lastNum, if_true, List.nil_append]
    exact number_int X rest hX hr
  · simp only [fracPart, lastNum, hF0, if_false, List.cons_append]
    exact number_frac X F rest hX hF (fun c t h => (hr c t h).1)

theorem lastNum_ne (X F : Bytes) (hX : X ≠ []) : (lastNum X F).nint + (lastNum X F).nfrac ≠ 0 := by
  have : X.length ≠ 0 := by cases X <;> simp_all
  unfold lastNum; split <;> simp [numOf, numFracOf, this]

theorem numFracOf_ne (X F : Bytes) (hX : X ≠ []) : (numFracOf X F).nint + (numFracOf X F).nfrac ≠ 0 := by
  have : X.length ≠ 0 := by cases X <;> simp_all
  simp [numFracOf, this]

theorem numOf_ne (X : Bytes) (hX : X ≠ []) : (numOf X).nint + (numOf X).nfrac ≠ 0 := by
  have : X.length ≠ 0 := by cases X <;> simp_all
  simp [numOf, this]

theorem comps_whole_ind (f np k : Nat) (sl : Slots) (X rest : Bytes) (c : Nat) (hX : AllDigits X) (nX : X ≠ [])
    (hc : c = 100 ∨ c = 39 ∨ c = 34) (hk : lookup DMSC.dmsindicators c = (k : Int)) (hk3 : k < 3) (hord : np ≤ k)
    (hrest : rest ≠ []) :
    comps (f + 1) np sl (X ++ c :: rest) = comps f (k + 1) (sl.set k (numOf X)) rest := by
  rw [comps_step f np k sl _ rest (numOf X) c
    (number_int X _ hX (by intro c' t h; cases h; exact nd c (by omega))) (by omega) (Or.inl hk) hord hk3 (numOf_ne X nX),
    if_neg (mt List.isEmpty_iff.mp hrest)]
  rfl

theorem comps_whole_colon (f np : Nat) (sl : Slots) (X rest : Bytes) (hX : AllDigits X) (nX : X ≠ []) (hp : np < 3)
    (hrest : rest ≠ []) :
    comps (f + 1) np sl (X ++ 58 :: rest) = comps f (np + 1) (sl.set np (numOf X)) rest := by
  rw [comps_step f np np sl _ rest (numOf X) 58
    (number_int X _ hX (by intro c' t h; cases h; exact nd 58 (by simp))) (by decide)
    (Or.inr ⟨by rw [ind_c]; decide, hrest, rfl⟩) (Nat.le_refl _) hp (numOf_ne X nX),
    if_neg (mt List.isEmpty_iff.mp hrest)]
  rfl

theorem comps_last_ind (f np k : Nat) (sl : Slots) (X F : Bytes) (c : Nat) (hX : AllDigits X) (hF : AllDigits F) (nX : X ≠ [])
    (hc : c = 100 ∨ c = 39 ∨ c = 34) (hk : lookup DMSC.dmsindicators c = (k : Int)) (hk3 : k < 3) (hord : np ≤ k) :
    comps (f + 1) np sl (X ++ (fracPart F ++ [c])) = .ok (sl.set k (lastNum X F)) := by
  rw [comps_step f np k sl _ [] (lastNum X F) c
    (number_last X F [c] hX hF (by intro c' t h; cases h; exact nd c (by omega))) (by omega) (Or.inl hk) hord hk3
    (lastNum_ne X F nX)]
  rfl

theorem comps_last_plain (f np : Nat) (sl : Slots) (X F : Bytes) (hX : AllDigits X) (hF : AllDigits F) (nX : X ≠ [])
    (hp : np < 3) :
    comps (f + 1) np sl (X ++ fracPart F) = .ok (sl.set np (lastNum X F)) := by
  have := number_last X F [] hX hF (by intro c t h; cases h)
  rw [List.append_nil] at this
  rw [comps_end f np sl _ (lastNum X F) this, if_neg (by omega), if_neg (lastNum_ne X F nX)]

/-- `comps 4 0 {}` is the call made by `parseFields` -/
theorem grammar_text (t sep : Nat) (D M S F : Bytes) (ht : t ≤ 2) (hsep : sep = 0 ∨ sep = 58)
    (hD : AllDigits D) (hM : AllDigits M) (hS : AllDigits S) (hF : AllDigits F)
    (nD : D ≠ []) (nM : M ≠ []) (nS : S ≠ []) :
    comps 4 0 {} (dmsText t sep D M S F) = .ok (slotsOf t D M S F) := by
  have hneM : ∀ r : Bytes, M ++ r ≠ [] := by intro r; cases M <;> simp_all
  have hneS : ∀ r : Bytes, S ++ r ≠ [] := by intro r; cases S <;> simp_all
  have ht' : t = 0 ∨ t = 1 ∨ t = 2 := by omega
  rcases ht' with rfl | rfl | rfl
  · simp only [dmsText, slotsOf, if_true]
    rw [comps_last_plain 3 0 {} D F hD hF nD (by decide)]; rfl
  · rcases hsep with rfl | rfl
    · simp only [dmsText, slotsOf]
      simp only [Nat.one_ne_zero, if_false, if_true, ne_eq, not_true_eq_false]
      rw [comps_whole_ind 3 0 0 {} D _ 100 hD nD (by simp) ind_d (by decide) (by decide) (hneM _)]
      rw [comps_last_ind 2 1 1 _ M F 39 hM hF nM (by simp) ind_m (by decide) (by decide)]
      rfl
    · simp only [dmsText, slotsOf]
      simp only [Nat.one_ne_zero, if_false, ne_eq, Nat.reduceEqDiff, not_false_eq_true, if_true, List.append_nil]
      rw [comps_whole_colon 3 0 {} D _ hD nD (by decide) (hneM _)]
      rw [comps_last_plain 2 1 _ M F hM hF nM (by decide)]
      rfl
  · rcases hsep with rfl | rfl
    · simp only [dmsText, slotsOf]
      simp only [Nat.reduceEqDiff, if_false, if_true, ne_eq, not_true_eq_false]
      rw [comps_whole_ind 3 0 0 {} D _ 100 hD nD (by simp) ind_d (by decide) (by decide) (hneM _)]
      rw [comps_whole_ind 2 1 1 _ M _ 39 hM nM (by simp) ind_m (by decide) (by decide) (hneS _)]
      rw [comps_last_ind 1 2 2 _ S F 34 hS hF nS (by simp) ind_s (by decide) (by decide)]
      rfl
    · simp only [dmsText, slotsOf]
      simp only [Nat.reduceEqDiff, if_false, ne_eq, not_false_eq_true, if_true, List.append_nil]
      rw [comps_whole_colon 3 0 {} D _ hD nD (by decide) (hneM _)]
      rw [comps_whole_colon 2 1 _ M _ hM nM (by decide) (hneS _)]
      rw [comps_last_plain 1 2 _ S F hS hF nS (by decide)]
      rfl

end GeoVerif.DMSProofs
