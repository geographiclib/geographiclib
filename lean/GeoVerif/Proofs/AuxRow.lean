import GeoVerif.Series.AuxSeries
/-!
# Row certificates for the composition and reversion of the `AuxLatitude` series

`checkCompose c b a` and `checkRevert a b` both evaluate the Taylor shift `Σ_k B^(k)·A^k / k!` with the same inner series
`A = C[b←a]`; only the outer series `B` differs.  One certificate per ordered pair `(b, a)` — a *row* — computes the powers `A^k`
once and from them the shifts of the harmonics `sin 2x, sin 4x, …`, which need no product of series; the shift is linear in `B`,
so every outer latitude costs one combination of these.  Core Lean only: the row checks are evaluated by the kernel.
The operations of `Series/TrigN.lean` reach into lists by index and loop over ranges that do not depend on the factors; the kernel pays
for every step of that, so the row check adds, multiplies and decodes by recursion on the lists (`zipLong`, `addz`, `mulB`,
`blockFrom`), which gives the same series modulo `n^N`.
That they imply `checkCompose` and `checkRevert` is `rowCheck_sound` in `Proofs/AuxLin.lean`.
`iter` and `Trig.powSeries_fold` (one table of powers for `cosOf` and `sinOf`) also serve the certificates of
`Proofs/AuxCertODE.lean` and `Proofs/RhumbCert.lean`.
-/
namespace GeoVerif.Series

/-- `[x, f x, f (f x), …]`, `n` entries -/
def iter {α : Type} (f : α → α) : Nat → α → List α
  | 0, _ => []
  | n + 1, x => x :: iter f n (f x)

/-- `f` along two lists; the tail of the longer one is kept -/
def zipLong {α : Type} (f : α → α → α) : List α → List α → List α
  | x :: xs, y :: ys => f x y :: zipLong f xs ys
  | [], ys => ys
  | xs, [] => xs

namespace Trig

/-- `sum + Σ_i d_i · p_i / (k + i)!` -/
def taylorSum (N : Nat) : List Trig → List Trig → Nat → Trig → Trig
  | d :: ds, p :: ps, k, sum => taylorSum N ds ps (k + 1) (add N sum (smul (1 / (fact k : Rat)) (mul N d p)))
  | _, _, _, sum => sum

private theorem shiftBy_fold (N : Nat) (a : Trig) (n k : Nat) (sum bk ak : Trig) :
    ((List.range' k n).foldl (fun (acc : Trig × Trig × Trig) k =>
        let (sum, bk, ak) := acc
        (add N sum (smul (1 / (fact k : Rat)) (mul N bk ak)), deriv bk, mul N ak a)) (sum, bk, ak)).1
      = taylorSum N (iter deriv n bk) (iter (fun p => mul N p a) n ak) k sum := by
  induction n generalizing k sum bk ak with
  | zero => rfl
  | succ n ih => simp only [List.range'_succ, List.foldl_cons, iter, taylorSum]; exact ih ..

/-- the loop of `powSeries` is a weighted sum over the list of powers of `a`, which does not depend on the weights: with it
    `cosOf N a` and `sinOf N a` mention the same list, and the kernel evaluates the powers once for both -/
theorem powSeries_fold (N : Nat) (w : Nat → Rat) (a : Trig) (ks : List Nat) (s p : Trig) :
    (ks.foldl (fun (acc : Trig × Trig) k => (add N acc.1 (smul (w k) acc.2), mul N acc.2 a)) (s, p)).1
      = (ks.zip (iter (fun p => mul N p a) ks.length p)).foldl (fun s kp => add N s (smul (w kp.1) kp.2)) s := by
  induction ks generalizing s p with
  | nil => rfl
  | cons k ks ih => exact ih _ _

/-- the fold of `shiftBy` separated into the table of derivatives of `b` and the table of powers of `a` -/
theorem shiftBy_eq (N : Nat) (b a : Trig) :
    shiftBy N b a = taylorSum N (iter deriv N b) (iter (fun p => mul N p a) N (const [1])) 0 zero := by
  unfold shiftBy
  rw [List.range_eq_range']
  exact shiftBy_fold ..

/-- `a + b`: what `add N` computes on series that are already cut at `n^N`, by recursion on the lists instead of by index
    (the kernel evaluates `Poly.addv` with two list lookups per coefficient) -/
def addz (a b : Trig) : Trig := ⟨zipLong (zipLong (· + ·)) a.c b.c, zipLong (zipLong (· + ·)) a.s b.s⟩

/-- `−p` if `neg` -/
def sgn (neg : Bool) (p : Poly) : Poly := if neg then Poly.neg p else p

/-- the terms of harmonic `k` in the product of `Σ_{i<nu} u i · e(2ix)` and `Σ_{j<nv} v j · e'(2jx)`, where `e` and `e'` are each
    `cos` or `sin`: the pairs with `i + j = k`, `i − j = k` and `j − i = k`, negated as `σ₁ σ₂ σ₃` say; none at all if one of
    the factors has no harmonic -/
def mulTerms (N : Nat) (σ₁ σ₂ σ₃ : Bool) (u v : Nat → Poly) (nu nv k : Nat) : List Poly :=
  if nu == 0 || nv == 0 then [] else
  ((List.range (k + 1)).map fun i => sgn σ₁ (Poly.mulv N (u i) (v (k - i)))) ++
  ((List.range (nu - k)).map fun j => sgn σ₂ (Poly.mulv N (u (j + k)) (v j))) ++
  if k == 0 then [] else (List.range (nv - k)).map fun i => sgn σ₃ (Poly.mulv N (u i) (v (i + k)))

/-- `mul N a b` computed block by block: cos·cos and sin·sin for the cosine part, sin·cos and cos·sin for the sine part.  A
    block one of whose factors is absent costs nothing, which is the case of three blocks out of four in a power of a sine
    series; `mul` pays for its full loops whatever the factors are -/
def mulB (N : Nat) (a b : Trig) : Trig :=
  let sum (l : List Poly) : Poly := Poly.smul (1 / 2) (l.foldr (zipLong (· + ·)) [])
  trim ⟨(List.range (a.nh + b.nh)).map fun k => sum
      (mulTerms N false false false a.cc b.cc a.c.length b.c.length k ++ mulTerms N true false false a.ss b.ss a.s.length b.s.length k),
    (List.range (a.nh + b.nh)).map fun k => if k == 0 then [] else sum
      (mulTerms N false false true a.ss b.cc a.s.length b.c.length k ++ mulTerms N false true false a.cc b.ss a.c.length b.s.length k)⟩

/-- `2 cos(2lx) · b` by the product-to-sum formulas: harmonic `k` of the product collects the harmonics `k − l`, `l − k`
    and `l + k` of `b` -/
def cosMul (l : Nat) (b : Trig) : Trig :=
  ⟨(List.range (l + b.nh)).map fun k => zipLong (· + ·) (zipLong (· + ·)
      (if l ≤ k then b.cc (k - l) else []) (if k ≤ l then b.cc (l - k) else [])) (if k = 0 then [] else b.cc (l + k)),
   (List.range (l + b.nh)).map fun k => zipLong (· + ·) (zipLong (· + ·)
      (if l ≤ k then b.ss (k - l) else []) (if k ≤ l then Poly.neg (b.ss (l - k)) else [])) (b.ss (l + k))⟩

/-- `2 sin(2lx) · b` -/
def sinMul (l : Nat) (b : Trig) : Trig :=
  ⟨(List.range (l + b.nh)).map fun k => zipLong (· + ·) (zipLong (· + ·)
      (if l ≤ k then Poly.neg (b.ss (k - l)) else []) (if k ≤ l then b.ss (l - k) else [])) (if k = 0 then [] else b.ss (l + k)),
   (List.range (l + b.nh)).map fun k => zipLong (· + ·) (zipLong (· + ·)
      (if l ≤ k then b.cc (k - l) else []) (if k ≤ l then b.cc (l - k) else [])) (Poly.neg (b.cc (l + k)))⟩

/-- the Taylor shift `Σ_i h⁽ⁱ⁾ · p_i / (k + i)!` of `taylorSum` for a single harmonic, without any product of series: the
    derivatives of `h` are alternately `2r cos(2lx)` (the Boolean is `true`) and `2r sin(2lx)`, so the sum is `2 sin(2lx) · E + 2 cos(2lx) · O`
    with two rational combinations `E`, `O` of the `p_i`, which are accumulated here -/
def harmParts (l : Nat) : List Trig → Nat → Rat → Bool → Trig → Trig → Trig × Trig
  | p :: ps, k, r, true, E, O => harmParts l ps (k + 1) (-(2 * l * r)) false E (addz O (smul (r / fact k) p))
  | p :: ps, k, r, false, E, O => harmParts l ps (k + 1) (2 * l * r) true (addz E (smul (r / fact k) p)) O
  | [], _, _, _, E, O => (E, O)

/-- the Taylor shift of `sin(2lx)` over the table of powers `P` -/
def harmShift (l : Nat) (P : List Trig) : Trig :=
  let EO := harmParts l P 0 (1 / 2) false zero zero
  addz (sinMul l EO.1) (cosMul l EO.2)

/-- `Σ_l p_l · s_l` -/
def lincomb (N : Nat) : List Poly → List Trig → Trig
  | p :: ps, s :: ss => addz (pmul N p s) (lincomb N ps ss)
  | _, _ => zero

end Trig

namespace Aux

/-- the outer latitudes checked against the inner series `C[b←a]`: every `c` other than `b` and `a`, and `a` itself
    (the reversion `C[a←b] ∘ C[b←a] = id`) when `a < b`, so that each unordered pair is reverted once -/
def outers (b a : Nat) : List Nat := (List.range 6).filter fun c => c != b && (c != a || decide (a < b))

/-- the harmonics `ls` of a block whose coefficients are at the head of `rest`: what `decode` computes, with the table consumed as it
    goes instead of dropped from its start for every harmonic -/
def blockFrom (ev : Bool) : List Nat → List Rat → List Poly
  | l :: ls, rest =>
    let m := if ev then (L - l - 1) / 2 else (L - l - 1)
    let p := Poly.ofHighFirst (rest.take (m + 1))
    let p := if ev then Poly.subSq p else p
    Poly.trunc N (Poly.shift (l + 1) p) :: blockFrom ev ls (rest.drop (m + 1))
  | [], _ => []

/-- `block auxout auxin` (`blockL_eq` in `Proofs/AuxLin.lean`) -/
def blockL (auxout auxin : Nat) : List Poly :=
  blockFrom (evenOnly auxout auxin) (List.range L)
    (Gen.AuxSeries.coeffs.drop (Gen.AuxSeries.ptrs.getD (Gen.AuxSeries.AUXNUMBER * auxout + auxin) 0))

/-- all of `checkCompose c b a` (`c` in `outers b a`, `c ≠ a`) and `checkRevert a b` (if `a` is in `outers b a`).  The Taylor shift
    is linear in the outer series: the shifts `S_l` of the single harmonics `sin(2lx)` by `C[b←a]` are computed once per row over
    one table of powers of `C[b←a]`, and the shift of `C[c←b] = Σ_l B_l sin(2lx)` is `Σ_l B_l · S_l` -/
def rowCheck (b a : Nat) : Bool :=
  let A := Trig.ofSin (blockL b a)
  let P := iter (fun p => Trig.mulB N p A) N (Trig.const [1])
  let S := (List.range L).map fun l => Trig.harmShift (l + 1) P
  A.smallO && (outers b a).all fun c =>
    let B := blockL c b
    let T := Trig.addz A (Trig.lincomb N B S)
    (Trig.ofSin B).smallO &&
      if c == a then Trig.isZero N T else Trig.isZero N (Trig.addz (Trig.ofSin (blockL c a)) (Trig.smul (-1) T))

end Aux
end GeoVerif.Series
