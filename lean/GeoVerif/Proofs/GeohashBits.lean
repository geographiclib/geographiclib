import GeoVerif.Model.GridCodes
/-!
# Geohash bit plumbing: chunks of 5, (de)interleaving, bits of a number
-/
namespace GeoVerif.GeohashBits
open GeoVerif.Grid GeoVerif.Grid.Geohash

def accBits (acc : Nat) (l : List Bool) : Nat := l.foldl (fun acc b => 2 * acc + (if b then 1 else 0)) acc

theorem bitsToNat_eq (l : List Bool) : bitsToNat l = accBits 0 l := rfl

/-- one decoder step, the function folded by `decodeInt.go` under a name: bits go alternately to `ulon` (`j = 0`) and `ulat` -/
def step (acc : Nat × Nat × Nat) (b : Bool) : Nat × Nat × Nat :=
  if acc.2.2 = 0 then (2 * acc.1 + (if b then 1 else 0), acc.2.1, 1) else (acc.1, 2 * acc.2.1 + (if b then 1 else 0), 0)

theorem bits5_roundtrip : ∀ a b c d e : Bool, bitsFrom (bitsToNat [a, b, c, d, e]) 4 5 = [a, b, c, d, e] ∧ bitsToNat [a, b, c, d, e] < 32 := by
  decide +kernel

theorem lookup32 : ∀ k < 32, lookup uc (chr lc k).toNat = some k := by decide +kernel

theorem go_chunks (chunks : List (List Bool)) (h : ∀ ch ∈ chunks, ch.length = 5) (x y j : Nat) :
    decodeInt.go (toBytes (chunks.map fun ch => chr lc (bitsToNat ch))) x y j = .ok (chunks.flatten.foldl step (x, y, j)) := by
  induction chunks generalizing x y j with
  | nil => simp [toBytes, decodeInt.go]
  | cons ch rest ih =>
    have h5 := h ch (by simp)
    match ch, h5 with
    | [a, b, c, d, e], _ =>
      obtain ⟨r1, r2⟩ := bits5_roundtrip a b c d e
      simp only [List.map_cons, toBytes] at ih ⊢
      unfold decodeInt.go
      rw [lookup32 _ r2]
      simp only [r1]
      have hstep : (fun (acc : Nat × Nat × Nat) (b : Bool) =>
            if acc.2.snd = 0 then (2 * acc.fst + if b = true then 1 else 0, acc.2.fst, 1)
            else (acc.fst, 2 * acc.2.fst + if b = true then 1 else 0, 0)) = step := rfl
      rw [hstep, ih (fun c hc => h c (by simp [hc]))]
      simp only [List.flatten_cons, List.foldl_append]

theorem chunks5_spec (l : List Bool) :
    (∀ ch ∈ chunks5 l, ch.length = 5) ∧ (l.length % 5 = 0 → (chunks5 l).flatten = l) := by
  match l with
  | a :: b :: c :: d :: e :: rest =>
    obtain ⟨h1, h2⟩ := chunks5_spec rest
    simp only [chunks5]
    constructor
    · intro ch hch
      rcases List.mem_cons.mp hch with rfl | h
      · rfl
      · exact h1 ch h
    · intro hl
      simp only [List.length_cons] at hl
      simp only [List.flatten_cons, List.cons_append, List.nil_append]
      rw [h2 (by omega)]
  | [] | [_] | [_, _] | [_, _, _] | [_, _, _, _] => simp [chunks5]

theorem accBits_cons (acc : Nat) (b : Bool) (l : List Bool) :
    accBits acc (b :: l) = accBits (2 * acc + (if b then 1 else 0)) l := rfl

theorem deinterleave (A B : List Bool) (hAB : A.length = B.length) (n : Nat) (hn : n ≤ 2 * A.length) (x y : Nat) :
    ((interleave A B).take n).foldl step (x, y, 0) =
      (accBits x (A.take ((n + 1) / 2)), accBits y (B.take (n / 2)), n % 2) := by
  induction A generalizing B n x y with
  | nil =>
    have : n = 0 := by simpa using hn
    subst this
    simp [accBits]
  | cons a as ih =>
    match B, hAB with
    | b :: bs, hAB =>
      match n, hn with
      | 0, _ => simp [accBits]
      | 1, _ => simp [interleave, step, accBits]
      | k + 2, hk =>
        have e1 : (k + 2 + 1) / 2 = (k + 1) / 2 + 1 := by omega
        have e2 : (k + 2) / 2 = k / 2 + 1 := by omega
        have e3 : (k + 2) % 2 = k % 2 := by omega
        simp only [interleave, List.take_succ_cons, List.foldl_cons, e1, e2, e3, accBits_cons]
        have hs : step (step (x, y, 0) a) b = (2 * x + (if a then 1 else 0), 2 * y + (if b then 1 else 0), 0) := by
          simp [step]
        rw [hs]
        exact ih bs (by simpa using hAB) k (by simp at hk; omega) _ _

theorem bitsFrom_length (u top n : Nat) : (bitsFrom u top n).length = n := by
  induction n generalizing top with
  | zero => rfl
  | succ n ih => simp [bitsFrom, ih]

theorem bitsFrom_take (u top n k : Nat) (hk : k ≤ n) : (bitsFrom u top n).take k = bitsFrom u top k := by
  induction k generalizing top n with
  | zero => simp [bitsFrom]
  | succ k ih =>
    match n, hk with
    | n + 1, hk => simp only [bitsFrom, List.take_succ_cons]; rw [ih _ _ (by omega)]

theorem accBits_bitsFrom (u : Nat) (k top acc : Nat) (hk : k ≤ top + 1) :
    accBits acc (bitsFrom u top k) = acc * 2 ^ k + (u / 2 ^ (top + 1 - k)) % 2 ^ k := by
  induction k generalizing top acc with
  | zero => simp [bitsFrom, accBits, Nat.mod_one]
  | succ k ih =>
    simp only [bitsFrom, accBits_cons]
    match top, hk with
    | 0, hk =>
      have : k = 0 := by omega
      subst this
      simp [bitsFrom, accBits, Nat.testBit_eq_decide_div_mod_eq]
      by_cases h : u % 2 = 1 <;> simp [h] <;> omega
    | t + 1, hk =>
      rw [show t + 1 - 1 = t by omega, ih t _ (by omega)]
      have e : t + 1 + 1 - (k + 1) = t + 1 - k := by omega
      rw [e]
      obtain ⟨v, hv⟩ : ∃ v, v = u / 2 ^ (t + 1 - k) := ⟨_, rfl⟩
      rw [← hv]
      have hbit : (if u.testBit (t + 1) then 1 else 0) = v / 2 ^ k % 2 := by
        rw [Nat.testBit_eq_decide_div_mod_eq, hv, Nat.div_div_eq_div_mul, ← Nat.pow_add,
          show t + 1 - k + k = t + 1 by omega]
        by_cases h : u / 2 ^ (t + 1) % 2 = 1
        · simp [h]
        · simp [h]; omega
      rw [hbit, Nat.mod_pow_succ (x := v), Nat.pow_succ]
      generalize v / 2 ^ k % 2 = bb
      generalize v % 2 ^ k = rr
      generalize 2 ^ k = P
      rw [Nat.add_mul, Nat.mul_comm P bb]
      have : 2 * acc * P = acc * (P * 2) := by
        rw [Nat.mul_comm 2 acc, Nat.mul_assoc, Nat.mul_comm 2 P]
      omega

theorem interleave_length (A B : List Bool) (h : A.length = B.length) : (interleave A B).length = 2 * A.length := by
  induction A generalizing B with
  | nil => match B, h with | [], _ => rfl
  | cons a as ih =>
    match B, h with
    | b :: bs, h =>
      simp only [interleave, List.length_cons]
      rw [ih bs (by simpa using h)]; omega

theorem chunks5_length (l : List Bool) : (chunks5 l).length = l.length / 5 := by
  match l with
  | a :: b :: c :: d :: e :: rest =>
    simp only [chunks5, List.length_cons]
    rw [chunks5_length rest]; omega
  | [] | [_] | [_, _] | [_, _, _] | [_, _, _, _] => simp [chunks5]

theorem chunks5_take (l : List Bool) (n : Nat) : chunks5 (l.take (5 * n)) = (chunks5 l).take n := by
  induction n generalizing l with
  | zero => rfl
  | succ n ih =>
    match l with
    | a :: b :: c :: d :: e :: rest => exact congrArg ([a, b, c, d, e] :: ·) (ih rest)
    | [] | [_] | [_, _] | [_, _, _] | [_, _, _, _] => rfl

theorem go_encodeInt (ulon ulat len : Nat) (hlen : len ≤ 18) :
    (toBytes (encodeInt ulon ulat len)).length = len ∧
    decodeInt.go (toBytes (encodeInt ulon ulat len)) 0 0 0 =
      .ok (ulon / 2 ^ (46 - (5 * len + 1) / 2) % 2 ^ ((5 * len + 1) / 2),
           ulat / 2 ^ (46 - 5 * len / 2) % 2 ^ (5 * len / 2), 5 * len % 2) := by
  have hA : (bitsFrom ulon 45 45).length = 45 := bitsFrom_length _ _ _
  have hB : (bitsFrom ulat 45 45).length = 45 := bitsFrom_length _ _ _
  have hS := interleave_length (bitsFrom ulon 45 45) (bitsFrom ulat 45 45) (by rw [hA, hB])
  rw [hA] at hS
  have hl : ((interleave (bitsFrom ulon 45 45) (bitsFrom ulat 45 45)).take (5 * len)).length = 5 * len := by
    rw [List.length_take, hS]; omega
  obtain ⟨c1, c2⟩ := chunks5_spec ((interleave (bitsFrom ulon 45 45) (bitsFrom ulat 45 45)).take (5 * len))
  have c2' := c2 (by rw [hl]; omega)
  unfold encodeInt
  simp only []
  constructor
  · simp only [toBytes, List.length_map, chunks5_length, hl]; omega
  · rw [go_chunks _ c1, c2', deinterleave _ _ (by rw [hA, hB]) _ (by rw [hA]; omega),
      bitsFrom_take _ _ _ _ (by omega), bitsFrom_take _ _ _ _ (by omega),
      accBits_bitsFrom _ _ _ _ (by omega), accBits_bitsFrom _ _ _ _ (by omega)]
    simp only [Nat.zero_mul, Nat.zero_add]
end GeoVerif.GeohashBits
