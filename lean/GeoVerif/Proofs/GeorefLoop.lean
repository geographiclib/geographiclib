import GeoVerif.Proofs.Digits
/-!
# Loop and digit-string lemmas shared by the GARS, Georef and OSGB codecs
-/
namespace GeoVerif.GeorefLoop
open GeoVerif.Grid

theorem forIn_yield {ε σ α : Type} (l : List α) (init : σ) (f : α → σ → Except ε (ForInStep σ)) (g : α → σ → σ)
    (h : ∀ a ∈ l, ∀ st, f a st = .ok (.yield (g a st))) :
    forIn l init f = (.ok (l.foldl (fun st a => g a st) init) : Except ε σ) := by
  induction l generalizing init with
  | nil => rfl
  | cons a as ih =>
    simp only [List.forIn_cons, List.foldl_cons]
    rw [h a (by simp)]
    simp only [bind, Except.bind]
    exact ih _ (fun b hb => h b (by simp [hb]))

theorem forIn_readNum {ε : Type} (tbl : List Char) (b : Nat) (e : ε) (f : Nat → Int → Except ε (ForInStep Int))
    (hnone : ∀ c r, lookup tbl c = none → f c r = .error e)
    (hsome : ∀ c r k, lookup tbl c = some k → f c r = .ok (.yield (r * b + k))) (l : List Nat) (acc : Nat) (r : Int)
    (hr : r = acc) :
    forIn l r f = match readNumFrom tbl b acc l with
      | none => .error e
      | some n => .ok (n : Int) := by
  subst hr
  induction l generalizing acc with
  | nil => rfl
  | cons c cs ih =>
    rw [List.forIn_cons, readNumFrom]
    cases h : lookup tbl c with
    | none => rw [hnone c _ h]; rfl
    | some k =>
      rw [hsome c _ k h, show (acc : Int) * b + k = ((b * acc + k : Nat) : Int) by rw [Int.mul_comm]; rfl]
      exact ih _

/-- used as `simp only [↓throw_bind]` on an unfolded `do` block: the continuation (join point) after a `throw` is dropped
before `simp` enters it, so the term stays linear in the size of the program -/
theorem throw_bind {ε α β : Type} (e : ε) (k : α → Except ε β) : (throw e >>= k) = .error e := rfl
theorem ok_bind {ε α β : Type} (a : α) (k : α → Except ε β) : (Except.ok a >>= k) = k a := rfl

theorem digitsW_getD (tbl : List Char) (b : Nat) (w n i : Nat) (hi : i < w) :
    (toBytes (digitsW tbl b w n)).getD i 0 = (chr tbl (n / b ^ (w - 1 - i) % b)).toNat := by
  induction w generalizing n i with
  | zero => omega
  | succ w ih =>
    simp only [digitsW, Digits.toBytes_append]
    by_cases h : i < w
    · have hl : i < (toBytes (digitsW tbl b w (n / b))).length := by
        simp [toBytes, Digits.digitsW_length]; exact h
      rw [List.getD_eq_getElem?_getD, List.getElem?_append_left hl, ← List.getD_eq_getElem?_getD]
      rw [ih (n / b) i h]
      have : w + 1 - 1 - i = (w - 1 - i) + 1 := by omega
      rw [this, Nat.pow_succ, Nat.div_div_eq_div_mul, Nat.mul_comm b]
    · have : i = w := by omega
      subst this
      have hl : (toBytes (digitsW tbl b i (n / b))).length ≤ i := by
        simp [toBytes, Digits.digitsW_length]
      rw [List.getD_eq_getElem?_getD, List.getElem?_append_right hl]
      simp [toBytes, Digits.digitsW_length]

theorem fields_prefix (hd tbl : List Char) (b p X Y : Nat) :
    (hd ++ digitsW tbl b p (X / b) ++ digitsW tbl b p (Y / b)).take (hd.length + p) <+:
      hd ++ digitsW tbl b (p + 1) X ++ digitsW tbl b (p + 1) Y ∧
    (hd ++ digitsW tbl b p (X / b) ++ digitsW tbl b p (Y / b)).drop (hd.length + p) <+:
      (hd ++ digitsW tbl b (p + 1) X ++ digitsW tbl b (p + 1) Y).drop (hd.length + (p + 1)) := by
  have lx : (digitsW tbl b p (X / b)).length = p := Digits.digitsW_length _ _ _ _
  have lx1 : (digitsW tbl b (p + 1) X).length = p + 1 := Digits.digitsW_length _ _ _ _
  have e1 : (hd ++ digitsW tbl b p (X / b) ++ digitsW tbl b p (Y / b)).take (hd.length + p)
      = hd ++ digitsW tbl b p (X / b) := by
    rw [List.take_append_of_le_length (by simp [lx]), List.take_of_length_le (by simp [lx])]
  have e2 : (hd ++ digitsW tbl b p (X / b) ++ digitsW tbl b p (Y / b)).drop (hd.length + p)
      = digitsW tbl b p (Y / b) := by
    rw [List.drop_append_of_le_length (by simp [lx]), List.drop_of_length_le (by simp [lx]), List.nil_append]
  have e3 : (hd ++ digitsW tbl b (p + 1) X ++ digitsW tbl b (p + 1) Y).drop (hd.length + (p + 1))
      = digitsW tbl b (p + 1) Y := by
    rw [List.drop_append_of_le_length (by simp [lx1]), List.drop_of_length_le (by simp [lx1]), List.nil_append]
  rw [e1, e2, e3]
  refine ⟨?_, Digits.digitsW_prefix _ _ _ _⟩
  rw [List.append_assoc]
  exact (List.prefix_append_right_inj _).mpr ((Digits.digitsW_prefix tbl b p X).trans (List.prefix_append _ _))

end GeoVerif.GeorefLoop
