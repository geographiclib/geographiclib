import GeoVerif.Model.LineState
import GeoVerif.Proofs.Mask
/-! Lemmas on the third-point state machine (`Model/LineState.lean`) used by `Props/C12.lean`. -/
namespace GeoVerif.LineState
open GeoVerif.Mask

variable {α : Type}

@[simp] theorem setDistance_caps (e : Enum) (K : Kern α) (st : St α) (s : α) : (setDistance e K st s).caps = st.caps := rfl
@[simp] theorem setArc_caps (e : Enum) (K : Kern α) (st : St α) (a : α) : (setArc e K st a).caps = st.caps := rfl

@[simp] theorem step_caps (e : Enum) (K : Kern α) (st : St α) (o : Op α) : (step e K st o).caps = st.caps := by
  cases o with
  | setDistance s => rfl
  | setArc a => rfl
  | genSetDistance am x => cases am <;> rfl

/-- a setter does not look at the third point it replaces -/
theorem step_forgets (e : Enum) (K : Kern α) (st : St α) (o : Op α) :
    step e K st o = step e K (fresh K st.caps) o := by
  cases o with
  | setDistance s => rfl
  | setArc a => rfl
  | genSetDistance am x => cases am <;> rfl

theorem run_caps (e : Enum) (K : Kern α) (st : St α) (h : List (Ev α)) : (run e K st h).1.caps = st.caps := by
  induction h generalizing st with
  | nil => rfl
  | cons ev t ih =>
    cases ev with
    | set o => simp only [run]; rw [ih, step_caps]
    | get r => simp only [run]; exact ih st
    | copy => simp only [run]; exact ih st

theorem run_append (e : Enum) (K : Kern α) (st : St α) (h1 h2 : List (Ev α)) :
    run e K st (h1 ++ h2) = ((run e K (run e K st h1).1 h2).1, (run e K st h1).2 ++ (run e K (run e K st h1).1 h2).2) := by
  induction h1 generalizing st with
  | nil => simp [run]
  | cons ev t ih =>
    cases ev with
    | set o => simp only [List.cons_append, run]; exact ih _
    | get r => simp only [List.cons_append, run]; rw [ih]
    | copy => simp only [List.cons_append, run]; exact ih _

theorem run_state (e : Enum) (K : Kern α) (st : St α) (h : List (Ev α)) :
    (run e K st h).1 = fromLastSet e K st h := by
  induction h generalizing st with
  | nil => rfl
  | cons ev t ih =>
    cases ev with
    | set o =>
      simp only [run, fromLastSet, lastSet]
      rw [ih]
      unfold fromLastSet
      cases hl : lastSet t with
      | none => simp only []; exact step_forgets e K st o
      | some o' => simp only [step_caps]
    | get r => simp only [run, fromLastSet, lastSet]; exact ih st
    | copy => simp only [run, fromLastSet, lastSet]; exact ih st

section Layout
variable {e : Enum} (h : e.Layout)
include h

omit h in
/-- on `_caps = lineCaps e caps` the two guards of the state machine are `Init()` and the tests of the dataflow model -/
theorem canLocate_eq (caps : Nat) (arcmode : Bool) :
    canLocate e (lineCaps e caps) arcmode = (lineCaps e caps != 0 && locatable e caps arcmode) := rfl

omit h in
theorem assignsS12_eq (caps : Nat) :
    assignsS12 e (lineCaps e caps) = (canLocate e (lineCaps e caps) true && want e (effective e caps e.distance) .s12) := rfl

/-- `Init()` holds, so the guard of `GenPosition` is the `DISTANCE_IN` bit the user passed -/
theorem canLocate_lineCaps (caps : Nat) (arcmode : Bool) :
    canLocate e (lineCaps e caps) arcmode = (arcmode || caps.testBit distanceInBit) := by
  rw [canLocate_eq, bne_iff_ne.mpr (lineCaps_ne_zero h caps), Bool.true_and, locatable_eq h]

theorem assignsS12_lineCaps (caps : Nat) : assignsS12 e (lineCaps e caps) = caps.testBit Out.s12.bit := by
  rw [assignsS12_eq, canLocate_lineCaps h, want_effective h, distance_testBit h, lineCaps_testBit h]
  exact Bool.or_false _

theorem setDistance_lineCaps (K : Kern α) (caps : Nat) (a0 s0 s : α) :
    setDistance e K ⟨lineCaps e caps, a0, s0⟩ s =
      ⟨lineCaps e caps, if caps.testBit distanceInBit then K.arcOf s else K.nan, s⟩ := by
  simp only [setDistance, genPositionRet, canLocate_lineCaps h, Bool.false_or]

theorem setArc_lineCaps (K : Kern α) (caps : Nat) (a0 s0 a : α) :
    setArc e K ⟨lineCaps e caps, a0, s0⟩ a =
      ⟨lineCaps e caps, a, if caps.testBit Out.s12.bit then K.distOf a else K.nan⟩ := by
  simp only [setArc, genPositionS12, assignsS12_lineCaps h]

/-- every setter call is a `SetDistance` or a `SetArc` -/
theorem step_lineCaps (K : Kern α) (caps : Nat) (a0 s0 : α) (o : Op α) :
    (∃ s, step e K ⟨lineCaps e caps, a0, s0⟩ o =
      ⟨lineCaps e caps, if caps.testBit distanceInBit then K.arcOf s else K.nan, s⟩) ∨
    (∃ a, step e K ⟨lineCaps e caps, a0, s0⟩ o =
      ⟨lineCaps e caps, a, if caps.testBit Out.s12.bit then K.distOf a else K.nan⟩) := by
  cases o with
  | setDistance s => exact .inl ⟨s, setDistance_lineCaps h K caps a0 s0 s⟩
  | setArc a => exact .inr ⟨a, setArc_lineCaps h K caps a0 s0 a⟩
  | genSetDistance am x =>
    cases am
    · exact .inl ⟨x, setDistance_lineCaps h K caps a0 s0 x⟩
    · exact .inr ⟨x, setArc_lineCaps h K caps a0 s0 x⟩

theorem directLine_eq (K : Kern α) (caps : Nat) (s : α) :
    directLine e K caps s = ⟨lineCaps e (caps ||| e.distanceIn), K.arcOf s, s⟩ := by
  show setDistance e K ⟨lineCaps e (caps ||| e.distanceIn), K.nan, K.nan⟩ s = _
  rw [setDistance_lineCaps h, Nat.testBit_or, distanceIn_testBit h, Bool.or_true, if_pos rfl]

theorem arcDirectLine_eq (K : Kern α) (caps : Nat) (a : α) :
    arcDirectLine e K caps a = ⟨lineCaps e caps, a, if caps.testBit Out.s12.bit then K.distOf a else K.nan⟩ :=
  setArc_lineCaps h K caps K.nan K.nan a

theorem inverseLine_eq (K : Kern α) (caps : Nat) (a12 : α) :
    inverseLine e K caps a12 =
      if caps.testBit distanceInBit then ⟨lineCaps e (caps ||| e.distance), a12, K.distOf a12⟩
      else ⟨lineCaps e caps, a12, if caps.testBit Out.s12.bit then K.distOf a12 else K.nan⟩ := by
  show setArc e K ⟨lineCaps e (if (caps &&& (e.outMask &&& e.distanceIn)) != 0 then caps ||| e.distance else caps), K.nan, K.nan⟩ a12 = _
  rw [setArc_lineCaps h, distanceIn_test h]
  cases caps.testBit distanceInBit
  · rfl
  · rw [if_pos rfl, if_pos rfl, Nat.testBit_or, distance_testBit h, Bool.or_true, if_pos rfl]

end Layout

end GeoVerif.LineState
