import GeoVerif.Model.GeodLineExact
import GeoVerif.Proofs.GeodLine
import GeoVerif.Spec.RealInst
import Mathlib.Analysis.SpecialFunctions.Complex.Arg
import Mathlib.Tactic.Ring
import Mathlib.Tactic.Linarith
import Mathlib.Tactic.FieldSimp
import Mathlib.Tactic.NormNum
import Mathlib.Tactic.Positivity
import Mathlib.Tactic.LinearCombination
/-!
# The real reading of `Model/GeodLineExact.lean` (for `Props/C01.lean`, `Props/C03.lean`), and what both lines share:
`atan2` / `copysign` over `ℝ` behind the longitude unrolling, the algebra of the scale formulas, the authalic radius `_c2`.
-/
namespace GeoVerif.Proofs.GeodLineX
open GeoVerif GeoVerif.Clenshaw GeoVerif.GeodLine GeoVerif.GeodLineX GeoVerif.Proofs.GeodLine Real

theorem arcOfX_unit (L : LineX ℝ) (K : Ell ℝ) (arcmode : Bool) (s sk ck : ℝ) (hk : arcmode = true → sk ^ 2 + ck ^ 2 = 1) :
    (arcOfX L K arcmode s sk ck).2.1 ^ 2 + (arcOfX L K arcmode s sk ck).2.2.1 ^ 2 = 1 := by
  cases arcmode with
  | true => exact hk rfl
  | false => exact Real.sin_sq_add_cos_sq _

theorem arcOfX_arc (L : LineX ℝ) (K : Ell ℝ) (x sk ck : ℝ) : arcOfX L K true x sk ck = (x * degree, sk, ck, RealLike.ofNat 0) := rfl

/-- `csig2` before `if (cbet2 == 0) cbet2 = csig2 = tiny_` -/
noncomputable def csig2preX (L : LineX ℝ) (K : Ell ℝ) (arcmode : Bool) (s sk ck : ℝ) : ℝ :=
  L.csig1 * (arcOfX L K arcmode s sk ck).2.2.1 - L.ssig1 * (arcOfX L K arcmode s sk ck).2.1

noncomputable def ssig2ofX (L : LineX ℝ) (K : Ell ℝ) (arcmode : Bool) (s sk ck : ℝ) : ℝ :=
  L.ssig1 * (arcOfX L K arcmode s sk ck).2.2.1 + L.csig1 * (arcOfX L K arcmode s sk ck).2.1

theorem csig2preX_arc (L : LineX ℝ) (K : Ell ℝ) (x sk ck : ℝ) : csig2preX L K true x sk ck = L.csig1 * ck - L.ssig1 * sk := rfl

theorem ssig2ofX_arc (L : LineX ℝ) (K : Ell ℝ) (x sk ck : ℝ) : ssig2ofX L K true x sk ck = L.ssig1 * ck + L.csig1 * sk := rfl

/-- `cbet2 ≠ 0`; it fails only for `salp0 = 0` and `csig2 = 0`: a meridional line arriving exactly at a pole -/
def NonDegenerateX (L : LineX ℝ) (K : Ell ℝ) (arcmode : Bool) (s sk ck : ℝ) : Prop :=
  RealLike.hypot L.salp0 (L.calp0 * csig2preX L K arcmode s sk ck) ≠ 0

theorem genposX_nd (L : LineX ℝ) (K : Ell ℝ) (arcmode : Bool) (s sk ck : ℝ) (un : Bool) (hnd : NonDegenerateX L K arcmode s sk ck) :
    let P := genPositionX L K arcmode s sk ck un
    P.ssig2 = ssig2ofX L K arcmode s sk ck ∧ P.csig2 = csig2preX L K arcmode s sk ck ∧
    P.cbet2 = RealLike.hypot L.salp0 (L.calp0 * csig2preX L K arcmode s sk ck) ∧
    P.calp2 = L.calp0 * csig2preX L K arcmode s sk ck ∧ P.salp2 = L.salp0 ∧ P.sbet2 = L.calp0 * ssig2ofX L K arcmode s sk ck :=
  ⟨rfl, degen_if_neg hnd _ _, degen_if_neg hnd _ _,
    congrArg (L.calp0 * ·) (degen_if_neg hnd _ _), rfl, rfl⟩

/-- the kernel of the sphere (`k2 = 0`), for the non-vacuity examples: `E(φ) = 2 D(φ) = 2 H(φ) = φ` and all periodic parts vanish -/
noncomputable def exEll : Ell ℝ :=
  { Ec := Real.pi / 2, Dc := Real.pi / 4, Hc := Real.pi / 4, deltaE := fun _ _ _ => 0, deltaD := fun _ _ _ => 0, deltaH := fun _ _ _ => 0,
    deltaEinv := fun _ _ => 0, C4a := [] }

/-- the equator of the unit sphere, eastwards from longitude 0 -/
noncomputable def exLineX : LineX ℝ :=
  { f := 0, f1 := 1, e2 := 0, b := 1, c2 := 1, tiny := 1 / 1000, lon1 := 0, salp1 := 1, calp1 := 0, dn1 := 1, salp0 := 1, calp0 := 0,
    ssig1 := 0, csig1 := 1, somg1 := 0, cchi1 := 1, k2 := 0, kp2 := 1, E0 := 1, E1 := 0, stau1 := 0, ctau1 := 1,
    D0 := 1 / 2, D1 := 0, H0 := 1 / 2, H1 := 0, A4 := 0, B41 := 0 }

theorem exLineX_nd (arcmode : Bool) (s sk ck : ℝ) : NonDegenerateX exLineX exEll arcmode s sk ck := by
  unfold NonDegenerateX
  simp [exLineX, hypot_real]

theorem atan2_pos_mul {r y x y' x' : ℝ} (hr : 0 < r) (hy : y' = r * y) (hx : x' = r * x) : RealLike.atan2 y' x' = RealLike.atan2 y x := by
  subst hy hx
  show Complex.arg ⟨r * x, r * y⟩ = Complex.arg ⟨x, y⟩
  have : (⟨r * x, r * y⟩ : ℂ) = (r : ℂ) * ⟨x, y⟩ := by
    apply Complex.ext <;> simp
  rw [this, Complex.arg_real_mul _ hr]

theorem atan2_scale_bound (c s k : ℝ) (hc : 0 < c) (hz : s ≠ 0 ∨ k ≠ 0) :
    |RealLike.atan2 (c * s) k - RealLike.atan2 s k| < Real.pi / 2 := by
  show |Complex.arg ⟨k, c * s⟩ - Complex.arg ⟨k, s⟩| < Real.pi / 2
  rcases eq_or_ne s 0 with rfl | hs
  · simpa using Real.pi_pos
  set z : ℂ := ⟨k, c * s⟩ with hzd
  set w : ℂ := ⟨k, s⟩ with hwd
  have hw0 : w ≠ 0 := fun h => hs (congrArg Complex.im h)
  have hz0 : z ≠ 0 := fun h => mul_ne_zero hc.ne' hs (congrArg Complex.im h)
  -- the quotient has positive real part, so its argument is within a quarter turn
  have hq : 0 < (z / w).re := by
    have hn : 0 < Complex.normSq w := Complex.normSq_pos.mpr hw0
    have hre : (z / w).re = (k ^ 2 + c * s ^ 2) / Complex.normSq w := by
      rw [Complex.div_re, ← add_div]; congr 1; simp only [hzd, hwd]; ring
    have := sq_pos_of_ne_zero hs
    rw [hre]; positivity
  -- both arguments lie strictly on the side of `s`: their difference is the argument of the quotient, not that plus a turn
  have hd : -Real.pi < Complex.arg z - Complex.arg w ∧ Complex.arg z - Complex.arg w < Real.pi := by
    rcases hs.lt_or_gt with h | h
    · have h1 : Complex.arg z < 0 := Complex.arg_neg_iff.mpr (mul_neg_of_pos_of_neg hc h)
      have h2 : Complex.arg w < 0 := Complex.arg_neg_iff.mpr h
      have h3 := Complex.neg_pi_lt_arg z; have h4 := Complex.neg_pi_lt_arg w
      constructor <;> linarith
    · have h1 : 0 ≤ Complex.arg z := Complex.arg_nonneg_iff.mpr (mul_pos hc h).le
      have h2 : 0 ≤ Complex.arg w := Complex.arg_nonneg_iff.mpr h.le
      have h3 : Complex.arg z < Real.pi := Complex.arg_lt_pi_iff.mpr (Or.inr (mul_pos hc h).ne')
      have h4 : Complex.arg w < Real.pi := Complex.arg_lt_pi_iff.mpr (Or.inr h.ne')
      constructor <;> linarith
  have hang : ((Complex.arg z - Complex.arg w : ℝ) : Real.Angle) = (Complex.arg (z / w) : Real.Angle) := by
    rw [Complex.arg_div_coe_angle hz0 hw0]; simp
  have h := congrArg Real.Angle.toReal hang
  rw [Real.Angle.toReal_coe_eq_self_iff.mpr ⟨hd.1, hd.2.le⟩, Complex.arg_coe_angle_toReal_eq_arg] at h
  rw [h]
  exact Complex.abs_arg_lt_pi_div_two_iff.mpr (Or.inl hq)

theorem signNeg_real (x : ℝ) : signNeg x = decide (x < 0) := by
  unfold signNeg
  simp only [ltb_real, eqb_real, lit_real, Nat.cast_zero, Nat.cast_one]
  by_cases h : x < 0
  · simp [h]
  · by_cases h0 : x = 0
    · simp [h0]
    · simp [h, h0]

theorem copysign_real (m x : ℝ) : (copysign m x : ℝ) = if x < 0 then -|m| else |m| := by
  unfold copysign
  rw [signNeg_real]
  simp only [decide_eq_true_eq, abs_real]

theorem copysign_mul_self_pos (x : ℝ) (hx : x ≠ 0) : 0 < copysign 1 x * x := by
  rw [copysign_real, abs_one]
  split_ifs with h
  · linarith
  · have := lt_of_le_of_ne (not_lt.mp h) (Ne.symm hx); linarith

theorem copysign_abs_one (x : ℝ) : |(copysign 1 x : ℝ)| = 1 := by
  rw [copysign_real]; split_ifs <;> simp

/-- **the unrolled longitude difference stays on the continuous branch.**  Both lines code it as
    `E (σ12 − (atan2(s2, c2) − atan2(s1, c1)) + (atan2(a2 s2, c2) − atan2(a1 s1, c1)))` up to positive common factors inside `atan2`, with
    `a_i > 0` and `E = ±1`.  Each scaled direction is within a quarter turn of `(s_i, c_i)` (`atan2_scale_bound`), so the two wrapped
    differences cancel each other's jumps and what is left differs from `E σ12` by less than half a turn — for every `σ12`. -/
theorem unroll_within_half_turn {E σ s1 c1 s2 c2 a1 a2 : ℝ} (hE : |E| = 1) (ha1 : 0 < a1) (ha2 : 0 < a2)
    (h1 : s1 ^ 2 + c1 ^ 2 = 1) (h2 : s2 ^ 2 + c2 ^ 2 = 1) :
    |E * (σ - (RealLike.atan2 s2 c2 - RealLike.atan2 s1 c1) + (RealLike.atan2 (a2 * s2) c2 - RealLike.atan2 (a1 * s1) c1)) - E * σ| < Real.pi := by
  have hz {s c : ℝ} (h : s ^ 2 + c ^ 2 = 1) : s ≠ 0 ∨ c ≠ 0 := by
    by_contra h'; push Not at h'; rw [h'.1, h'.2] at h; norm_num at h
  have b1 := atan2_scale_bound a1 s1 c1 ha1 (hz h1)
  have b2 := atan2_scale_bound a2 s2 c2 ha2 (hz h2)
  rw [show ∀ A1 A2 B1 B2 : ℝ, E * (σ - (A2 - A1) + (B2 - B1)) - E * σ = E * ((B2 - A2) - (B1 - A1)) by intros; ring, abs_mul, hE, one_mul]
  exact lt_of_le_of_lt (abs_sub _ _) (by linarith)

theorem atan2_deg_halfplane (y x : ℝ) (hx : 0 ≤ x) :
    -90 ≤ RealLike.atan2 y x / (degree : ℝ) ∧ RealLike.atan2 y x / (degree : ℝ) ≤ 90 ∧
    (0 ≤ y → 0 ≤ RealLike.atan2 y x / (degree : ℝ)) ∧ (y < 0 → RealLike.atan2 y x / (degree : ℝ) < 0) := by
  have hd := degree_pos
  have h90 : (90 : ℝ) * degree = Real.pi / 2 := by
    unfold degree; simp only [lit_real]; show (90 : ℝ) * (Real.pi / _) = _; push_cast; ring
  have hb : |RealLike.atan2 y x| ≤ Real.pi / 2 := Complex.abs_arg_le_pi_div_two_iff.mpr hx
  rw [abs_le, ← h90] at hb
  refine ⟨by rw [le_div_iff₀ hd]; linarith, by rw [div_le_iff₀ hd]; exact hb.2,
    fun h => div_nonneg (Complex.arg_nonneg_iff.mpr h) hd.le, fun h => div_neg_of_neg_of_pos (Complex.arg_neg_iff.mpr h) hd⟩

noncomputable def E2arc (L : LineX ℝ) (K : Ell ℝ) (sk ck : ℝ) : ℝ :=
  K.deltaE (L.ssig1 * ck + L.csig1 * sk) (L.csig1 * ck - L.ssig1 * sk) (delta L.k2 L.kp2 (L.ssig1 * ck + L.csig1 * sk) (L.csig1 * ck - L.ssig1 * sk))

theorem genPositionX_arc (L : LineX ℝ) (K : Ell ℝ) (x sk ck : ℝ) (un : Bool) :
    genPositionX L K true x sk ck un =
      tailX L K un (x * degree) sk ck (E2arc L K sk ck) (L.b * (L.E0 * (x * degree) + L.E0 * (E2arc L K sk ck - L.E1))) x := by
  rfl

/-- the scaled distance that a kernel defines on a line; for the elliptic integral `τ = E(σ)·(π/2)/E()`, and `b·E0·τ` is the distance
    from the node -/
noncomputable def tauOf (L : LineX ℝ) (K : Ell ℝ) (σ : ℝ) : ℝ := σ + K.deltaE (sin σ) (cos σ) (delta L.k2 L.kp2 (sin σ) (cos σ))

/-- the kernel contract "`Einv` inverts `E`", in the form in which the line uses it -/
def EinvInvertsE (L : LineX ℝ) (K : Ell ℝ) : Prop := ∀ σ : ℝ, K.deltaEinv (sin (tauOf L K σ)) (cos (tauOf L K σ)) = σ - tauOf L K σ

theorem exEll_inverts : EinvInvertsE exLineX exEll := by
  intro σ; simp [tauOf, exEll]

theorem tf_eq (k2 ssig1 dn1 ssig2 dn2 : ℝ) (h1 : dn1 ^ 2 = 1 + k2 * ssig1 ^ 2) (h2 : dn2 ^ 2 = 1 + k2 * ssig2 ^ 2) (hd : dn1 + dn2 ≠ 0) :
    tf k2 ssig1 dn1 ssig2 dn2 = dn2 - dn1 := by
  unfold tf
  rw [div_eq_iff hd]
  linear_combination h1 - h2

structure Pt (k2 : ℝ) (s c d : ℝ) : Prop where
  unit : s ^ 2 + c ^ 2 = 1
  dn : d ^ 2 = 1 + k2 * s ^ 2
  pos : 0 < d

/-- `EllipticFunction::Delta` with the line's `_kp2 = 1 + k2`: its two branches are the same function on the unit circle -/
theorem delta_eq_sqrt (k2 sn cn : ℝ) (hu : sn ^ 2 + cn ^ 2 = 1) : delta k2 (1 + k2) sn cn = Real.sqrt (1 + k2 * sn ^ 2) := by
  unfold delta
  simp only [ltb_real, lit_real, Nat.cast_zero, Nat.cast_one, sqrt_real]
  split_ifs
  · congr 1; ring
  · congr 1; linear_combination (-k2) * hu

theorem M12f_eq (k2 s1 c1 d1 s2 c2 d2 J : ℝ) (h1 : Pt k2 s1 c1 d1) (h2 : Pt k2 s2 c2 d2) :
    M12f k2 s1 d1 s2 c2 d2 (c1 * c2 + s1 * s2) J = c1 * c2 + s1 * s2 + ((d2 - d1) * s2 - c2 * J) * s1 / d1 := by
  unfold M12f
  rw [tf_eq k2 s1 d1 s2 d2 h1.dn h2.dn (by have := h1.pos; have := h2.pos; positivity)]

theorem M21f_eq (k2 s1 c1 d1 s2 c2 d2 J : ℝ) (h1 : Pt k2 s1 c1 d1) (h2 : Pt k2 s2 c2 d2) :
    M21f k2 s1 c1 d1 s2 d2 (c1 * c2 + s1 * s2) J = c1 * c2 + s1 * s2 - ((d2 - d1) * s1 - c1 * J) * s2 / d2 := by
  unfold M21f
  rw [tf_eq k2 s1 d1 s2 d2 h1.dn h2.dn (by have := h1.pos; have := h2.pos; positivity)]

/-- `DST::integral` is `−dstSum x 0` (`Props/C03.lean`, `dstIntegral_eq`) -/
noncomputable def dstSum (x : ℝ) : ℕ → List ℝ → ℝ
  | _, [] => 0
  | k, c :: cs => c / (2 * (k : ℝ) + 1) * cos ((2 * (k : ℝ) + 1) * x) + dstSum x (k + 1) cs

noncomputable def dstW : ℕ → List ℝ → List ℝ
  | _, [] => []
  | k, c :: cs => c / (2 * (k : ℝ) + 1) :: dstW (k + 1) cs

theorem dstW_eq (F : List ℝ) (k : ℕ) :
    ((List.range F.length).map fun i => F.getD i 0 / (RealLike.ofNat (2 * (i + k) + 1) : ℝ)) = dstW k F := by
  induction F generalizing k with
  | nil => simp [dstW]
  | cons c cs ih =>
    rw [List.length_cons, List.range_succ_eq_map, List.map_cons, List.map_map]
    simp only [dstW, List.getD_cons_zero, ofNat_real]
    congr 1
    · push_cast; ring
    · rw [← ih (k + 1)]
      apply List.map_congr_left
      intro i _
      simp only [Function.comp, List.getD_cons_succ, ofNat_real]
      congr 2
      omega

theorem geodesic_c2 (a f tiny eps0 : ℝ) :
    (geodesic a f tiny eps0).c2 = (a ^ 2 + (a * (1 - f)) ^ 2 *
      (if f * (2 - f) = 0 then 1 else eatanhe1 ((if f < 0 then -1 else 1) * Real.sqrt |f * (2 - f)|) / (f * (2 - f)))) / 2 := by
  simp only [geodesic, lit_real, sq_real, eqb_real, ltb_real, sqrt_real, abs_real, decide_eq_true_eq]
  push_cast
  rfl

theorem geodesicX_c2 (a f tiny eps0 : ℝ) :
    (geodesicX a f tiny eps0).c2 = (a ^ 2 + (a * (1 - f)) ^ 2 *
      (if f = 0 then 1 else
        (if 0 < f then Real.arsinh (Real.sqrt (f * (2 - f) / (1 - f) ^ 2)) else RealLike.atan (Real.sqrt (-(f * (2 - f)))))
          / Real.sqrt |f * (2 - f)|)) / 2 := by
  simp only [geodesicX, lit_real, sq_real, eqb_real, ltb_real, sqrt_real, abs_real, decide_eq_true_eq]
  push_cast
  rfl

theorem eatanhe1_pos (es : ℝ) (h : 0 < es) : eatanhe1 es = es * (Real.log ((1 + es) / (1 - es)) / 2) := by
  unfold eatanhe1
  simp only [ltb_real, lit_real, Nat.cast_zero, Nat.cast_one, mul_one, decide_eq_true_eq, if_pos h]
  rfl

/-- `asinh(e/√(1−e²)) = atanh(e)`: the two constructors' `_c2` agree for `f > 0` -/
theorem arsinh_eq_atanh (e : ℝ) (h0 : 0 < e) (h1 : e < 1) :
    Real.arsinh (e / Real.sqrt (1 - e ^ 2)) = Real.log ((1 + e) / (1 - e)) / 2 := by
  have hm : 0 < 1 - e := by linarith
  have hp : 0 < 1 + e := by linarith
  have hq : 0 < 1 - e ^ 2 := by nlinarith
  have hs : 0 < Real.sqrt (1 - e ^ 2) := Real.sqrt_pos.mpr hq
  rw [Real.arsinh]
  have h1x : 1 + (e / Real.sqrt (1 - e ^ 2)) ^ 2 = (1 / Real.sqrt (1 - e ^ 2)) ^ 2 := by
    rw [div_pow, div_pow, Real.sq_sqrt hq.le]; field_simp; ring
  rw [h1x, Real.sqrt_sq (by positivity)]
  have : e / Real.sqrt (1 - e ^ 2) + 1 / Real.sqrt (1 - e ^ 2) = Real.sqrt ((1 + e) / (1 - e)) := by
    rw [← add_div]
    have hfac : 1 - e ^ 2 = (1 + e) * (1 - e) := by ring
    rw [hfac, Real.sqrt_mul hp.le, Real.sqrt_div hp.le]
    have hsp : 0 < Real.sqrt (1 + e) := Real.sqrt_pos.mpr hp
    have hsm : 0 < Real.sqrt (1 - e) := Real.sqrt_pos.mpr hm
    rw [div_eq_div_iff (by positivity) (by positivity)]
    have : (e + 1) = Real.sqrt (1 + e) * Real.sqrt (1 + e) := by rw [Real.mul_self_sqrt hp.le]; ring
    rw [this]; ring
  rw [this, Real.log_sqrt (by positivity)]

end GeoVerif.Proofs.GeodLineX
