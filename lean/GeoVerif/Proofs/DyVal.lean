import GeoVerif.FP.F64
import Mathlib.Tactic.Ring
import Mathlib.Tactic.Linarith
import Mathlib.Tactic.Positivity
import Mathlib.Tactic.FieldSimp
import Mathlib.Algebra.Order.Field.Power
import Mathlib.Data.Rat.Defs
import Mathlib.Algebra.Order.Ring.Rat
/-! The tactic imports are not all used here: this file is the root of the proof modules of the floating-point layer, which
use them throughout. -/
namespace GeoVerif.Dy

def val (x : Dy) : ℚ := (x.m : ℚ) * (2 : ℚ) ^ x.e

theorem two_zpow_pos (e : ℤ) : (0 : ℚ) < (2 : ℚ) ^ e := zpow_pos (by norm_num) e
theorem two_zpow_split (a b : ℤ) : (2:ℚ) ^ (a + b) = (2:ℚ) ^ a * (2:ℚ) ^ b :=
  zpow_add₀ (by norm_num) a b
theorem two_zpow_le {a b : ℤ} (h : a ≤ b) : (2:ℚ) ^ a ≤ (2:ℚ) ^ b :=
  zpow_le_zpow_right₀ (by norm_num) h
theorem two_zpow_lt_iff {a b : ℤ} : (2:ℚ) ^ a < (2:ℚ) ^ b ↔ a < b :=
  zpow_lt_zpow_iff_right₀ (by norm_num)
theorem two_zpow_add_one (k : ℤ) : (2:ℚ) ^ (k + 1) = 2 * (2:ℚ) ^ k := by
  rw [two_zpow_split, zpow_one, mul_comm]
theorem two_zpow_toNat_mul {a b : ℤ} (h : b ≤ a) : (2:ℚ) ^ (a - b).toNat * (2:ℚ) ^ b = (2:ℚ) ^ a := by
  rw [← zpow_natCast, ← two_zpow_split, Int.toNat_of_nonneg (by omega), sub_add_cancel]

theorem two_zpow_of_nonpos {e : ℤ} (h : e ≤ 0) : (2:ℚ) ^ e = ((2:ℚ) ^ (-e).toNat)⁻¹ := by
  rw [← zpow_natCast, Int.toNat_of_nonneg (by omega), zpow_neg, inv_inv]

@[simp] theorem val_neg (x : Dy) : (neg x).val = -x.val := by simp [val, neg]
@[simp] theorem val_mul (x y : Dy) : (mul x y).val = x.val * y.val := by
  simp only [val, mul, Int.cast_mul, two_zpow_split]; ring
@[simp] theorem val_ofInt (n : ℤ) : (ofInt n).val = n := by simp [val, ofInt]

theorem shl_cast (m k : ℤ) (hk : 0 ≤ k) : ((shl m k : ℤ) : ℚ) = (m : ℚ) * (2 : ℚ) ^ k := by
  unfold shl
  rw [Int.cast_mul, Int.cast_pow, Int.cast_ofNat, ← zpow_natCast, Int.toNat_of_nonneg hk]

theorem shl_val (m : ℤ) {e e' : ℤ} (h : e' ≤ e) : ((shl m (e - e') : ℤ) : ℚ) * (2:ℚ) ^ e' = m * (2:ℚ) ^ e := by
  rw [shl_cast _ _ (by omega), mul_assoc, ← two_zpow_split, sub_add_cancel]

@[simp] theorem val_add (x y : Dy) : (add x y).val = x.val + y.val := by
  unfold add
  split
  · rename_i h
    simp only [val, Int.cast_add, add_mul, shl_val _ h]
  · rename_i h
    simp only [val, Int.cast_add, add_mul, shl_val _ (le_of_not_ge h)]

@[simp] theorem val_sub (x y : Dy) : (sub x y).val = x.val - y.val := by
  unfold sub; rw [val_add, val_neg]; ring

theorem abs_val (x : Dy) : |x.val| = (x.m.natAbs : ℚ) * (2:ℚ) ^ x.e := by
  rw [val, abs_mul, abs_of_pos (two_zpow_pos x.e), Nat.cast_natAbs, Int.cast_abs]

theorem val_abs (x : Dy) : (abs x).val = |x.val| := by
  rw [abs_val]; simp [abs, val]

theorem val_nonneg_iff (x : Dy) : 0 ≤ x.val ↔ 0 ≤ x.m := by
  rw [val, mul_nonneg_iff_of_pos_right (two_zpow_pos x.e), Int.cast_nonneg_iff]
theorem m_neg_iff (x : Dy) : x.m < 0 ↔ x.val < 0 := by
  rw [← not_le, ← not_le, val_nonneg_iff]
theorem m_zero_iff (x : Dy) : x.m = 0 ↔ x.val = 0 := by
  rw [val, mul_eq_zero, Int.cast_eq_zero, or_iff_left (two_zpow_pos x.e).ne']
theorem val_of_m_zero (x : Dy) (h : x.m = 0) : x.val = 0 := (m_zero_iff x).mp h
theorem val_nonpos_iff (x : Dy) : x.val ≤ 0 ↔ x.m ≤ 0 := by
  have := val_nonneg_iff (neg x)
  rwa [val_neg, neg_nonneg, show (neg x).m = -x.m from rfl, Int.neg_nonneg] at this

theorem lt_iff (x y : Dy) : lt x y = true ↔ x.val < y.val := by
  unfold lt; rw [decide_eq_true_iff, m_neg_iff, val_sub, sub_neg]
theorem eq_iff (x y : Dy) : eq x y = true ↔ x.val = y.val := by
  unfold eq; rw [decide_eq_true_iff, m_zero_iff, val_sub, sub_eq_zero]
theorem le_iff (x y : Dy) : le x y = true ↔ x.val ≤ y.val := by
  unfold le; rw [decide_eq_true_iff, ← val_nonpos_iff, val_sub, sub_nonpos]

end GeoVerif.Dy
