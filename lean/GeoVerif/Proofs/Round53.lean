import GeoVerif.Proofs.RoundQ
/-!
`Dy.roundTo` / `Dy.round53` satisfy `IsRN` on the value.  Everything here is about the *same* definition the driver
executes (`FP/Dy.lean`): `rneNat`, `tExp`, `bexp` name the sub-terms of its body, and `roundTo_unfold` (by `rfl`) ties
them to it.
-/
namespace GeoVerif.Dy

theorem blen_bounds (a : ℕ) (ha : a ≠ 0) : 2 ^ (blen a - 1) ≤ a ∧ a < 2 ^ blen a ∧ 1 ≤ blen a := by
  unfold blen
  rw [if_neg ha]
  exact ⟨by simpa using Nat.log2_self_le ha, Nat.lt_log2_self, by omega⟩

/-- round-half-even of `a / 2^sh` exactly as coded in `roundTo` -/
def rneNat (a sh : ℕ) : ℕ :=
  let q := a >>> sh
  let r := a - (q <<< sh)
  let half := (1 : ℕ) <<< (sh - 1)
  if r > half ∨ (r = half ∧ q % 2 = 1) then q + 1 else q

theorem rneNat_spec (a sh : ℕ) (hsh : 1 ≤ sh) :
    -(2:ℤ) ^ sh ≤ 2 * (((rneNat a sh : ℕ) : ℤ) * 2 ^ sh - a) ∧
    2 * (((rneNat a sh : ℕ) : ℤ) * 2 ^ sh - a) ≤ (2:ℤ) ^ sh ∧
    ((2 * (((rneNat a sh : ℕ) : ℤ) * 2 ^ sh - a) = (2:ℤ) ^ sh ∨
      2 * (((rneNat a sh : ℕ) : ℤ) * 2 ^ sh - a) = -(2:ℤ) ^ sh) → rneNat a sh % 2 = 0) := by
  unfold rneNat
  simp only [Nat.shiftRight_eq_div_pow, Nat.shiftLeft_eq, Nat.one_mul]
  have hP : (2:ℕ) ^ sh = 2 * 2 ^ (sh - 1) := by
    conv_lhs => rw [show sh = (sh - 1) + 1 by omega]
    rw [Nat.pow_succ]; ring
  have hdm := Nat.div_add_mod a (2 ^ sh)
  have hlt := Nat.mod_lt a (show 0 < 2 ^ sh by positivity)
  have hPz : ((2:ℤ) ^ sh) = ((2 ^ sh : ℕ) : ℤ) := by push_cast; rfl
  rw [hPz]
  generalize 2 ^ (sh - 1) = H at *
  generalize 2 ^ sh = P at *
  generalize a / P = q at *
  generalize a % P = r at *
  have hqP : P * q = q * P := Nat.mul_comm _ _
  generalize hqp : q * P = qP at *
  have hsub : a - qP = r := by omega
  rw [hsub]
  split
  · have : (((q + 1 : ℕ) : ℤ) * (P : ℤ)) = (qP : ℤ) + P := by
      rw [← hqp]; push_cast; ring
    rw [this]
    omega
  · have : (((q : ℕ) : ℤ) * (P : ℤ)) = (qP : ℤ) := by rw [← hqp]; push_cast; rfl
    rw [this]
    omega

/-- exponent of the last kept bit -/
def tExp (p : ℕ) (emin : ℤ) (x : Dy) : ℤ := max (x.e + (blen x.m.natAbs : ℤ) - p) emin

theorem roundTo_zero (p : ℕ) (emin : ℤ) (x : Dy) (hm : x.m = 0) : roundTo p emin x = ⟨0, 0⟩ := by
  unfold roundTo; simp [hm]

theorem roundTo_unfold (p : ℕ) (emin : ℤ) (x : Dy) (hm : x.m ≠ 0) :
    roundTo p emin x = if tExp p emin x ≤ x.e then x else
      ⟨(if x.m < 0 then -((rneNat x.m.natAbs (tExp p emin x - x.e).toNat : ℕ) : ℤ)
        else ((rneNat x.m.natAbs (tExp p emin x - x.e).toNat : ℕ) : ℤ)), tExp p emin x⟩ := by
  unfold roundTo
  dsimp only
  rw [if_neg (by simpa using hm)]
  rfl

theorem roundTo_exact (p : ℕ) (emin : ℤ) (x : Dy) (hm : x.m ≠ 0) (h : tExp p emin x ≤ x.e) :
    roundTo p emin x = x := by
  rw [roundTo_unfold p emin x hm, if_pos h]

theorem roundTo_spec (p : ℕ) (emin : ℤ) (x : Dy) (hm : x.m ≠ 0) :
    ∃ k : ℤ, (roundTo p emin x).val = k * (2:ℚ) ^ tExp p emin x ∧
      2 * |(roundTo p emin x).val - x.val| ≤ (2:ℚ) ^ tExp p emin x ∧
      (2 * |(roundTo p emin x).val - x.val| = (2:ℚ) ^ tExp p emin x → k % 2 = 0) := by
  rw [roundTo_unfold p emin x hm]
  set t := tExp p emin x with ht
  have htp := two_zpow_pos t
  by_cases h : t ≤ x.e
  · rw [if_pos h]
    refine ⟨x.m * 2 ^ (x.e - t).toNat, grid_coarsen x.m h, by simpa using htp.le, ?_⟩
    intro h2; simp at h2; exact absurd h2.symm htp.ne'
  · rw [if_neg h]
    set sh := (t - x.e).toNat with hsh
    set a := x.m.natAbs with ha
    obtain ⟨h1, h2, h3⟩ := rneNat_spec a sh (by omega)
    set q := rneNat a sh with hq
    -- sign `σ`, and the integer error `d = q·2^sh − a`: the difference of the values is `σ·d·2^e`
    set σ : ℤ := if x.m < 0 then -1 else 1 with hσ
    have hσq : (if x.m < 0 then -(q:ℤ) else (q:ℤ)) = σ * q := by rw [hσ]; split <;> simp
    have hσm : x.m = σ * a := by rw [hσ]; split <;> omega
    have hσ1 : |(σ:ℚ)| = 1 := by rw [hσ]; split <;> simp
    have hte : (2:ℚ) ^ t = (2:ℚ) ^ sh * (2:ℚ) ^ x.e := (two_zpow_toNat_mul (le_of_lt (not_le.mp h))).symm
    have hep := two_zpow_pos x.e
    set d : ℤ := (q:ℤ) * 2 ^ sh - a with hd
    have hdabs : |2 * d| ≤ 2 ^ sh := abs_le.mpr ⟨h1, h2⟩
    have e2 : 2 * |(⟨σ * q, t⟩ : Dy).val - x.val| = ((|2 * d| : ℤ) : ℚ) * (2:ℚ) ^ x.e := by
      have e1 : (⟨σ * q, t⟩ : Dy).val - x.val = σ * (d * (2:ℚ) ^ x.e) := by
        rw [val, val, hte, hσm, hd]; push_cast; ring
      rw [e1, abs_mul, abs_mul, hσ1, abs_of_pos hep, Int.cast_abs, Int.cast_mul, abs_mul, Int.cast_ofNat, abs_two]
      ring
    rw [hσq, e2]
    refine ⟨σ * q, by rw [val], ?_, ?_⟩
    · rw [hte]; exact mul_le_mul_of_nonneg_right (by exact_mod_cast hdabs) hep.le
    rw [hte]
    intro heq
    have h4 : |2 * d| = 2 ^ sh := by exact_mod_cast mul_right_cancel₀ hep.ne' heq
    have := h3 ((abs_eq (by positivity)).mp h4)
    rw [hσ]; split <;> omega

theorem roundTo_val_zero (p : ℕ) (emin : ℤ) (x : Dy) (hm : x.m = 0) : (roundTo p emin x).val = 0 := by
  rw [roundTo_zero p emin x hm]; simp [val]

theorem roundTo_neg (p : ℕ) (emin : ℤ) (x : Dy) : roundTo p emin (neg x) = neg (roundTo p emin x) := by
  by_cases hm : x.m = 0
  · rw [roundTo_zero p emin x hm, roundTo_zero p emin (neg x) (by simp [neg, hm])]; rfl
  · have hm' : (neg x).m ≠ 0 := by simp [neg, hm]
    have ht : tExp p emin (neg x) = tExp p emin x := by simp [tExp, neg]
    rw [roundTo_unfold p emin x hm, roundTo_unfold p emin (neg x) hm', ht]
    have he : (neg x).e = x.e := rfl
    have hna : (neg x).m.natAbs = x.m.natAbs := by simp [neg]
    rw [he, hna]
    by_cases h : tExp p emin x ≤ x.e
    · rw [if_pos h, if_pos h]
    · rw [if_neg h, if_neg h]
      have hnm : (neg x).m = - x.m := rfl
      rw [hnm]
      unfold neg
      by_cases h1 : x.m < 0
      · have h2 : ¬ (-x.m < 0) := by omega
        rw [if_pos h1, if_neg h2, Int.neg_neg]
      · have h2 : -x.m < 0 := by omega
        rw [if_neg h1, if_pos h2]

def bexp (x : Dy) : ℤ := x.e + (blen x.m.natAbs : ℤ)

theorem tExp_eq (p : ℕ) (emin : ℤ) (x : Dy) : tExp p emin x = max (bexp x - p) emin := rfl

theorem val_binade (x : Dy) (hm : x.m ≠ 0) :
    (2:ℚ) ^ (bexp x - 1) ≤ |x.val| ∧ |x.val| < (2:ℚ) ^ bexp x := by
  have ha : x.m.natAbs ≠ 0 := by omega
  obtain ⟨h1, h2, h3⟩ := blen_bounds x.m.natAbs ha
  rw [abs_val]
  have hep := two_zpow_pos x.e
  unfold bexp
  constructor
  · have : (2:ℚ) ^ (x.e + (blen x.m.natAbs : ℤ) - 1) = (2:ℚ) ^ (blen x.m.natAbs - 1 : ℕ) * (2:ℚ) ^ x.e := by
      rw [← zpow_natCast, ← two_zpow_split]; congr 1
      push_cast [h3]; ring
    rw [this]
    have h1q : ((2:ℚ) ^ (blen x.m.natAbs - 1 : ℕ)) ≤ (x.m.natAbs : ℚ) := by exact_mod_cast h1
    exact mul_le_mul_of_nonneg_right h1q hep.le
  · have : (2:ℚ) ^ (x.e + (blen x.m.natAbs : ℤ)) = (2:ℚ) ^ (blen x.m.natAbs : ℕ) * (2:ℚ) ^ x.e := by
      rw [← zpow_natCast, ← two_zpow_split]; congr 1; ring
    rw [this]
    have h2q : (x.m.natAbs : ℚ) < ((2:ℚ) ^ (blen x.m.natAbs : ℕ)) := by exact_mod_cast h2
    exact mul_lt_mul_of_pos_right h2q hep

theorem bexp_le_of_lt (x : Dy) (hm : x.m ≠ 0) (n : ℤ) (h : |x.val| < (2:ℚ) ^ n) : bexp x ≤ n := by
  have := (val_binade x hm).1
  have h2 : (2:ℚ) ^ (bexp x - 1) < (2:ℚ) ^ n := lt_of_le_of_lt this h
  have := two_zpow_lt_iff.mp h2
  omega

end GeoVerif.Dy

namespace GeoVerif
open Dy

theorem roundTo_isRN (p : ℕ) (emin : ℤ) (x : Dy) : IsRN p emin x.val (roundTo p emin x).val where
  zero := fun hz => roundTo_val_zero p emin x ((m_zero_iff x).mpr hz)
  nz := fun hz => by
    have hm : x.m ≠ 0 := fun e => hz ((m_zero_iff x).mp e)
    obtain ⟨k, hk⟩ := roundTo_spec p emin x hm
    exact ⟨bexp x, k, (val_binade x hm).1, (val_binade x hm).2, hk⟩

theorem IsRN.eq_roundTo {p : ℕ} (hp : 1 ≤ p) {emin : ℤ} (x : Dy) {r : ℚ} (h : IsRN p emin x.val r) :
    r = (roundTo p emin x).val := IsRN.unique hp h (roundTo_isRN p emin x)

theorem IsRN.self_of_fits {p : ℕ} (hp : 1 ≤ p) {emin : ℤ} (g s : ℤ) (hg : |g| ≤ 2 ^ p) (hs : emin ≤ s) :
    IsRN p emin ((g:ℚ) * (2:ℚ) ^ s) ((g:ℚ) * (2:ℚ) ^ s) := by
  have h := roundTo_isRN p emin ⟨g, s⟩
  rwa [h.eq_self_of_fits hp g s hg hs rfl] at h

namespace Dy

theorem roundTo_halfulp (p : ℕ) (emin : ℤ) (x : Dy) (hm : x.m ≠ 0) :
    |(roundTo p emin x).val - x.val| ≤ (2:ℚ) ^ (tExp p emin x - 1) := by
  obtain ⟨k, _, h2, _⟩ := roundTo_spec p emin x hm
  have := two_zpow_add_one (tExp p emin x - 1)
  rw [sub_add_cancel] at this
  linarith

theorem roundTo_mono (p : ℕ) (hp : 1 ≤ p) (emin : ℤ) (x y : Dy) (h : x.val ≤ y.val) :
    (roundTo p emin x).val ≤ (roundTo p emin y).val :=
  (roundTo_isRN p emin x).mono hp (roundTo_isRN p emin y) h

theorem roundTo_val_of_fits (p : ℕ) (hp : 1 ≤ p) (emin : ℤ) (x : Dy) (g s : ℤ) (hg : |g| ≤ 2 ^ p) (hs : emin ≤ s)
    (h : x.val = g * (2:ℚ) ^ s) : (roundTo p emin x).val = x.val :=
  (roundTo_isRN p emin x).eq_self_of_fits hp g s hg hs h

/-- in value only: the representation is renormalised when the mantissa rounds up to `2^p` -/
theorem roundTo_idem (p : ℕ) (hp : 1 ≤ p) (emin : ℤ) (x : Dy) :
    (roundTo p emin (roundTo p emin x)).val = (roundTo p emin x).val := by
  obtain ⟨k, t, hk, hk2, ht⟩ := (roundTo_isRN p emin x).fits
  exact roundTo_val_of_fits p hp emin _ k t hk2 ht hk

theorem round53_relerr (x : Dy) (hn : (2:ℚ) ^ (-1022 : ℤ) ≤ |x.val|) :
    |(round53 x).val - x.val| ≤ |x.val| * (2:ℚ) ^ (-(53:ℤ)) := by
  refine le_trans (roundTo_isRN 53 (-1074) x).err (max_le (le_refl _) ?_)
  rw [show ((-1074:ℤ) - 1) = -1022 + -(53:ℤ) by norm_num, two_zpow_split]
  exact mul_le_mul_of_nonneg_right hn (two_zpow_pos _).le

theorem round53_int (x : Dy) (n : ℤ) (hn : |n| ≤ 2 ^ 53) (h : x.val = n) : (round53 x).val = n := by
  rw [← h]; exact roundTo_val_of_fits 53 (by norm_num) (-1074) x n 0 hn (by norm_num) (by simpa using h)

/-- the facts about a rounding function of DESIGN.md §2.1 -/
structure RoundSpec (rnd : Dy → Dy) : Prop where
  exact : ∀ (x : Dy) (g s : ℤ), |g| ≤ 2 ^ 53 → -1074 ≤ s → x.val = g * (2:ℚ) ^ s → (rnd x).val = x.val
  mono : ∀ x y : Dy, x.val ≤ y.val → (rnd x).val ≤ (rnd y).val
  relerr : ∀ x : Dy, (2:ℚ) ^ (-1022 : ℤ) ≤ |x.val| → |(rnd x).val - x.val| ≤ |x.val| * (2:ℚ) ^ (-(53:ℤ))
  neg : ∀ x : Dy, (rnd (neg x)).val = -(rnd x).val
  idem : ∀ x : Dy, (rnd (rnd x)).val = (rnd x).val

theorem round53_spec : RoundSpec round53 where
  exact := fun x g s hg hs h => roundTo_val_of_fits 53 (by norm_num) (-1074) x g s hg hs h
  mono := roundTo_mono 53 (by norm_num) (-1074)
  relerr := round53_relerr
  neg := fun x => by rw [round53, roundTo_neg, val_neg]
  idem := roundTo_idem 53 (by norm_num) (-1074)

/-- `2^53 + 1` is a tie and rounds to the even neighbour `2^53 = 2^52·2` -/
example : (round53 ⟨2 ^ 53 + 1, 0⟩).m = 2 ^ 52 ∧ (round53 ⟨2 ^ 53 + 1, 0⟩).e = 1 := by decide +kernel
example : tExp 53 (-1074) ⟨2 ^ 53 + 1, 0⟩ = 1 := by decide +kernel
example : bexp ⟨3, -2⟩ = 0 := by decide +kernel

end Dy
end GeoVerif
