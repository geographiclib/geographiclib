import GeoVerif.Proofs.F64Div
import GeoVerif.Proofs.GeohashScale
import GeoVerif.Model.GridCodes
import Mathlib.Data.Rat.Floor
/-!
# The floating part of `OSGB::GridReference` (one coordinate): tile index, in-tile offset, digit indices

All statements are about `Grid.OSGB.scaleCoord`, the definition the driver executes, over the exact binary64 model.
-/
namespace GeoVerif
open Dy

namespace F64

theorem two_zpow_neg_lt_one {k : ℤ} (hk : k < 0) : (2:ℚ) ^ k < 1 := by
  have : (2:ℚ) ^ k < (2:ℚ) ^ (0:ℤ) := two_zpow_lt_iff.mpr hk
  simpa using this

theorem two_zpow_neg_lt_half {k : ℤ} (hk : k < -1) : (2:ℚ) ^ k < 1 / 2 := by
  have : (2:ℚ) ^ k < (2:ℚ) ^ (-(1:ℤ)) := two_zpow_lt_iff.mpr hk
  simpa using this

theorem two_zpow_neg36 : (2:ℚ) ^ (-(36:ℤ)) = 2 * (2:ℚ) ^ (-(37:ℤ)) := by
  rw [show (-(36:ℤ)) = -37 + 1 by norm_num, two_zpow_add_one]

def OnGrid (v : ℚ) : Prop := ∃ g t : ℤ, t ≤ 0 ∧ -1074 ≤ t ∧ |g| < 2 ^ 53 ∧ v = (g:ℚ) * (2:ℚ) ^ t

theorem int_on_grid (E t : ℤ) (ht : t ≤ 0) : (E:ℚ) = ((E * 2 ^ (-t).toNat : ℤ) : ℚ) * (2:ℚ) ^ t := by
  rw [two_zpow_of_nonpos ht]; push_cast; field_simp

/-- a grid value below an integer `E` stays more than its own rounding error `|v|·2⁻⁵³` away from it -/
theorem grid_gap {v : ℚ} (hv : OnGrid v) (E : ℤ) (h : v < E) : |v| * (2:ℚ) ^ (-(53:ℤ)) < E - v := by
  obtain ⟨g, t, ht, _, hg, rfl⟩ := hv
  have htp := two_zpow_pos t
  have hE := int_on_grid E t ht
  set K := E * 2 ^ (-t).toNat with hK
  rw [hE] at h ⊢
  have hKg : g < K := by
    have := lt_of_mul_lt_mul_right h htp.le
    exact_mod_cast this
  have hKg' : (g:ℚ) + 1 ≤ (K:ℚ) := by exact_mod_cast hKg
  have habs : |(g:ℚ) * (2:ℚ) ^ t| = |(g:ℚ)| * (2:ℚ) ^ t := by rw [abs_mul, abs_of_pos htp]
  rw [habs]
  have hg' : |(g:ℚ)| < 2 ^ 53 := by exact_mod_cast hg
  have e53 : (2:ℚ) ^ (53:ℕ) * (2:ℚ) ^ (-(53:ℤ)) = 1 := by
    rw [← zpow_natCast, ← two_zpow_split]; norm_num
  have h53p := two_zpow_pos (-(53:ℤ))
  have hlt : |(g:ℚ)| * (2:ℚ) ^ (-(53:ℤ)) < 1 := by
    have := mul_lt_mul_of_pos_right hg' h53p
    rw [e53] at this; exact this
  have : |(g:ℚ)| * (2:ℚ) ^ t * (2:ℚ) ^ (-(53:ℤ)) < (2:ℚ) ^ t := by
    have := mul_lt_mul_of_pos_right hlt htp
    linarith
  nlinarith

theorem OnGrid.sub_int {v : ℚ} (hv : OnGrid v) (E : ℤ) (hle : |v - E| ≤ |v|) : OnGrid (v - E) := by
  obtain ⟨g, t, ht, ht', hg, rfl⟩ := hv
  have htp := two_zpow_pos t
  have hE := int_on_grid E t ht
  set K := E * 2 ^ (-t).toNat with hK
  have hd : (g:ℚ) * (2:ℚ) ^ t - E = ((g - K : ℤ) : ℚ) * (2:ℚ) ^ t := by rw [hE]; push_cast; ring
  refine ⟨g - K, t, ht, ht', ?_, hd⟩
  rw [hd, abs_mul, abs_mul, abs_of_pos htp] at hle
  have : |g - K| ≤ |g| := by exact_mod_cast le_of_mul_le_mul_right hle htp
  omega

theorem OnGrid.of_isRN {z r : ℚ} (h : IsRN 53 (-1074) z r) (hr : |r| < 2 ^ 53) : OnGrid r := by
  obtain ⟨k, t, rfl, hk, ht⟩ := h.fits
  rw [abs_mul, abs_of_pos (two_zpow_pos t)] at hr
  rcases lt_or_ge 0 t with ht0 | ht0
  · -- an integer below `2^53`
    have e : (k:ℚ) * (2:ℚ) ^ t = ((k * 2 ^ t.toNat : ℤ) : ℚ) := by
      push_cast; rw [← zpow_natCast, Int.toNat_of_nonneg ht0.le]
    refine ⟨k * 2 ^ t.toNat, 0, le_refl _, by norm_num, ?_, by rw [e, zpow_zero, mul_one]⟩
    have : |((k * 2 ^ t.toNat : ℤ) : ℚ)| < ((2 ^ 53 : ℤ) : ℚ) := by
      rw [← e, abs_mul, abs_of_pos (two_zpow_pos t)]; exact_mod_cast hr
    exact_mod_cast this
  · rcases lt_or_eq_of_le hk with hk' | hk'
    · exact ⟨k, t, ht0, ht, hk', rfl⟩
    · -- `|k| = 2^53`: then `t < 0`, and `k·2^t = (k/2)·2^(t+1)`
      have hkq : |(k:ℚ)| = 2 ^ 53 := by exact_mod_cast hk'
      have ht1 : t ≠ 0 := by
        rintro rfl; rw [zpow_zero, mul_one, hkq] at hr; exact lt_irrefl _ hr
      have h2 : k = 2 * (k / 2) := by
        rcases abs_eq (by norm_num : (0:ℤ) ≤ 2 ^ 53) |>.mp hk' with h | h <;> omega
      refine ⟨k / 2, t + 1, by omega, by omega, ?_, ?_⟩
      · rw [abs_lt]; rw [abs_le] at hk; constructor <;> omega
      · rw [two_zpow_add_one]
        have : (k:ℚ) = 2 * ((k / 2 : ℤ) : ℚ) := by exact_mod_cast h2
        rw [this]; ring
theorem hasVal_sub_int {a b : F64} {v : ℚ} {E : ℤ} (ha : HasVal a v) (hg : OnGrid v) (hb : HasVal b E)
    (hle : |v - E| ≤ |v|) (hsmall : |v| ≤ 2 ^ 52) : HasVal (a - b) (v - E) ∧ OnGrid (v - E) := by
  obtain ⟨g, t, _, ht', hgb, hd⟩ := hg.sub_int E hle
  exact ⟨(hasVal_sub_rn ha hb).exact g t hgb.le ht' hd (le_trans hle hsmall), hg.sub_int E hle⟩

/-- **division by an integer, then `floor`, on a grid value**: with `n = ⌊v/d⌋` and `|v/d| ≤ 2^52` the coded index
`⌊rnd(a/d)⌋` is `n`, except when the quotient underflows to `−0`: then `n = −1`, `v < 0`, the code gives `0`.
(Between `v/d` and the next integer lies more than the relative rounding error, by `grid_gap`; so a quotient rounded up
to an integer is within `2^(−1075)` of it, and that integer can only be `0`.) -/
theorem divFloor_underflow {a : F64} {v : ℚ} (ha : HasVal a v) (hg : OnGrid v) (d : ℕ) (hd : 0 < d) (n : ℤ)
    (hz : |v / d| ≤ 2 ^ 52) (h1 : (n:ℚ) ≤ v / d) (h2 : v / d < (n:ℚ) + 1) :
    (a / F64.fin false d 0).isFinite = true ∧
    (divFloorCoded a (F64.fin false d 0) = n ∨
      (n = -1 ∧ v < 0 ∧ divFloorCoded a (F64.fin false d 0) = 0 ∧ (a / F64.fin false d 0).val = 0 ∧
        -(v / d) ≤ (2:ℚ) ^ (-(1075:ℤ)))) := by
  have hdq : (0:ℚ) < d := by exact_mod_cast hd
  obtain ⟨hf, _, hc⟩ := divFloor_cellRel ha (hasVal_nat d) hdq.ne' n hz h1 h2
  refine ⟨hf, ?_⟩
  rcases hc with h | ⟨h, hr, hb⟩
  · exact Or.inl h
  right
  have hE : v < (((n + 1) * d : ℤ) : ℚ) := by
    push_cast
    have := (div_lt_iff₀ hdq).mp h2
    linarith
  have gap := grid_gap hg ((n + 1) * d) hE
  push_cast at gap
  have gap2 : |v / d| * (2:ℚ) ^ (-(53:ℤ)) < (n:ℚ) + 1 - v / d := by
    rw [abs_div, abs_of_pos hdq, div_mul_eq_mul_div, div_lt_iff₀ hdq]
    have : ((n:ℚ) + 1 - v / d) * d = ((n:ℚ) + 1) * d - v := by field_simp
    rw [this]; exact gap
  have hU : (n:ℚ) + 1 - v / d ≤ (2:ℚ) ^ (-(1075:ℤ)) := by
    rcases le_max_iff.mp hb with h' | h'
    · exact absurd h' (not_le.mpr gap2)
    · exact h'
  -- `|v/d|·2^(−53) < 2^(−1075)` forces `|v/d| < 1/2`, and then `n + 1` is within `1/2` of `v/d` and of `0`
  have hn : n = -1 := by
    have hC := two_zpow_neg_lt_half (k := -1075) (by norm_num)
    have h54 : (2:ℚ) ^ (-(1075:ℤ)) < 1 / 2 * (2:ℚ) ^ (-(53:ℤ)) := by
      have : (2:ℚ) ^ (-(1075:ℤ)) < (2:ℚ) ^ (-(54:ℤ)) := two_zpow_lt_iff.mpr (by norm_num)
      rwa [show (-(54:ℤ)) = -1 + -53 by norm_num, two_zpow_split, show (2:ℚ) ^ (-1:ℤ) = 1 / 2 by norm_num] at this
    have h53p := two_zpow_pos (-(53:ℤ))
    generalize (2:ℚ) ^ (-(53:ℤ)) = A at *
    generalize (2:ℚ) ^ (-(1075:ℤ)) = C at *
    generalize v / (d:ℚ) = z at *
    have hzs : |z| < 1 / 2 := by
      by_contra hc
      have : 1 / 2 * A ≤ |z| * A := mul_le_mul_of_nonneg_right (not_lt.mp hc) h53p.le
      linarith
    have hzb := abs_lt.mp hzs
    have a1 : (n:ℚ) < ((0:ℤ):ℚ) := by push_cast; linarith
    have a2 : ((-2:ℤ):ℚ) < (n:ℚ) := by push_cast; linarith
    have a1' : n < 0 := by exact_mod_cast a1
    have a2' : (-2:ℤ) < n := by exact_mod_cast a2
    omega
  subst hn
  push_cast at h2 hU
  have hz0 : v / d < 0 := by linarith
  refine ⟨rfl, ?_, by rw [h]; norm_num, by rw [hr]; norm_num, by linarith⟩
  have := (div_lt_iff₀ hdq).mp hz0
  linarith

/-- as `divFloor_underflow`, with the underflow case described by `(n+1) − v/d ≤ 2^(−1075)` -/
theorem divFloor_nosliver {a : F64} {v : ℚ} (ha : HasVal a v) (hg : OnGrid v) (d : ℕ) (hd : 0 < d) (n : ℤ)
    (hz : |v / d| ≤ 2 ^ 52) (h1 : (n:ℚ) ≤ v / d) (h2 : v / d < (n:ℚ) + 1) :
    (a / F64.fin false d 0).isFinite = true ∧
    (divFloorCoded a (F64.fin false d 0) = n ∨
      (divFloorCoded a (F64.fin false d 0) = n + 1 ∧ (a / F64.fin false d 0).val = (n:ℚ) + 1 ∧
        (n:ℚ) + 1 - v / d ≤ (2:ℚ) ^ (-(1075:ℤ)))) := by
  obtain ⟨hf, hc⟩ := divFloor_underflow ha hg d hd n hz h1 h2
  refine ⟨hf, ?_⟩
  rcases hc with h | ⟨rfl, _, h0, hv0, hU⟩
  · exact Or.inl h
  · exact Or.inr ⟨by rw [h0]; norm_num, by rw [hv0]; norm_num, by push_cast; linarith⟩

end F64

namespace OSGBScale
open F64 Grid Grid.OSGB Gen.Grid

theorem tile_eq : F64.ofInt osgb_tile = F64.fin false 100000 0 := rfl
theorem pow10_eq (k : ℕ) : pow10 k = F64.fin false (10 ^ k) 0 := by
  have : ((osgb_base : ℤ) ^ k) = ((10 ^ k : ℕ) : ℤ) := by simp [osgb_base]
  rw [pow10, this, F64.ofInt_fin]
  simp
theorem fl_eq (a b : F64) : fl (a / b) = divFloorCoded a b := rfl

theorem tile_floor {x : F64} {v : ℚ} (hx : HasVal x v) (hg : OnGrid v) (hb : |v| ≤ 10 ^ 7) (n : ℤ)
    (h1 : (n:ℚ) ≤ v / 100000) (h2 : v / 100000 < (n:ℚ) + 1) :
    fl (x / F64.ofInt osgb_tile) = n ∨
      (n = -1 ∧ v < 0 ∧ fl (x / F64.ofInt osgb_tile) = 0 ∧ -(v / 100000) ≤ (2:ℚ) ^ (-(1075:ℤ))) := by
  rw [tile_eq, fl_eq]
  have hz : |v / ((100000:ℕ):ℚ)| ≤ 2 ^ 52 := by
    rw [abs_div, abs_of_pos (by norm_num : (0:ℚ) < ((100000:ℕ):ℚ)), div_le_iff₀ (by norm_num)]
    have : (10:ℚ) ^ 7 ≤ 2 ^ 52 * ((100000:ℕ):ℚ) := by norm_num
    linarith
  obtain ⟨_, hc⟩ := divFloor_underflow hx hg 100000 (by norm_num) n hz (by push_cast; exact h1) (by push_cast; exact h2)
  rcases hc with h | ⟨hn, hv, h, _, hU⟩
  · exact Or.inl h
  · exact Or.inr ⟨hn, hv, h, by push_cast at hU; exact hU⟩

theorem hasVal_tile : HasVal (F64.ofInt osgb_tile) (100000:ℚ) := by
  simpa [osgb_tile] using hasVal_ofInt osgb_tile

theorem hasVal_tile_mul (h : ℤ) (hh : |h| ≤ 1000) : HasVal (F64.ofInt osgb_tile * F64.ofInt h) ((100000 * h : ℤ) : ℚ) :=
  (hasVal_mul_rn hasVal_tile (hasVal_ofInt h)).exact_int (100000 * h)
    (by have hb := abs_le.mp hh; rw [abs_le]; constructor <;> omega) (by push_cast; ring)

/-- the clamp `if (xf < 0) xf = 0` in terms of the value of the difference -/
theorem offset_eq {x : F64} {h : ℤ} {d : ℚ} (hd : HasVal (x - F64.ofInt osgb_tile * F64.ofInt h) d) :
    offset x h = if d < 0 then 0 else x - F64.ofInt osgb_tile * F64.ofInt h := by
  unfold offset
  simp only [lt_of_hasVal hd hasVal_zero]

/-- **in-tile offset, exact case**: `x − tile·h` is computed without rounding whenever the result is not larger than `|x|`
(every tile except `−1`, and tile `−1` for `x ≤ −50 km`) -/
theorem offset_exact {x : F64} {v : ℚ} (hx : HasVal x v) (hg : OnGrid v) (h : ℤ) (hh : |h| ≤ 1000)
    (t0 : 0 ≤ v - 100000 * (h:ℚ)) (hsm : |v - 100000 * (h:ℚ)| ≤ |v|) (hb : |v| ≤ 10 ^ 7) :
    HasVal (offset x h) (v - 100000 * (h:ℚ)) ∧ OnGrid (v - 100000 * (h:ℚ)) := by
  have hcast : ((100000 * h : ℤ) : ℚ) = 100000 * (h:ℚ) := by push_cast; ring
  have hsub := hasVal_sub_int hx hg (hasVal_tile_mul h hh) (by rw [hcast]; exact hsm) (le_trans hb (by norm_num))
  rw [hcast] at hsub
  rw [offset_eq hsub.1, if_neg (not_lt.mpr t0)]
  exact hsub

theorem offset_rounded {x : F64} {v : ℚ} (hx : HasVal x v) (hv1 : -50000 < v) (hv2 : v < 0) :
    ∃ r : ℚ, IsRN 53 (-1074) (v + 100000) r ∧ HasVal (offset x (-1)) r ∧ 50000 ≤ r ∧ r ≤ 100000 ∧ OnGrid r ∧
      |r - (v + 100000)| ≤ (2:ℚ) ^ (-(37:ℤ)) := by
  have ez : v - ((100000 * (-1) : ℤ) : ℚ) = v + 100000 := by push_cast; ring
  obtain ⟨r, hr, hsub⟩ := (hasVal_sub_rn hx (hasVal_tile_mul (-1) (by norm_num))).small
    (by rw [ez, abs_le]; constructor <;> norm_num <;> linarith)
  rw [ez] at hr
  have r1 := hr.int_le 50000 (by norm_num) (by push_cast; linarith)
  have r2 := hr.le_int 100000 (by norm_num) (by push_cast; linarith)
  push_cast at r1 r2
  have habsz : |v + 100000| = v + 100000 := abs_of_pos (by linarith)
  -- error bound: |z| < 2^17
  have herr : |r - (v + 100000)| ≤ (2:ℚ) ^ (-(37:ℤ)) := by
    have := hr.abserr 17 (by rw [habsz]; norm_num; linarith)
    rw [show max ((17:ℤ) - (53:ℕ)) (-1074) = -36 by norm_num, two_zpow_neg36] at this
    linarith
  have hgrid : OnGrid r := OnGrid.of_isRN hr (by rw [abs_of_nonneg (by linarith)]; exact lt_of_le_of_lt r2 (by norm_num))
  refine ⟨r, hr, ?_, r1, r2, hgrid, herr⟩
  rw [offset_eq hsub, if_neg (by linarith)]
  exact hsub

/-- for a non-negative grid value the division step is exact (the underflow class needs a negative dividend) -/
theorem divFloor_nonneg {a : F64} {v : ℚ} (ha : HasVal a v) (hg : OnGrid v) (hv0 : 0 ≤ v) (d : ℕ) (hd : 0 < d) (n : ℤ)
    (hz : |v / d| ≤ 2 ^ 52) (h1 : (n:ℚ) ≤ v / d) (h2 : v / d < (n:ℚ) + 1) :
    (a / F64.fin false d 0).isFinite = true ∧ divFloorCoded a (F64.fin false d 0) = n := by
  obtain ⟨hf, hc⟩ := divFloor_underflow ha hg d hd n hz h1 h2
  exact ⟨hf, hc.resolve_right (fun h => absurd hv0 (not_le.mpr h.2.1))⟩

theorem digits_coarse {xf : F64} {t : ℚ} (hx : HasVal xf t) (hg : OnGrid t) (t0 : 0 ≤ t) (t1 : t ≤ 100000) (k : ℕ)
    (n : ℤ) (h1 : (n:ℚ) * 10 ^ k ≤ t) (h2 : t < ((n:ℚ) + 1) * 10 ^ k) :
    fl (xf / pow10 k) = n := by
  rw [pow10_eq, fl_eq]
  have hpos : (0:ℚ) < ((10 ^ k : ℕ) : ℚ) := by positivity
  have hge1 : (1:ℚ) ≤ ((10 ^ k : ℕ) : ℚ) := by
    have : 1 ≤ 10 ^ k := Nat.one_le_pow _ _ (by norm_num)
    exact_mod_cast this
  have hz : |t / ((10 ^ k : ℕ) : ℚ)| ≤ 2 ^ 52 := by
    rw [abs_div, abs_of_pos hpos, abs_of_nonneg t0, div_le_iff₀ hpos]
    have : (100000:ℚ) ≤ 2 ^ 52 := by norm_num
    nlinarith
  exact (divFloor_nonneg hx hg t0 (10 ^ k) (by positivity) n hz
    (by rw [le_div_iff₀ hpos]; push_cast; exact h1) (by rw [div_lt_iff₀ hpos]; push_cast; exact h2)).2

/-- **digits beyond 1 m (`p > 5`)**: `⌊xf⌋` is exact, the fractional part `xf − ⌊xf⌋` is exact, and the remaining
`j = p − 5` digits come from one rounded multiplication `frac·10^j` followed by `floor` (relation `CellRelQ`: class F2) -/
theorem digits_fine {xf : F64} {t : ℚ} (hx : HasVal xf t) (hg : OnGrid t) (t0 : 0 ≤ t) (t1 : t ≤ 100000) (j : ℕ) (hj : j ≤ 6)
    (n : ℤ) (h1 : (n:ℚ) ≤ t) (h2 : t < (n:ℚ) + 1) (c : ℤ) (c1 : (c:ℚ) ≤ (t - n) * 10 ^ j) (c2 : (t - n) * 10 ^ j < (c:ℚ) + 1) :
    fl (xf / pow10 0) = n ∧
    CellRelQ ((t - n) * 10 ^ j) ((xf - F64.floor (xf / pow10 0)) * pow10 j).val c (fl ((xf - F64.floor (xf / pow10 0)) * pow10 j)) := by
  have hts : |t| ≤ 2 ^ 52 := by
    rw [abs_of_nonneg t0]; exact le_trans t1 (by norm_num)
  rw [show pow10 0 = F64.fin false 1 0 from pow10_eq 0]
  -- xf / 1 = xf exactly
  have hq : HasVal (xf / F64.fin false 1 0) t := by
    obtain ⟨g, tt, _, ht', hgb, hv⟩ := hg
    have := (hasVal_div_rn hx (hasVal_nat 1) (by norm_num)).exact g tt hgb.le ht'
      (by rw [Nat.cast_one, div_one]; exact hv) (by rw [Nat.cast_one, div_one]; exact hts)
    rwa [Nat.cast_one, div_one] at this
  obtain ⟨hfl, hfln⟩ := hasVal_floor hq n h1 h2
  refine ⟨hfln, ?_⟩
  have hn0 : (0:ℚ) ≤ (n:ℚ) := by
    have := (floor_bounds h1 h2 0 0).1 (by push_cast; exact t0)
    exact_mod_cast this
  have hfrac : HasVal (xf - F64.floor (xf / F64.fin false 1 0)) (t - (n:ℚ)) :=
    (hasVal_sub_int hx hg hfl (by rw [abs_of_nonneg (by linarith), abs_of_nonneg t0]; linarith) hts).1
  rw [pow10_eq j]
  have hprod : |(t - (n:ℚ)) * ((10 ^ j : ℕ) : ℚ)| ≤ 2 ^ 52 := by
    push_cast
    rw [abs_of_nonneg (mul_nonneg (by linarith) (by positivity))]
    have h6 : (10:ℚ) ^ j ≤ 10 ^ 6 := pow_le_pow_right₀ (by norm_num) hj
    have : (t - (n:ℚ)) * (10:ℚ) ^ j ≤ 1 * (10:ℚ) ^ j := mul_le_mul_of_nonneg_right (by linarith) (by positivity)
    have h52 : (10:ℚ) ^ 6 ≤ 2 ^ 52 := by norm_num
    linarith
  have hc := mulFloor_cellRel hfrac.1 (hasVal_nat (10 ^ j)).1 (by rw [hfrac.2, (hasVal_nat (10 ^ j)).2]; exact hprod)
  rw [hfrac.2, (hasVal_nat (10 ^ j)).2] at hc
  push_cast at hc
  obtain ⟨⟨f1, f2⟩, hcr⟩ := hc
  -- `c` and the exact index are both `⌊(t − n)·10^j⌋`
  have hn : mulFloorExact (xf - F64.floor (xf / F64.fin false 1 0)) (F64.fin false (10 ^ j) 0) = c :=
    le_antisymm ((floor_bounds c1 c2 _ 0).1 f1) ((floor_bounds f1 f2 c 0).1 c1)
  rw [hn] at hcr
  exact ⟨⟨c1, c2⟩, hcr⟩

/-- every double of magnitude `< 2^53` that is not an integer multiple of 2 has such a representation; `F64.ofBits` produces
it for `|x| < 2^53` -/
theorem onGrid_fin (s : Bool) (m : ℕ) (e : ℤ) (hm : m < 2 ^ 53) (he1 : -1074 ≤ e) (he0 : e ≤ 0) : OnGrid (F64.fin s m e).val := by
  refine ⟨if s then -(m:ℤ) else m, e, he0, he1, ?_, ?_⟩
  · cases s <;> simp <;> exact_mod_cast hm
  · rw [val_fin]; cases s <;> simp

/-- how the computed in-tile offset `t'` relates to the exact one `x − 10^5·n`: equal (every tile except `−1`, and tile
`−1` for `x ≤ −50 km`), or — only in tile `−1` for `−50 km < x < 0` — the correctly rounded sum `x + 10^5`
(error `≤ 2^(−37)` m) -/
def OffsetRel (v : ℚ) (n : ℤ) (t' : ℚ) : Prop :=
  (t' = v - 100000 * (n:ℚ) ∧ (n ≠ -1 ∨ v ≤ -50000)) ∨
  (n = -1 ∧ -50000 < v ∧ IsRN 53 (-1074) (v + 100000) t' ∧ |t' - (v + 100000)| ≤ (2:ℚ) ^ (-(37:ℤ)))

def DigitRel (t' : ℚ) (p : ℕ) (i1 i2 : ℤ) (prodVal : ℚ) : Prop :=
  (p ≤ 5 → i1 = ⌊t' / 10 ^ (5 - p)⌋ ∧ i2 = 0) ∧
  (5 < p → i1 = ⌊t'⌋ ∧ CellRelQ ((t' - ⌊t'⌋) * 10 ^ (p - 5)) prodVal ⌊(t' - ⌊t'⌋) * 10 ^ (p - 5)⌋ i2)

def scOf (c : F64 × ℤ) (p : ℕ) : Sc :=
  ⟨c.2, fl (c.1 / pow10 (5 - p)), if p > 5 then fl ((c.1 - F64.floor (c.1 / pow10 (5 - p))) * pow10 (p - 5)) else 0⟩

theorem scaleCoord_eq (x : F64) (p : ℕ) :
    scaleCoord x p = scOf (carry (offset x (fl (x / F64.ofInt osgb_tile))) (fl (x / F64.ofInt osgb_tile))) p := rfl

theorem zero_digits : ∀ p < 12, (scOf (0, 0) p).i1 = 0 ∧ (scOf (0, 0) p).i2 = 0 := by decide +kernel

theorem scOf_zero (h : ℤ) (p : ℕ) (hp : p ≤ 11) : scOf (0, h) p = ⟨h, 0, 0⟩ := by
  obtain ⟨z1, z2⟩ := zero_digits p (by omega)
  show (⟨h, (scOf (0, 0) p).i1, (scOf (0, 0) p).i2⟩ : Sc) = _
  rw [z1, z2]

/-- the carry `if (xf >= tile_) { xf = 0; ++xh; }` -/
theorem carry_lt {xf : F64} {t : ℚ} (hx : HasVal xf t) (h : t < 100000) (n : ℤ) : carry xf n = (xf, n) := by
  unfold carry
  have : F64.ge xf (F64.ofInt osgb_tile) = false := by
    rw [Bool.eq_false_iff]
    intro hc
    have := (le_of_hasVal hasVal_tile hx).mp hc
    linarith
  rw [this]; rfl

theorem carry_ge {xf : F64} {t : ℚ} (hx : HasVal xf t) (h : 100000 ≤ t) (n : ℤ) : carry xf n = (0, n + 1) := by
  unfold carry
  have : F64.ge xf (F64.ofInt osgb_tile) = true := (le_of_hasVal hasVal_tile hx).mpr h
  rw [this]; rfl

theorem digits_of_offset {xf : F64} {t : ℚ} (hx : HasVal xf t) (hg : OnGrid t) (t0 : 0 ≤ t) (t1 : t ≤ 100000) (h : ℤ)
    (p : ℕ) (hp : p ≤ 11) :
    DigitRel t p (scOf (xf, h) p).i1 (scOf (xf, h) p).i2 ((xf - F64.floor (xf / pow10 (5 - p))) * pow10 (p - 5)).val := by
  constructor
  · intro h5
    have hk : (0:ℚ) < (10:ℚ) ^ (5 - p) := by positivity
    refine ⟨?_, if_neg (by omega)⟩
    apply digits_coarse hx hg t0 t1 (5 - p)
    · exact (le_div_iff₀ hk).mp (Int.floor_le (t / 10 ^ (5 - p)))
    · exact (div_lt_iff₀ hk).mp (Int.lt_floor_add_one (t / 10 ^ (5 - p)))
  · intro h5
    have e0 : 5 - p = 0 := by omega
    show fl (xf / pow10 (5 - p)) = _ ∧ CellRelQ _ _ _ (if p > 5 then _ else 0)
    rw [e0, if_pos h5]
    exact digits_fine hx hg t0 t1 (p - 5) (by omega) ⌊t⌋ (Int.floor_le t) (Int.lt_floor_add_one t)
      ⌊(t - ⌊t⌋) * 10 ^ (p - 5)⌋ (Int.floor_le _) (Int.lt_floor_add_one _)

/-- `Props.C18.osgb_scale_spec` for any finite `x` whose value is on the grid -/
theorem scaleCoord_spec_val {x : F64} {v : ℚ} (hx : HasVal x v) (hg : OnGrid v) (p : ℕ) (hp : p ≤ 11)
    (hb : |v| ≤ 10 ^ 7) (n : ℤ) (hn1 : (n:ℚ) ≤ v / 100000) (hn2 : v / 100000 < (n:ℚ) + 1) :
    let sc := scaleCoord x p
    (n = -1 ∧ (-(v / 100000) ≤ (2:ℚ) ^ (-(1075:ℤ)) ∨
        (-(2:ℚ) ^ (-(37:ℤ)) ≤ v ∧ IsRN 53 (-1074) (v + 100000) 100000)) ∧ sc = ⟨0, 0, 0⟩) ∨
    (sc.h = n ∧ ∃ t' : ℚ, OffsetRel v n t' ∧ 0 ≤ t' ∧ t' < 100000 ∧
      ∃ pv : ℚ, DigitRel t' p sc.i1 sc.i2 pv) := by
  intro sc
  have hbb := abs_le.mp hb
  have hv1 := (le_div_iff₀ (by norm_num : (0:ℚ) < 100000)).mp hn1
  have hv2 := (div_lt_iff₀ (by norm_num : (0:ℚ) < 100000)).mp hn2
  have hnb : |n| ≤ 1000 := by
    have a := (floor_bounds hn1 hn2 (-100) 0).1 (by rw [le_div_iff₀ (by norm_num)]; norm_num at hbb ⊢; linarith)
    have b := (floor_bounds hn1 hn2 0 101).2 (by rw [div_lt_iff₀ (by norm_num)]; norm_num at hbb ⊢; linarith)
    rw [abs_le]; constructor <;> omega
  have ht0 : 0 ≤ v - 100000 * (n:ℚ) := by linarith
  have ht1 : v - 100000 * (n:ℚ) < 100000 := by linarith
  have hsc : sc = scaleCoord x p := rfl
  rw [scaleCoord_eq] at hsc
  rcases tile_floor hx hg hb n hn1 hn2 with htile | ⟨hnm1, hv0, htile, hU⟩
  · -- regular tile index
    rw [htile] at hsc
    have hoff : ∃ t' : ℚ, OffsetRel v n t' ∧ 0 ≤ t' ∧ t' ≤ 100000 ∧ HasVal (offset x n) t' ∧ OnGrid t' := by
      by_cases hcase : n ≠ -1 ∨ v ≤ -50000
      · -- the exact offset is not larger than `|v|`
        have hsm : |v - 100000 * (n:ℚ)| ≤ |v| := by
          rw [abs_of_nonneg ht0]
          rcases (by omega : 0 ≤ n ∨ n = -1 ∨ n ≤ -2) with h0 | h1 | h2
          · have : (0:ℚ) ≤ (n:ℚ) := by exact_mod_cast h0
            rw [abs_of_nonneg (by linarith)]; linarith
          · have hle : v ≤ -50000 := hcase.resolve_left (not_not.mpr h1)
            have : (n:ℚ) = -1 := by exact_mod_cast h1
            rw [abs_of_neg (by linarith)]; linarith
          · have : (n:ℚ) ≤ -2 := by exact_mod_cast h2
            rw [abs_of_neg (by linarith)]; linarith
        obtain ⟨h1, h2⟩ := offset_exact hx hg n hnb ht0 hsm hb
        exact ⟨_, Or.inl ⟨rfl, hcase⟩, ht0, le_of_lt ht1, h1, h2⟩
      · rw [not_or, not_not, not_le] at hcase
        obtain ⟨hn, hv1'⟩ := hcase
        subst hn
        push_cast at hv2
        obtain ⟨r, hr, hval, r1, r2, hgr, herr⟩ := offset_rounded hx hv1' (by linarith)
        exact ⟨r, Or.inr ⟨rfl, hv1', hr, herr⟩, by linarith, r2, hval, hgr⟩
    obtain ⟨t', hrel, t0', t1', hval, hgr⟩ := hoff
    by_cases hlt : t' < 100000
    · -- no carry
      right
      rw [carry_lt hval hlt n] at hsc
      rw [hsc]
      exact ⟨rfl, t', hrel, t0', hlt, _, digits_of_offset hval hgr t0' t1' n p hp⟩
    · -- the rounded offset is the tile size: carry into the next tile
      left
      have ht : t' = 100000 := le_antisymm t1' (not_lt.mp hlt)
      rw [carry_ge hval (not_lt.mp hlt) n] at hsc
      rcases hrel with ⟨he, _⟩ | ⟨hn, _, hr, herr⟩
      · exfalso; rw [ht] at he; linarith
      · rw [ht] at hr herr
        have hv37 : -(2:ℚ) ^ (-(37:ℤ)) ≤ v := by
          have := (abs_le.mp herr).2
          linarith
        refine ⟨hn, Or.inr ⟨hv37, hr⟩, ?_⟩
        rw [hsc, hn]
        exact scOf_zero ((-1:ℤ) + 1) p hp
  · -- the quotient underflowed to `−0`: coded tile 0, and the negative offset `x − 0` is clamped to 0
    left
    have hsub := (hasVal_sub_int hx hg (hasVal_tile_mul 0 (by norm_num)) (by simp) (le_trans hb (by norm_num))).1
    have hoff : offset x 0 = 0 := by
      rw [offset_eq hsub, if_pos (by push_cast; linarith)]
    rw [htile, hoff, carry_lt hasVal_zero (by norm_num) 0] at hsc
    exact ⟨hnm1, Or.inl hU, by rw [hsc]; exact scOf_zero 0 p hp⟩

/-- `hreg`: away from the sliver `−1/2 < x < 0` -/
theorem scaleCoord_le5 {x : F64} {v : ℚ} (hx : HasVal x v) (hg : OnGrid v) (p : ℕ) (hp : p ≤ 5)
    (hb : |v| ≤ 10 ^ 7) (n : ℤ) (hn1 : (n:ℚ) ≤ v / 100000) (hn2 : v / 100000 < (n:ℚ) + 1) (hreg : n ≠ -1 ∨ v ≤ -(1 / 2)) :
    ∃ t' : ℚ, OffsetRel v n t' ∧ scaleCoord x p = ⟨n, ⌊t' / 10 ^ (5 - p)⌋, 0⟩ := by
  rcases scaleCoord_spec_val hx hg p (by omega) hb n hn1 hn2 with ⟨hn, hU, _⟩ | ⟨hh, t', hrel, _, _, pv, hd, _⟩
  · -- both adjoining-square classes need `−1/2 < x`
    exfalso
    have hv : v ≤ -(1 / 2) := hreg.resolve_left (not_not.mpr hn)
    rcases hU with hU | ⟨h37, _⟩
    · have hC : (2:ℚ) ^ (-(1075:ℤ)) < (2:ℚ) ^ (-(20:ℤ)) := two_zpow_lt_iff.mpr (by norm_num)
      rw [show (2:ℚ) ^ (-(20:ℤ)) = 1 / 1048576 by rw [zpow_neg]; norm_num] at hC
      have : 1 / 200000 ≤ -(v / 100000) := by rw [neg_div', le_div_iff₀ (by norm_num)]; linarith
      linarith
    · have h37' := two_zpow_neg_lt_half (k := -37) (by norm_num)
      generalize (2:ℚ) ^ (-(37:ℤ)) = A at h37 h37'
      linarith
  · refine ⟨t', hrel, ?_⟩
    obtain ⟨a, b⟩ := hd hp
    cases hsc : scaleCoord x p with
    | mk h i1 i2 =>
      rw [hsc] at hh a b
      simp only [] at hh a b
      rw [hh, a, b]

/-- `x + 10^5` rounds to `10^5` for `−2^(−37) ≤ x < 0` (half an ulp of `10^5`; the tie goes to the even neighbour `10^5`) -/
theorem isRN_wrap (v : ℚ) (h1 : -(2:ℚ) ^ (-(37:ℤ)) ≤ v) (h2 : v < 0) : IsRN 53 (-1074) (v + 100000) 100000 where
  zero := fun hz => by
    have h37 := two_zpow_neg_lt_one (k := -37) (by norm_num)
    linarith
  nz := fun _ => by
    have h37 := two_zpow_neg_lt_one (k := -37) (by norm_num)
    have hpos : 0 < v + 100000 := by linarith
    have emax : max ((17:ℤ) - (53:ℕ)) (-1074) = -36 := by norm_num
    refine ⟨17, 100000 * 2 ^ 36, ?_, ?_, ?_, ?_, ?_⟩
    · rw [abs_of_pos hpos]; norm_num; linarith
    · rw [abs_of_pos hpos]; norm_num; linarith
    · rw [emax]
      push_cast
      rw [zpow_neg]
      norm_num
    · rw [emax, two_zpow_neg36]
      have : (100000:ℚ) - (v + 100000) = -v := by ring
      rw [this, abs_of_pos (by linarith)]
      linarith
    · intro _
      norm_num

end OSGBScale
end GeoVerif
