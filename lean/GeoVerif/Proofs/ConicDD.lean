import GeoVerif.Proofs.Conic
import Mathlib.Tactic.Ring
import Mathlib.Tactic.LinearCombination
import Mathlib.Tactic.FieldSimp
import Mathlib.Tactic.Positivity
import Mathlib.Tactic.NormNum
import Mathlib.Tactic.Linarith
/-!
# The divided-difference helpers of the conic classes over ℝ

Each helper `D` is shown to be `(g x − g y)/(x − y)` off the diagonal (`…_dd`); `…_mul` is the product form
`D·(x − y) = g x − g y`, which holds on the diagonal too and is what the `Init`/`Forward`/`Reverse` proofs consume.
-/
namespace GeoVerif.Proofs.ConicDD
open GeoVerif GeoVerif.Conic GeoVerif.Proofs.Conic

theorem Dhyp_dd (x y : ℝ) (hxy : x ≠ y) : Dhyp x y (hyp x) (hyp y) = (hyp x - hyp y) / (x - y) := by
  have px := hyp_pos x
  have py := hyp_pos y
  unfold Dhyp
  rw [div_eq_div_iff (by positivity) (sub_ne_zero.mpr hxy)]
  linear_combination hyp_sq y - hyp_sq x

theorem Dhyp_mul (x y : ℝ) : Dhyp x y (hyp x) (hyp y) * (x - y) = hyp x - hyp y := dd_mul hyp (Dhyp_dd x y)

theorem Dsn_dd (x y : ℝ) (hxy : x ≠ y) : Dsn x y (x / hyp x) (y / hyp y) = (x / hyp x - y / hyp y) / (x - y) := by
  have hx := hyp_sq x
  have hy := hyp_sq y
  have px := hyp_pos x
  have py := hyp_pos y
  have h2 : x - y ≠ 0 := sub_ne_zero.mpr hxy
  unfold Dsn
  simp only [ltb_real, eqb_real, zero_real, one_real, sq_real, decide_eq_true_eq, Bool.not_eq_true', decide_eq_false_iff_not]
  rw [if_pos h2]
  split_ifs with ht
  · -- `x`, `y` of one sign: the sum of the sines does not vanish
    have hs : x / hyp x + y / hyp y ≠ 0 := by
      rcases mul_pos_iff.mp ht with ⟨hxp, hyp'⟩ | ⟨hxn, hyn⟩
      · positivity
      · have := div_neg_of_neg_of_pos hxn px; have := div_neg_of_neg_of_pos hyn py; linarith
    have hx0 : x ≠ 0 := left_ne_zero_of_mul ht.ne'
    have hy0 : y ≠ 0 := right_ne_zero_of_mul ht.ne'
    rw [div_eq_div_iff hs h2]
    have e1 : x / hyp x * (y / hyp y) / (x * y) = 1 / (hyp x * hyp y) := by field_simp
    rw [e1]
    field_simp
    ring_nf
    rw [hx, hy]
    ring
  · rfl

theorem Dsn_mul (x y : ℝ) : Dsn x y (x / hyp x) (y / hyp y) * (x - y) = x / hyp x - y / hyp y :=
  dd_mul (fun t => t / hyp t) (Dsn_dd x y)

theorem Dlog1p_dd (x y : ℝ) (hx : -1 < x) (hy : -1 < y) (hxy : x ≠ y) :
    Dlog1p x y = (Real.log (1 + x) - Real.log (1 + y)) / (x - y) := by
  have px : (0 : ℝ) < 1 + x := by linarith
  have py : (0 : ℝ) < 1 + y := by linarith
  have h2 : x - y ≠ 0 := sub_ne_zero.mpr hxy
  unfold Dlog1p
  simp only [ltb_real, eqb_real, zero_real, one_real, log1p_real, decide_eq_true_eq, Bool.not_eq_true', decide_eq_false_iff_not]
  split_ifs with hlt hne
  · exact absurd (neg_eq_zero.mp hne) h2
  · have e : 1 + -(x - y) / (1 + x) = (1 + y) / (1 + x) := by field_simp; ring
    rw [e, Real.log_div py.ne' px.ne']
    field_simp
    ring
  · have e : 1 + (x - y) / (1 + y) = (1 + x) / (1 + y) := by field_simp; ring
    rw [e, Real.log_div px.ne' py.ne']

theorem Dlog1p_mul (x y : ℝ) (hx : -1 < x) (hy : -1 < y) : Dlog1p x y * (x - y) = Real.log (1 + x) - Real.log (1 + y) :=
  dd_mul (fun t => Real.log (1 + t)) (Dlog1p_dd x y hx hy)

theorem Dexp_dd (x y : ℝ) (hxy : x ≠ y) : Dexp x y = (Real.exp x - Real.exp y) / (x - y) := by
  have h2 : x - y ≠ 0 := sub_ne_zero.mpr hxy
  have ht : (x - y) / 2 ≠ 0 := div_ne_zero h2 two_ne_zero
  unfold Dexp
  simp only [eqb_real, zero_real, one_real, two_real, sinh_real, exp_real, ht, decide_false, Bool.not_false, if_true]
  rw [Real.sinh_eq]
  have e1 : Real.exp x = Real.exp ((x + y) / 2) * Real.exp ((x - y) / 2) := by rw [← Real.exp_add]; congr 1; ring
  have e2 : Real.exp y = Real.exp ((x + y) / 2) * Real.exp (-((x - y) / 2)) := by rw [← Real.exp_add]; congr 1; ring
  rw [e1, e2]
  field_simp

theorem Dexp_mul (x y : ℝ) : Dexp x y * (x - y) = Real.exp x - Real.exp y := dd_mul Real.exp (Dexp_dd x y)

theorem Dsinh_dd (x y : ℝ) (hxy : x ≠ y) :
    Dsinh x y (Real.sinh x) (Real.sinh y) (Real.cosh x) (Real.cosh y) = (Real.sinh x - Real.sinh y) / (x - y) := by
  have h2 : x - y ≠ 0 := sub_ne_zero.mpr hxy
  have ht : (x - y) / 2 ≠ 0 := div_ne_zero h2 two_ne_zero
  unfold Dsinh
  simp only [eqb_real, zero_real, one_real, two_real, sinh_real, sqrt_real, ht, decide_false, Bool.not_false, if_true]
  set u := (x + y) / 2 with hu
  set v := (x - y) / 2 with hv
  have ex : x = u + v := by rw [hu, hv]; ring
  have ey : y = u - v := by rw [hu, hv]; ring
  have hc : Real.sinh x * Real.sinh y + Real.cosh x * Real.cosh y = Real.cosh (2 * u) := by
    have : 2 * u = x + y := by rw [hu]; ring
    rw [this, Real.cosh_add]; ring
  have hsq : (Real.sinh x * Real.sinh y + Real.cosh x * Real.cosh y + 1) / 2 = Real.cosh u ^ 2 := by
    rw [hc, Real.cosh_two_mul]
    linear_combination (-1 / 2 : ℝ) * Real.cosh_sq u
  rw [hsq, Real.sqrt_sq (Real.cosh_pos u).le]
  have hd : Real.sinh x - Real.sinh y = 2 * Real.sinh v * Real.cosh u := by
    rw [ex, ey, Real.sinh_add, Real.sinh_sub]; ring
  have hxy2 : x - y = 2 * v := by rw [hv]; ring
  rw [hd, hxy2]
  field_simp

/-- the code passes `hyp (sinh x)` where the divided differences want the hyperbolic cosine -/
theorem hyp_sinh (x : ℝ) : hyp (Real.sinh x) = Real.cosh x :=
  hyp_eq_of_sq (by linarith [Real.cosh_sq x]) (Real.cosh_pos x).le

theorem Dsinh_mul (x y : ℝ) :
    Dsinh x y (Real.sinh x) (Real.sinh y) (hyp (Real.sinh x)) (hyp (Real.sinh y)) * (x - y) = Real.sinh x - Real.sinh y := by
  rw [hyp_sinh, hyp_sinh]; exact dd_mul Real.sinh (Dsinh_dd x y)

theorem arsinh_sub (x y : ℝ) : Real.arsinh x - Real.arsinh y = Real.arsinh (x * hyp y - y * hyp x) := by
  have h : Real.sinh (Real.arsinh x - Real.arsinh y) = x * hyp y - y * hyp x := by
    rw [Real.sinh_sub, Real.sinh_arsinh, Real.sinh_arsinh, Real.cosh_arsinh, Real.cosh_arsinh, hyp_real, hyp_real]
    ring
  rw [← h, Real.arsinh_sinh]

theorem Dasinh_dd (x y : ℝ) (hxy : x ≠ y) :
    Dasinh x y (hyp x) (hyp y) = (Real.arsinh x - Real.arsinh y) / (x - y) := by
  have px := hyp_pos x; have py := hyp_pos y
  have h2 : x - y ≠ 0 := sub_ne_zero.mpr hxy
  unfold Dasinh
  simp only [eqb_real, ltb_real, zero_real, one_real, asinh_real, decide_eq_true_eq, Bool.not_eq_true', decide_eq_false_iff_not]
  rw [if_pos h2, arsinh_sub]
  split_ifs with ht
  · have hs : x * hyp y + y * hyp x ≠ 0 := by
      rcases mul_pos_iff.mp ht with ⟨hxp, hyp'⟩ | ⟨hxn, hyn⟩
      · positivity
      · have := mul_neg_of_neg_of_pos hxn py; have := mul_neg_of_neg_of_pos hyn px; linarith
    have e : (x - y) * (x + y) / (x * hyp y + y * hyp x) = x * hyp y - y * hyp x := by
      rw [div_eq_iff hs]
      linear_combination y ^ 2 * hyp_sq x - x ^ 2 * hyp_sq y
    rw [e]
  · rfl

theorem Dasinh_mul (x y : ℝ) : Dasinh x y (hyp x) (hyp y) * (x - y) = Real.arsinh x - Real.arsinh y :=
  dd_mul Real.arsinh (Dasinh_dd x y)

theorem sq_over_one_add_hyp (t : ℝ) : RealLike.sq t / (1 + hyp t) = hyp t - 1 := by
  have p := hyp_pos t
  rw [sq_real, div_eq_iff (by positivity)]
  linear_combination -hyp_sq t

theorem eatanhe_pos {es : ℝ} (hes : 0 < es) (x : ℝ) : eatanhe x es = es * (Real.log ((1 + es * x) / (1 - es * x)) / 2) := by
  simp only [eatanhe, ltb_real, zero_real, atanh_real, hes, decide_true, if_true]

theorem eatanhe_nonpos {es : ℝ} (hes : es ≤ 0) (x : ℝ) : eatanhe x es = -es * Real.arctan (es * x) := by
  simp only [eatanhe, ltb_real, zero_real, atan_real, not_lt.mpr hes, decide_false, Bool.false_eq_true, if_false]

theorem atanhee_pos {f : ℝ} (hf : 0 < f) (e x : ℝ) : atanhee f e x = Real.log ((1 + e * x) / (1 - e * x)) / 2 / e := by
  simp only [atanhee, ltb_real, zero_real, atanh_real, hf, decide_true, if_true]

theorem atanhee_neg {f : ℝ} (hf : f < 0) (e x : ℝ) : atanhee f e x = Real.arctan (e * x) / e := by
  simp only [atanhee, ltb_real, zero_real, atan_real, hf, not_lt.mpr hf.le, decide_true, decide_false, Bool.false_eq_true, if_false,
    if_true]

theorem atanhee_zero (e x : ℝ) : atanhee 0 e x = x := by
  simp only [atanhee, ltb_real, zero_real, lt_irrefl, decide_false, Bool.false_eq_true, if_false]

theorem atanhee_arg_zero (f e : ℝ) : atanhee f e 0 = 0 := by
  simp only [atanhee, atanh_real, atan_real, mul_zero, add_zero, sub_zero, div_one, Real.log_one, zero_div, Real.arctan_zero, ite_self]

theorem eatanhe_arg_zero (es : ℝ) : eatanhe 0 es = 0 := by
  simp only [eatanhe, atanh_real, atan_real, mul_zero, add_zero, sub_zero, div_one, Real.log_one, zero_div, Real.arctan_zero, ite_self]

theorem atanhee_one_nonneg (f e : ℝ) (he : 0 ≤ e) (he1 : 0 < f → e < 1) : 0 ≤ atanhee f e 1 := by
  rcases lt_trichotomy f 0 with hf | rfl | hf
  · rw [atanhee_neg hf, mul_one]
    exact div_nonneg (Real.arctan_zero ▸ Real.arctan_strictMono.monotone he) he
  · rw [atanhee_zero]; exact zero_le_one
  · rw [atanhee_pos hf, mul_one]
    have : 1 ≤ (1 + e) / (1 - e) := by rw [le_div_iff₀ (by linarith [he1 hf])]; linarith
    exact div_nonneg (div_nonneg (Real.log_nonneg this) zero_le_two) he

/-- subtraction formula of `atanh u = ½ log((1+u)/(1−u))` on `(−1, 1)` -/
theorem atanh_sub (a b : ℝ) (ha : |a| < 1) (hb : |b| < 1) :
    Real.log ((1 + (a - b) / (1 - a * b)) / (1 - (a - b) / (1 - a * b))) =
      Real.log ((1 + a) / (1 - a)) - Real.log ((1 + b) / (1 - b)) := by
  obtain ⟨ha1, ha2⟩ := abs_lt.mp ha
  obtain ⟨hb1, hb2⟩ := abs_lt.mp hb
  have p1 : 0 < 1 + a := neg_lt_iff_pos_add'.mp ha1
  have p2 : 0 < 1 - a := sub_pos.mpr ha2
  have p3 : 0 < 1 + b := neg_lt_iff_pos_add'.mp hb1
  have p4 : 0 < 1 - b := sub_pos.mpr hb2
  have hab : 1 - a * b ≠ 0 :=
    (sub_pos.mpr (abs_lt.mp (by rw [abs_mul]; exact mul_lt_one_of_nonneg_of_lt_one_left (abs_nonneg a) ha hb.le)).2).ne'
  have n1 : 1 + (a - b) / (1 - a * b) = (1 + a) * (1 - b) / (1 - a * b) := by
    rw [eq_div_iff hab, add_mul, one_mul, div_mul_cancel₀ _ hab]; ring
  have n2 : 1 - (a - b) / (1 - a * b) = (1 - a) * (1 + b) / (1 - a * b) := by
    rw [eq_div_iff hab, sub_mul, one_mul, div_mul_cancel₀ _ hab]; ring
  rw [n1, n2, div_div_div_cancel_right₀ hab, ← div_div_div_eq, Real.log_div (div_pos p1 p2).ne' (div_pos p3 p4).ne']

theorem atanh_odd (u : ℝ) (hu : |u| < 1) : Real.log ((1 + -u) / (1 - -u)) / 2 = -(Real.log ((1 + u) / (1 - u)) / 2) := by
  obtain ⟨h1, h2⟩ := abs_lt.mp hu
  have e : (1 + -u) / (1 - -u) = ((1 + u) / (1 - u))⁻¹ := by
    rw [inv_div]; congr 1; ring
  rw [e, Real.log_inv]; ring

/-- subtraction formula of the arctangent on its principal branch -/
theorem arctan_sub (a b : ℝ) (h : -1 < a * b) : Real.arctan ((a - b) / (1 + a * b)) = Real.arctan a - Real.arctan b := by
  have := Real.arctan_add (x := a) (y := -b) (by linarith)
  rw [Real.arctan_neg, ← sub_eq_add_neg] at this
  rw [this]; congr 2; ring

/-- the argument `(x − y)/(1 − e² x y)` of the codes' subtraction formulas, scaled by `e` -/
theorem scale_arg (e x y : ℝ) : e * ((x - y) / (1 - e ^ 2 * x * y)) = (e * x - e * y) / (1 - e * x * (e * y)) := by
  rw [show 1 - e ^ 2 * x * y = 1 - e * x * (e * y) by ring]; ring

theorem scale_arg_neg (e x y : ℝ) : e * ((x - y) / (1 - -(e ^ 2) * x * y)) = (e * x - e * y) / (1 + e * x * (e * y)) := by
  rw [show 1 - -(e ^ 2) * x * y = 1 + e * x * (e * y) by ring]; ring

theorem scaled_prod_gt (e : ℝ) {x y : ℝ} (h : ¬ x * y < 0) : -1 < e * x * (e * y) := by
  have : 0 ≤ e ^ 2 * (x * y) := mul_nonneg (sq_nonneg e) (not_lt.mp h)
  linarith

/-- `Deatanhe` is the divided difference of `eatanhe · es` as soon as the subtraction formula holds where the code relies on it:
    for `x·y ≥ 0` (for `x·y < 0` the code takes the straight difference, as `AlbersEqualArea::Datanhee` does; fix 36a144d) -/
theorem Deatanhe_of_sub (e2 es x y : ℝ) (hxy : x ≠ y)
    (h : ¬ x * y < 0 → eatanhe ((x - y) / (1 - e2 * x * y)) es = eatanhe x es - eatanhe y es) :
    Deatanhe e2 es x y = (eatanhe x es - eatanhe y es) / (x - y) := by
  unfold Deatanhe
  simp only [eqb_real, ltb_real, zero_real, one_real, decide_eq_true_eq, Bool.not_eq_true', decide_eq_false_iff_not]
  rw [if_pos (sub_ne_zero.mpr hxy)]
  split_ifs with hneg
  · rfl
  · rw [h hneg]

theorem Datanhee_of_sub (f e2 e x y : ℝ) (hxy : x ≠ y)
    (h : ¬ x * y < 0 → atanhee f e ((x - y) / (1 - e2 * x * y)) = atanhee f e x - atanhee f e y) :
    Datanhee f e2 e x y = (atanhee f e x - atanhee f e y) / (x - y) := by
  unfold Datanhee
  simp only [eqb_real, ltb_real, zero_real, one_real, decide_eq_true_eq]
  rw [if_neg (sub_ne_zero.mpr hxy)]
  split_ifs with hneg
  · rfl
  · rw [h hneg]

theorem Deatanhe_dd_oblate (es x y : ℝ) (hes : 0 < es) (hx : |es * x| < 1) (hy : |es * y| < 1) (hxy : x ≠ y) :
    Deatanhe (es ^ 2) es x y = (eatanhe x es - eatanhe y es) / (x - y) :=
  Deatanhe_of_sub _ _ _ _ hxy fun _ => by
    rw [eatanhe_pos hes, eatanhe_pos hes, eatanhe_pos hes, scale_arg, atanh_sub _ _ hx hy]; ring

/-- prolate or spherical (`es = −√(−e²) ≤ 0`, `_e2 = −es²`), **every** pair `x ≠ y`: the code takes the straight difference when
    `x·y < 0` (fix 36a144d, finding F84: the addition formula alone fails for `(es x)(es y) ≤ −1`), and for `x·y ≥ 0` the addition
    formula of the arctangent is on its principal branch -/
theorem Deatanhe_dd_prolate (es x y : ℝ) (hes : es ≤ 0) (hxy : x ≠ y) :
    Deatanhe (-(es ^ 2)) es x y = (eatanhe x es - eatanhe y es) / (x - y) :=
  Deatanhe_of_sub _ _ _ _ hxy fun hneg => by
    rw [eatanhe_nonpos hes, eatanhe_nonpos hes, eatanhe_nonpos hes, scale_arg_neg, arctan_sub _ _ (scaled_prod_gt es hneg)]; ring

theorem Deatanhe_mul_oblate (es x y : ℝ) (hes : 0 < es) (hx : |es * x| < 1) (hy : |es * y| < 1) :
    Deatanhe (es ^ 2) es x y * (x - y) = eatanhe x es - eatanhe y es :=
  dd_mul (fun t => eatanhe t es) (Deatanhe_dd_oblate es x y hes hx hy)

theorem Deatanhe_mul_prolate (es x y : ℝ) (hes : es ≤ 0) :
    Deatanhe (-(es ^ 2)) es x y * (x - y) = eatanhe x es - eatanhe y es :=
  dd_mul (fun t => eatanhe t es) (Deatanhe_dd_prolate es x y hes)

theorem Datanhee_dd_oblate (f e x y : ℝ) (hf : 0 < f) (hx : |e * x| < 1) (hy : |e * y| < 1) (hxy : x ≠ y) :
    Datanhee f (e ^ 2) e x y = (atanhee f e x - atanhee f e y) / (x - y) :=
  Datanhee_of_sub _ _ _ _ _ hxy fun _ => by
    rw [atanhee_pos hf, atanhee_pos hf, atanhee_pos hf, scale_arg, atanh_sub _ _ hx hy]; ring

theorem Datanhee_dd_prolate (f e x y : ℝ) (hf : f < 0) (hxy : x ≠ y) :
    Datanhee f (-(e ^ 2)) e x y = (atanhee f e x - atanhee f e y) / (x - y) :=
  Datanhee_of_sub _ _ _ _ _ hxy fun hneg => by
    rw [atanhee_neg hf, atanhee_neg hf, atanhee_neg hf, scale_arg_neg, arctan_sub _ _ (scaled_prod_gt e hneg)]; ring

theorem Datanhee_dd_sphere (e x y : ℝ) (hxy : x ≠ y) :
    Datanhee 0 0 e x y = (atanhee 0 e x - atanhee 0 e y) / (x - y) :=
  Datanhee_of_sub _ _ _ _ _ hxy fun _ => by
    rw [atanhee_zero, atanhee_zero, atanhee_zero, zero_mul, zero_mul, sub_zero, div_one]

theorem sphere_Datanhee_mul (a x y : ℝ) : (⟨a, 0⟩ : Ell ℝ).Datanhee x y * (x - y) = x - y := by
  have h := dd_mul (fun t => atanhee 0 (⟨a, 0⟩ : Ell ℝ).e t) (Datanhee_dd_sphere _ x y)
  simp only [atanhee_zero] at h
  rw [Ell.Datanhee, sphere_e2]; exact h

end GeoVerif.Proofs.ConicDD
