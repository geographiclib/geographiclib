import GeoVerif.Proofs.DMSEncode
/-!
# `Utility::val (Utility::str x p)`: the string side — the parser reads back exactly the printed count of units
-/
namespace GeoVerif.DMSProofs
open GeoVerif GeoVerif.DMS GeoVerif.Gen GeoVerif.Decimal

theorem lastNum_nfrac (X F : Bytes) : (lastNum X F).nfrac = F.length := by
  unfold lastNum; split
  · rename_i h; subst h; rfl
  · rfl

theorem lastNum_mant (X F : Bytes) :
    (lastNum X F).int * 10 ^ (lastNum X F).nfrac + (lastNum X F).frac = digitsVal 0 X * 10 ^ F.length + digitsVal 0 F := by
  unfold lastNum; split
  · rename_i h; subst h; rfl
  · rfl

theorem fmtFixed_nospace (x : F64) (p : Nat) : ∀ c ∈ fmtFixed x p, isspace c = false := by
  obtain ⟨I, F, hu, hI, _, hF, _, _, _⟩ := unitsToFixed_shape (fixedUnits x p) p
  intro c hc
  have hd : ∀ c, IsDigit c → isspace c = false := by
    intro c h; unfold IsDigit at h; unfold isspace
    have h1 : (c == 32) = false := by simp; omega
    have h2 : (decide (9 ≤ c) && decide (c ≤ 13)) = false := by simp; omega
    simp [h1, h2]
  simp only [fmtFixed, hu] at hc
  rcases List.mem_append.mp hc with h | h
  · split at h
    · simp at h; subst h; decide
    · cases h
  · rcases List.mem_append.mp h with h | h
    · exact hd c (hI c h)
    · split at h
      · cases h
      · rcases List.mem_cons.mp h with h | h
        · subst h; decide
        · exact hd c (hF c h)

theorem valPlain_neg (t : Bytes) (n : Num) (hn : number t = (n, [])) (hne : n.nint + n.nfrac ≠ 0) :
    valPlain (45 :: t) = (match ofDecExp (n.int * 10 ^ n.nfrac + n.frac) (0 - (n.nfrac : Int)) with
      | .inf _ => none
      | v => some (F64.neg v)) := by
  unfold valPlain
  simp only [hn, hne, if_false]
  rfl

theorem valPlain_unsigned (t : Bytes) (n : Num) (h45 : t.head? ≠ some 45) (h43 : t.head? ≠ some 43)
    (hn : number t = (n, [])) (hne : n.nint + n.nfrac ≠ 0) :
    valPlain t = (match ofDecExp (n.int * 10 ^ n.nfrac + n.frac) (0 - (n.nfrac : Int)) with
      | .inf _ => none
      | v => some v) := by
  unfold valPlain
  split
  rename_i heq
  split at heq
  · exact absurd rfl h45
  · exact absurd rfl h43
  · cases heq
    simp only [hn, hne, if_false]
    rfl

theorem valPlain_fmtFixed (s : Bool) (m : Nat) (e : Int) (p : Nat) :
    valPlain (fmtFixed (.fin s m e) p) =
      (match ofDecExp (fixedUnits (.fin s m e) p) (0 - (p : Int)) with
       | .inf _ => none
       | v => some (if s then F64.neg v else v)) := by
  obtain ⟨I, F, hu, hI, nI, hF, hFl, vI, vF⟩ := unitsToFixed_shape (fixedUnits (.fin s m e) p) p
  rw [fracPart_of_len F p hFl] at hu
  have hnum : number (I ++ fracPart F) = (lastNum I F, []) := by
    have := number_last I F [] hI hF (by intro c t h; cases h)
    rwa [List.append_nil] at this
  have hmant : (lastNum I F).int * 10 ^ (lastNum I F).nfrac + (lastNum I F).frac = fixedUnits (.fin s m e) p := by
    rw [lastNum_mant, hFl, vI, vF]
    exact Nat.div_add_mod' _ _
  have hnf : (lastNum I F).nfrac = p := by rw [lastNum_nfrac, hFl]
  cases s
  · have h0 : fmtFixed (.fin false m e) p = I ++ fracPart F := by simp [fmtFixed, hu, F64.signbit]
    obtain ⟨i0, I', rfl⟩ := List.exists_cons_of_ne_nil nI
    have hi0 : IsDigit i0 := hI i0 List.mem_cons_self
    have hhead : ∀ k, k < 48 → (i0 :: I' ++ fracPart F).head? ≠ some k := by
      intro k hk
      rw [List.cons_append, List.head?_cons, ne_eq, Option.some.injEq]
      unfold IsDigit at hi0; omega
    rw [h0, valPlain_unsigned _ _ (hhead 45 (by omega)) (hhead 43 (by omega)) hnum (lastNum_ne _ F nI), hmant, hnf]
    rfl
  · have h1 : fmtFixed (.fin true m e) p = 45 :: (I ++ fracPart F) := by simp [fmtFixed, hu, F64.signbit]
    rw [h1, valPlain_neg _ _ hnum (lastNum_ne I F nI), hmant, hnf]
    rfl

end GeoVerif.DMSProofs
