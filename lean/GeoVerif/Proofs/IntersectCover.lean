import GeoVerif.Proofs.IntersectSearch
/-!
# `Intersect`: the covering argument (start tables and grid vs capture radius of `Basic`), the kernel contract, and what
the loops of `AllInt0` and `NextInt` achieve under it; the completeness theorems themselves are in `Props/C17.lean`
-/
namespace GeoVerif.IntersectSearch
open GeoVerif GeoVerif.IntersectFix

/-! ## L1 balls are squares in the rotated coordinates `u = x + y`, `v = x − y` -/

theorem l1_le_of_rot {x y d : ℝ} (h1 : |x + y| ≤ d) (h2 : |x - y| ≤ d) : |x| + |y| ≤ d := by
  obtain ⟨a1, a2⟩ := abs_le.mp h1
  obtain ⟨b1, b2⟩ := abs_le.mp h2
  rcases abs_cases x with ⟨hx, _⟩ | ⟨hx, _⟩ <;> rcases abs_cases y with ⟨hy, _⟩ | ⟨hy, _⟩ <;> rw [hx, hy] <;> linarith

theorem rot_le_l1 (x y : ℝ) : |x + y| ≤ |x| + |y| ∧ |x - y| ≤ |x| + |y| := ⟨abs_add_le x y, abs_sub x y⟩

theorem dist_le_of_rot {a s : XP ℝ} {d u v : ℝ} (eu : a.x - s.x + (a.y - s.y) = u) (ev : a.x - s.x - (a.y - s.y) = v)
    (hu : |u| ≤ d) (hv : |v| ≤ d) : dist a s ≤ d := by
  subst eu ev; exact l1_le_of_rot hu hv

theorem mem_grid {m : Nat} {i : Int} : i ∈ grid m ↔ ∃ a : Nat, a < m ∧ i = 2 * (a : Int) - ((m : Int) - 1) := by
  simp only [grid, List.mem_map, List.mem_range, eq_comm]

theorem grid_cover (m : Nat) (hm : 1 ≤ m) (d u : ℝ) (hu : |u| ≤ m * d) :
    ∃ i ∈ grid m, |u - d * (i : ℝ)| ≤ d := by
  -- induction on the number of grid points: the last one serves `u > (m − 2) d`, and below that `u + d` is served by the grid
  -- that is one point shorter, with the same index
  suffices h : ∀ n : Nat, ∀ u : ℝ, |u| ≤ (n + 1) * d → ∃ a : Nat, a < n + 1 ∧ |u - d * (2 * a - n)| ≤ d by
    obtain ⟨n, rfl⟩ : ∃ n, m = n + 1 := ⟨m - 1, by omega⟩
    obtain ⟨a, ha, h'⟩ := h n u (by push_cast at hu; exact hu)
    exact ⟨2 * (a : Int) - ((n + 1 : Nat) - 1), mem_grid.mpr ⟨a, ha, rfl⟩, by push_cast; simpa using h'⟩
  intro n
  induction n with
  | zero => intro u hu; exact ⟨0, by omega, by simpa using hu⟩
  | succ n ih =>
    intro u hu
    obtain ⟨h1, h2⟩ := abs_le.mp hu
    push_cast at h1 h2
    by_cases h : u ≤ n * d
    · obtain ⟨a, ha, h'⟩ := ih (u + d) (by rw [abs_le]; constructor <;> linarith)
      refine ⟨a, by omega, ?_⟩
      rw [show u - d * (2 * a - (n + 1 : ℕ)) = u + d - d * (2 * a - n) by push_cast; ring]
      exact h'
    · refine ⟨n + 1, by omega, ?_⟩
      rw [show u - d * (2 * (n + 1 : ℕ) - (n + 1 : ℕ)) = u - n * d - d by push_cast; ring, abs_le]
      constructor <;> linarith

theorem add_mk0 (p0 : XP ℝ) (x y : ℝ) : XP.add p0 (mk0 x y) = ⟨p0.x + x, p0.y + y, p0.c⟩ := by
  simp [XP.add, mk0]

theorem allStarts_cover (p0 : XP ℝ) (d3 : ℝ) (m : Nat) (hm : 1 ≤ m) (hd : 0 ≤ d3) (a : XP ℝ)
    (ha : dist a p0 ≤ m * d3) : ∃ s ∈ allStarts p0 d3 m, dist a s ≤ d3 := by
  have hrot := rot_le_l1 (a.x - p0.x) (a.y - p0.y)
  rw [dist_real] at ha
  obtain ⟨i, hi, hiu⟩ := grid_cover m hm d3 ((a.x - p0.x) + (a.y - p0.y)) (le_trans hrot.1 ha)
  obtain ⟨j, hj, hjv⟩ := grid_cover m hm d3 ((a.x - p0.x) - (a.y - p0.y)) (le_trans hrot.2 ha)
  by_cases h00 : i = 0 ∧ j = 0
  · refine ⟨p0, List.mem_cons_self, ?_⟩
    obtain ⟨rfl, rfl⟩ := h00
    simp only [Int.cast_zero, mul_zero, sub_zero] at hiu hjv
    exact dist_le_of_rot rfl rfl hiu hjv
  · refine ⟨XP.add p0 (mk0 (d3 * ofC (i + j) / two) (d3 * ofC (i - j) / two)), ?_, ?_⟩
    · have : (i == 0 && j == 0) = false := by simpa using h00
      exact List.mem_cons_of_mem _ (List.mem_flatMap.mpr ⟨i, hi, List.mem_filterMap.mpr ⟨j, hj, by rw [this]; rfl⟩⟩)
    · rw [add_mk0, ofC_real, ofC_real, two_real]
      exact dist_le_of_rot (by push_cast; ring) (by push_cast; ring) hiu hjv

theorem grid_length (m : Nat) : (grid m).length = m := by simp [grid]

theorem grid_nodup (m : Nat) : (grid m).Nodup := by
  unfold grid
  apply List.Nodup.map _ List.nodup_range
  intro a b h; simp only at h; omega

theorem grid_count_zero (m : Nat) : (grid m).count 0 = m % 2 := by
  have hn := grid_nodup m
  by_cases h : (0 : Int) ∈ grid m
  · rw [List.count_eq_one_of_mem hn h]
    obtain ⟨a, _, ha⟩ := mem_grid.mp h
    omega
  · rw [List.count_eq_zero_of_not_mem h]
    by_contra hc
    have hodd : m % 2 = 1 := by omega
    exact h (mem_grid.mpr ⟨(m - 1) / 2, by omega, by omega⟩)

theorem length_filterMap_add_countP {α β : Type} (c : α → Bool) (g : α → β) (l : List α) :
    (l.filterMap fun j => if c j then none else some (g j)).length + l.countP c = l.length := by
  induction l with
  | nil => rfl
  | cons a t ih =>
    rw [List.filterMap_cons, List.countP_cons, List.length_cons]
    cases h : c a
    · simp only [Bool.false_eq_true, if_false, List.length_cons]; omega
    · simp only [if_true]; omega

/-- rows of length `m`, except that the rows with index 0 are `c` shorter -/
theorem sum_rows (f : Int → Nat) (m c : Nat) (hf : ∀ i, f i + (if i = 0 then c else 0) = m) (l : List Int) :
    (l.map f).sum + l.count 0 * c = l.length * m := by
  induction l with
  | nil => simp
  | cons i t ih =>
    have := hf i
    rw [List.map_cons, List.sum_cons, List.length_cons, Nat.add_mul, Nat.one_mul]
    by_cases hi : i = 0
    · subst hi; rw [List.count_cons_self, Nat.add_mul, Nat.one_mul]; rw [if_pos rfl] at this; omega
    · rw [List.count_cons_of_ne hi]; rw [if_neg hi] at this; omega

/-- The contract of `Basic` used by the covering argument.  `I` is the set of (exact) intersections; the kernel never reports
    coincident lines; every answer is within `ε` of an intersection (`snd`); distinct intersections are at least `2 t1` apart
    in the L1 metric (`sep`); a start within `ρ` (the *capture radius*) of an intersection converges to that intersection
    (`cap`). -/
structure Contract (C : Consts ℝ) (basic : XP ℝ → XP ℝ) (I : XP ℝ → Prop) (ε ρ : ℝ) : Prop where
  c0 : ∀ s, (basic s).c = 0
  snd : ∀ s, ∃ a, I a ∧ dist (basic s) a ≤ ε
  sep : ∀ a b, I a → I b → dist a b < 2 * C.t1 → dist a b = 0
  cap : ∀ a, I a → ∀ s, dist a s ≤ ρ → dist (basic s) a ≤ ε

theorem dist_congr_of_zero {a b : XP ℝ} (h : dist a b = 0) (e : XP ℝ) : dist e a = dist e b := by
  have h1 := dist_triangle e a b
  have h2 := dist_triangle e b a
  rw [dist_symm b a] at h2
  linarith

/-- An answer less than `2 t1 − ε` from the intersection `a` is within `ε` of it: the intersection it is `ε`-close to
    (`snd`) is less than `2 t1` from `a`, hence is `a` (`sep`). -/
theorem Contract.close_of_near {C : Consts ℝ} {basic : XP ℝ → XP ℝ} {I : XP ℝ → Prop} {ε ρ : ℝ} (K : Contract C basic I ε ρ)
    {a : XP ℝ} (ha : I a) (s : XP ℝ) (h : dist (basic s) a < 2 * C.t1 - ε) : dist (basic s) a ≤ ε := by
  obtain ⟨b, hb, hbe⟩ := K.snd s
  have t := dist_triangle a (basic s) b
  rw [dist_symm a (basic s)] at t
  have hab : dist a b = 0 := K.sep a b ha hb (by linarith)
  rw [dist_congr_of_zero hab]; exact hbe

theorem close_of_ceq {C : Consts ℝ} {basic : XP ℝ → XP ℝ} {I : XP ℝ → Prop} {ε ρ : ℝ} (K : Contract C basic I ε ρ)
    (hnum : 2 * ε + C.delta < 2 * C.t1) {a q : XP ℝ} (ha : I a) (hq : dist q a ≤ ε) (s1 : XP ℝ)
    (hc : ceq C.delta (basic s1) q = true) : dist (basic s1) a ≤ ε := by
  rw [ceq_iff] at hc
  have t := dist_triangle (basic s1) q a
  exact K.close_of_near ha s1 (by linarith)

theorem close_of_pruned {C : Consts ℝ} {basic : XP ℝ → XP ℝ} {I : XP ℝ → Prop} {ε ρ : ℝ} (K : Contract C basic I ε ρ)
    (hεδ : ε ≤ C.delta) {a s : XP ℝ} (ha : I a) (hd : dist a s ≤ ρ) (t : XP ℝ)
    (hlt : dist (basic t) s < 2 * C.t1 - ρ - C.delta) : dist (basic t) a ≤ ε := by
  have tr := dist_triangle (basic t) s a
  rw [dist_symm s a] at tr
  exact K.close_of_near ha t (by linarith)

structure KInv (C : Consts ℝ) (basic : XP ℝ → XP ℝ) (st : AState ℝ) : Prop where
  c0 : st.c0 = 0
  rker : ∀ e ∈ st.r, ∃ s, e = basic s
  prker : ∀ p ∈ st.pr, ∃ s, p = basic s
  rep : ∀ p ∈ st.pr, ∃ e ∈ st.r, ceq C.delta e p = true

theorem allLoop_complete (C : Consts ℝ) (basic : XP ℝ → XP ℝ) (conj2 : ℝ → ℝ → ℝ) (p0 : XP ℝ) (maxdistx d3 : ℝ) (fuel : Nat)
    (I : XP ℝ → Prop) (ε : ℝ) (K : Contract C basic I ε d3) (hδ : 0 ≤ C.delta) (hεδ : ε ≤ C.delta)
    (hnum : 2 * ε + C.delta < 2 * C.t1) :
    ∀ (rest : List (XP ℝ)) (st : AState ℝ), KInv C basic st →
      KInv C basic (allLoop C basic conj2 p0 maxdistx d3 fuel rest st) ∧
      (∀ e ∈ st.r, e ∈ (allLoop C basic conj2 p0 maxdistx d3 fuel rest st).r) ∧
      (∀ s ∈ rest, ∀ a, I a → dist a s ≤ d3 → ∃ e ∈ (allLoop C basic conj2 p0 maxdistx d3 fuel rest st).r, dist e a ≤ ε) := by
  intro rest
  induction rest with
  | nil => intro st h; simp only [allLoop]; exact ⟨h, fun e he => he, fun s hs => by cases hs⟩
  | cons s rest ih =>
    intro st h
    -- the state after processing `s`, whatever branch is taken: it satisfies the invariant, contains the old set, and holds a
    -- point of the δ-class of a kernel answer `basic t` that is ε-close to every intersection within `d3` of `s`
    suffices hstep : ∃ st2 : AState ℝ, allLoop C basic conj2 p0 maxdistx d3 fuel (s :: rest) st = allLoop C basic conj2 p0 maxdistx d3 fuel rest st2 ∧
        KInv C basic st2 ∧ (∀ e ∈ st.r, e ∈ st2.r) ∧
        ∃ t, (∀ a, I a → dist a s ≤ d3 → dist (basic t) a ≤ ε) ∧ ∃ e ∈ st2.r, ceq C.delta e (basic t) = true by
      obtain ⟨st2, heq, hk, hmono, t, hclose, e, he, hce⟩ := hstep
      rw [heq]
      obtain ⟨a1, a2, a3⟩ := ih st2 hk
      refine ⟨a1, fun e he => a2 e (hmono e he), ?_⟩
      intro s' hs' a ha hd
      rcases List.mem_cons.mp hs' with rfl | hs'
      · obtain ⟨s1, rfl⟩ := hk.rker e he
        exact ⟨_, a2 _ he, close_of_ceq K hnum ha (hclose a ha hd) s1 hce⟩
      · exact a3 s' hs' a ha hd
    simp only [allLoop]
    by_cases hsk : skipped st.pr (two * C.t1 - d3 - C.delta) s = true
    · -- skipped: the pruner is the answer at some `s2`, close to the same intersections as `s` would be
      rw [if_pos hsk]
      obtain ⟨qy, hqy, hlt⟩ := (skipped_iff _ _ _).mp hsk
      rw [two_real] at hlt
      obtain ⟨s2, rfl⟩ := h.prker qy hqy
      exact ⟨st, rfl, h, fun e he => he, s2, fun a ha hd => close_of_pruned K hεδ ha hd s2 hlt, h.rep _ hqy⟩
    · rw [if_neg hsk]
      have hc0 : (basic s).c = 0 := K.c0 s
      by_cases hfind : (setFind (clt C.delta) st.r (basic s) || (st.c0 != 0 && setFind (clt C.delta) st.cs (fixc p0 (basic s)))) = true
      · -- found: the set holds a point incomparable with the answer
        rw [if_pos hfind]
        simp only [h.c0, bne_self_eq_false, Bool.false_and, Bool.or_false] at hfind
        obtain ⟨e, he, h1, h2⟩ := setFind_true hfind
        exact ⟨_, rfl, ⟨h.c0, h.rker, h.prker, h.rep⟩, fun e he => he, s, fun a ha => K.cap a ha s,
          e, he, (clt_incomparable_iff C.delta hδ e (basic s)).mp ⟨h1, h2⟩⟩
      · -- inserted: afterwards the set holds the answer or a point incomparable with it
        rw [if_neg hfind]
        have hcf : ((basic s).c != 0) = false := by simp [hc0]
        rw [hcf]
        simp only [Bool.false_eq_true, if_false]
        have hrep : ∃ e ∈ setInsert (clt C.delta) st.r (basic s), ceq C.delta e (basic s) = true := by
          rcases setInsert_rep (lt := clt C.delta) st.r (basic s) with h1 | ⟨e, _, hm, h1, h2⟩
          · exact ⟨_, h1, ceq_refl _ hδ _⟩
          · exact ⟨e, hm, (clt_incomparable_iff C.delta hδ e (basic s)).mp ⟨h1, h2⟩⟩
        refine ⟨_, rfl, ⟨h.c0, ?_, ?_, ?_⟩, fun e he => mem_setInsert_of_mem he, s, fun a ha => K.cap a ha s, hrep⟩
        · intro e he
          rcases mem_setInsert he with h' | h'
          · exact ⟨s, h'⟩
          · exact h.rker e h'
        · intro p hp
          rcases List.mem_cons.mp hp with h' | h'
          · exact ⟨s, h'⟩
          · exact h.prker p h'
        · intro p hp
          rcases List.mem_cons.mp hp with rfl | h'
          · exact hrep
          · obtain ⟨e, he, hce⟩ := h.rep p h'
            exact ⟨e, mem_setInsert_of_mem he, hce⟩

theorem fixc_c0 (p0 p : XP ℝ) (h : p.c = 0) : fixc p0 p = p := by simp [fixc, fixcoincident, h]

theorem startAt_real (p0 : XP ℝ) (d : ℝ) (i j : Int) : startAt p0 d (i, j) = ⟨p0.x + i * d, p0.y + j * d, p0.c⟩ := by
  simp [startAt, XP.add, mk0, ofC_real]

theorem closestStarts_eq (C : Consts ℝ) (p0 : XP ℝ) :
    closestStarts C p0 = [(0, 0), (1, 0), (-1, 0), (0, 1), (0, -1)].map (startAt p0 C.d1) := rfl

theorem closestStarts_ne_nil (C : Consts ℝ) (p0 : XP ℝ) : closestStarts C p0 ≠ [] := by simp [closestStarts_eq]

/-- the five starts of `ClosestInt` (table of the current source) cover the L1 ball of radius `2 d1` by balls of radius `d1` -/
theorem closestStarts_cover (C : Consts ℝ) (p0 a : XP ℝ) (ha : dist a p0 ≤ 2 * C.d1) :
    ∃ s ∈ closestStarts C p0, dist a s ≤ C.d1 := by
  rw [dist_real] at ha
  obtain ⟨hu, hv⟩ := rot_le_l1 (a.x - p0.x) (a.y - p0.y)
  -- each rotated coordinate `u = Δx + Δy`, `v = Δx − Δy` of `a − p0` is within `d1` of `d1` or of `−d1`
  have pick : ∀ w : ℝ, |w| ≤ 2 * C.d1 → ∃ k : Int, (k = 1 ∨ k = -1) ∧ |w - k * C.d1| ≤ C.d1 := by
    intro w hw
    obtain ⟨k, hk, h⟩ := grid_cover 2 (by decide) C.d1 w (by push_cast; exact hw)
    obtain ⟨n, hn, rfl⟩ := mem_grid.mp hk
    exact ⟨2 * (n : Int) - ((2 : Nat) - 1), by omega, by rwa [mul_comm]⟩
  -- the start with offsets `(i, j)` has the rotated coordinates `((i + j) d1, (i − j) d1)`
  have fin : ∀ i j ku kv : Int, (i, j) ∈ [((1 : Int), (0 : Int)), (-1, 0), (0, 1), (0, -1)] → i + j = ku → i - j = kv →
      |a.x - p0.x + (a.y - p0.y) - ku * C.d1| ≤ C.d1 → |a.x - p0.x - (a.y - p0.y) - kv * C.d1| ≤ C.d1 →
      ∃ s ∈ closestStarts C p0, dist a s ≤ C.d1 := by
    intro i j ku kv hij eu ev h1 h2
    subst eu ev
    rw [Int.cast_add] at h1
    rw [Int.cast_sub] at h2
    refine ⟨startAt p0 C.d1 (i, j), ?_, ?_⟩
    · rw [closestStarts_eq]; exact List.mem_map.mpr ⟨(i, j), List.mem_cons_of_mem _ hij, rfl⟩
    · rw [startAt_real]
      exact dist_le_of_rot (by ring) (by ring) h1 h2
  obtain ⟨ku, hku, h1⟩ := pick _ (hu.trans ha)
  obtain ⟨kv, hkv, h2⟩ := pick _ (hv.trans ha)
  rcases hku with rfl | rfl <;> rcases hkv with rfl | rfl
  · exact fin 1 0 1 1 (by decide) rfl rfl h1 h2
  · exact fin 0 1 1 (-1) (by decide) rfl rfl h1 h2
  · exact fin 0 (-1) (-1) 1 (by decide) rfl rfl h1 h2
  · exact fin (-1) 0 (-1) (-1) (by decide) rfl rfl h1 h2

theorem nextStarts_eq (C : Consts ℝ) :
    nextStarts C = [(-1, -1), (-1, 1), (1, -1), (1, 1), (-2, 0), (0, 2), (2, 0), (0, -2)].map
      fun o : Int × Int => mk0 (ofC o.1 * C.d2) (ofC o.2 * C.d2) := rfl

/-- the eight starts of `NextInt` (table of the current source) cover the L1 annulus `d2 ≤ |p| ≤ 3 d2` by balls of radius `d2` -/
theorem nextStarts_cover (C : Consts ℝ) (a : XP ℝ) (hlo : C.d2 ≤ dist0 a) (hhi : dist0 a ≤ 3 * C.d2) :
    ∃ s ∈ nextStarts C, dist a s ≤ C.d2 := by
  rw [dist0_real] at hlo hhi
  obtain ⟨hu, hv⟩ := rot_le_l1 a.x a.y
  -- each rotated coordinate `u = x + y`, `v = x − y` is within `d2` of one of `−2 d2`, `0`, `2 d2`
  have pick : ∀ w : ℝ, |w| ≤ 3 * C.d2 → ∃ k : Int, (k = 2 ∨ k = -2 ∨ (k = 0 ∧ |w| < C.d2)) ∧ |w - k * C.d2| ≤ C.d2 := by
    intro w hw
    obtain ⟨h1, h2⟩ := abs_le.mp hw
    by_cases h3 : C.d2 ≤ w
    · exact ⟨2, Or.inl rfl, by rw [abs_le]; constructor <;> push_cast <;> linarith⟩
    · by_cases h4 : w ≤ -C.d2
      · exact ⟨-2, Or.inr (Or.inl rfl), by rw [abs_le]; constructor <;> push_cast <;> linarith⟩
      · have : |w| < C.d2 := by rw [abs_lt]; constructor <;> linarith
        exact ⟨0, Or.inr (Or.inr ⟨rfl, this⟩), by simpa using this.le⟩
  -- the start with offsets `(i, j)` has the rotated coordinates `((i + j) d2, (i − j) d2)`
  have fin : ∀ i j ku kv : Int, (i, j) ∈ [((-1 : Int), (-1 : Int)), (-1, 1), (1, -1), (1, 1), (-2, 0), (0, 2), (2, 0), (0, -2)] →
      i + j = ku → i - j = kv → |a.x + a.y - ku * C.d2| ≤ C.d2 → |a.x - a.y - kv * C.d2| ≤ C.d2 →
      ∃ s ∈ nextStarts C, dist a s ≤ C.d2 := by
    intro i j ku kv hij eu ev h1 h2
    subst eu ev
    rw [Int.cast_add] at h1
    rw [Int.cast_sub] at h2
    refine ⟨mk0 (ofC i * C.d2) (ofC j * C.d2), ?_, ?_⟩
    · rw [nextStarts_eq]; exact List.mem_map.mpr ⟨(i, j), hij, rfl⟩
    · rw [ofC_real, ofC_real]
      exact dist_le_of_rot (by dsimp only [mk0]; ring) (by dsimp only [mk0]; ring) h1 h2
  obtain ⟨ku, hku, h1⟩ := pick _ (hu.trans hhi)
  obtain ⟨kv, hkv, h2⟩ := pick _ (hv.trans hhi)
  rcases hku with rfl | rfl | ⟨rfl, hu0⟩ <;> rcases hkv with rfl | rfl | ⟨rfl, hv0⟩
  · exact fin 2 0 2 2 (by decide) rfl rfl h1 h2
  · exact fin 0 2 2 (-2) (by decide) rfl rfl h1 h2
  · exact fin 1 1 2 0 (by decide) rfl rfl h1 h2
  · exact fin 0 (-2) (-2) 2 (by decide) rfl rfl h1 h2
  · exact fin (-2) 0 (-2) (-2) (by decide) rfl rfl h1 h2
  · exact fin (-1) (-1) (-2) 0 (by decide) rfl rfl h1 h2
  · exact fin 1 (-1) 0 2 (by decide) rfl rfl h1 h2
  · exact fin (-1) 1 0 (-2) (by decide) rfl rfl h1 h2
  · -- both rotated coordinates are smaller than `d2`: the point is inside the hole, excluded by `hlo`
    have := l1_le_of_rot (le_max_left |a.x + a.y| |a.x - a.y|) (le_max_right _ _)
    linarith [max_lt hu0 hv0]

theorem candsOf_c0 (C : Consts ℝ) (basic : XP ℝ → XP ℝ) (conj : ℝ → ℝ) (s : XP ℝ) (hc : (basic s).c = 0) :
    candsOf C basic conj s = if ceq C.delta (mk0 zero zero) (basic s) then [] else [basic s] := by
  simp [candsOf, fixc_c0 _ _ hc, hc]

theorem prunersOf_c0 (C : Consts ℝ) (basic : XP ℝ → XP ℝ) (conj : ℝ → ℝ) (s : XP ℝ) (hc : (basic s).c = 0) :
    prunersOf C basic s = candsOf C basic conj s := by
  simp [candsOf_c0 C basic conj s hc, prunersOf, nextPruners, fixc_c0 _ _ hc, hc]

theorem nextLoop_cover (C : Consts ℝ) (basic : XP ℝ → XP ℝ) (conj : ℝ → ℝ) (hc0 : ∀ s, (basic s).c = 0) :
    ∀ (rest pr : List (XP ℝ)) (o : NOut ℝ),
      (∀ p ∈ pr, ∃ t ∈ o.visited, p ∈ candsOf C basic conj t) →
      ∀ s ∈ rest, s ∈ (nextLoop C basic conj rest pr o).visited ∨
        ∃ t ∈ (nextLoop C basic conj rest pr o).visited, ∃ p ∈ candsOf C basic conj t, dist p s < nextThr C := by
  intro rest
  induction rest with
  | nil => intro pr o _ s hs; cases hs
  | cons s rest ih =>
    intro pr o hpr s' hs'
    rw [nextLoop_cons]
    split
    · rename_i hsk
      rcases List.mem_cons.mp hs' with rfl | hs'
      · obtain ⟨p, hp, hlt⟩ := (skipped_iff _ _ _).mp hsk
        obtain ⟨t, ht, hpt⟩ := hpr p hp
        exact Or.inr ⟨t, nextLoop_visited_mono C basic conj rest pr o t ht, p, hpt, hlt⟩
      · exact ih pr o hpr s' hs'
    · have hv : ((candsOf C basic conj s).foldl better { o with visited := o.visited ++ [s] }).visited = o.visited ++ [s] :=
        (foldl_better _ _).1
      rcases List.mem_cons.mp hs' with rfl | hs'
      · exact Or.inl (nextLoop_visited_mono C basic conj rest _ _ s' (by rw [hv]; simp))
      · refine ih _ _ (fun p hp => ?_) s' hs'
        rw [hv]
        rcases List.mem_append.mp hp with hp | hp
        · rw [prunersOf_c0 C basic conj s (hc0 s)] at hp
          exact ⟨s, by simp, hp⟩
        · obtain ⟨t, ht, e⟩ := hpr p hp
          exact ⟨t, List.mem_append_left _ ht, e⟩

theorem nextInt_cover (C : Consts ℝ) (basic : XP ℝ → XP ℝ) (conj : ℝ → ℝ) (big : ℝ) (hc0 : ∀ s, (basic s).c = 0) :
    ∀ s ∈ nextStarts C, s ∈ (nextInt C basic conj big).visited ∨
      ∃ t ∈ (nextInt C basic conj big).visited, ∃ p ∈ candsOf C basic conj t, dist p s < nextThr C :=
  nextLoop_cover C basic conj hc0 (nextStarts C) [] _ nofun

end GeoVerif.IntersectSearch
