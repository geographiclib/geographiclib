import GeoVerif.Proofs.Conic
import Mathlib.Tactic.Ring
import Mathlib.Tactic.LinearCombination
import Mathlib.Tactic.FieldSimp
import Mathlib.Tactic.Positivity
import Mathlib.Tactic.NormNum
import Mathlib.Tactic.Linarith
import Mathlib.Data.Nat.Choose.Basic
import Mathlib.Algebra.BigOperators.Group.Finset.Basic
import Mathlib.Algebra.BigOperators.Ring.Finset
import Mathlib.Algebra.BigOperators.Intervals
/-!
# The series of `AlbersEqualArea` over ℝ: `atanhxm1`, `DDatanhee1`, `DDatanhee2` — the coded recurrences generate the Taylor
coefficients of their limits, the partial sums are truncated Taylor polynomials, and the termination rule of `DDatanhee2`
-/
namespace GeoVerif.Proofs.ConicSeries
open GeoVerif GeoVerif.Conic GeoVerif.Proofs.Conic Finset

/-- the coefficient of `x^k` in `atanh(√x)/√x − 1` -/
noncomputable def axCoef (k : ℕ) : ℝ := (if k = 0 then 0 else 1) / ((2 * k + 1 : ℕ) : ℝ)

noncomputable def axPoly (x : ℝ) : ℕ → ℝ
  | 0 => 0
  | n + 1 => axPoly x n + axCoef n * x ^ n

theorem atanhxm1Loop_eq (x : ℝ) (n : ℕ) (s : ℝ) : atanhxm1Loop x n s = s * x ^ n + axPoly x n := by
  induction n generalizing s with
  | zero => simp [atanhxm1Loop, axPoly]
  | succ n ih =>
    rw [atanhxm1Loop, ih]
    simp only [axPoly, axCoef, ofNat_real, zero_real, one_real, beq_iff_eq]
    ring

/-! ## `DDatanhee1`: the series in `e²` -/

/-- complete homogeneous polynomial `h_m(x, y) = Σ_{i+j=m} xⁱ yʲ` by the recurrence the code uses, `t ← y·t + z` -/
noncomputable def hsym (x y : ℝ) : ℕ → ℝ
  | 0 => 1
  | m + 1 => y * hsym x y m + x ^ (m + 1)

theorem hsym_mul (x y : ℝ) (m : ℕ) : (x - y) * hsym x y m = x ^ (m + 1) - y ^ (m + 1) := by
  induction m with
  | zero => simp [hsym]
  | succ m ih =>
    have : (x - y) * hsym x y (m + 1) = y * ((x - y) * hsym x y m) + (x - y) * x ^ (m + 1) := by simp only [hsym]; ring
    rw [this, ih]; ring

/-- `c[l] = Σ_{i+j<2l} xⁱ yʲ` -/
noncomputable def dd1C (x y : ℝ) : ℕ → ℝ
  | 0 => 0
  | l + 1 => dd1C x y l + hsym x y (2 * l) + hsym x y (2 * l + 1)

/-- the partial sums `Σ_{l=1}^{L} e2^l c[l]/(2l+1)` -/
noncomputable def dd1Sum (e2 x y : ℝ) : ℕ → ℝ
  | 0 => 0
  | l + 1 => dd1Sum e2 x y l + e2 ^ (l + 1) * dd1C x y (l + 1) / ((2 * (l + 1) + 1 : ℕ) : ℝ)

/-- the state of the loop of `DDatanhee1` after `l` iterations -/
noncomputable def dd1State (e2 x y : ℝ) (l : ℕ) : DD1St ℝ :=
  ⟨x ^ (2 * l), ((2 * l + 1 : ℕ) : ℝ), if l = 0 then 0 else hsym x y (2 * l - 1), dd1C x y l, e2 ^ l, dd1Sum e2 x y l⟩

theorem dd1State_zero (e2 x y : ℝ) : dd1State e2 x y 0 = ⟨1, 1, 0, 0, 1, 0⟩ := by
  simp [dd1State, dd1C, dd1Sum]

theorem dd1_step (E : Ell ℝ) (x y : ℝ) (l fuel : ℕ) :
    DDatanhee1Loop E x y (fuel + 1) (dd1State E.e2 x y l) =
      (if !(RealLike.ltb (RealLike.abs (dd1Sum E.e2 x y (l + 1)) * (eps : ℝ) / 2)
              (RealLike.abs (E.e2 ^ (l + 1) * dd1C x y (l + 1) / ((2 * (l + 1) + 1 : ℕ) : ℝ)))) then dd1Sum E.e2 x y (l + 1)
       else DDatanhee1Loop E x y fuel (dd1State E.e2 x y (l + 1))) := by
  have ht : y * (if l = 0 then 0 else hsym x y (2 * l - 1)) + x ^ (2 * l) = hsym x y (2 * l) := by
    cases l with
    | zero => simp [hsym]
    | succ l =>
      have : 2 * (l + 1) - 1 = 2 * l + 1 := by omega
      have h2 : 2 * (l + 1) = (2 * l + 1) + 1 := by ring
      simp only [this, Nat.succ_ne_zero, if_false]
      rw [h2]; simp only [hsym]
  have hz : x ^ (2 * l) * x * x = x ^ (2 * (l + 1)) := by ring
  have hk : ((2 * l + 1 : ℕ) : ℝ) + 2 = ((2 * (l + 1) + 1 : ℕ) : ℝ) := by push_cast; ring
  have ht2 : y * hsym x y (2 * l) + x ^ (2 * l) * x = hsym x y (2 * l + 1) := by simp only [hsym]; ring
  have hc : dd1C x y l + hsym x y (2 * l) + hsym x y (2 * l + 1) = dd1C x y (l + 1) := by simp only [dd1C]
  have hen : E.e2 ^ l * E.e2 = E.e2 ^ (l + 1) := by ring
  have hst : dd1State E.e2 x y (l + 1) =
      ⟨x ^ (2 * (l + 1)), ((2 * (l + 1) + 1 : ℕ) : ℝ), hsym x y (2 * l + 1), dd1C x y (l + 1), E.e2 ^ (l + 1), dd1Sum E.e2 x y (l + 1)⟩ := by
    have : 2 * (l + 1) - 1 = 2 * l + 1 := by omega
    simp only [dd1State, Nat.succ_ne_zero, if_false, this]
  rw [hst]
  simp only [DDatanhee1Loop, dd1State, two_real]
  rw [ht, ht2, hc, hz, hk, hen]
  simp only [dd1Sum]
  rfl

theorem dd1_loop_partial (E : Ell ℝ) (x y : ℝ) (fuel l : ℕ) :
    ∃ L, l ≤ L ∧ L ≤ l + fuel ∧ DDatanhee1Loop E x y fuel (dd1State E.e2 x y l) = dd1Sum E.e2 x y L := by
  induction fuel generalizing l with
  | zero => exact ⟨l, le_refl _, le_refl _, by simp [DDatanhee1Loop, dd1State]⟩
  | succ fuel ih =>
    rw [dd1_step]
    split
    · exact ⟨l + 1, by omega, by omega, rfl⟩
    · obtain ⟨L, h1, h2, h3⟩ := ih (l + 1)
      exact ⟨L, by omega, by omega, h3⟩

/-! ## `DDatanhee2`: the series in `1 − x`, `1 − y` -/

theorem ofInt_real (i : ℤ) : (ofInt i : ℝ) = (i : ℝ) := by
  unfold ofInt
  split
  · rename_i h
    rw [ofNat_real]
    have : ((-i).toNat : ℤ) = -i := Int.toNat_of_nonneg (by omega)
    have h2 : (((-i).toNat : ℕ) : ℝ) = ((-i : ℤ) : ℝ) := by exact_mod_cast congrArg (fun z : ℤ => (z : ℝ)) this
    rw [h2]; push_cast; ring
  · rename_i h
    rw [ofNat_real]
    have : (i.toNat : ℤ) = i := Int.toNat_of_nonneg (by omega)
    exact_mod_cast congrArg (fun z : ℤ => (z : ℝ)) this

/-- two steps of `choose n (k+1)·(k+1) = choose n k·(n−k)` in ℝ -/
theorem choose_ratio (n J : ℕ) (hJ : 1 ≤ J) (h : 2 * J + 1 ≤ n) :
    (n.choose (2 * J + 1) : ℝ) * ((2 * J : ℝ) * (2 * J + 1)) = (n.choose (2 * J - 1) : ℝ) * (((n : ℝ) - 2 * J) * ((n : ℝ) - 2 * J + 1)) := by
  have h1 := Nat.choose_succ_right_eq n (2 * J)
  have h2 := Nat.choose_succ_right_eq n (2 * J - 1)
  have e : 2 * J - 1 + 1 = 2 * J := by omega
  rw [e] at h2
  have c1 : (n.choose (2 * J + 1) : ℝ) * ((2 * J : ℝ) + 1) = (n.choose (2 * J) : ℝ) * ((n : ℝ) - 2 * J) := by
    have := congrArg (fun z : ℕ => (z : ℝ)) h1
    simp only [Nat.cast_mul, Nat.cast_add, Nat.cast_one] at this
    rw [Nat.cast_sub (by omega)] at this
    push_cast at this; linear_combination this
  have c2 : (n.choose (2 * J) : ℝ) * (2 * J : ℝ) = (n.choose (2 * J - 1) : ℝ) * ((n : ℝ) - 2 * J + 1) := by
    have := congrArg (fun z : ℕ => (z : ℝ)) h2
    simp only [Nat.cast_mul] at this
    rw [Nat.cast_sub (by omega), Nat.cast_sub (by omega)] at this
    push_cast at this; linear_combination this
  calc (n.choose (2 * J + 1) : ℝ) * ((2 * J : ℝ) * (2 * J + 1))
      = ((n.choose (2 * J + 1) : ℝ) * ((2 * J : ℝ) + 1)) * (2 * J) := by ring
    _ = ((n.choose (2 * J) : ℝ) * (2 * J : ℝ)) * ((n : ℝ) - 2 * J) := by rw [c1]; ring
    _ = _ := by rw [c2]; ring

/-- Horner form of `Σ_{i ≤ j} C(n, 2i+1) q^(j−i)` -/
noncomputable def hornerB (q : ℝ) (n : ℕ) : ℕ → ℝ
  | 0 => (n.choose 1 : ℝ)
  | j + 1 => q * hornerB q n j + (n.choose (2 * (j + 1) + 1) : ℝ)

theorem hornerB_pred (q : ℝ) (n J : ℕ) (hJ : 1 ≤ J) :
    q * hornerB q n (J - 1) + (n.choose (2 * J + 1) : ℝ) = hornerB q n J := by
  obtain ⟨J', rfl⟩ : ∃ J', J = J' + 1 := ⟨J - 1, by omega⟩
  simp only [Nat.add_sub_cancel, hornerB]

/-- **the inner loop of `DDatanhee2`**: started at loop index `k` with `c = C(m+2, 2j+1)` and the Horner sum for `j = kmax − k`, it returns the
    Horner sum for `kmax` — the coefficients the `c` recurrence generates are the binomial coefficients `C(m+2, 2j+1)` -/
theorem DD2Inner_eq (e2 : ℝ) (m kmax : ℕ) (hm : m = 2 * kmax ∨ m + 1 = 2 * kmax) (k : ℕ) (hk : k ≤ kmax) :
    DD2Inner e2 m kmax k (((m + 2).choose (2 * (kmax - k) + 1) : ℕ) : ℝ) (hornerB e2 (m + 2) (kmax - k)) = hornerB e2 (m + 2) kmax := by
  induction k with
  | zero => simp [DD2Inner]
  | succ k ih =>
    have hk' : k ≤ kmax := by omega
    set J := kmax - k with hJ
    have hJ1 : 1 ≤ J := by omega
    have hJk : kmax - (k + 1) = J - 1 := by omega
    have hn : 2 * J + 1 ≤ m + 2 := by omega
    have hcr := choose_ratio (m + 2) J hJ1 hn
    rw [hJk]
    simp only [DD2Inner, ofInt_real]
    have hc : (((m + 2).choose (2 * (J - 1) + 1) : ℕ) : ℝ) *
          (((((k : ℤ) + 1) * (2 * ((k : ℤ) + (m : ℤ) - 2 * (kmax : ℤ)) + 3) : ℤ)) : ℝ) /
          (((((kmax : ℤ) - (k : ℤ)) * (2 * ((kmax : ℤ) - (k : ℤ)) + 1) : ℤ)) : ℝ) = (((m + 2).choose (2 * J + 1) : ℕ) : ℝ) := by
      have e1 : 2 * (J - 1) + 1 = 2 * J - 1 := by omega
      rw [e1]
      have hJr : (J : ℝ) = (kmax : ℝ) - (k : ℝ) := by rw [hJ, Nat.cast_sub hk']
      have hden : (((((kmax : ℤ) - (k : ℤ)) * (2 * ((kmax : ℤ) - (k : ℤ)) + 1) : ℤ)) : ℝ) = (J : ℝ) * (2 * J + 1) := by
        push_cast; rw [hJr]
      have hJpos : (0 : ℝ) < J := by exact_mod_cast hJ1
      have hnum : 2 * (((((k : ℤ) + 1) * (2 * ((k : ℤ) + (m : ℤ) - 2 * (kmax : ℤ)) + 3) : ℤ)) : ℝ) =
          (((m + 2 : ℕ) : ℝ) - 2 * J) * (((m + 2 : ℕ) : ℝ) - 2 * J + 1) := by
        push_cast; rw [hJr]
        rcases hm with h | h
        · have : (m : ℝ) = 2 * (kmax : ℝ) := by exact_mod_cast h
          rw [this]; ring
        · have : (m : ℝ) + 1 = 2 * (kmax : ℝ) := by exact_mod_cast h
          have hm' : (m : ℝ) = 2 * (kmax : ℝ) - 1 := eq_sub_of_add_eq this
          rw [hm']; ring
      rw [hden, div_eq_iff (by positivity)]
      have : (((m + 2).choose (2 * J + 1) : ℕ) : ℝ) * ((J : ℝ) * (2 * J + 1)) = (((m + 2).choose (2 * J + 1) : ℕ) : ℝ) * ((2 * J : ℝ) * (2 * J + 1)) / 2 := by ring
      rw [this, hcr, ← hnum]; ring
    rw [hc]
    rw [hornerB_pred e2 (m + 2) J hJ1]
    exact ih hk'

theorem dd2Coef_eq (e2 : ℝ) (m : ℕ) : dd2Coef e2 m = hornerB e2 (m + 2) ((m + 1) / 2) := by
  unfold dd2Coef
  have hm : m = 2 * ((m + 1) / 2) ∨ m + 1 = 2 * ((m + 1) / 2) := by omega
  have h := DD2Inner_eq e2 m ((m + 1) / 2) hm ((m + 1) / 2) (le_refl _)
  simp only [Nat.sub_self, Nat.mul_zero, Nat.zero_add, Nat.choose_one_right, hornerB] at h
  rw [ofNat_real]
  exact h
/-- the even and the odd part of `(1 + e)ⁿ = P_n(e²) + e·R_n(e²)` -/
noncomputable def Psum (q : ℝ) (n : ℕ) : ℝ := ∑ i ∈ range (n + 1), (n.choose (2 * i) : ℝ) * q ^ i
noncomputable def Rsum (q : ℝ) (n : ℕ) : ℝ := ∑ i ∈ range (n + 1), (n.choose (2 * i + 1) : ℝ) * q ^ i

theorem hornerB_sum (q : ℝ) (n J : ℕ) : hornerB q n J = ∑ i ∈ range (J + 1), (n.choose (2 * i + 1) : ℝ) * q ^ (J - i) := by
  induction J with
  | zero => simp [hornerB]
  | succ J ih =>
    rw [hornerB, ih, sum_range_succ (n := J + 1), mul_sum]
    have : ∀ i ∈ range (J + 1), q * ((n.choose (2 * i + 1) : ℝ) * q ^ (J - i)) = (n.choose (2 * i + 1) : ℝ) * q ^ (J + 1 - i) := by
      intro i hi
      have hi' : i ≤ J := Nat.lt_succ_iff.mp (mem_range.mp hi)
      have : J + 1 - i = (J - i) + 1 := by omega
      rw [this, pow_succ]; ring
    rw [sum_congr rfl this]
    simp

theorem sum_range_trunc (f : ℕ → ℝ) (K n : ℕ) (hK : K ≤ n) (hz : ∀ i, K < i → f i = 0) :
    ∑ i ∈ range (n + 1), f i = ∑ i ∈ range (K + 1), f i := by
  have hsub : range (K + 1) ⊆ range (n + 1) := range_subset_range.mpr (by omega)
  symm
  apply sum_subset hsub
  intro i _ hi
  apply hz
  simp only [mem_range, not_lt] at hi
  omega

/-- the Horner sum of `C(n, 2i+1)`, `i ≤ K`, read backwards by `C(n, j) = C(n, n − j)`: for `n = 2K + 1 + d` (`d ≤ 1`) it is the part of
    `(1 + e)ⁿ` of the parity of `d` — `Rsum` for `d = 1`, `Psum` for `d = 0` -/
theorem hornerB_reflect (q : ℝ) (K d : ℕ) (hd : d ≤ 1) :
    hornerB q (2 * K + 1 + d) K = ∑ i ∈ range (2 * K + 1 + d + 1), ((2 * K + 1 + d).choose (2 * i + d) : ℝ) * q ^ i := by
  rw [hornerB_sum, sum_range_trunc _ K (2 * K + 1 + d) (by omega), ← sum_range_reflect]
  · apply sum_congr rfl
    intro i hi
    have hi' : i ≤ K := Nat.lt_succ_iff.mp (mem_range.mp hi)
    rw [show K + 1 - 1 - i = K - i by omega, show K - (K - i) = i by omega, ← Nat.choose_symm (by omega : 2 * i + d ≤ 2 * K + 1 + d),
      show 2 * K + 1 + d - (2 * i + d) = 2 * (K - i) + 1 by omega]
  · intro i hi
    rw [Nat.choose_eq_zero_of_lt (by omega), Nat.cast_zero, zero_mul]

/-- Pascal's rule on the even and odd parts: `(1 + e)^(n+1) = (1 + e)(P_n + e R_n)` -/
theorem Rsum_succ (q : ℝ) (n : ℕ) : Rsum q (n + 1) = Psum q n + Rsum q n := by
  unfold Rsum Psum
  rw [sum_range_succ (n := n + 1)]
  have hlast : ((n + 1).choose (2 * (n + 1) + 1) : ℝ) = 0 := by
    rw [Nat.choose_eq_zero_of_lt (by omega)]; simp
  rw [hlast, zero_mul, add_zero, ← sum_add_distrib]
  apply sum_congr rfl
  intro i _
  rw [Nat.choose_succ_succ' n (2 * i)]
  push_cast; ring

theorem Psum_succ (q : ℝ) (n : ℕ) : Psum q (n + 1) = Psum q n + q * Rsum q n := by
  unfold Rsum Psum
  rw [sum_range_succ' (n := n + 1)]
  -- the i = 0 term is 1; shift the rest
  have h0 : ((n + 1).choose (2 * 0) : ℝ) * q ^ 0 = 1 := by simp
  rw [h0]
  have hshift : ∀ i ∈ range (n + 1), ((n + 1).choose (2 * (i + 1)) : ℝ) * q ^ (i + 1) =
      (n.choose (2 * (i + 1)) : ℝ) * q ^ (i + 1) + q * ((n.choose (2 * i + 1) : ℝ) * q ^ i) := by
    intro i _
    have : 2 * (i + 1) = (2 * i + 1) + 1 := by ring
    rw [this, Nat.choose_succ_succ' n (2 * i + 1)]
    push_cast; ring
  rw [sum_congr rfl hshift, sum_add_distrib, ← mul_sum]
  -- Σ_{i<n+1} C(n, 2(i+1)) q^(i+1) + 1 = Σ_{i<n+1} C(n, 2i) q^i   (the top term vanishes)
  have hP : ∑ i ∈ range (n + 1), (n.choose (2 * i) : ℝ) * q ^ i =
      ∑ i ∈ range (n + 1), (n.choose (2 * (i + 1)) : ℝ) * q ^ (i + 1) + 1 := by
    have h1 : ∑ i ∈ range (n + 1 + 1), (n.choose (2 * i) : ℝ) * q ^ i = ∑ i ∈ range (n + 1), (n.choose (2 * i) : ℝ) * q ^ i := by
      rw [sum_range_succ (n := n + 1)]
      rw [Nat.choose_eq_zero_of_lt (by omega : n < 2 * (n + 1))]; simp
    rw [← h1, sum_range_succ' (n := n + 1)]; simp
  rw [hP]; ring

theorem PR_norm (q : ℝ) (n : ℕ) : Psum q n ^ 2 - q * Rsum q n ^ 2 = (1 - q) ^ n := by
  induction n with
  | zero => simp [Psum, Rsum]
  | succ n ih =>
    rw [Psum_succ, Rsum_succ, pow_succ (1 - q) n, ← ih]; ring

theorem dd2Coef_even (q : ℝ) (K : ℕ) : dd2Coef q (2 * K) = Rsum q (2 * K + 2) := by
  rw [dd2Coef_eq]
  have : (2 * K + 1) / 2 = K := by omega
  rw [this]; exact hornerB_reflect q K 1 le_rfl

theorem dd2Coef_odd (q : ℝ) (K : ℕ) : dd2Coef q (2 * K + 1) = Psum q (2 * K + 3) := by
  rw [dd2Coef_eq]
  have h1 : (2 * K + 1 + 1) / 2 = K + 1 := by omega
  have h2 : 2 * K + 1 + 2 = 2 * (K + 1) + 1 := by ring
  rw [h1, h2]; exact hornerB_reflect q (K + 1) 0 (Nat.zero_le 1)

/-- **two successive coefficient polynomials never vanish together** (for `e² ≠ 1`): a term of `DDatanhee2` can vanish identically, two
    successive terms cannot — the fact behind the termination rule (two successive negligible terms) -/
theorem dd2Coef_no_two_zero (q : ℝ) (hq : q ≠ 1) (m : ℕ) : ¬ (dd2Coef q m = 0 ∧ dd2Coef q (m + 1) = 0) := by
  rintro ⟨h1, h2⟩
  have h1q : (1 : ℝ) - q ≠ 0 := sub_ne_zero.mpr (Ne.symm hq)
  rcases Nat.even_or_odd' m with ⟨K, rfl | rfl⟩
  · -- m = 2K: R_{2K+2} = 0 and P_{2K+3} = 0
    rw [dd2Coef_even] at h1
    rw [dd2Coef_odd, show 2 * K + 3 = (2 * K + 2) + 1 by ring, Psum_succ, h1, mul_zero, add_zero] at h2
    have hn := PR_norm q (2 * K + 2)
    rw [h1, h2] at hn
    have : (1 - q) ^ (2 * K + 2) = 0 := by rw [← hn]; ring
    exact h1q (pow_eq_zero_iff (by omega) |>.mp this)
  · -- m = 2K+1: P_{2K+3} = 0 and R_{2K+4} = 0
    rw [dd2Coef_odd] at h1
    rw [show 2 * K + 1 + 1 = 2 * (K + 1) by ring, dd2Coef_even, show 2 * (K + 1) + 2 = (2 * K + 3) + 1 by ring, Rsum_succ, h1, zero_add] at h2
    have hn := PR_norm q (2 * K + 3)
    rw [h1, h2] at hn
    have : (1 - q) ^ (2 * K + 3) = 0 := by rw [← hn]; ring
    exact h1q (pow_eq_zero_iff (by omega) |>.mp this)

/-- at `e² = −3` the pair `(P, R)` returns to the real axis every third step: `(1 + i√3)³ = −8` -/
theorem PR_at_minus_three (k : ℕ) :
    Psum (-3 : ℝ) (3 * k) = (-8) ^ k ∧ Rsum (-3 : ℝ) (3 * k) = 0 ∧
    Psum (-3 : ℝ) (3 * k + 1) = (-8) ^ k ∧ Rsum (-3 : ℝ) (3 * k + 1) = (-8) ^ k ∧
    Psum (-3 : ℝ) (3 * k + 2) = -2 * (-8) ^ k ∧ Rsum (-3 : ℝ) (3 * k + 2) = 2 * (-8) ^ k := by
  have step : ∀ n (p r : ℝ), Psum (-3) n = p → Rsum (-3) n = r → Psum (-3) (n + 1) = p + -3 * r ∧ Rsum (-3) (n + 1) = p + r :=
    fun n p r hp hr => by rw [Psum_succ, Rsum_succ, hp, hr]; exact ⟨rfl, rfl⟩
  have base : Psum (-3 : ℝ) (3 * k) = (-8) ^ k ∧ Rsum (-3 : ℝ) (3 * k) = 0 := by
    induction k with
    | zero => simp [Psum, Rsum]
    | succ k ih =>
      obtain ⟨p1, r1⟩ := step _ _ _ ih.1 ih.2
      obtain ⟨p2, r2⟩ := step _ _ _ p1 r1
      obtain ⟨p3, r3⟩ := step _ _ _ p2 r2
      rw [show 3 * (k + 1) = 3 * k + 1 + 1 + 1 by ring, p3, r3]
      constructor <;> ring
  obtain ⟨p1, r1⟩ := step _ _ _ base.1 base.2
  obtain ⟨p2, r2⟩ := step _ _ _ p1 r1
  exact ⟨base.1, base.2, by rw [p1]; ring, by rw [r1]; ring, by rw [p2]; ring, by rw [r2]; ring⟩

theorem dd2Coef_minus_three (k : ℕ) : dd2Coef (-3 : ℝ) (6 * k + 4) = 0 := by
  have h : 6 * k + 4 = 2 * (3 * k + 2) := by ring
  rw [h, dd2Coef_even]
  have h2 : 2 * (3 * k + 2) + 2 = 3 * (2 * k + 2) := by ring
  rw [h2]; exact (PR_at_minus_three (2 * k + 2)).2.1

/-- `ee = (−1)^m e2^(⌊m/2⌋+1)/(1 − e2)^(m+2)` -/
noncomputable def dd2ee (q e2m : ℝ) (m : ℕ) : ℝ := (-1) ^ m * q ^ (m / 2 + 1) / e2m ^ (m + 2)

/-- the `m`-th term `t·ee·xy/(m + 2)`, `xy = Σ_{i+j=m} dxⁱ dyʲ` -/
noncomputable def dd2Term (q e2m dx dy : ℝ) (m : ℕ) : ℝ := dd2Coef q m * dd2ee q e2m m * hsym dy dx m / ((m + 2 : ℕ) : ℝ)

/-- the partial sums (the leading term `m = 0` is `e2/(1 − e2)²`) -/
noncomputable def dd2Sum (q e2m dx dy : ℝ) : ℕ → ℝ
  | 0 => dd2ee q e2m 0
  | m + 1 => dd2Sum q e2m dx dy m + dd2Term q e2m dx dy (m + 1)

/-- the state of the loop of `DDatanhee2` when the terms up to `m` have been added and `ns` negligible terms have just been seen -/
noncomputable def dd2State (q e2m dx dy : ℝ) (m ns : ℕ) : DD2St ℝ :=
  ⟨m + 1, hsym dy dx m, dy ^ m, dd2ee q e2m m, dd2Sum q e2m dx dy m, ns⟩

/-- term `m` is negligible: `¬(|s|·ε/2 < |ds|)` for the partial sum `s` that already contains it -/
def dd2Negl (q e2m dx dy : ℝ) (m : ℕ) : Prop :=
  ¬ (|dd2Sum q e2m dx dy m| * (eps : ℝ) / 2 < |dd2Term q e2m dx dy m|)

/-- the `ee` recurrence of the loop: a division by `−(1 − e²)` per term, a factor `e²` per even index (`1/0 = 0` covers `e² = 1`) -/
theorem dd2ee_succ (q e2m : ℝ) (m : ℕ) :
    (if (m + 1) % 2 = 0 then dd2ee q e2m m / (-e2m) * q else dd2ee q e2m m / (-e2m)) = dd2ee q e2m (m + 1) := by
  have hd : dd2ee q e2m m / (-e2m) = (-1) ^ (m + 1) * q ^ (m / 2 + 1) / e2m ^ (m + 1 + 2) := by
    rw [dd2ee, div_div, pow_succ (-1 : ℝ) m, show m + 1 + 2 = m + 2 + 1 from rfl, pow_succ e2m (m + 2), mul_neg, div_neg, mul_neg_one, neg_mul,
      neg_div]
  rw [hd, dd2ee]
  split_ifs with h
  · rw [show (m + 1) / 2 = m / 2 + 1 by omega, pow_succ q (m / 2 + 1), div_mul_eq_mul_div, mul_assoc]
  · rw [show (m + 1) / 2 = m / 2 by omega]

/-- the `xy` recurrence of the loop -/
theorem hsym_step (dx dy : ℝ) (m : ℕ) : dx * hsym dy dx m + dy ^ m * dy = hsym dy dx (m + 1) := by
  rw [hsym, ← pow_succ, mul_comm]

theorem dd2_step (E : Ell ℝ) (dx dy : ℝ) (m ns fuel : ℕ) :
    DDatanhee2Loop E dx dy (fuel + 1) (dd2State E.e2 E.e2m dx dy m ns) =
      (if |dd2Sum E.e2 E.e2m dx dy (m + 1)| * (eps : ℝ) / 2 < |dd2Term E.e2 E.e2m dx dy (m + 1)| then
          DDatanhee2Loop E dx dy fuel (dd2State E.e2 E.e2m dx dy (m + 1) 0)
       else if ns + 1 = 2 then dd2Sum E.e2 E.e2m dx dy (m + 1)
       else DDatanhee2Loop E dx dy fuel (dd2State E.e2 E.e2m dx dy (m + 1) (ns + 1))) := by
  simp only [DDatanhee2Loop, dd2State, ltb_real, abs_real, ofNat_real, beq_iff_eq, decide_eq_true_eq]
  rw [hsym_step, ← pow_succ, dd2ee_succ]
  rfl

/-- the counter `ns ≤ 1` of the state says whether the term just added was negligible (`hprev`); that is the invariant of the loop -/
theorem dd2_loop_spec (E : Ell ℝ) (dx dy : ℝ) (fuel m ns : ℕ) (hns : ns ≤ 1) (hprev : ns = 1 → dd2Negl E.e2 E.e2m dx dy m) :
    ∃ M, m ≤ M ∧ M ≤ m + fuel ∧
      DDatanhee2Loop E dx dy fuel (dd2State E.e2 E.e2m dx dy m ns) = dd2Sum E.e2 E.e2m dx dy M ∧
      (M = m + fuel ∨ (m + 1 ≤ M ∧ dd2Negl E.e2 E.e2m dx dy M ∧ dd2Negl E.e2 E.e2m dx dy (M - 1) ∧ (m + 2 ≤ M ∨ ns = 1))) := by
  induction fuel generalizing m ns with
  | zero => exact ⟨m, le_refl _, le_refl _, by simp [DDatanhee2Loop, dd2State], Or.inl rfl⟩
  | succ fuel ih =>
    -- the loop goes on from `m + 1` with the counter at `ns'`
    have next : ∀ ns', ns' ≤ 1 → (ns' = 1 → dd2Negl E.e2 E.e2m dx dy (m + 1)) → ∃ M, m ≤ M ∧ M ≤ m + (fuel + 1) ∧
        DDatanhee2Loop E dx dy fuel (dd2State E.e2 E.e2m dx dy (m + 1) ns') = dd2Sum E.e2 E.e2m dx dy M ∧
        (M = m + (fuel + 1) ∨ (m + 1 ≤ M ∧ dd2Negl E.e2 E.e2m dx dy M ∧ dd2Negl E.e2 E.e2m dx dy (M - 1) ∧ (m + 2 ≤ M ∨ ns = 1))) := by
      intro ns' h1 h2
      obtain ⟨M, a, b, c, d⟩ := ih (m + 1) ns' h1 h2
      exact ⟨M, by omega, by omega, c, d.imp (fun h => by omega) fun ⟨d1, d2, d3, _⟩ => ⟨by omega, d2, d3, Or.inl d1⟩⟩
    rw [dd2_step]
    split_ifs with hbig h2
    · exact next 0 (by omega) (fun h => absurd h (by omega))
    · exact ⟨m + 1, by omega, by omega, rfl, Or.inr ⟨le_refl _, hbig, hprev (by omega), Or.inr (by omega)⟩⟩
    · exact next (ns + 1) (by omega) (fun _ => hbig)

/-- `e^(n−1)·((1+e)ⁿ − (e−1)ⁿ)/2` as a polynomial in `q = e²`: `R_n q^(n/2)` for even `n`, `P_n q^((n−1)/2)` for odd `n` -/
noncomputable def wseq (q : ℝ) (n : ℕ) : ℝ := if n % 2 = 0 then Rsum q n * q ^ (n / 2) else Psum q n * q ^ (n / 2)

theorem wseq_even (q : ℝ) (K : ℕ) : wseq q (2 * K) = Rsum q (2 * K) * q ^ K := by
  rw [wseq, if_pos (Nat.mul_mod_right 2 K), Nat.mul_div_cancel_left K two_pos]

theorem wseq_odd (q : ℝ) (K : ℕ) : wseq q (2 * K + 1) = Psum q (2 * K + 1) * q ^ K := by
  rw [wseq, if_neg (by omega), show (2 * K + 1) / 2 = K by omega]

theorem wseq_rec (q : ℝ) (n : ℕ) : wseq q (n + 2) = 2 * q * wseq q (n + 1) + q * (1 - q) * wseq q n := by
  rcases Nat.even_or_odd' n with ⟨K, rfl | rfl⟩
  · rw [show 2 * K + 2 = 2 * (K + 1) by ring, wseq_even, wseq_odd, wseq_even, show 2 * (K + 1) = 2 * K + 1 + 1 by ring,
      Rsum_succ q (2 * K + 1), Rsum_succ q (2 * K), Psum_succ q (2 * K)]
    ring
  · rw [show 2 * K + 1 + 2 = 2 * (K + 1) + 1 by ring, show 2 * K + 1 + 1 = 2 * (K + 1) by ring, wseq_odd, wseq_even, wseq_odd,
      show 2 * (K + 1) = 2 * K + 1 + 1 by ring, Psum_succ q (2 * K + 1 + 1), Psum_succ q (2 * K + 1), Rsum_succ q (2 * K + 1)]
    ring

theorem dd2Coef_wseq (q : ℝ) (m : ℕ) : dd2Coef q m * q ^ (m / 2 + 1) = wseq q (m + 2) := by
  rcases Nat.even_or_odd' m with ⟨K, rfl | rfl⟩
  · rw [dd2Coef_even, Nat.mul_div_cancel_left K two_pos, show 2 * K + 2 = 2 * (K + 1) by ring, wseq_even]
  · rw [dd2Coef_odd, show (2 * K + 1) / 2 = K by omega, show 2 * K + 1 + 2 = 2 * (K + 1) + 1 by ring, wseq_odd]

/-- the coefficients `a_j` with `Σ a_j dʲ = 1/(1 − q(1 − d)²)` as generated by the code: `a_0 = 1/(1−q)`, `a_{m+1} = −t_m·ee_m` -/
noncomputable def dd2A (q : ℝ) : ℕ → ℝ
  | 0 => 1 / (1 - q)
  | m + 1 => -(dd2Coef q m * dd2ee q (1 - q) m)

theorem dd2A_eq (q : ℝ) (j : ℕ) : dd2A q j = (-1) ^ j * wseq q (j + 1) / (1 - q) ^ (j + 1) := by
  cases j with
  | zero => simp [dd2A, wseq, Psum, Finset.sum_range_succ]
  | succ m =>
    simp only [dd2A, dd2ee]
    rw [← dd2Coef_wseq]
    rw [pow_succ (-1 : ℝ) m]
    ring

theorem wseq_one (q : ℝ) : wseq q 1 = 1 := by
  have : Psum q 1 = 1 := by norm_num [Psum, Finset.sum_range_succ, Nat.choose]
  simp only [wseq, this]; norm_num

theorem wseq_two (q : ℝ) : wseq q 2 = 2 * q := by
  have : Rsum q 2 = 2 := by norm_num [Rsum, Finset.sum_range_succ, Nat.choose]
  simp only [wseq, this]; norm_num

/-! ### stopping at the first negligible term (`DDatanhee2LoopOld`, the rule that fix 9562c37 replaced) -/

theorem dd2old_step (E : Ell ℝ) (dx dy : ℝ) (m ns fuel : ℕ) :
    DDatanhee2LoopOld E dx dy (fuel + 1) (dd2State E.e2 E.e2m dx dy m ns) =
      (if |dd2Sum E.e2 E.e2m dx dy (m + 1)| * (eps : ℝ) / 2 < |dd2Term E.e2 E.e2m dx dy (m + 1)| then
          DDatanhee2LoopOld E dx dy fuel (dd2State E.e2 E.e2m dx dy (m + 1) 0)
       else dd2Sum E.e2 E.e2m dx dy (m + 1)) := by
  simp only [DDatanhee2LoopOld, dd2State, ltb_real, abs_real, ofNat_real, beq_iff_eq, Bool.not_eq_true', decide_eq_false_iff_not, ite_not]
  rw [hsym_step, ← pow_succ, dd2ee_succ]
  rfl

/-- the terms of `DDatanhee2` for `f = −1` (`e² = −3`, `1 − e² = 4`) at `x = y = 3/4` -/
theorem dd2_terms_minus_three :
    dd2Sum (-3 : ℝ) 4 (1 / 4) (1 / 4) 0 = -3 / 16 ∧ dd2Term (-3 : ℝ) 4 (1 / 4) (1 / 4) 1 = -1 / 16 ∧
    dd2Term (-3 : ℝ) 4 (1 / 4) (1 / 4) 2 = -27 / 2048 ∧ dd2Term (-3 : ℝ) 4 (1 / 4) (1 / 4) 3 = -9 / 5120 ∧
    dd2Term (-3 : ℝ) 4 (1 / 4) (1 / 4) 4 = 0 ∧ dd2Term (-3 : ℝ) 4 (1 / 4) (1 / 4) 5 = 81 / 917504 := by
  obtain ⟨p3, _, _, r4, p5, _⟩ := PR_at_minus_three 1
  obtain ⟨_, r6, p7, _⟩ := PR_at_minus_three 2
  have c1 : dd2Coef (-3 : ℝ) 1 = -8 := (dd2Coef_odd (-3 : ℝ) 0).trans (by norm_num at p3 ⊢; exact p3)
  have c2 : dd2Coef (-3 : ℝ) 2 = -8 := (dd2Coef_even (-3 : ℝ) 1).trans (by norm_num at r4 ⊢; exact r4)
  have c3 : dd2Coef (-3 : ℝ) 3 = 16 := (dd2Coef_odd (-3 : ℝ) 1).trans (by norm_num at p5 ⊢; exact p5)
  have c4 : dd2Coef (-3 : ℝ) 4 = 0 := (dd2Coef_even (-3 : ℝ) 2).trans (by norm_num at r6 ⊢; exact r6)
  have c5 : dd2Coef (-3 : ℝ) 5 = 64 := (dd2Coef_odd (-3 : ℝ) 2).trans (by norm_num at p7 ⊢; exact p7)
  refine ⟨?_, ?_, ?_, ?_, ?_, ?_⟩
  · norm_num [dd2Sum, dd2ee]
  · simp only [dd2Term, c1, dd2ee, hsym]; norm_num
  · simp only [dd2Term, c2, dd2ee, hsym]; norm_num
  · simp only [dd2Term, c3, dd2ee, hsym]; norm_num
  · simp only [dd2Term, c4, dd2ee, hsym]; norm_num
  · simp only [dd2Term, c5, dd2ee, hsym]; norm_num

theorem dd2_minus_three_facts :
    dd2Sum (-3 : ℝ) 4 (1 / 4) (1 / 4) 3 = -2713 / 10240 ∧ dd2Sum (-3 : ℝ) 4 (1 / 4) (1 / 4) 4 = -2713 / 10240 ∧
    ¬ dd2Negl (-3 : ℝ) 4 (1 / 4) (1 / 4) 1 ∧ ¬ dd2Negl (-3 : ℝ) 4 (1 / 4) (1 / 4) 2 ∧ ¬ dd2Negl (-3 : ℝ) 4 (1 / 4) (1 / 4) 3 ∧
    dd2Negl (-3 : ℝ) 4 (1 / 4) (1 / 4) 4 ∧ ¬ dd2Negl (-3 : ℝ) 4 (1 / 4) (1 / 4) 5 := by
  obtain ⟨s0, t1, t2, t3, t4, t5⟩ := dd2_terms_minus_three
  have s1 : dd2Sum (-3 : ℝ) 4 (1 / 4) (1 / 4) 1 = -1 / 4 := by rw [dd2Sum, s0, t1]; norm_num
  have s2 : dd2Sum (-3 : ℝ) 4 (1 / 4) (1 / 4) 2 = -539 / 2048 := by rw [dd2Sum, s1, t2]; norm_num
  have s3 : dd2Sum (-3 : ℝ) 4 (1 / 4) (1 / 4) 3 = -2713 / 10240 := by rw [dd2Sum, s2, t3]; norm_num
  have s4 : dd2Sum (-3 : ℝ) 4 (1 / 4) (1 / 4) 4 = -2713 / 10240 := by rw [dd2Sum, s3, t4]; norm_num
  have s5 : dd2Sum (-3 : ℝ) 4 (1 / 4) (1 / 4) 5 = -2713 / 10240 + 81 / 917504 := by rw [dd2Sum, s4, t5]
  have heps : (eps : ℝ) = 1 / 4503599627370496 := by simp only [eps, one_real, ofNat_real]; norm_num
  refine ⟨s3, s4, ?_, ?_, ?_, ?_, ?_⟩
  · simp only [dd2Negl, not_not, s1, t1, heps]
    rw [abs_of_neg (by norm_num), abs_of_neg (by norm_num)]
    norm_num
  · simp only [dd2Negl, not_not, s2, t2, heps]
    rw [abs_of_neg (by norm_num), abs_of_neg (by norm_num)]
    norm_num
  · simp only [dd2Negl, not_not, s3, t3, heps]
    rw [abs_of_neg (by norm_num), abs_of_neg (by norm_num)]
    norm_num
  · simp only [dd2Negl, s4, t4, heps]
    rw [abs_of_neg (by norm_num)]
    norm_num
  · simp only [dd2Negl, not_not, s5, t5, heps]
    rw [abs_of_neg (by norm_num), abs_of_pos (by norm_num)]
    norm_num

theorem ell_minus_one : (⟨1, -1⟩ : Ell ℝ).e2 = -3 ∧ (⟨1, -1⟩ : Ell ℝ).e2m = 4 := by
  constructor
  · simp only [Ell.e2, two_real]; norm_num
  · simp only [Ell.e2m, Ell.e2, one_real, two_real]; norm_num

theorem DDatanhee1_eq (E : Ell ℝ) (x y : ℝ) : DDatanhee1 E x y = DDatanhee1Loop E x y 400 (dd1State E.e2 x y 0) := by
  rw [dd1State_zero]; simp only [DDatanhee1, one_real, zero_real]

theorem DDatanhee2_eq (E : Ell ℝ) (x y : ℝ) :
    DDatanhee2 E x y = DDatanhee2Loop E (1 - x) (1 - y) 400 (dd2State E.e2 E.e2m (1 - x) (1 - y) 0 0) := by
  have h : dd2State E.e2 E.e2m (1 - x) (1 - y) 0 0 = ⟨1, 1, 1, E.e2 / E.e2m ^ 2, E.e2 / E.e2m ^ 2, 0⟩ := by
    simp [dd2State, hsym, dd2ee, dd2Sum]
  rw [h]; simp only [DDatanhee2, one_real, sq_real]

end GeoVerif.Proofs.ConicSeries
