import GeoVerif.Model.Effects
/-! Lemmas for `Props/C14.lean`: runs from states that agree on a footprint, structure of interleavings; then the
invariant of one location along a run of the function-local-static machine (`sstep`, `srun`). -/
namespace GeoVerif.Effects
variable {Loc Val Ret : Type} [DecidableEq Loc]

theorem view_congr {rs : List Loc} {σ τ : State Loc Val} (h : ∀ l ∈ rs, σ l = τ l) : view rs σ = view rs τ := by
  funext l
  unfold view
  by_cases hl : l ∈ rs
  · simp [hl, h l hl]
  · simp [hl]

theorem step_result_congr (o : Op Loc Val Ret) {σ τ : State Loc Val} (h : ∀ l ∈ o.reads, σ l = τ l) :
    (o.step σ).2 = (o.step τ).2 := by
  simp [Op.step, view_congr h]

theorem step_frame (o : Op Loc Val Ret) (σ : State Loc Val) {l : Loc} (h : l ∉ o.writes) : (o.step σ).1 l = σ l := by
  simp [Op.step, h]

theorem step_state_congr (o : Op Loc Val Ret) {σ τ : State Loc Val} {A : Loc → Prop}
    (hr : ∀ l ∈ o.reads, A l) (h : ∀ l, A l → σ l = τ l) : ∀ l, A l → (o.step σ).1 l = (o.step τ).1 l := by
  intro l hl
  have hv : view o.reads σ = view o.reads τ := view_congr (fun l hl => h l (hr l hl))
  simp only [Op.step, hv]
  by_cases hw : l ∈ o.writes
  · simp [hw]
  · simp [hw, h l hl]

theorem runThread_congr (T : List (Op Loc Val Ret)) {σ τ : State Loc Val}
    (h : ∀ o ∈ T, ∀ l ∈ o.footprint, σ l = τ l) : (runThread σ T).2 = (runThread τ T).2 := by
  -- generalise to agreement on the union of the footprints
  suffices H : ∀ (T : List (Op Loc Val Ret)) (A : Loc → Prop) (σ τ : State Loc Val), (∀ o ∈ T, ∀ l ∈ o.footprint, A l) →
      (∀ l, A l → σ l = τ l) → (runThread σ T).2 = (runThread τ T).2 from
    H T (fun l => ∃ o ∈ T, l ∈ o.footprint) σ τ (fun o ho l hl => ⟨o, ho, hl⟩) (fun l ⟨o, ho, hl⟩ => h o ho l hl)
  intro T
  induction T with
  | nil => intros; rfl
  | cons o t ih =>
    intro A σ τ hA hag
    have hreads : ∀ l ∈ o.reads, A l := fun l hl => hA o (by simp) l (by simp [Op.footprint, hl])
    have h1 : (o.step σ).2 = (o.step τ).2 := step_result_congr o (fun l hl => hag l (hreads l hl))
    have h2 := step_state_congr o (A := A) hreads hag
    have h3 := ih A (o.step σ).1 (o.step τ).1 (fun o' ho' => hA o' (by simp [ho'])) h2
    simp [runThread, h1, h3]

theorem runThread_readonly (T : List (Op Loc Val Ret)) (hT : ∀ o ∈ T, o.writes = []) (σ : State Loc Val) :
    (runThread σ T).2 = T.map (fun o => (o.step σ).2) := by
  induction T with
  | nil => rfl
  | cons o t ih =>
    have hs : (o.step σ).1 = σ := by
      funext l; exact step_frame o σ (by simp [hT o (by simp)])
    simp [runThread, hs, ih (fun o' ho' => hT o' (by simp [ho']))]

theorem resultsOf_cons_same (i : Nat) (r : Ret) (rs : List (Nat × Ret)) : resultsOf i ((i, r) :: rs) = r :: resultsOf i rs := by
  simp [resultsOf]

theorem resultsOf_cons_other {i j : Nat} (h : j ≠ i) (r : Ret) (rs : List (Nat × Ret)) : resultsOf i ((j, r) :: rs) = resultsOf i rs := by
  simp [resultsOf, h]

/-- after the head of thread `i` has run, every thread is a sub-list of what it was -/
theorem getElem?_set_tail {α : Type} {P : List (List α)} {i : Nat} {o : α} {rest : List α} (hi : P[i]? = some (o :: rest))
    {k : Nat} {T : List α} (hk : (P.set i rest)[k]? = some T) : ∃ T', P[k]? = some T' ∧ ∀ z ∈ T, z ∈ T' := by
  rw [List.getElem?_set] at hk
  split at hk
  next hik =>
    subst hik
    split at hk
    · cases hk; exact ⟨o :: rest, hi, fun z hz => List.mem_cons_of_mem o hz⟩
    · cases hk
  next => exact ⟨T, hk, fun z hz => hz⟩

omit [DecidableEq Loc] in
theorem Interleave.mem {P : List (List (Op Loc Val Ret))} {tr : Trace Loc Val Ret} (h : Interleave P tr) :
    ∀ p ∈ tr, ∃ T, P[p.1]? = some T ∧ p.2 ∈ T := by
  induction h with
  | done _ => intro p hp; simp at hp
  | @step P tr i o rest hi _ ih =>
    intro p hp
    rcases List.mem_cons.mp hp with rfl | hp
    · exact ⟨o :: rest, hi, List.mem_cons_self⟩
    · obtain ⟨T, hT, hm⟩ := ih p hp
      obtain ⟨T', hT', hsub⟩ := getElem?_set_tail hi hT
      exact ⟨T', hT', hsub _ hm⟩

omit [DecidableEq Loc] in
theorem nonInterfering_set {P : List (List (Op Loc Val Ret))} (hP : NonInterfering P) {i : Nat}
    {o : Op Loc Val Ret} {rest : List (Op Loc Val Ret)} (hi : P[i]? = some (o :: rest)) : NonInterfering (P.set i rest) := by
  intro a b hab Ta hTa Tb hTb x hx y hy l hl
  obtain ⟨Ta', hTa', ha⟩ := getElem?_set_tail hi hTa
  obtain ⟨Tb', hTb', hb⟩ := getElem?_set_tail hi hTb
  exact hP a b hab Ta' hTa' Tb' hTb' x (ha x hx) y (hb y hy) l hl

/-- the per-event claim of `static_init_once` -/
def goodEvent (l : Loc) (v : Val) : SEvent Loc Val → Prop
  | .saw _ x w ini => x = l → (ini = true ∧ w = v)
  | .wrote _ _ _ => True

theorem writesTo_append (l : Loc) (a b : List (SEvent Loc Val)) : writesTo l (a ++ b) = writesTo l a + writesTo l b := by
  simp [writesTo, List.filter_append]

theorem srun_cons (s : SState Loc Val) (i : Nat) (st : SStep Loc Val) (t : List (Nat × SStep Loc Val)) :
    srun s ((i, st) :: t) = ((srun (sstep s i st).1 t).1, (sstep s i st).2 ++ (srun (sstep s i st).1 t).2) := rfl

/-- the new list of threads that have passed the declaration of `l` -/
def passedAfter (l : Loc) (i : Nat) (st : SStep Loc Val) (passed : List Nat) : List Nat :=
  match st with
  | .once x _ => if x = l then i :: passed else passed
  | _ => passed

theorem guarded_cons (l : Loc) (i : Nat) (st : SStep Loc Val) (t) (passed : List Nat) (h : GuardedReads l ((i, st) :: t) passed) :
    GuardedReads l t (passedAfter l i st passed) ∧ (∀ x, st = .read x → x = l → i ∈ passed) := by
  cases st with
  | read x => simp only [GuardedReads] at h; exact ⟨h.2, fun y hy hl => by cases hy; exact h.1 hl⟩
  | write x w => simp only [GuardedReads] at h; exact ⟨h, fun y hy => by cases hy⟩
  | once x w => simp only [GuardedReads] at h; exact ⟨h, fun y hy => by cases hy⟩

def SStep.loc : SStep Loc Val → Loc
  | .once x _ => x
  | .read x => x
  | .write x _ => x

theorem sstep_frame (l : Loc) (v : Val) (s : SState Loc Val) (i : Nat) (st : SStep Loc Val) (passed : List Nat) (hx : st.loc ≠ l) :
    (sstep s i st).1.val l = s.val l ∧ (sstep s i st).1.inited l = s.inited l ∧ writesTo l (sstep s i st).2 = 0 ∧
    passedAfter l i st passed = passed ∧ ∀ e ∈ (sstep s i st).2, goodEvent l v e := by
  cases st with
  | read x => exact ⟨rfl, rfl, rfl, rfl, fun e he => by cases List.mem_singleton.mp he; exact fun h => absurd h hx⟩
  | write x w =>
    have hxl : x ≠ l := hx
    have hlx : ¬ l = x := fun e => hx e.symm
    simp [sstep, writesTo, passedAfter, hxl, hlx, goodEvent]
  | once x w =>
    have hxl : x ≠ l := hx
    have hlx : ¬ l = x := fun e => hx e.symm
    cases hini : s.inited x <;> simp [sstep, hini, passedAfter, writesTo, hxl, hlx, goodEvent]

/-- one step keeps the invariant (an initialised `l` holds `v`; every thread in `passed` saw `l` initialised), emits only good
events, and does not increase the potential `writes to l + (if l is initialised then 0 else 1)`: the initialiser is the one
step that writes, and it uses the potential up -/
theorem sstep_ok (l : Loc) (v : Val) (s : SState Loc Val) (passed : List Nat) (i : Nat) (st : SStep Loc Val)
    (hinv : s.inited l = true → s.val l = v) (hpass : ∀ j ∈ passed, s.inited l = true)
    (hread : ∀ x, st = .read x → x = l → i ∈ passed)
    (hhead : StepOK l v st) :
    ((sstep s i st).1.inited l = true → (sstep s i st).1.val l = v) ∧
    (∀ j ∈ passedAfter l i st passed, (sstep s i st).1.inited l = true) ∧
    (writesTo l (sstep s i st).2 + (if (sstep s i st).1.inited l then 0 else 1) ≤ (if s.inited l then 0 else 1)) ∧
    (∀ e ∈ (sstep s i st).2, goodEvent l v e) := by
  by_cases hx : st.loc = l
  · cases st with
    | read x =>
      -- the thread has passed the declaration, so `l` is initialised
      obtain rfl : x = l := hx
      have hi := hpass i (hread x rfl rfl)
      refine ⟨hinv, hpass, Nat.le_of_eq (Nat.zero_add _), fun e he => ?_⟩
      cases List.mem_singleton.mp he
      exact fun _ => ⟨hi, hinv hi⟩
    | write x w => exact absurd hx hhead
    | once x w =>
      obtain rfl : x = l := hx
      cases hini : s.inited x
      · -- the initialiser runs: the one write to `l`
        have hw : w = v := hhead rfl
        simp [sstep, hini, passedAfter, writesTo, hw, goodEvent]
      · have hs : sstep s i (.once x w) = (s, []) := by simp [sstep, hini]
        rw [hs]
        exact ⟨hinv, fun _ _ => hini, by simp [writesTo, hini], by simp⟩
  · obtain ⟨f1, f2, f3, f4, f5⟩ := sstep_frame l v s i st passed hx
    rw [f1, f2, f3, f4]
    exact ⟨hinv, hpass, by simp, f5⟩

theorem srun_inv (l : Loc) (v : Val) : ∀ (tr : List (Nat × SStep Loc Val)) (s : SState Loc Val) (passed : List Nat),
    (s.inited l = true → s.val l = v) → (∀ i ∈ passed, s.inited l = true) → GuardedReads l tr passed → OnlyInit l v tr →
    writesTo l (srun s tr).2 ≤ (if s.inited l then 0 else 1) ∧ ∀ e ∈ (srun s tr).2, goodEvent l v e := by
  intro tr
  induction tr with
  | nil => intro s passed _ _ _ _; simp [srun, writesTo]
  | cons p t ih =>
    intro s passed hinv hpass hg ho
    obtain ⟨i, st⟩ := p
    have ho' : OnlyInit l v t := fun q hq => ho q (by simp [hq])
    have hhead := ho (i, st) (by simp)
    obtain ⟨hg', hread⟩ := guarded_cons l i st t passed hg
    obtain ⟨a1, a2, a3, a4⟩ := sstep_ok l v s passed i st hinv hpass hread hhead
    obtain ⟨c1, c2⟩ := ih (sstep s i st).1 _ a1 a2 hg' ho'
    rw [srun_cons]
    refine ⟨?_, ?_⟩
    · simp only [writesTo_append]; omega
    · intro e he
      rcases List.mem_append.mp he with he | he
      · exact a4 e he
      · exact c2 e he

end GeoVerif.Effects
