/-!
Insertion before the first element that the new one precedes (core Lean only).  The models have this function once per
element type and order (`insInt`, `insAsc`, `insNat`, `insId` of `Model/VPTree.lean`, `insertBy` of
`Model/IntersectSearch.lean`), each shown to be `insBy` for its order (not `insDesc`, of which no sortedness is needed), so
that the two facts needed of an insertion sort are stated once: the result is a permutation, and it is sorted for every
relation `R` that the order `lt` refines.
-/
namespace GeoVerif

variable {α : Type _} {lt : α → α → Bool}

def insBy (lt : α → α → Bool) (x : α) : List α → List α
  | [] => [x]
  | y :: ys => if lt x y then x :: y :: ys else y :: insBy lt x ys

theorem insBy_perm (lt : α → α → Bool) (x : α) (l : List α) : (insBy lt x l).Perm (x :: l) := by
  induction l with
  | nil => exact List.Perm.refl _
  | cons y ys ih =>
    simp only [insBy]
    split
    · exact List.Perm.refl _
    · exact (List.Perm.cons y ih).trans (List.Perm.swap x y ys)

theorem foldr_insBy_perm (lt : α → α → Bool) (l : List α) : (l.foldr (insBy lt) []).Perm l := by
  induction l with
  | nil => exact List.Perm.refl _
  | cons x xs ih => exact (insBy_perm lt x _).trans (List.Perm.cons x ih)

/-- `x` goes in front of the first `y` with `lt x y`, hence (`R` being passed on along `l`) in front of everything after
    it, and behind the elements `y` with `¬ lt x y` -/
theorem insBy_pairwise {R : α → α → Prop} {x : α} (h1 : ∀ y, lt x y = true → R x y)
    (h2 : ∀ y z, lt x y = true → R y z → R x z) (h3 : ∀ y, lt x y = false → R y x) {l : List α} (hl : l.Pairwise R) :
    (insBy lt x l).Pairwise R := by
  induction l with
  | nil => simp [insBy]
  | cons y ys ih =>
    obtain ⟨hy, hys⟩ := List.pairwise_cons.mp hl
    simp only [insBy]
    split
    · rename_i hxy
      refine List.pairwise_cons.mpr ⟨fun z hz => ?_, hl⟩
      rcases List.mem_cons.mp hz with rfl | hz
      · exact h1 _ hxy
      · exact h2 y z hxy (hy z hz)
    · rename_i hxy
      refine List.pairwise_cons.mpr ⟨fun z hz => ?_, ih hys⟩
      rcases List.mem_cons.mp ((insBy_perm lt x ys).mem_iff.mp hz) with rfl | hz
      · exact h3 y (by simpa using hxy)
      · exact hy z hz

theorem foldr_insBy_pairwise {R : α → α → Prop} (h1 : ∀ x y, lt x y = true → R x y)
    (h2 : ∀ x y z, lt x y = true → R y z → R x z) (h3 : ∀ x y, lt x y = false → R y x) (l : List α) :
    (l.foldr (insBy lt) []).Pairwise R := by
  induction l with
  | nil => exact List.Pairwise.nil
  | cons x xs ih => exact insBy_pairwise (h1 x) (h2 x) (h3 x) ih

end GeoVerif
