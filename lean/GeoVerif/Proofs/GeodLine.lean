import GeoVerif.Model.GeodLine
import GeoVerif.Series.GeodSeries
import GeoVerif.Spec.RealInst
import Mathlib.Tactic.Ring
import Mathlib.Tactic.NormNum
import Mathlib.Tactic.Positivity
import Mathlib.Tactic.LinearCombination
/-!
# The real reading of `Model/GeodLine.lean`: unit vectors on the auxiliary sphere, the fields of `GenPosition` and of
`Geodesic::Lengths` as equations (for `Props/C01.lean`, `Props/C03.lean`)
-/
namespace GeoVerif.Proofs.GeodLine
open GeoVerif GeoVerif.Series GeoVerif.Series.Geod GeoVerif.Clenshaw GeoVerif.GeodLengths GeoVerif.GeodLine Real

noncomputable def evalQ (p : List Rat) (x : ℝ) : ℝ := p.foldr (fun c acc => (c : ℝ) + x * acc) 0

theorem ofRat_real (q : ℚ) : (ofRat q : ℝ) = (q : ℝ) := by
  unfold ofRat
  simp only [ofNat_real]
  have key : ((q.num.natAbs : ℕ) : ℝ) = |(q.num:ℝ)| := by
    rw [← Int.cast_abs, Int.abs_eq_natAbs]; simp
  have hn : (if q.num < 0 then -((q.num.natAbs : ℕ) : ℝ) else ((q.num.natAbs : ℕ) : ℝ)) = (q.num : ℝ) := by
    rw [key]
    split_ifs with h
    · have : (q.num:ℝ) < 0 := by exact_mod_cast h
      rw [abs_of_neg this]; ring
    · have : (0:ℝ) ≤ q.num := by exact_mod_cast (not_lt.mp h)
      rw [abs_of_nonneg this]
  rw [hn, Rat.cast_def]
  split_ifs with h
  · rw [h]; simp
  · rfl

theorem degree_pos : (0 : ℝ) < degree := div_pos Real.pi_pos (by simp only [lit_real]; norm_num)

theorem degree_ne : (degree : ℝ) ≠ 0 := degree_pos.ne'

theorem norm2_unit (x y : ℝ) (h : x ≠ 0 ∨ y ≠ 0) : (norm2 x y).1 ^ 2 + (norm2 x y).2 ^ 2 = 1 := by
  have hp : 0 < x ^ 2 + y ^ 2 := by
    rcases h with h | h
    · have := sq_pos_of_ne_zero h
      positivity
    · have := sq_pos_of_ne_zero h
      positivity
  unfold norm2
  rw [hypot_real, div_pow, div_pow, ← add_div, Real.sq_sqrt hp.le]
  exact div_self hp.ne'

/-! Stated on bare reals, not on `Line`: the elliptic-integral line (`GeodLineExact`) uses the same lemmas. -/

/-- `LineInit`: `csig1 = sbet1 != 0 || calp1 != 0 ? cbet1 * calp1 : 1`; with `cbet1 ≥ tiny > 0` the pair `(sbet1, csig1)` is never
    the origin.  (The literals are the model's: `((0 : ℕ) : ℝ)`, `((1 : ℕ) : ℝ)`.) -/
theorem sig1_unit (tiny x y calp1 : ℝ) (ht : 0 < tiny) :
    let sbet1 := (norm2 x y).1
    let csig1p := if (!(RealLike.eqb sbet1 ((0 : ℕ) : ℝ)) || !(RealLike.eqb calp1 ((0 : ℕ) : ℝ))) = true
      then RealLike.max tiny (norm2 x y).2 * calp1 else ((1 : ℕ) : ℝ)
    (norm2 sbet1 csig1p).1 ^ 2 + (norm2 sbet1 csig1p).2 ^ 2 = 1 := by
  intro sbet1 csig1p
  apply norm2_unit
  by_cases hs : sbet1 = 0
  · right
    have hc : RealLike.max tiny (norm2 x y).2 ≠ 0 := (lt_of_lt_of_le ht (le_max_left _ _)).ne'
    by_cases h : calp1 = 0
    · simp [csig1p, hs, h]
    · simp [csig1p, hs, h, hc]
  · exact Or.inl hs

/-- `salp0² + calp0² = 1` off the poles (`tiny ≤ cbet1`) -/
theorem alp0_unit (tiny x y salp1 calp1 : ℝ) (hb : x ≠ 0 ∨ y ≠ 0) (ha : salp1 ^ 2 + calp1 ^ 2 = 1) (hp : tiny ≤ (norm2 x y).2) :
    (salp1 * RealLike.max tiny (norm2 x y).2) ^ 2 + RealLike.hypot calp1 (salp1 * (norm2 x y).1) ^ 2 = 1 := by
  rw [show RealLike.max tiny (norm2 x y).2 = (norm2 x y).2 from max_eq_right hp, hypot_real, Real.sq_sqrt (by positivity)]
  linear_combination (salp1 ^ 2) * norm2_unit x y hb + ha

theorem sig2_unit {s1 c1 s12 c12 : ℝ} (h1 : s1 ^ 2 + c1 ^ 2 = 1) (ha : s12 ^ 2 + c12 ^ 2 = 1) :
    (s1 * c12 + c1 * s12) ^ 2 + (c1 * c12 - s1 * s12) ^ 2 = 1 := by
  linear_combination (s1 ^ 2 + c1 ^ 2) * ha + h1

theorem bet2_unit {sa ca s2 c2 : ℝ} (h0 : sa ^ 2 + ca ^ 2 = 1) (h2 : s2 ^ 2 + c2 ^ 2 = 1) :
    (ca * s2) ^ 2 + RealLike.hypot sa (ca * c2) ^ 2 = 1 := by
  rw [hypot_real, Real.sq_sqrt (by positivity)]
  linear_combination ca ^ 2 * h2 + h0

/-- `GenPosition`: `if (cbet2 == 0) cbet2 = csig2 = tiny_` is inactive elsewhere (the zero is the model's literal `((0 : ℕ) : ℝ)`) -/
theorem degen_if_neg {h : ℝ} (hnd : h ≠ 0) (a b : ℝ) : (if RealLike.eqb h ((0 : ℕ) : ℝ) = true then a else b) = b :=
  if_neg (by simpa using hnd)

theorem degen_if_nonneg {tiny : ℝ} (ht : 0 ≤ tiny) (c : Prop) [Decidable c] (x y : ℝ) : 0 ≤ if c then tiny else RealLike.hypot x y := by
  split_ifs
  · exact ht
  · exact Real.sqrt_nonneg _

theorem arcOf_unit (L : Line ℝ) (arcmode : Bool) (s sk ck : ℝ) (hk : arcmode = true → sk ^ 2 + ck ^ 2 = 1) :
    (arcOf L arcmode s sk ck).2.1 ^ 2 + (arcOf L arcmode s sk ck).2.2.1 ^ 2 = 1 := by
  unfold arcOf
  cases arcmode with
  | true => exact hk rfl
  | false =>
    simp only [Bool.false_eq_true, if_false, sin_real, cos_real]
    split_ifs <;> exact Real.sin_sq_add_cos_sq _

theorem arcOf_arc (L : Line ℝ) (x sk ck : ℝ) : arcOf L true x sk ck = (x * degree, sk, ck, RealLike.ofNat 0) := rfl

/-- `csig2` before `if (cbet2 == 0) cbet2 = csig2 = tiny_` -/
noncomputable def csig2pre (L : Line ℝ) (arcmode : Bool) (s sk ck : ℝ) : ℝ :=
  L.csig1 * (arcOf L arcmode s sk ck).2.2.1 - L.ssig1 * (arcOf L arcmode s sk ck).2.1

noncomputable def ssig2of (L : Line ℝ) (arcmode : Bool) (s sk ck : ℝ) : ℝ :=
  L.ssig1 * (arcOf L arcmode s sk ck).2.2.1 + L.csig1 * (arcOf L arcmode s sk ck).2.1

theorem csig2pre_arc (L : Line ℝ) (x sk ck : ℝ) : csig2pre L true x sk ck = L.csig1 * ck - L.ssig1 * sk := rfl

theorem ssig2of_arc (L : Line ℝ) (x sk ck : ℝ) : ssig2of L true x sk ck = L.ssig1 * ck + L.csig1 * sk := rfl

/-- `cbet2 ≠ 0`; it fails only for `salp0 = 0` and `csig2 = 0`: a meridional line arriving exactly at a pole -/
def NonDegenerate (L : Line ℝ) (arcmode : Bool) (s sk ck : ℝ) : Prop :=
  RealLike.hypot L.salp0 (L.calp0 * csig2pre L arcmode s sk ck) ≠ 0

theorem genpos_nd (L : Line ℝ) (arcmode : Bool) (s sk ck : ℝ) (un : Bool) (hnd : NonDegenerate L arcmode s sk ck) :
    let P := genPosition L arcmode s sk ck un
    P.ssig2 = ssig2of L arcmode s sk ck ∧ P.csig2 = csig2pre L arcmode s sk ck ∧
    P.cbet2 = RealLike.hypot L.salp0 (L.calp0 * csig2pre L arcmode s sk ck) ∧
    P.calp2 = L.calp0 * csig2pre L arcmode s sk ck ∧ P.salp2 = L.salp0 ∧ P.sbet2 = L.calp0 * ssig2of L arcmode s sk ck :=
  ⟨rfl, degen_if_neg hnd _ _, degen_if_neg hnd _ _,
    congrArg (L.calp0 * ·) (degen_if_neg hnd _ _), rfl, rfl⟩

/-! Each field equation is stated for a variable `P` with `hP : P = genPosition …`, so that `rw` sees `P.lon12` etc. and not the
unfolded record; callers pass `(P := Q) rfl`. -/

theorem genPosition_lon12 {L : Line ℝ} {m : Bool} {s sk ck : ℝ} {un : Bool} {P : Pos ℝ} (hP : P = genPosition L m s sk ck un) :
    P.lon12 = (P.omg12 + L.A3c * (P.sig12 + (sinCosSeries true P.ssig2 P.csig2 L.C3a - L.B31))) / degree ∧ P.lon2u = L.lon1 + P.lon12 := by
  subst hP
  exact ⟨rfl, rfl⟩

theorem genPosition_omg12 {L : Line ℝ} {m : Bool} {s sk ck : ℝ} {un : Bool} {P : Pos ℝ} (hP : P = genPosition L m s sk ck un) :
    P.omg12 = if un = true then
        copysign 1 L.salp0 * (P.sig12 - (RealLike.atan2 P.ssig2 P.csig2 - RealLike.atan2 L.ssig1 L.csig1)
          + (RealLike.atan2 (copysign 1 L.salp0 * (L.salp0 * P.ssig2)) P.csig2 - RealLike.atan2 (copysign 1 L.salp0 * L.somg1) L.comg1))
      else RealLike.atan2 (L.salp0 * P.ssig2 * L.comg1 - P.csig2 * L.somg1) (P.csig2 * L.comg1 + L.salp0 * P.ssig2 * L.somg1) := by
  subst hP
  rw [← Nat.cast_one (R := ℝ)]
  rfl

theorem genPosition_arc {L : Line ℝ} {x sk ck : ℝ} {un : Bool} {P : Pos ℝ} (hP : P = genPosition L true x sk ck un) :
    P.sig12 = x * degree ∧ P.ssig2 = L.ssig1 * ck + L.csig1 * sk ∧
    P.B12 = sinCosSeries true (L.ssig1 * ck + L.csig1 * sk) (L.csig1 * ck - L.ssig1 * sk) L.C1a ∧
    P.s12 = L.b * ((1 + L.A1m1) * P.sig12 + (1 + L.A1m1) * (P.B12 - L.B11)) := by
  subst hP
  rw [← Nat.cast_one (R := ℝ)]
  exact ⟨rfl, rfl, rfl, rfl⟩

theorem genPosition_scales {L : Line ℝ} {m : Bool} {s sk ck : ℝ} {un : Bool} {P : Pos ℝ} (hP : P = genPosition L m s sk ck un) :
    let dn2 := Real.sqrt (1 + L.k2 * P.ssig2 ^ 2)
    let J12 := (L.A1m1 - L.A2m1) * P.sig12 +
      ((1 + L.A1m1) * (P.B12 - L.B11) - (1 + L.A2m1) * (sinCosSeries true P.ssig2 P.csig2 L.C2a - L.B21))
    let t := L.k2 * (P.ssig2 - L.ssig1) * (P.ssig2 + L.ssig1) / (L.dn1 + dn2)
    P.m12 = L.b * ((dn2 * (L.csig1 * P.ssig2) - L.dn1 * (L.ssig1 * P.csig2)) - L.csig1 * P.csig2 * J12) ∧
    P.M12 = (arcOf L m s sk ck).2.2.1 + (t * P.ssig2 - P.csig2 * J12) * L.ssig1 / L.dn1 ∧
    P.M21 = (arcOf L m s sk ck).2.2.1 - (t * L.ssig1 - L.csig1 * J12) * P.ssig2 / dn2 := by
  subst hP
  rw [← Nat.cast_one (R := ℝ), ← sq_real]
  exact ⟨rfl, rfl, rfl⟩

/-- the branch of `Geodesic::Lengths` with `DISTANCE` requested, where `J12 = m0x·sig12 + (A1·B1 − A2·B2)` -/
theorem lengths_distance (ep2 eps sig12 ssig1 csig1 dn1 ssig2 csig2 dn2 cbet1 cbet2 : ℝ) :
    let R := lengths ep2 eps sig12 ssig1 csig1 dn1 ssig2 csig2 dn2 cbet1 cbet2 true
    let B1 := sinCosSeries true ssig2 csig2 (c1f eps) - sinCosSeries true ssig1 csig1 (c1f eps)
    let J12 := (a1m1f eps - a2m1f eps) * sig12 +
      ((1 + a1m1f eps) * B1 - (1 + a2m1f eps) * (sinCosSeries true ssig2 csig2 (c2f eps) - sinCosSeries true ssig1 csig1 (c2f eps)))
    let t := ep2 * (cbet1 - cbet2) * (cbet1 + cbet2) / (dn1 + dn2)
    R.s12b = (1 + a1m1f eps) * (sig12 + B1) ∧
    R.m12b = dn2 * (csig1 * ssig2) - dn1 * (ssig1 * csig2) - csig1 * csig2 * J12 ∧
    R.M12 = csig1 * csig2 + ssig1 * ssig2 + (t * ssig2 - csig2 * J12) * ssig1 / dn1 ∧
    R.M21 = csig1 * csig2 + ssig1 * ssig2 - (t * ssig1 - csig1 * J12) * ssig2 / dn2 := by
  rw [← Nat.cast_one (R := ℝ)]
  exact ⟨rfl, rfl, rfl, rfl⟩

/-- the equator of the unit sphere, eastwards from longitude 0, for the non-vacuity examples -/
noncomputable def exLine : Line ℝ :=
  { f := 0, f1 := 1, b := 1, c2 := 1, tiny := 1 / 1000, lon1 := 0, salp1 := 1, calp1 := 0, dn1 := 1, salp0 := 1, calp0 := 0,
    ssig1 := 0, csig1 := 1, somg1 := 0, comg1 := 1, k2 := 0, A1m1 := a1m1f 0, B11 := sinCosSeries true 0 1 (c1f 0), stau1 := 0, ctau1 := 1,
    A2m1 := a2m1f 0, B21 := sinCosSeries true 0 1 (c2f 0), A3c := 0, B31 := 0, A4 := 0, B41 := 0,
    C1a := c1f 0, C1pa := [], C2a := c2f 0, C3a := [], C4a := [] }

theorem exLine_nd (arcmode : Bool) (s sk ck : ℝ) : NonDegenerate exLine arcmode s sk ck := by
  unfold NonDegenerate
  simp [exLine, hypot_real]

end GeoVerif.Proofs.GeodLine
