import GeoVerif.Model.Conic
import GeoVerif.Model.ConicKernels
import GeoVerif.Spec.RealInst
import Mathlib.Tactic.Ring
import Mathlib.Tactic.LinearCombination
import Mathlib.Tactic.FieldSimp
import Mathlib.Tactic.Positivity
import Mathlib.Tactic.NormNum
import Mathlib.Tactic.Linarith
/-!
# The real-number reading of the small kernels of `Model/Conic.lean`

A Boolean test of the model reads as a proposition through `simp only [ltb_real, leb_real, eqb_real, decide_eq_true_eq]`
(`Bool.not_eq_true'`, `decide_eq_false_iff_not` for a negated test); `split_ifs` then separates the branches.
-/
namespace GeoVerif.Proofs.Conic
open GeoVerif GeoVerif.Conic

theorem zero_real : (@OfNat.ofNat ℝ 0 RealLike.Lits.instLit) = (0 : ℝ) := (lit_real 0).trans Nat.cast_zero
theorem one_real : (@OfNat.ofNat ℝ 1 RealLike.Lits.instLit) = (1 : ℝ) := (lit_real 1).trans Nat.cast_one
theorem two_real : (@OfNat.ofNat ℝ 2 RealLike.Lits.instLit) = (2 : ℝ) := (lit_real 2).trans Nat.cast_ofNat
theorem three_real : (@OfNat.ofNat ℝ 3 RealLike.Lits.instLit) = (3 : ℝ) := (lit_real 3).trans Nat.cast_ofNat
theorem four_real : (@OfNat.ofNat ℝ 4 RealLike.Lits.instLit) = (4 : ℝ) := (lit_real 4).trans Nat.cast_ofNat

@[simp] theorem exp_real (x : ℝ) : RealLike.exp x = Real.exp x := rfl
@[simp] theorem log_real (x : ℝ) : RealLike.log x = Real.log x := rfl
@[simp] theorem sinh_real (x : ℝ) : RealLike.sinh x = Real.sinh x := rfl
@[simp] theorem asinh_real (x : ℝ) : RealLike.asinh x = Real.arsinh x := rfl
@[simp] theorem atan_real (x : ℝ) : RealLike.atan x = Real.arctan x := rfl
@[simp] theorem atanh_real (x : ℝ) : RealLike.atanh x = Real.log ((1 + x) / (1 - x)) / 2 := rfl

theorem dd_mul (g : ℝ → ℝ) {D x y : ℝ} (h : x ≠ y → D = (g x - g y) / (x - y)) : D * (x - y) = g x - g y := by
  by_cases hxy : x = y
  · rw [hxy, sub_self, mul_zero, sub_self]
  · rw [h hxy, div_mul_cancel₀ _ (sub_ne_zero.mpr hxy)]

theorem hyp_real (x : ℝ) : hyp x = Real.sqrt (1 + x ^ 2) := by
  simp only [hyp, hypot_real, one_real, one_pow]

theorem hyp_pos (x : ℝ) : 0 < hyp x := by
  rw [hyp_real]; exact Real.sqrt_pos.mpr (by positivity)

theorem hyp_sq (x : ℝ) : hyp x ^ 2 = 1 + x ^ 2 := by
  rw [hyp_real]; exact Real.sq_sqrt (by positivity)

theorem hyp_eq_of_sq {x y : ℝ} (h : 1 + x ^ (2 : ℕ) = y ^ (2 : ℕ)) (hy : 0 ≤ y) : hyp x = y := by
  rw [hyp_real, h, Real.sqrt_sq hy]

theorem hyp_zero : hyp (0 : ℝ) = 1 := hyp_eq_of_sq (by norm_num) zero_le_one

theorem abs_lt_hyp (x : ℝ) : |x| < hyp x :=
  abs_lt_of_sq_lt_sq (by rw [hyp_sq]; linarith) (hyp_pos x).le

theorem add_hyp_pos (x : ℝ) : 0 < x + hyp x := by
  have := abs_lt_hyp x; have := neg_abs_le x; linarith

theorem hyp_sub_pos (x : ℝ) : 0 < hyp x - x := by
  have := abs_lt_hyp x; have := le_abs_self x; linarith

theorem abs_sn_lt_one (x : ℝ) : |x / hyp x| < 1 := by
  rw [abs_div, abs_of_pos (hyp_pos x)]; exact (div_lt_one (hyp_pos x)).mpr (abs_lt_hyp x)

theorem sn_sq_add (x : ℝ) : (x / hyp x) ^ (2 : ℕ) + (1 / hyp x) ^ (2 : ℕ) = 1 := by
  have h := hyp_sq x; have p := hyp_pos x
  field_simp; linarith

theorem sin_bounds {s c : ℝ} (hc : 0 < c) (h : s ^ (2 : ℕ) + c ^ (2 : ℕ) = 1) : -1 < s ∧ s < 1 := by
  have : s ^ 2 < 1 := by have := pow_pos hc 2; linarith
  exact abs_lt.mp ((sq_lt_one_iff_abs_lt_one s).mp this)

theorem isfin_real (x : ℝ) : isfin x = true := by
  simp [isfin, zero_real]

theorem log1p_real (x : ℝ) : log1p x = Real.log (1 + x) := by
  unfold log1p
  simp only [one_real, eqb_real, log_real, decide_eq_true_eq, add_sub_cancel_left, add_eq_left]
  split_ifs with h
  · rw [h, add_zero, Real.log_one]
  · field_simp

theorem expm1_real (x : ℝ) : expm1 x = Real.exp x - 1 := by
  unfold expm1
  simp only [one_real, eqb_real, exp_real, log_real, decide_eq_true_eq, Real.exp_eq_one_iff, Real.log_exp]
  split_ifs with h h2
  · rw [h, Real.exp_zero, sub_self]
  · have := Real.exp_pos x; linarith
  · field_simp

theorem exp_arsinh_hyp (t : ℝ) : Real.exp (Real.arsinh t) = t + hyp t := by
  rw [Real.exp_arsinh, hyp_real]

theorem exp_neg_arsinh_hyp (t : ℝ) : Real.exp (-Real.arsinh t) = hyp t - t := by
  rw [Real.exp_neg, exp_arsinh_hyp, inv_eq_iff_eq_inv, ← one_div, eq_div_iff (hyp_sub_pos t).ne']
  linear_combination hyp_sq t

theorem epPsi_real (t : ℝ) : epPsi t (hyp t) = Real.exp (Real.arsinh t) := by
  unfold epPsi
  simp only [leb_real, zero_real, one_real, decide_eq_true_eq]
  split_ifs
  · rw [exp_arsinh_hyp, add_comm]
  · rw [← exp_neg_arsinh_hyp, Real.exp_neg, one_div, inv_inv]

theorem emPsi_real (t : ℝ) : emPsi t (hyp t) = Real.exp (-Real.arsinh t) := by
  unfold emPsi
  simp only [ltb_real, zero_real, one_real, decide_eq_true_eq]
  split_ifs
  · rw [Real.exp_neg, exp_arsinh_hyp, one_div, add_comm]
  · rw [exp_neg_arsinh_hyp]

theorem epsx_real : (epsx : ℝ) = (1 / 4503599627370496) ^ 2 := by
  simp only [epsx, eps, sq_real, one_real, ofNat_real, Nat.cast_ofNat]

theorem fmax_real (a b : ℝ) : fmax a b = max a b := by
  unfold fmax
  simp only [ltb_real, decide_eq_true_eq]
  split_ifs with h
  · exact (max_eq_right h.le).symm
  · exact (max_eq_left (not_lt.mp h)).symm

theorem e2m_real (E : Ell ℝ) : E.e2m = 1 - E.e2 := by simp only [Ell.e2m, one_real]

theorem fm_sq (E : Ell ℝ) : E.fm ^ 2 = 1 - E.e2 := by
  simp only [Ell.e2, Ell.fm, one_real, two_real]; ring

theorem e_sq (E : Ell ℝ) : E.e ^ 2 = |E.e2| := by
  simp only [Ell.e, sqrt_real, abs_real, Real.sq_sqrt (abs_nonneg _)]

theorem e_pos (E : Ell ℝ) (h : E.e2 ≠ 0) : 0 < E.e := by
  simp only [Ell.e, sqrt_real, abs_real]; exact Real.sqrt_pos.mpr (abs_pos.mpr h)

theorem sphere_e2 (a : ℝ) : (⟨a, 0⟩ : Ell ℝ).e2 = 0 := by simp only [Ell.e2, zero_mul]
theorem sphere_e2m (a : ℝ) : (⟨a, 0⟩ : Ell ℝ).e2m = 1 := by rw [e2m_real, sphere_e2, sub_zero]
theorem sphere_fm (a : ℝ) : (⟨a, 0⟩ : Ell ℝ).fm = 1 := by simp only [Ell.fm, one_real, sub_zero]
theorem sphere_es (a : ℝ) : (⟨a, 0⟩ : Ell ℝ).es = 0 := by
  simp only [Ell.es, sphere_e2, abs_real, abs_zero, sqrt_real, Real.sqrt_zero, mul_zero]
theorem sphere_atanhee (a x : ℝ) : (⟨a, 0⟩ : Ell ℝ).atanhee x = x := by
  simp only [Ell.atanhee, atanhee, ltb_real, zero_real, lt_irrefl, decide_false, Bool.false_eq_true, if_false]
theorem eatanhe_zero (x : ℝ) : eatanhe x (0 : ℝ) = 0 := by
  simp only [eatanhe, ltb_real, zero_real, lt_irrefl, decide_false, Bool.false_eq_true, if_false, neg_zero, zero_mul]

end GeoVerif.Proofs.Conic
