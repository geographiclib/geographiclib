import GeoVerif.Proofs.DivTo
import GeoVerif.Proofs.F64Round
/-!
Finite `F64` division is correctly rounded; finite values under one operation (`HasVal`, `RoundsTo`); "one rounded
operation, then floor".
-/
namespace GeoVerif
open Dy

namespace F64

theorem div_isRN (a b : F64) (ha : a.isFinite = true) (hb : b.isFinite = true) (hb0 : b.val ≠ 0) :
    ∃ r : ℚ, IsRN 53 (-1074) (a.val / b.val) r ∧
      (|r| < (2:ℚ) ^ (1024:ℤ) → (a / b).isFinite = true ∧ (a / b).val = r) := by
  obtain ⟨sa, ma, ea, rfl⟩ := exists_fin_of_isFinite a ha
  obtain ⟨sb, mb, eb, rfl⟩ := exists_fin_of_isFinite b hb
  have hmb : (mb == 0) = false := by
    rw [beq_eq_false_iff_ne]; rintro rfl; exact hb0 (val_fin_zero sb eb)
  by_cases hma : ma = 0
  · subst hma
    have hq : F64.fin sa 0 ea / F64.fin sb mb eb = .fin (sa != sb) 0 0 := by
      show F64.div _ _ = _
      unfold F64.div; simp [hmb]
    rw [hq, val_fin_zero, zero_div]
    exact ⟨0, isRN_zero 53 (-1074), fun _ => ⟨rfl, val_fin_zero _ _⟩⟩
  · set q := Dy.divTo 53 (-1074) (F64.fin sa ma ea).toDy (F64.fin sb mb eb).toDy with hq
    refine ⟨q.val, divTo_isRN 53 (-1074) _ _ (fun h => hb0 ((Dy.m_zero_iff _).mp h)), fun hlt => ?_⟩
    have hd : F64.fin sa ma ea / F64.fin sb mb eb = (if q.m = 0 then F64.fin (sa != sb) 0 0
        else if overflow q then F64.inf (sa != sb) else ofDy q) := by
      show F64.div _ _ = _
      unfold F64.div; simp only [hmb, beq_eq_false_iff_ne.mpr hma, Bool.false_eq_true, if_false]; rfl
    rw [hd]
    by_cases h0 : q.m = 0
    · rw [if_pos h0]; exact ⟨rfl, by rw [val_fin_zero, Dy.val_of_m_zero _ h0]⟩
    · rw [if_neg h0, overflow_false_of_lt _ hlt]
      exact ⟨rfl, val_ofDy _⟩

def HasVal (a : F64) (v : ℚ) : Prop := a.isFinite = true ∧ a.val = v

theorem HasVal.fin {a : F64} {v : ℚ} (h : HasVal a v) : ∃ s m e, a = F64.fin s m e ∧ (F64.fin s m e).val = v := by
  obtain ⟨s, m, e, rfl⟩ := exists_fin_of_isFinite a h.1
  exact ⟨s, m, e, rfl, h.2⟩

theorem hasVal_fin (s : Bool) (m : ℕ) (e : ℤ) : HasVal (F64.fin s m e) (F64.fin s m e).val := ⟨rfl, rfl⟩
theorem hasVal_ofInt (n : ℤ) : HasVal (F64.ofInt n) n := ⟨rfl, val_ofInt n⟩
theorem hasVal_nat (k : ℕ) : HasVal (F64.fin false k 0) k := ⟨rfl, val_nat k⟩
theorem hasVal_zero : HasVal (0 : F64) 0 := ⟨rfl, val_zero⟩
theorem hasVal_one : HasVal (1 : F64) 1 := by have h := hasVal_nat 1; rwa [Nat.cast_one] at h
theorem hasVal_two : HasVal (2 : F64) 2 := by have h := hasVal_nat 2; rwa [Nat.cast_ofNat] at h

theorem lt_of_hasVal {a b : F64} {va vb : ℚ} (ha : HasVal a va) (hb : HasVal b vb) : F64.lt a b = true ↔ va < vb := by
  rw [lt_iff ha.1 hb.1, ha.2, hb.2]

theorem le_of_hasVal {a b : F64} {va vb : ℚ} (ha : HasVal a va) (hb : HasVal b vb) : F64.le a b = true ↔ va ≤ vb := by
  rw [le_iff ha.1 hb.1, ha.2, hb.2]

theorem hasVal_floor {a : F64} {v : ℚ} (ha : HasVal a v) (n : ℤ) (h1 : (n:ℚ) ≤ v) (h2 : v < (n:ℚ) + 1) :
    HasVal (F64.floor a) n ∧ Dy.floor (F64.floor a).toDy = n := by
  obtain ⟨s, m, e, rfl, rfl⟩ := ha.fin
  obtain ⟨hf, hval⟩ := floor_val s m e
  have hn : Dy.floor (F64.fin s m e).toDy = n := Dy.floor_unique _ n h1 h2
  rw [hn] at hval
  exact ⟨⟨hf, hval⟩, by rw [floor_toDy_floor]; exact hn⟩

/-- what a binary64 operation returns whose exact result on finite operands is `z`: the correctly rounded `z`, as a
finite number unless that overflows -/
def RoundsTo (x : F64) (z : ℚ) : Prop :=
  ∃ r : ℚ, IsRN 53 (-1074) z r ∧ (|r| < (2:ℚ) ^ (1024:ℤ) → HasVal x r)

theorem hasVal_add_rn {a b : F64} {va vb : ℚ} (ha : HasVal a va) (hb : HasVal b vb) : RoundsTo (a + b) (va + vb) := by
  obtain ⟨fa, rfl⟩ := ha
  obtain ⟨fb, rfl⟩ := hb
  exact add_isRN a b fa fb

theorem hasVal_sub_rn {a b : F64} {va vb : ℚ} (ha : HasVal a va) (hb : HasVal b vb) : RoundsTo (a - b) (va - vb) := by
  obtain ⟨fa, rfl⟩ := ha
  obtain ⟨fb, rfl⟩ := hb
  exact sub_isRN a b fa fb

theorem hasVal_mul_rn {a b : F64} {va vb : ℚ} (ha : HasVal a va) (hb : HasVal b vb) : RoundsTo (a * b) (va * vb) := by
  obtain ⟨fa, rfl⟩ := ha
  obtain ⟨fb, rfl⟩ := hb
  exact mul_isRN a b fa fb

theorem hasVal_div_rn {a b : F64} {va vb : ℚ} (ha : HasVal a va) (hb : HasVal b vb) (hb0 : vb ≠ 0) :
    RoundsTo (a / b) (va / vb) := by
  obtain ⟨fa, rfl⟩ := ha
  obtain ⟨fb, rfl⟩ := hb
  exact div_isRN a b fa fb hb0

theorem RoundsTo.small {x : F64} {z : ℚ} (h : RoundsTo x z) (hsmall : |z| ≤ 2 ^ 52) :
    ∃ r : ℚ, IsRN 53 (-1074) z r ∧ HasVal x r := by
  obtain ⟨r, hr, hf⟩ := h
  exact ⟨r, hr, hf (hr.lt_huge hsmall)⟩

theorem RoundsTo.exact {x : F64} {z : ℚ} (h : RoundsTo x z) (g s : ℤ) (hg : |g| ≤ 2 ^ 53) (hs : -1074 ≤ s)
    (hz : z = (g:ℚ) * (2:ℚ) ^ s) (hsmall : |z| ≤ 2 ^ 52) : HasVal x z := by
  obtain ⟨r, hr, hx⟩ := h.small hsmall
  rwa [hr.eq_of_fits g s hg hs hz] at hx

theorem RoundsTo.exact_int {x : F64} {z : ℚ} (h : RoundsTo x z) (n : ℤ) (hn : |n| ≤ 2 ^ 52) (hz : z = n) : HasVal x n := by
  rw [← hz]
  exact h.exact n 0 (le_trans hn (by norm_num)) (by norm_num) (by rw [hz, zpow_zero, mul_one]) (by rw [hz]; exact_mod_cast hn)

/-- relation between the exact cell index `n = ⌊z⌋` and the coded one `c = ⌊r⌋`, `r` the correctly rounded `z` -/
def CellRelQ (z r : ℚ) (n c : ℤ) : Prop :=
  ((n:ℚ) ≤ z ∧ z < (n:ℚ) + 1) ∧
  (c = n ∨ (c = n + 1 ∧ r = (n:ℚ) + 1 ∧ (n:ℚ) + 1 - z ≤ max (|z| * (2:ℚ) ^ (-(53:ℤ))) ((2:ℚ) ^ (-(1075:ℤ)))))

theorem RoundsTo.floor {x : F64} {z : ℚ} (h : RoundsTo x z) (hz : |z| ≤ 2 ^ 52) (n : ℤ)
    (h1 : (n:ℚ) ≤ z) (h2 : z < (n:ℚ) + 1) :
    x.isFinite = true ∧ CellRelQ z x.val n (Dy.floor (F64.floor x).toDy) := by
  obtain ⟨r, hr, hx⟩ := h.small hz
  rw [floor_toDy_floor, hx.2]
  exact ⟨hx.1, ⟨h1, h2⟩, floor_of_isRN hr hz n h1 h2 x.toDy hx.2⟩

/-- "one rounded product, then floor" as coded by GARS / Georef / OSGB -/
def mulFloorCoded (a b : F64) : ℤ := Dy.floor (F64.floor (a * b)).toDy
def mulFloorExact (a b : F64) : ℤ := Dy.floor (Dy.mul a.toDy b.toDy)
def divFloorCoded (a b : F64) : ℤ := Dy.floor (F64.floor (a / b)).toDy

theorem mulFloor_cellRel {a b : F64} (ha : a.isFinite = true) (hb : b.isFinite = true) (hz : |a.val * b.val| ≤ 2 ^ 52) :
    CellRelQ (a.val * b.val) (a * b).val (mulFloorExact a b) (mulFloorCoded a b) := by
  obtain ⟨f1, f2⟩ := Dy.floor_spec (Dy.mul a.toDy b.toDy)
  rw [Dy.val_mul] at f1 f2
  exact ((hasVal_mul_rn ⟨ha, rfl⟩ ⟨hb, rfl⟩).floor hz _ f1 f2).2

theorem divFloor_cellRel {a b : F64} {va vb : ℚ} (ha : HasVal a va) (hb : HasVal b vb) (hb0 : vb ≠ 0) (n : ℤ)
    (hz : |va / vb| ≤ 2 ^ 52) (h1 : (n:ℚ) ≤ va / vb) (h2 : va / vb < (n:ℚ) + 1) :
    (a / b).isFinite = true ∧ CellRelQ (va / vb) (a / b).val n (divFloorCoded a b) :=
  (hasVal_div_rn ha hb hb0).floor hz n h1 h2

theorem mulFloor_exact_of_representable (sa sb : Bool) (ma mb : ℕ) (ea eb : ℤ) :
    let a := F64.fin sa ma ea; let b := F64.fin sb mb eb
    |a.val * b.val| ≤ 2 ^ 52 →
    (Dy.round53 (Dy.mul a.toDy b.toDy)).val = a.val * b.val →
    mulFloorCoded a b = mulFloorExact a b := by
  intro a b hP hrep
  obtain ⟨⟨_, f2⟩, h | ⟨_, h2, _⟩⟩ := mulFloor_cellRel (a := a) (b := b) rfl rfl hP
  · exact h
  · -- the product is its own rounding, so `(a * b).val = P < n + 1`
    exfalso
    obtain ⟨r, hr, hx⟩ := (hasVal_mul_rn (hasVal_fin sa ma ea) (hasVal_fin sb mb eb)).small hP
    have hself : IsRN 53 (-1074) (a.val * b.val) (a.val * b.val) := by
      have := roundTo_isRN 53 (-1074) (Dy.mul a.toDy b.toDy)
      rwa [show (Dy.roundTo 53 (-1074) _).val = _ from hrep, Dy.val_mul] at this
    rw [hx.2, hr.unique (by norm_num) hself] at h2
    linarith

theorem floor_bounds {n : ℤ} {z : ℚ} (h1 : (n:ℚ) ≤ z) (h2 : z < (n:ℚ) + 1) (lo hi : ℤ) :
    ((lo:ℚ) ≤ z → lo ≤ n) ∧ (z < (hi:ℚ) → n < hi) := by
  constructor
  · intro h
    have : (lo:ℚ) < ((n + 1 : ℤ) : ℚ) := by push_cast; linarith
    have : lo < n + 1 := by exact_mod_cast this
    omega
  · intro h
    have : (n:ℚ) < (hi:ℚ) := by linarith
    exact_mod_cast this

end F64
end GeoVerif
