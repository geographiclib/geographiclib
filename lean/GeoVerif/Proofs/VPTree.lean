import GeoVerif.Model.VPTree
import GeoVerif.Proofs.InsBy
/-!
Lemmas about `Model/VPTree.lean`.  The result heap is the `k` smallest of a list (`kbest`); "a list has one ascending arrangement"
(`eq_of_sorted_perm`) does the work of all order-of-insertion arguments.  The search loop is treated for both values of
`exhaustive` at once (`Visited`, `LoopPost`).
-/
namespace GeoVerif.VPTree

/-- what `Load` demands of the node at position `i` -/
def NodeOK (bucket : Nat) (numpoints : Int) (i : Nat) (n : Node) : Prop :=
  nodeCheck numpoints (i : Int) n = true ∧ (∀ ls, n = .leaf ls → ls.length = bucket)

def NodesOK (bucket : Nat) (numpoints : Int) : Nat → List Node → Prop
  | _, [] => True
  | i, n :: ns => NodeOK bucket numpoints i n ∧ NodesOK bucket numpoints (i + 1) ns

theorem loadNode_saveNode (bucket : Nat) (n : Node) (rest : List Int)
    (h : ∀ ls, n = .leaf ls → ls.length = bucket) :
    loadNode bucket (saveNode n ++ rest) = .ok (n, rest) := by
  cases n with
  | inner v lo0 up0 c0 lo1 up1 c1 => simp [saveNode, loadNode]
  | leaf ls => simp [saveNode, loadNode, ← h ls rfl]

def kids : Node → List Int
  | .inner _ _ _ c0 _ _ c1 => (if c0 < 0 then [] else [c0]) ++ (if c1 < 0 then [] else [c1])
  | .leaf _ => []

def children : List Node → List Int
  | [] => []
  | n :: ns => kids n ++ children ns

theorem mem_kids_inner {v : Nat} {lo0 up0 c0 lo1 up1 c1 c : Int} :
    c ∈ kids (.inner v lo0 up0 c0 lo1 up1 c1) ↔ 0 ≤ c ∧ (c = c0 ∨ c = c1) := by
  by_cases h0 : c0 < 0 <;> by_cases h1 : c1 < 0 <;> simp [kids, h0, h1] <;> omega

theorem claim_eq_some_iff {used u : List Int} {c : Int} :
    claim used c = some u ↔
      (∀ x ∈ (if c < 0 then [] else [c]), x ∉ used) ∧ u = (if c < 0 then [] else [c]) ++ used := by
  unfold claim
  by_cases hc : c < 0
  · simp [hc, eq_comm]
  · by_cases hu : c ∈ used <;> simp [hc, hu, eq_comm]

theorem claimNode_eq_some_iff {used u : List Int} {n : Node} :
    claimNode used n = some u ↔ (kids n).Nodup ∧ (∀ c ∈ kids n, c ∉ used) ∧ u = (kids n).reverse ++ used := by
  cases n with
  | leaf ls => simp [claimNode, kids, eq_comm]
  | inner v lo0 up0 c0 lo1 up1 c1 =>
    have h : claimNode used (.inner v lo0 up0 c0 lo1 up1 c1) = some u ↔
        ∃ u0, claim used c0 = some u0 ∧ claim u0 c1 = some u := by
      simp only [claimNode]; cases claim used c0 <;> simp
    rw [h]
    simp only [claim_eq_some_iff, kids]
    by_cases hc0 : c0 < 0 <;> by_cases hc1 : c1 < 0 <;>
      simp [hc0, hc1, and_assoc, and_left_comm, eq_comm (a := c0)]

theorem claimNode_cons_iff {used u : List Int} {n : Node} {ns : List Node} :
    (claimNode used n = some u ∧ (children ns).Nodup ∧ ∀ c ∈ children ns, c ∉ u) ↔
      (children (n :: ns)).Nodup ∧ (∀ c ∈ children (n :: ns), c ∉ used) ∧ u = (kids n).reverse ++ used := by
  rw [claimNode_eq_some_iff]
  simp only [children, List.nodup_append, List.mem_append]
  constructor
  · rintro ⟨⟨hk, hku, rfl⟩, hcs, hcu⟩
    refine ⟨⟨hk, hcs, fun a ha b hb e => hcu b hb ?_⟩, fun c hc => ?_, rfl⟩
    · exact List.mem_append.mpr (Or.inl (List.mem_reverse.mpr (e ▸ ha)))
    · exact hc.elim (hku c) (fun h hu => hcu c h (List.mem_append.mpr (Or.inr hu)))
  · rintro ⟨⟨hk, hcs, hkc⟩, hdis, rfl⟩
    refine ⟨⟨hk, fun c hc => hdis c (Or.inl hc), rfl⟩, hcs, fun c hc hcu => ?_⟩
    rcases List.mem_append.mp hcu with h | h
    · exact hkc c (List.mem_reverse.mp h) c hc rfl
    · exact hdis c (Or.inr hc) h

theorem loadNodes_saveNodes (bucket : Nat) (numpoints : Int) (extra : List Int) :
    ∀ (ns : List Node) (i : Nat) (used : List Int), NodesOK bucket numpoints i ns →
      (children ns).Nodup → (∀ c ∈ children ns, c ∉ used) →
      loadNodes bucket numpoints ns.length i used (saveNodes ns ++ extra) = .ok ns := by
  intro ns
  induction ns with
  | nil => intro i used _ _ _; simp [loadNodes]
  | cons n ns ih =>
    intro i used h hnd hdis
    obtain ⟨⟨hc, hl⟩, hrest⟩ := h
    obtain ⟨hu, hcs, hcu⟩ := claimNode_cons_iff.mpr ⟨hnd, hdis, rfl⟩
    simp only [List.length_cons, loadNodes, saveNodes, List.append_assoc]
    rw [loadNode_saveNode bucket n _ hl]
    simp only [hc, Bool.not_true, hu]
    rw [ih (i + 1) _ hrest hcs hcu]
    simp

/-- a tree as `Save` writes it and `Load` accepts it -/
structure WellFormed (maxbucket : Int) (t : Tree) : Prop where
  bucket_lo : 0 ≤ t.bucket
  bucket_hi : t.bucket ≤ maxbucket
  size : (t.nodes.length : Int) ≤ t.numpoints
  cost : 0 ≤ t.cost
  nodes : NodesOK t.bucket.toNat t.numpoints 0 t.nodes
  /-- demanded by `Load` since fix 90dea91 -/
  noshare : (children t.nodes).Nodup

theorem ite_error_eq_ok {ε α : Type} {P : Prop} [Decidable P] {e : ε} {x : Except ε α} {a : α}
    (h : (if P then Except.error e else x) = .ok a) : ¬ P ∧ x = .ok a := by
  split at h
  · cases h
  · exact ⟨‹_›, h⟩

theorem load_eq_ok_iff {realspec maxbucket : Int} {toks : List Int} {t : Tree} :
    load realspec maxbucket toks = .ok t ↔ ∃ treesize rest,
      toks = version :: realspec :: t.bucket :: t.numpoints :: treesize :: t.cost :: rest ∧
      0 ≤ t.bucket ∧ t.bucket ≤ maxbucket ∧ 0 ≤ treesize ∧ treesize ≤ t.numpoints ∧ 0 ≤ t.cost ∧
      loadNodes t.bucket.toNat t.numpoints treesize.toNat 0 [] rest = .ok t.nodes := by
  constructor
  · intro h
    unfold load at h
    split at h
    · rename_i v r b np ts c rest
      obtain ⟨h1, h⟩ := ite_error_eq_ok h
      obtain ⟨h2, h⟩ := ite_error_eq_ok h
      obtain ⟨h3, h⟩ := ite_error_eq_ok h
      obtain ⟨h4, h⟩ := ite_error_eq_ok h
      obtain ⟨h5, h⟩ := ite_error_eq_ok h
      split at h
      · cases h
      · cases h
        simp at h1 h2 h3 h4 h5
        exact ⟨ts, rest, by rw [h1, h2], h3.1, h3.2, h4.1, h4.2, h5, ‹_›⟩
    · cases h
  · rintro ⟨ts, rest, rfl, h1, h2, h3, h4, h5, h6⟩
    simp [load, h1, h2, h3, h4, h5, h6]

theorem loadNodes_ok (bucket : Nat) (numpoints : Int) :
    ∀ (m i : Nat) (used : List Int) (toks : List Int) (ns : List Node), loadNodes bucket numpoints m i used toks = .ok ns →
      ns.length = m ∧ (∀ j (n : Node), ns[j]? = some n → nodeCheck numpoints ((i + j : Nat) : Int) n = true) ∧
      (children ns).Nodup ∧ ∀ c ∈ children ns, c ∉ used := by
  intro m
  induction m with
  | zero => intro i used toks ns h; simp [loadNodes] at h; subst h; simp [children]
  | succ m ih =>
    intro i used toks ns h
    simp only [loadNodes] at h
    split at h
    · cases h
    · rename_i node rest hn
      obtain ⟨hck, h⟩ := ite_error_eq_ok h
      split at h
      · cases h
      · rename_i used' hcl
        split at h
        · cases h
        · rename_i ns' hns
          cases h
          obtain ⟨hlen, hall, hnd, hdis⟩ := ih (i + 1) used' rest ns' hns
          obtain ⟨hnd', hdis', _⟩ := claimNode_cons_iff.mp ⟨hcl, hnd, hdis⟩
          refine ⟨by simp [hlen], fun j n hj => ?_, hnd', hdis'⟩
          cases j with
          | zero => simp at hj; subst hj; simpa using hck
          | succ j =>
            simp at hj
            have := hall j n hj
            rwa [show i + 1 + j = i + (j + 1) by omega] at this

theorem kids_mem_children {ns : List Node} {j : Nat} {n : Node} {c : Int} (hj : ns[j]? = some n) (hc : c ∈ kids n) :
    c ∈ children ns := by
  induction ns generalizing j with
  | nil => simp at hj
  | cons m ms ih =>
    cases j with
    | zero => simp at hj; subst hj; simp [children, hc]
    | succ j => simp at hj; simp [children, ih hj]

theorem kids_nodup {ns : List Node} (hnd : (children ns).Nodup) {j : Nat} {n : Node} (hj : ns[j]? = some n) :
    (kids n).Nodup := by
  induction ns generalizing j with
  | nil => simp at hj
  | cons m ms ih =>
    simp only [children, List.nodup_append] at hnd
    cases j with
    | zero => simp at hj; subst hj; exact hnd.1
    | succ j => simp at hj; exact ih hnd.2.1 hj

theorem parent_unique {ns : List Node} (hnd : (children ns).Nodup) {j1 j2 : Nat} {n1 n2 : Node} {c : Int}
    (h1 : ns[j1]? = some n1) (h2 : ns[j2]? = some n2) (c1 : c ∈ kids n1) (c2 : c ∈ kids n2) : j1 = j2 := by
  induction ns generalizing j1 j2 with
  | nil => simp at h1
  | cons m ms ih =>
    simp only [children, List.nodup_append] at hnd
    obtain ⟨_, hms, hdis⟩ := hnd
    cases j1 with
    | zero =>
      cases j2 with
      | zero => rfl
      | succ j2 =>
        simp at h1 h2; subst h1
        exact absurd rfl (hdis c c1 c (kids_mem_children h2 c2))
    | succ j1 =>
      cases j2 with
      | zero =>
        simp at h1 h2; subst h2
        exact absurd rfl (hdis c c2 c (kids_mem_children h1 c1))
      | succ j2 =>
        simp at h1 h2
        rw [ih hms h1 h2]

theorem insInt_eq : insInt = insBy (fun a b => decide (a < b)) := by
  funext x l
  induction l with
  | nil => rfl
  | cons y ys ih => simp [insInt, insBy, ih]

theorem insInt_perm (x : Int) (l : List Int) : (insInt x l).Perm (x :: l) := insInt_eq ▸ insBy_perm _ x l

theorem sortAsc_cons (x : Int) (l : List Int) : sortAsc (x :: l) = insInt x (sortAsc l) := rfl

theorem perm_sortAsc (l : List Int) : (sortAsc l).Perm l := by
  induction l with
  | nil => exact List.Perm.refl _
  | cons x xs ih => exact (insInt_perm x _).trans (ih.cons x)

theorem mem_sortAsc {y : Int} {l : List Int} : y ∈ sortAsc l ↔ y ∈ l := (perm_sortAsc l).mem_iff

theorem length_sortAsc (l : List Int) : (sortAsc l).length = l.length := (perm_sortAsc l).length_eq

abbrev Sorted (l : List Int) : Prop := l.Pairwise (· ≤ ·)

theorem sorted_insInt (x : Int) (l : List Int) (h : Sorted l) : Sorted (insInt x l) :=
  insInt_eq ▸ insBy_pairwise (fun _ hxy => Int.le_of_lt (of_decide_eq_true hxy))
    (fun _ _ hxy hyz => Int.le_trans (Int.le_of_lt (of_decide_eq_true hxy)) hyz)
    (fun _ hxy => Int.not_lt.mp (of_decide_eq_false hxy)) h

theorem sorted_sortAsc (l : List Int) : Sorted (sortAsc l) := by
  induction l with
  | nil => exact List.Pairwise.nil
  | cons z zs ih => exact sorted_insInt z _ ih

theorem eq_of_sorted_perm {a b : List Int} (ha : Sorted a) (hb : Sorted b) (h : a.Perm b) : a = b :=
  h.eq_of_pairwise (fun _ _ _ _ h1 h2 => Int.le_antisymm h1 h2) ha hb

theorem sortAsc_perm {l1 l2 : List Int} (h : l1.Perm l2) : sortAsc l1 = sortAsc l2 :=
  eq_of_sorted_perm (sorted_sortAsc l1) (sorted_sortAsc l2) ((perm_sortAsc l1).trans (h.trans (perm_sortAsc l2).symm))

theorem sortAsc_of_sorted (l : List Int) (h : Sorted l) : sortAsc l = l :=
  eq_of_sorted_perm (sorted_sortAsc l) h (perm_sortAsc l)

theorem sortAsc_append (a b : List Int) : sortAsc (a ++ b) = a.foldr insInt (sortAsc b) := by
  simp [sortAsc, List.foldr_append]

theorem take_insInt (b : Int) : ∀ (k : Nat) (L : List Int), (insInt b L).take k = (insInt b (L.take k)).take k := by
  intro k
  induction k with
  | zero => intro L; simp
  | succ k ih =>
    intro L
    cases L with
    | nil => simp [insInt]
    | cons x xs =>
      simp only [List.take_succ_cons, insInt]
      split
      · simp only [List.take_succ_cons]
        congr 1
        cases k with
        | zero => simp
        | succ k => simp [List.take_take]
      · simp only [List.take_succ_cons]
        congr 1
        exact ih xs

theorem take_foldr_insInt (k : Nat) (B S : List Int) :
    (B.foldr insInt (S.take k)).take k = (B.foldr insInt S).take k := by
  induction B with
  | nil => simp [List.take_take]
  | cons b B ih =>
    simp only [List.foldr_cons]
    rw [take_insInt b k (B.foldr insInt (S.take k)), ih, ← take_insInt]

def kbest (k : Nat) (l : List Int) : List Int := (sortAsc l).take k

theorem kbest_perm {k : Nat} {l1 l2 : List Int} (h : l1.Perm l2) : kbest k l1 = kbest k l2 := by
  unfold kbest; rw [sortAsc_perm h]

theorem sorted_kbest (k : Nat) (l : List Int) : Sorted (kbest k l) :=
  List.Pairwise.sublist (List.take_sublist _ _) (sorted_sortAsc l)

theorem mem_of_mem_kbest {k : Nat} {l : List Int} {x : Int} (h : x ∈ kbest k l) : x ∈ l :=
  mem_sortAsc.mp (List.mem_of_mem_take h)

theorem kbest_absorb (k : Nat) (A B : List Int) : kbest k (kbest k A ++ B) = kbest k (A ++ B) := by
  have e1 : kbest k (kbest k A ++ B) = kbest k (B ++ kbest k A) := kbest_perm List.perm_append_comm
  have e2 : kbest k (A ++ B) = kbest k (B ++ A) := kbest_perm List.perm_append_comm
  rw [e1, e2]
  have : sortAsc (kbest k A) = kbest k A := sortAsc_of_sorted _ (sorted_kbest k A)
  unfold kbest at this ⊢
  rw [sortAsc_append, sortAsc_append, this]
  exact take_foldr_insInt k B (sortAsc A)

theorem kbest_self (k : Nat) (r : List Int) (hs : Sorted r) (hl : r.length ≤ k) : kbest k r = r := by
  unfold kbest; rw [sortAsc_of_sorted r hs]; exact List.take_of_length_le hl

theorem kbest_eq_sortAsc {k : Nat} {l : List Int} (h : (kbest k l).length < k) : kbest k l = sortAsc l := by
  unfold kbest at h ⊢
  rw [List.length_take] at h
  exact List.take_of_length_le (by omega)

theorem sortAsc_append_ge (r Y : List Int) (hs : Sorted r) (h : ∀ y ∈ Y, ∀ x ∈ r, x ≤ y) :
    sortAsc (r ++ Y) = r ++ sortAsc Y :=
  eq_of_sorted_perm (sorted_sortAsc _)
    (List.pairwise_append.mpr ⟨hs, sorted_sortAsc Y, fun x hx y hy => h y (mem_sortAsc.mp hy) x hx⟩)
    ((perm_sortAsc _).trans ((perm_sortAsc Y).symm.append_left r))

theorem kbest_discard (k : Nat) (r Y : List Int) (hs : Sorted r) (hl : r.length = k)
    (h : ∀ y ∈ Y, ∀ x ∈ r, x ≤ y) : kbest k (r ++ Y) = r := by
  unfold kbest; rw [sortAsc_append_ge r Y hs h, List.take_left' hl]

def dists (res : List Item) : List Int := res.map (·.1)

abbrev LexSorted (res : List Item) : Prop := res.Pairwise (fun a b => lexLt b a = false)

theorem lexLt_iff {a b : Item} : lexLt a b = true ↔ a.1 < b.1 ∨ (a.1 = b.1 ∧ a.2 < b.2) := by
  simp [lexLt]

theorem le_of_lexLt_false {a b : Item} (h : lexLt b a = false) : a.1 ≤ b.1 := by
  rw [← Bool.not_eq_true, lexLt_iff] at h
  omega

theorem lexLt_trans_false {a b c : Item} (h1 : lexLt a b = true) (h2 : lexLt c b = false) : lexLt c a = false := by
  rw [← Bool.not_eq_true, lexLt_iff] at h2 ⊢
  rw [lexLt_iff] at h1
  omega

theorem lexLt_asymm {a b : Item} (h : lexLt a b = true) : lexLt b a = false := by
  rw [← Bool.not_eq_true, lexLt_iff]
  rw [lexLt_iff] at h
  omega

theorem sorted_dists {L : List Item} (h : LexSorted L) : Sorted (dists L) := by
  unfold dists
  rw [Sorted, List.pairwise_map]
  exact h.imp (fun h => le_of_lexLt_false h)

theorem insAsc_eq : insAsc = insBy lexLt := by
  funext x l
  induction l with
  | nil => rfl
  | cons y ys ih => simp [insAsc, insBy, ih]

theorem insAsc_perm (x : Item) (l : List Item) : (insAsc x l).Perm (x :: l) := insAsc_eq ▸ insBy_perm _ x l

theorem lexSorted_insAsc (x : Item) (l : List Item) (h : LexSorted l) : LexSorted (insAsc x l) := by
  rw [insAsc_eq]
  exact insBy_pairwise (R := fun a b => lexLt b a = false) (fun _ hxy => lexLt_asymm hxy)
    (fun _ _ hxy hyz => lexLt_trans_false hxy hyz) (fun _ hxy => hxy) h

theorem dists_insAsc (x i : Int) (L : List Item) (h : LexSorted L) : dists (insAsc (x, i) L) = insInt x (dists L) :=
  eq_of_sorted_perm (sorted_dists (lexSorted_insAsc _ L h)) (sorted_insInt x _ (sorted_dists h))
    ((show (dists (insAsc (x, i) L)).Perm (x :: dists L) from (insAsc_perm (x, i) L).map _).trans
      (insInt_perm x (dists L)).symm)

theorem topDist_eq (L : List Item) : topDist L = (match (dists L).getLast? with | some z => z | none => 0) := by
  unfold topDist dists
  rw [List.getLast?_map]
  cases L.getLast? <;> rfl

theorem sorted_le_last {d : List Int} (h : Sorted d) {z : Int} (hz : d.getLast? = some z) : ∀ x ∈ d, x ≤ z := by
  obtain ⟨ys, rfl⟩ := List.getLast?_eq_some_iff.mp hz
  intro x hx
  rcases List.mem_append.mp hx with hx | hx
  · exact (List.pairwise_append.mp h).2.2 x hx z (by simp)
  · simp at hx; omega

theorem take_insInt_append_last (x z : Int) (r : List Int) (hs : Sorted (r ++ [z])) (hx : x ≤ z) :
    (insInt x (r ++ [z])).take (r.length + 1) = insInt x r := by
  have hr : Sorted r := (List.pairwise_append.mp hs).1
  have e : insInt x (r ++ [z]) = insInt x r ++ [z] := by
    refine eq_of_sorted_perm (sorted_insInt x _ hs) (List.pairwise_append.mpr ⟨sorted_insInt x r hr, by simp, ?_⟩)
      ((insInt_perm x _).trans (((insInt_perm x r).append_right [z]).symm))
    intro y hy w hw
    simp only [List.mem_singleton] at hw
    rcases List.mem_cons.mp ((insInt_perm x r).mem_iff.mp hy) with rfl | hy
    · omega
    · have := (List.pairwise_append.mp hs).2.2 y hy z (by simp); omega
  rw [e, List.take_left' (by rw [(insInt_perm x r).length_eq]; rfl)]

def tauOf (Q : Query) (k : Nat) (res : List Item) : Int := if res.length = k then topDist res else Q.maxdist

structure InvR (Q : Query) (k : Nat) (s : St) : Prop where
  sorted : LexSorted s.res
  len : s.res.length ≤ k
  win : ∀ x ∈ dists s.res, inWindow Q x = true
  tau : s.tau = tauOf Q k s.res

theorem inWindow_iff (Q : Query) (x : Int) : inWindow Q x = true ↔ Q.mindist < x ∧ x ≤ Q.maxdist := by
  simp [inWindow]

theorem InvR.kbest_dists {Q : Query} {k : Nat} {s : St} (h : InvR Q k s) : kbest k (dists s.res) = dists s.res :=
  kbest_self k _ (sorted_dists h.sorted) (by simpa [dists] using h.len)

/-- What looking at points at distances `new` makes of a state `s` that satisfies `InvR`, for either value of `exhaustive`
    (on which the heap does not depend). -/
structure Visited (Q : Query) (k : Nat) (s s' : St) (new : List Int) : Prop where
  sorted : LexSorted s'.res
  best : dists s'.res = kbest k (dists s.res ++ new.filter (inWindow Q))
  tau : Q.exhaustive = true ∨ s'.exit = false → s'.tau = tauOf Q k s'.res
  full : s.exit = false → s'.exit = true → s'.res.length = k ∧ (Q.exhaustive = true → ∀ x ∈ dists s'.res, x ≤ 0)

namespace Visited
variable {Q : Query} {k : Nat} {s s' s'' : St} {new new' : List Int}

theorem refl (h : InvR Q k s) : Visited Q k s s [] :=
  ⟨h.sorted, by rw [List.filter_nil, List.append_nil, h.kbest_dists], fun _ => h.tau, fun he hc => by rw [he] at hc; cases hc⟩

theorem len (v : Visited Q k s s' new) : s'.res.length ≤ k := by
  have : (dists s'.res).length ≤ k := by rw [v.best]; exact List.length_take_le _ _
  simpa [dists] using this

theorem win (h : InvR Q k s) (v : Visited Q k s s' new) : ∀ x ∈ dists s'.res, inWindow Q x = true := by
  intro x hx
  rw [v.best] at hx
  rcases List.mem_append.mp (mem_of_mem_kbest hx) with hx | hx
  · exact h.win x hx
  · exact (List.mem_filter.mp hx).2

theorem inv (h : InvR Q k s) (v : Visited Q k s s' new) (he : Q.exhaustive = true ∨ s'.exit = false) : InvR Q k s' :=
  ⟨v.sorted, v.len, v.win h, v.tau he⟩

theorem best_append (v : Visited Q k s s' new) (B : List Int) :
    kbest k (dists s'.res ++ B.filter (inWindow Q)) = kbest k (dists s.res ++ (new ++ B).filter (inWindow Q)) := by
  rw [v.best, kbest_absorb, List.filter_append, List.append_assoc]

theorem trans (v : Visited Q k s s' new) (he : s'.exit = false) (w : Visited Q k s' s'' new') :
    Visited Q k s s'' (new ++ new') :=
  ⟨w.sorted, by rw [w.best, v.best_append], w.tau, fun _ => w.full he⟩

end Visited

structure InvN (Q : Query) (k : Nat) (s : St) : Prop where
  sorted : LexSorted s.res
  len : s.res.length < k
  win : ∀ x ∈ dists s.res, inWindow Q x = true
  tau : s.tau = Q.maxdist
  exit : s.exit = false

theorem tau_full {Q : Query} {k : Nat} {s : St} (h : InvR Q k s) (hk : 1 ≤ k) (hfull : s.res.length = k) :
    (dists s.res).getLast? = some s.tau ∧ (∀ x ∈ dists s.res, x ≤ s.tau) ∧ s.tau ≤ Q.maxdist := by
  have htau : s.tau = topDist s.res := by rw [h.tau, tauOf, if_pos hfull]
  rw [topDist_eq] at htau
  cases hl : (dists s.res).getLast? with
  | none =>
    have := congrArg List.length (List.getLast?_eq_none_iff.mp hl)
    simp only [dists, List.length_map, List.length_nil] at this
    omega
  | some z =>
    rw [hl] at htau
    subst htau
    exact ⟨rfl, sorted_le_last (sorted_dists h.sorted) hl,
      ((inWindow_iff Q _).mp (h.win _ (List.mem_of_getLast? hl))).2⟩

theorem tau_le_maxdist {Q : Query} {k : Nat} {s : St} (h : InvR Q k s) (hk : 1 ≤ k) : s.tau ≤ Q.maxdist := by
  by_cases hfull : s.res.length = k
  · exact (tau_full h hk hfull).2.2
  · rw [h.tau, tauOf, if_neg hfull]; exact Int.le_refl _

theorem kbest_drop_irrelevant {Q : Query} {k : Nat} {s : St} (h : InvR Q k s) (hk : 1 ≤ k) (Y : List Int)
    (hY : ∀ y ∈ Y, inWindow Q y = true → s.tau < y) :
    kbest k (dists s.res ++ Y.filter (inWindow Q)) = dists s.res := by
  by_cases hfull : s.res.length = k
  · apply kbest_discard k _ _ (sorted_dists h.sorted) (by simp [dists, hfull])
    intro y hy x hx
    simp only [List.mem_filter] at hy
    have := hY y hy.1 hy.2
    have := (tau_full h hk hfull).2.1 x hx
    omega
  · have : Y.filter (inWindow Q) = [] := by
      rw [List.filter_eq_nil_iff]
      intro y hy hw
      have h1 := hY y hy hw
      rw [h.tau, tauOf, if_neg hfull] at h1
      have := ((inWindow_iff Q y).mp hw).2
      omega
    rw [this, List.append_nil, h.kbest_dists]

def relv (Q : Query) (tau : Int) (y : Int) : Bool := decide (y ≤ tau) && inWindow Q y

theorem kbest_drop {Q : Query} {k : Nat} {s : St} (h : InvR Q k s) (hk : 1 ≤ k) (Y0 A : List Int)
    (hY : ∀ y ∈ Y0, inWindow Q y = true ∧ s.tau < y) :
    kbest k (dists s.res ++ (Y0 ++ A)) = kbest k (dists s.res ++ A) := by
  have h1 : kbest k (dists s.res ++ Y0) = dists s.res := by
    have hf : Y0.filter (inWindow Q) = Y0 := List.filter_eq_self.mpr (fun y hy => (hY y hy).1)
    have := kbest_drop_irrelevant h hk Y0 (fun y hy _ => (hY y hy).2)
    rwa [hf] at this
  rw [← List.append_assoc, ← kbest_absorb, h1]

theorem kbest_relv {Q : Query} {k : Nat} {s : St} (h : InvR Q k s) (hk : 1 ≤ k) (Y : List Int) :
    kbest k (dists s.res ++ Y.filter (inWindow Q)) = kbest k (dists s.res ++ Y.filter (relv Q s.tau)) := by
  have hp := List.filter_append_perm (fun y => decide (y ≤ s.tau)) (Y.filter (inWindow Q))
  have hA : (Y.filter (inWindow Q)).filter (fun y => decide (y ≤ s.tau)) = Y.filter (relv Q s.tau) := by
    rw [List.filter_filter]; rfl
  rw [hA] at hp
  have e1 : kbest k (dists s.res ++ Y.filter (inWindow Q)) =
      kbest k (dists s.res ++ ((Y.filter (inWindow Q)).filter (fun x => !decide (x ≤ s.tau)) ++ Y.filter (relv Q s.tau))) :=
    kbest_perm (List.Perm.append_left _ (hp.symm.trans List.perm_append_comm))
  rw [e1]
  apply kbest_drop h hk
  intro y hy
  simp only [List.mem_filter, Bool.not_eq_eq_eq_not, Bool.not_true, decide_eq_false_iff_not] at hy
  exact ⟨hy.1.2, by omega⟩

theorem relv_nil_of {Q : Query} {tau : Int} {L : List Int} (h : ∀ y ∈ L, inWindow Q y = true → tau < y) :
    L.filter (relv Q tau) = [] := by
  rw [List.filter_eq_nil_iff]
  intro y hy hr
  simp only [relv, Bool.and_eq_true, decide_eq_true_eq] at hr
  have := h y hy hr.2
  omega

/-- `results.pop()` if full, then `results.push` of a point not beyond `tau` (the top of a full heap) -/
theorem push_pop {Q : Query} {k : Nat} {s : St} (h : InvR Q k s) (hk : 1 ≤ k) (x i : Int) (hx : x ≤ s.tau) :
    LexSorted (insAsc (x, i) (if s.res.length = k then s.res.dropLast else s.res)) ∧
    dists (insAsc (x, i) (if s.res.length = k then s.res.dropLast else s.res)) = kbest k (dists s.res ++ [x]) := by
  have hsd := sorted_dists h.sorted
  have hkb : kbest k (dists s.res ++ [x]) = (insInt x (dists s.res)).take k := by
    rw [kbest_perm List.perm_append_comm]; unfold kbest
    rw [List.singleton_append, sortAsc_cons, sortAsc_of_sorted _ hsd]
  have hbase : LexSorted (if s.res.length = k then s.res.dropLast else s.res) := by
    split
    · exact h.sorted.sublist (List.dropLast_sublist _)
    · exact h.sorted
  refine ⟨lexSorted_insAsc _ _ hbase, ?_⟩
  rw [dists_insAsc x i _ hbase, hkb]
  by_cases hfull : s.res.length = k
  · rw [if_pos hfull]
    obtain ⟨ys, hys⟩ := List.getLast?_eq_some_iff.mp (tau_full h hk hfull).1
    have hdl : dists s.res.dropLast = ys := by rw [dists, List.map_dropLast, ← dists, hys, List.dropLast_concat]
    have hlen : k = ys.length + 1 := by rw [← hfull, ← List.length_map (·.1), ← dists, hys]; simp
    rw [hdl, hys, hlen, take_insInt_append_last x s.tau ys (hys ▸ hsd) hx]
  · rw [if_neg hfull, List.take_of_length_le]
    have := h.len
    rw [(insInt_perm x _).length_eq]; simp [dists]; omega

theorem visit_gen (Q : Query) (k : Nat) (dq : Nat → Int) (s : St) (idx : Nat) (hk : 1 ≤ k) (htol : Q.tol = 0)
    (h : InvR Q k s) : Visited Q k s (visit Q k dq s idx) [dq idx] := by
  unfold visit
  by_cases hacc : Q.mindist < dq idx ∧ dq idx ≤ s.tau
  · rw [if_pos hacc]
    have hwin : inWindow Q (dq idx) = true := (inWindow_iff Q _).mpr ⟨hacc.1, Int.le_trans hacc.2 (tau_le_maxdist h hk)⟩
    have hfilt : [dq idx].filter (inWindow Q) = [dq idx] := by simp [hwin]
    obtain ⟨hsorted, hbest⟩ := push_pop h hk (dq idx) idx hacc.2
    have hfull : s.res.length = k →
        (insAsc (dq idx, (idx : Int)) (if s.res.length = k then s.res.dropLast else s.res)).length = k := by
      intro hf
      rw [(insAsc_perm _ _).length_eq, if_pos hf, List.length_cons, List.length_dropLast]; omega
    rw [← hfilt] at hbest
    unfold accept
    generalize insAsc (dq idx, (idx : Int)) (if s.res.length = k then s.res.dropLast else s.res) = r at *
    by_cases hlen : r.length = k
    · rw [if_pos hlen]
      cases hex : Q.exhaustive with
      | true =>
        refine ⟨hsorted, hbest, fun _ => by simp [tauOf, hlen], fun _ hexit => ⟨hlen, fun _ x hx => ?_⟩⟩
        simp only [if_true, htol, decide_eq_true_eq, topDist_eq] at hexit hx
        cases hl : (dists r).getLast? with
        | none => rw [List.getLast?_eq_none_iff.mp hl] at hx; cases hx
        | some z =>
          rw [hl] at hexit
          exact Int.le_trans (sorted_le_last (sorted_dists hsorted) hl x hx) hexit
      | false =>
        refine ⟨hsorted, hbest, fun hc => ?_, fun _ _ => ⟨hlen, fun hc => by rw [hex] at hc; cases hc⟩⟩
        rcases hc with hc | hc
        · rw [hex] at hc; cases hc
        · cases hc
    · rw [if_neg hlen]
      refine ⟨hsorted, hbest, fun _ => ?_, fun he hexit => ?_⟩
      · -- `tau` is left as it was: the heap was not full before either
        show s.tau = _
        rw [h.tau, tauOf, tauOf, if_neg hlen, if_neg (fun hf => hlen (hfull hf))]
      · change s.exit = true at hexit
        rw [he] at hexit; cases hexit
  · rw [if_neg hacc]
    refine ⟨h.sorted, ?_, fun _ => h.tau, fun he hexit => by rw [he] at hexit; cases hexit⟩
    symm
    apply kbest_drop_irrelevant h hk
    intro y hy hw
    simp only [List.mem_singleton] at hy
    subst hy
    have := (inWindow_iff Q _).mp hw
    omega

theorem visit_spec (Q : Query) (k : Nat) (dq : Nat → Int) (s : St) (idx : Nat) (hk : 1 ≤ k)
    (hex : Q.exhaustive = true) (htol : Q.tol = 0) (h : InvR Q k s) :
    InvR Q k (visit Q k dq s idx) ∧
    dists (visit Q k dq s idx).res = kbest k (dists s.res ++ [dq idx].filter (inWindow Q)) ∧
    (s.exit = false → (visit Q k dq s idx).exit = true →
      (visit Q k dq s idx).res.length = k ∧ ∀ x ∈ dists (visit Q k dq s idx).res, x ≤ 0) := by
  have v := visit_gen Q k dq s idx hk htol h
  exact ⟨v.inv h (Or.inl hex), v.best, fun he hexit => ⟨(v.full he hexit).1, (v.full he hexit).2 hex⟩⟩

/-- the tree a node index stands for (ghost): finite by construction, hence acyclic -/
inductive VT where
  | nil
  | leaf (pts : List Nat)
  | inner (v : Nat) (lo0 up0 lo1 up1 : Int) (t0 t1 : VT)

def VT.pts : VT → List Nat
  | .nil => []
  | .leaf p => p
  | .inner v _ _ _ _ t0 t1 => v :: (t0.pts ++ t1.pts)

inductive Rep (tree : Array Node) (bucket : Nat) : Int → VT → Prop
  | nil {n : Int} : n < 0 → Rep tree bucket n .nil
  | leaf {n : Int} {ls : List Int} : 0 ≤ n → tree[n.toNat]? = some (.leaf ls) → validLeaves (ls.take bucket) ≠ [] →
      Rep tree bucket n (.leaf (validLeaves (ls.take bucket)))
  | inner {n : Int} {v : Nat} {lo0 up0 c0 lo1 up1 c1 : Int} {t0 t1 : VT} : 0 ≤ n →
      tree[n.toNat]? = some (.inner v lo0 up0 c0 lo1 up1 c1) → Rep tree bucket c0 t0 → Rep tree bucket c1 t1 →
      Rep tree bucket n (.inner v lo0 up0 lo1 up1 t0 t1)

def Bounded (d : Nat → Nat → Int) : VT → Prop
  | .nil => True
  | .leaf _ => True
  | .inner v lo0 up0 lo1 up1 t0 t1 =>
    (∀ p ∈ t0.pts, lo0 ≤ d v p ∧ d v p ≤ up0) ∧ (∀ p ∈ t1.pts, lo1 ≤ d v p ∧ d v p ≤ up1) ∧ Bounded d t0 ∧ Bounded d t1

def TreeInv (tree : Array Node) (bucket numpoints : Nat) (d : Nat → Nat → Int) : Prop :=
  ∃ t, Rep tree bucket ((tree.size : Int) - 1) t ∧ Bounded d t ∧ t.pts.Perm (List.range numpoints)

/-- what the search uses of the metric -/
structure MetricQ (d : Nat → Nat → Int) (dq : Nat → Int) : Prop where
  nonneg : ∀ p, 0 ≤ dq p
  tri1 : ∀ v p, dq p ≤ dq v + d v p
  tri2 : ∀ v p, d v p ≤ dq v + dq p
  tri3 : ∀ v p, dq v ≤ d v p + dq p

theorem MetricQ.of_metric {α : Type} (dist : α → α → Int) (pt : Nat → α) (q : α) (h0 : ∀ x, dist x x = 0)
    (hsymm : ∀ x y, dist x y = dist y x) (htri : ∀ x y z, dist x z ≤ dist x y + dist y z) :
    MetricQ (fun i j => dist (pt i) (pt j)) (fun i => dist (pt i) q) := by
  refine ⟨fun p => ?_, fun v p => ?_, fun v p => ?_, fun v p => htri (pt v) (pt p) q⟩
  · have := htri (pt p) q (pt p); rw [h0, hsymm q (pt p)] at this; omega
  · have := htri (pt p) (pt v) q; rw [hsymm (pt p) (pt v)] at this; omega
  · have := htri (pt v) q (pt p); rw [hsymm q (pt p)] at this; omega

theorem rep_pts_ne_nil {tree : Array Node} {bucket : Nat} {n : Int} {t : VT} (h : Rep tree bucket n t) (hn : 0 ≤ n) :
    t.pts ≠ [] := by
  cases h with
  | nil h => omega
  | leaf _ _ h => exact h
  | inner => simp [VT.pts]

theorem rep_neg {tree : Array Node} {bucket : Nat} {n : Int} {t : VT} (h : Rep tree bucket n t) (hn : n < 0) :
    t.pts = [] := by
  cases h with
  | nil h => rfl
  | leaf h => omega
  | inner h => omega

inductive Zip (R : Item → VT → Prop) : List Item → List VT → Prop
  | nil : Zip R [] []
  | cons {x : Item} {t : VT} {xs : List Item} {ts : List VT} : R x t → Zip R xs ts → Zip R (x :: xs) (t :: ts)

theorem zip_insDesc {R : Item → VT → Prop} (x : Item) (t : VT) (hx : R x t) :
    ∀ (todo : List Item) (ts : List VT), Zip R todo ts → ∃ ts2, Zip R (insDesc x todo) ts2 ∧ ts2.Perm (t :: ts) := by
  intro todo ts h
  induction h with
  | nil => exact ⟨[t], Zip.cons hx Zip.nil, List.Perm.refl _⟩
  | @cons y u ys us hy hys ih =>
    simp only [insDesc]
    split
    · exact ⟨t :: u :: us, Zip.cons hx (Zip.cons hy hys), List.Perm.refl _⟩
    · obtain ⟨ts2, hz, hp⟩ := ih
      exact ⟨u :: ts2, Zip.cons hy hz, (List.Perm.cons u hp).trans (List.Perm.swap t u us)⟩

def D (dq : Nat → Int) (ts : List VT) : List Int := (ts.flatMap VT.pts).map dq

theorem D_cons (dq : Nat → Int) (t : VT) (ts : List VT) : D dq (t :: ts) = t.pts.map dq ++ D dq ts := by
  simp [D]

theorem D_perm (dq : Nat → Int) {ts1 ts2 : List VT} (h : ts1.Perm ts2) : (D dq ts1).Perm (D dq ts2) :=
  (h.flatMap_right VT.pts).map dq

/-- `todo` holds `(prio, n)` with `−prio` a lower bound on the distances from the query to the points below `n` -/
def TodoR (tree : Array Node) (bucket : Nat) (d : Nat → Nat → Int) (dq : Nat → Int) (it : Item) (t : VT) : Prop :=
  0 ≤ it.2 ∧ Rep tree bucket it.2 t ∧ Bounded d t ∧ ∀ p ∈ t.pts, -it.1 ≤ dq p

/-- an exit (`tau ≤ tol = 0` with a full heap) of an exhaustive search is final: everything else is at distance `≥ 0` -/
theorem Visited.best_exit {Q : Query} {k : Nat} {s s' : St} {new : List Int} (v : Visited Q k s s' new)
    (he : s.exit = false) (hexit : s'.exit = true) (hex : Q.exhaustive = true) (B : List Int) (hB : ∀ y ∈ B, 0 ≤ y) :
    dists s'.res = kbest k (dists s.res ++ (new ++ B).filter (inWindow Q)) := by
  obtain ⟨hl, hn⟩ := v.full he hexit
  rw [← v.best_append]
  symm
  exact kbest_discard k _ _ (sorted_dists v.sorted) (by simp [dists, hl])
    (fun y hy x hx => Int.le_trans (hn hex x hx) (hB y (List.mem_filter.mp hy).1))

theorem visitLeaves_gen (Q : Query) (k : Nat) (dq : Nat → Int) (hk : 1 ≤ k) (htol : Q.tol = 0) :
    ∀ (l : List Int) (s : St), InvR Q k s → s.exit = false →
      ∃ pre post, validLeaves l = pre ++ post ∧ Visited Q k s (visitLeaves Q k dq s l) (pre.map dq) ∧
        ((visitLeaves Q k dq s l).exit = false → post = []) := by
  intro l
  induction l with
  | nil => intro s h _; exact ⟨[], [], rfl, Visited.refl h, fun _ => rfl⟩
  | cons i is ih =>
    intro s h he
    simp only [visitLeaves, validLeaves]
    by_cases hi : i < 0
    · rw [if_pos hi, if_pos hi]
      exact ⟨[], [], rfl, Visited.refl h, fun _ => rfl⟩
    · rw [if_neg hi, if_neg hi]
      have v := visit_gen Q k dq s i.toNat hk htol h
      by_cases hexit : (visit Q k dq s i.toNat).exit = true
      · rw [if_pos hexit]
        exact ⟨[i.toNat], validLeaves is, rfl, v, fun hc => by rw [hexit] at hc; cases hc⟩
      · rw [if_neg hexit]
        have hexit' : (visit Q k dq s i.toNat).exit = false := by simpa using hexit
        obtain ⟨pre, post, hpp, w, hpost⟩ := ih _ (v.inv h (Or.inr hexit')) hexit'
        exact ⟨i.toNat :: pre, post, by rw [hpp]; rfl, v.trans hexit' w, hpost⟩

/-- one child: either it is pushed with a valid lower bound, or none of its points can enter the result -/
theorem pushChild_spec {tree : Array Node} {bucket : Nat} {d : Nat → Nat → Int} {dq : Nat → Int} (hm : MetricQ d dq)
    (Q : Query) (tau : Int) (v : Nat) (lo up c : Int) (tc : VT)
    (hrep : Rep tree bucket c tc) (hb : Bounded d tc) (hbd : ∀ p ∈ tc.pts, lo ≤ d v p ∧ d v p ≤ up)
    (todo : List Item) (ts : List VT) (h : Zip (TodoR tree bucket d dq) todo ts) :
    ∃ ts2, Zip (TodoR tree bucket d dq) (pushChild Q tau (dq v) lo up c todo) ts2 ∧
      (ts2.flatMap VT.pts).length ≤ (ts.flatMap VT.pts).length + tc.pts.length ∧
      ((D dq ts2).filter (relv Q tau)).Perm ((tc.pts.map dq).filter (relv Q tau) ++ (D dq ts).filter (relv Q tau)) := by
  have drop : (∀ p ∈ tc.pts, inWindow Q (dq p) = true → tau < dq p) →
      ∃ ts2, Zip (TodoR tree bucket d dq) todo ts2 ∧
      (ts2.flatMap VT.pts).length ≤ (ts.flatMap VT.pts).length + tc.pts.length ∧
      ((D dq ts2).filter (relv Q tau)).Perm ((tc.pts.map dq).filter (relv Q tau) ++ (D dq ts).filter (relv Q tau)) := by
    intro hall
    refine ⟨ts, h, by omega, ?_⟩
    rw [relv_nil_of (Q := Q) (tau := tau) (L := tc.pts.map dq)]
    · exact List.Perm.refl _
    · intro y hy; obtain ⟨p, hp, rfl⟩ := List.mem_map.mp hy; exact hall p hp
  have push : ∀ prio : Int, 0 ≤ c → (∀ p ∈ tc.pts, -prio ≤ dq p) →
      ∃ ts2, Zip (TodoR tree bucket d dq) (insDesc (prio, c) todo) ts2 ∧
      (ts2.flatMap VT.pts).length ≤ (ts.flatMap VT.pts).length + tc.pts.length ∧
      ((D dq ts2).filter (relv Q tau)).Perm ((tc.pts.map dq).filter (relv Q tau) ++ (D dq ts).filter (relv Q tau)) := by
    intro prio hc hall
    obtain ⟨ts2, hz, hp⟩ := zip_insDesc (R := TodoR tree bucket d dq) (prio, c) tc ⟨hc, hrep, hb, hall⟩ todo ts h
    refine ⟨ts2, hz, ?_, ?_⟩
    · have := (hp.flatMap_right VT.pts).length_eq
      simp only [List.flatMap_cons, List.length_append] at this
      omega
    · have := (D_perm dq hp).filter (relv Q tau)
      rw [D_cons, List.filter_append] at this
      exact this
  unfold pushChild
  by_cases h1 : 0 ≤ c ∧ Q.mindist ≤ dq v + up
  · rw [if_pos h1]
    by_cases h2 : dq v < lo
    · rw [if_pos h2]
      by_cases h3 : lo - dq v ≤ tau
      · rw [if_pos h3]
        apply push _ h1.1
        intro p hp; have := hbd p hp; have := hm.tri2 v p; omega
      · rw [if_neg h3]
        apply drop
        intro p hp _; have := hbd p hp; have := hm.tri2 v p; omega
    · rw [if_neg h2]
      by_cases h4 : up < dq v
      · rw [if_pos h4]
        by_cases h5 : dq v - up ≤ tau
        · rw [if_pos h5]
          apply push _ h1.1
          intro p hp; have := hbd p hp; have := hm.tri3 v p; omega
        · rw [if_neg h5]
          apply drop
          intro p hp _; have := hbd p hp; have := hm.tri3 v p; omega
      · rw [if_neg h4]
        apply push _ h1.1
        intro p hp; have := hm.nonneg p; omega
  · rw [if_neg h1]
    apply drop
    intro p hp hw
    by_cases hc : 0 ≤ c
    · have hw' := (inWindow_iff Q _).mp hw
      have := hbd p hp; have := hm.tri1 v p
      omega
    · have := rep_neg hrep (by omega)
      rw [this] at hp; simp at hp

theorem loop_nil (tree : Array Node) (bucket : Nat) (dq : Nat → Int) (Q : Query) (k fuel : Nat) (s : St) :
    loop tree bucket dq Q k fuel [] s = some s := by
  cases fuel <;> rfl

theorem D_nonneg {d : Nat → Nat → Int} {dq : Nat → Int} (hm : MetricQ d dq) (ts : List VT) : ∀ y ∈ D dq ts, 0 ≤ y := by
  intro y hy
  obtain ⟨p, _, rfl⟩ := List.mem_map.mp hy
  exact hm.nonneg p

/-- What the loop returns when started in `s` with the points at distances `all` below the nodes of `todo`. -/
structure LoopPost (Q : Query) (k : Nat) (s s' : St) (all : List Int) : Prop where
  len : s'.res.length ≤ k
  win : ∀ x ∈ dists s'.res, inWindow Q x = true
  full : s'.exit = true → s'.res.length = k
  best : Q.exhaustive = true ∨ s'.exit = false → dists s'.res = kbest k (dists s.res ++ all.filter (inWindow Q))

namespace LoopPost
variable {Q : Query} {k : Nat} {s s1 s' : St} {A B B' : List Int}

theorem of_nil (h : InvR Q k s) (he : s.exit = false) : LoopPost Q k s s [] :=
  ⟨h.len, h.win, fun hc => (by rw [he] at hc; cases hc), fun _ => (Visited.refl h).best⟩

theorem of_exit (h : InvR Q k s) (he : s.exit = false) (v : Visited Q k s s1 A) (hexit : s1.exit = true)
    (hB : ∀ y ∈ B, 0 ≤ y) : LoopPost Q k s s1 (A ++ B) :=
  ⟨v.len, v.win h, fun _ => (v.full he hexit).1, fun hc =>
    hc.elim (fun hex => v.best_exit he hexit hex B hB) (fun hc => by rw [hexit] at hc; cases hc)⟩

/-- the loop goes on after the points `A`, with a `todo` that holds `B'` in place of `B` — no loss if these have the same
    `k` best together with the heap -/
theorem of_cont (v : Visited Q k s s1 A) (p : LoopPost Q k s1 s' B')
    (e : kbest k (dists s1.res ++ B'.filter (inWindow Q)) = kbest k (dists s1.res ++ B.filter (inWindow Q))) :
    LoopPost Q k s s' (A ++ B) :=
  ⟨p.len, p.win, p.full, fun hc => by rw [p.best hc, e, v.best_append]⟩

end LoopPost

/-- the fuel suffices because every pop of `todo` takes a non-empty subtree out of it -/
theorem loop_gen {tree : Array Node} {bucket : Nat} {d : Nat → Nat → Int} {dq : Nat → Int} (hm : MetricQ d dq)
    (Q : Query) (k : Nat) (hk : 1 ≤ k) (htol : Q.tol = 0) :
    ∀ (fuel : Nat) (todo : List Item) (ts : List VT) (s : St),
      Zip (TodoR tree bucket d dq) todo ts → InvR Q k s → s.exit = false → (ts.flatMap VT.pts).length ≤ fuel →
      ∃ s', loop tree bucket dq Q k fuel todo s = some s' ∧ LoopPost Q k s s' (D dq ts) := by
  intro fuel
  induction fuel with
  | zero =>
    intro todo ts s hz h he hf
    cases hz with
    | nil => exact ⟨s, loop_nil .., LoopPost.of_nil h he⟩
    | @cons x t xs ts' hx hxs =>
      have := List.length_pos_iff.mpr (rep_pts_ne_nil hx.2.1 hx.1)
      simp only [List.flatMap_cons, List.length_append] at hf
      omega
  | succ fuel ih =>
    intro todo ts s hz h he hf
    cases hz with
    | nil => exact ⟨s, loop_nil .., LoopPost.of_nil h he⟩
    | @cons x t xs ts' hx hxs =>
      obtain ⟨prio, n⟩ := x
      obtain ⟨hn, hrep, hbnd, hlow⟩ := hx
      simp only at hn hrep hlow
      have hlen := List.length_pos_iff.mpr (rep_pts_ne_nil hrep hn)
      simp only [List.flatMap_cons, List.length_append] at hf
      rw [loop, D_cons]
      by_cases hgo : 0 ≤ n ∧ -prio ≤ s.tau - Q.tol
      · rw [if_pos hgo]
        cases hrep with
        | nil hneg => omega
        | @leaf _ ls _ hget hnonempty =>
          simp only [hget, VT.pts] at hf hlen ⊢
          obtain ⟨pre, post, hpp, v, hpost⟩ := visitLeaves_gen Q k dq hk htol (ls.take bucket) s h he
          rw [hpp, List.map_append, List.append_assoc]
          by_cases hexit : (visitLeaves Q k dq s (List.take bucket ls)).exit = true
          · rw [if_pos hexit]
            refine ⟨_, rfl, LoopPost.of_exit h he v hexit fun y hy => ?_⟩
            rcases List.mem_append.mp hy with hy | hy
            · obtain ⟨p, _, rfl⟩ := List.mem_map.mp hy; exact hm.nonneg p
            · exact D_nonneg hm ts' y hy
          · rw [if_neg hexit]
            have hexit' : (visitLeaves Q k dq s (List.take bucket ls)).exit = false := by simpa using hexit
            obtain ⟨s', hs', p⟩ := ih xs ts' _ hxs (v.inv h (Or.inr hexit')) hexit' (by omega)
            exact ⟨s', hs', LoopPost.of_cont v p (by rw [hpost hexit']; rfl)⟩
        | @inner _ v lo0 up0 c0 lo1 up1 c1 t0 t1 _ hget hr0 hr1 =>
          simp only [hget, VT.pts] at hf hlen hlow ⊢
          obtain ⟨hb0, hb1, hbd0, hbd1⟩ := hbnd
          have w := visit_gen Q k dq s v hk htol h
          rw [List.map_cons, ← List.singleton_append, List.append_assoc, List.map_append]
          by_cases hexit : (visit Q k dq s v).exit = true
          · rw [if_pos hexit]
            refine ⟨_, rfl, LoopPost.of_exit h he w hexit fun y hy => ?_⟩
            rcases List.mem_append.mp hy with hy | hy
            · rcases List.mem_append.mp hy with hy | hy
              · obtain ⟨p, _, rfl⟩ := List.mem_map.mp hy; exact hm.nonneg p
              · obtain ⟨p, _, rfl⟩ := List.mem_map.mp hy; exact hm.nonneg p
            · exact D_nonneg hm ts' y hy
          · rw [if_neg hexit]
            have hexit' : (visit Q k dq s v).exit = false := by simpa using hexit
            have h1 := w.inv h (Or.inr hexit')
            rw [htol, Int.sub_zero]
            obtain ⟨tsA, hzA, hlA, hpA⟩ := pushChild_spec hm Q (visit Q k dq s v).tau v lo0 up0 c0 t0 hr0 hbd0 hb0 xs ts' hxs
            obtain ⟨tsB, hzB, hlB, hpB⟩ := pushChild_spec hm Q (visit Q k dq s v).tau v lo1 up1 c1 t1 hr1 hbd1 hb1 _ tsA hzA
            simp only [List.length_cons, List.length_append] at hf
            obtain ⟨s', hs', p⟩ := ih _ tsB _ hzB h1 hexit' (by omega)
            refine ⟨s', hs', LoopPost.of_cont w p ?_⟩
            -- the pruned children hold nothing that is relevant at the present `tau`
            rw [kbest_relv h1 hk, kbest_relv h1 hk (_ ++ _)]
            apply kbest_perm
            apply List.Perm.append_left
            refine hpB.trans ((List.Perm.append_left _ hpA).trans ?_)
            simp only [List.filter_append, ← List.append_assoc]
            exact List.Perm.append_right _ List.perm_append_comm
      · -- everything below node `n` is farther than `tau`
        rw [if_neg hgo]
        obtain ⟨s', hs', p⟩ := ih xs ts' s hxs h he (by omega)
        refine ⟨s', hs', p.len, p.win, p.full, fun hc => ?_⟩
        rw [p.best hc, List.filter_append]
        symm
        apply kbest_drop h hk
        intro y hy
        simp only [List.mem_filter, List.mem_map] at hy
        obtain ⟨⟨q, hq, rfl⟩, hw⟩ := hy
        have := hlow q hq
        rw [htol] at hgo
        exact ⟨hw, by omega⟩

theorem loop_spec {tree : Array Node} {bucket : Nat} {d : Nat → Nat → Int} {dq : Nat → Int} (hm : MetricQ d dq)
    (Q : Query) (k : Nat) (hk : 1 ≤ k) (hex : Q.exhaustive = true) (htol : Q.tol = 0) :
    ∀ (fuel : Nat) (todo : List Item) (ts : List VT) (s : St),
      Zip (TodoR tree bucket d dq) todo ts → InvR Q k s → s.exit = false → (ts.flatMap VT.pts).length ≤ fuel →
      ∃ s', loop tree bucket dq Q k fuel todo s = some s' ∧
        dists s'.res = kbest k (dists s.res ++ (D dq ts).filter (inWindow Q)) := by
  intro fuel todo ts s hz h he hf
  obtain ⟨s', hs', p⟩ := loop_gen hm Q k hk htol fuel todo ts s hz h he hf
  exact ⟨s', hs', p.best (Or.inl hex)⟩

theorem search_gen {tree : Array Node} {bucket numpoints : Nat} {d : Nat → Nat → Int} {dq : Nat → Int}
    (hm : MetricQ d dq) (Q : Query) (htol : Q.tol = 0) (hinv : TreeInv tree bucket numpoints d) :
    ∃ res, search tree numpoints bucket dq Q = some res ∧ res.length ≤ Q.k.toNat ∧
      (∀ x ∈ dists res, inWindow Q x = true) ∧
      (Q.exhaustive = true ∨ res.length < Q.k.toNat → dists res = bruteforce numpoints dq Q) := by
  unfold search
  by_cases hc : numpoints > 0 ∧ Q.k > 0 ∧ Q.maxdist > Q.mindist
  · rw [if_pos hc]
    obtain ⟨t, hrep, hb, hperm⟩ := hinv
    have hlen : t.pts.length = numpoints := by rw [hperm.length_eq, List.length_range]
    have hroot : 0 ≤ (tree.size : Int) - 1 := by
      refine Int.not_lt.mp fun hneg => ?_
      rw [rep_neg hrep hneg] at hlen
      simp at hlen; omega
    have hz : Zip (TodoR tree bucket d dq) [(1, (tree.size : Int) - 1)] [t] :=
      Zip.cons ⟨hroot, hrep, hb, fun p _ => by have := hm.nonneg p; omega⟩ Zip.nil
    have h0 : InvR Q Q.k.toNat { tau := Q.maxdist, res := [], exit := false } :=
      ⟨List.Pairwise.nil, by simp, by simp [dists], by rw [tauOf, if_neg (by simp; omega)]⟩
    obtain ⟨s', hs', p⟩ := loop_gen hm Q Q.k.toNat (by omega) htol numpoints _ [t] _ hz h0 rfl (by simp [hlen])
    refine ⟨s'.res, by rw [hs']; rfl, p.len, p.win, fun hc => ?_⟩
    have hrun : Q.exhaustive = true ∨ s'.exit = false := by
      refine hc.imp id fun hlt => ?_
      cases he : s'.exit with
      | false => rfl
      | true => have := p.full he; omega
    rw [p.best hrun]
    simp only [dists, List.map_nil, List.nil_append, bruteforce]
    show kbest _ _ = kbest _ _
    apply kbest_perm
    apply List.Perm.filter
    simp only [D, List.flatMap_cons, List.flatMap_nil, List.append_nil]
    exact hperm.map dq
  · rw [if_neg hc]
    refine ⟨[], rfl, by simp, by simp [dists], fun _ => ?_⟩
    simp only [dists, List.map_nil, bruteforce]
    by_cases h1 : numpoints > 0
    · by_cases h2 : Q.k > 0
      · have h3 : ¬ Q.maxdist > Q.mindist := fun h3 => hc ⟨h1, h2, h3⟩
        have : ((List.range numpoints).map dq).filter (inWindow Q) = [] := by
          rw [List.filter_eq_nil_iff]
          intro y _ hw
          have := (inWindow_iff Q y).mp hw
          omega
        rw [this]; simp [sortAsc]
      · have : Q.k.toNat = 0 := by omega
        rw [this]; simp
    · have : numpoints = 0 := by omega
      subst this; simp [sortAsc]

theorem checkSub_sound (tree : Array Node) (bucket : Nat) (d : Nat → Nat → Int) :
    ∀ (f : Nat) (n : Int) (pts : List Nat), checkSub tree bucket d f n = some pts →
      ∃ t, Rep tree bucket n t ∧ Bounded d t ∧ t.pts = pts := by
  intro f
  induction f with
  | zero =>
    intro n pts h
    simp only [checkSub] at h
    split at h
    · cases h; exact ⟨.nil, Rep.nil ‹_›, trivial, rfl⟩
    · cases h
  | succ f ih =>
    intro n pts h
    simp only [checkSub] at h
    split at h
    · cases h; exact ⟨.nil, Rep.nil ‹_›, trivial, rfl⟩
    rename_i hn
    -- by the node stored at `n`: none, a bucket, an inner node
    split at h
    · cases h
    · rename_i ls hget
      split at h
      · cases h
      · rename_i he
        cases h
        exact ⟨.leaf _, Rep.leaf (by omega) hget (by simpa using he), trivial, rfl⟩
    · rename_i v lo0 up0 c0 lo1 up1 c1 hget
      split at h
      · split at h
        · rename_i p0 p1 h0 h1
          split at h
          · rename_i hall
            cases h
            obtain ⟨t0, hr0, hb0, rfl⟩ := ih c0 p0 h0
            obtain ⟨t1, hr1, hb1, rfl⟩ := ih c1 p1 h1
            simp only [Bool.and_eq_true, List.all_eq_true, decide_eq_true_eq] at hall
            exact ⟨.inner v lo0 up0 lo1 up1 t0 t1, Rep.inner (by omega) hget hr0 hr1, ⟨hall.1, hall.2, hb0, hb1⟩, rfl⟩
          · cases h
        · cases h
      · cases h

theorem insNat_eq : insNat = insBy (fun a b => decide (a < b)) := by
  funext x l
  induction l with
  | nil => rfl
  | cons y ys ih => simp [insNat, insBy, ih]

theorem foldr_insNat_perm (l : List Nat) : (l.foldr insNat []).Perm l := insNat_eq ▸ foldr_insBy_perm _ l

def SubPerm {α : Type} (l₁ l₂ : List α) : Prop := ∃ l : List α, l.Perm l₁ ∧ l.Sublist l₂

namespace SubPerm
variable {α β : Type} {l₁ l₂ l₃ : List α}

theorem of_sublist (h : l₁.Sublist l₂) : SubPerm l₁ l₂ := ⟨l₁, List.Perm.refl _, h⟩

theorem of_perm (h : l₁.Perm l₂) : SubPerm l₁ l₂ := ⟨l₂, h.symm, List.Sublist.refl _⟩

theorem trans (h : SubPerm l₁ l₂) (h' : SubPerm l₂ l₃) : SubPerm l₁ l₃ := by
  obtain ⟨a, ha, sa⟩ := h
  obtain ⟨b, hb, sb⟩ := h'
  obtain ⟨a', ha', sa'⟩ := List.exists_perm_sublist sa hb.symm
  exact ⟨a', ha'.trans ha, sa'.trans sb⟩

theorem map (f : α → β) (h : SubPerm l₁ l₂) : SubPerm (l₁.map f) (l₂.map f) := by
  obtain ⟨a, ha, sa⟩ := h
  exact ⟨a.map f, ha.map f, sa.map f⟩

theorem append_left (c : List α) (h : SubPerm l₁ l₂) : SubPerm (c ++ l₁) (c ++ l₂) := by
  obtain ⟨a, ha, sa⟩ := h
  exact ⟨c ++ a, ha.append_left c, sa.append_left c⟩

theorem append_right (c : List α) (h : SubPerm l₁ l₂) : SubPerm (l₁ ++ c) (l₂ ++ c) := by
  obtain ⟨a, ha, sa⟩ := h
  exact ⟨a ++ c, ha.append_right c, sa.append_right c⟩

end SubPerm

def items (dq : Nat → Int) (ps : List Nat) : List Item := ps.map fun p => (dq p, (p : Int))

theorem items_append (dq : Nat → Int) (a b : List Nat) : items dq (a ++ b) = items dq a ++ items dq b :=
  List.map_append

theorem accept_res (Q : Query) (k : Nat) (s : St) (dst : Int) (idx : Nat) :
    (accept Q k s dst idx).res = insAsc (dst, (idx : Int)) (if s.res.length = k then s.res.dropLast else s.res) := by
  unfold accept
  by_cases h1 : (insAsc (dst, (idx : Int)) (if s.res.length = k then s.res.dropLast else s.res)).length = k
  · simp only [h1, if_true]
    by_cases h2 : Q.exhaustive = true <;> simp [h2]
  · simp only [h1, if_false]

theorem visit_items (Q : Query) (k : Nat) (dq : Nat → Int) (s : St) (idx : Nat) :
    SubPerm (visit Q k dq s idx).res (s.res ++ items dq [idx]) := by
  unfold visit
  split
  · rw [accept_res]
    have hbase : (if s.res.length = k then s.res.dropLast else s.res).Sublist s.res := by
      split
      · exact List.dropLast_sublist _
      · exact List.Sublist.refl _
    exact ⟨_, List.perm_append_comm.trans (insAsc_perm _ _).symm, hbase.append_right _⟩
  · exact .of_sublist (List.sublist_append_left _ _)

theorem visitLeaves_items (Q : Query) (k : Nat) (dq : Nat → Int) :
    ∀ (l : List Int) (s : St), SubPerm (visitLeaves Q k dq s l).res (s.res ++ items dq (validLeaves l)) := by
  intro l
  induction l with
  | nil => intro s; exact .of_sublist (List.sublist_append_left _ _)
  | cons i is ih =>
    intro s
    simp only [visitLeaves, validLeaves]
    split
    · exact .of_sublist (List.sublist_append_left _ _)
    · have v := visit_items Q k dq s i.toNat
      rw [← List.singleton_append, items_append, ← List.append_assoc]
      split
      · exact v.trans (.of_sublist (List.sublist_append_left _ _))
      · exact (ih _).trans (v.append_right _)

def RepR (tree : Array Node) (bucket : Nat) (it : Item) (t : VT) : Prop := Rep tree bucket it.2 t

/-- a child is dropped or pushed with some priority: what holds of both holds of `pushChild` -/
theorem pushChild_ind (Q : Query) (tau dst lo up c : Int) (todo : List Item) {M : List Item → Prop} (keep : M todo)
    (push : ∀ prio, M (insDesc (prio, c) todo)) : M (pushChild Q tau dst lo up c todo) := by
  have ite {P : Prop} [Decidable P] {a b : List Item} (ha : M a) (hb : M b) : M (if P then a else b) := by
    split
    · exact ha
    · exact hb
  -- the tree of `if`s of the definition
  exact ite (ite (ite (push _) keep) (ite (ite (push _) keep) (push _))) keep

theorem pushChild_items {tree : Array Node} {bucket : Nat} (Q : Query) (tau dst lo up c : Int) (tc : VT)
    (hrep : Rep tree bucket c tc) (todo : List Item) (ts : List VT) (h : Zip (RepR tree bucket) todo ts) :
    ∃ ts2, Zip (RepR tree bucket) (pushChild Q tau dst lo up c todo) ts2 ∧
      SubPerm (ts2.flatMap VT.pts) (tc.pts ++ ts.flatMap VT.pts) := by
  refine pushChild_ind Q tau dst lo up c todo
    (M := fun l => ∃ ts2, Zip (RepR tree bucket) l ts2 ∧ SubPerm (ts2.flatMap VT.pts) (tc.pts ++ ts.flatMap VT.pts))
    ⟨ts, h, .of_sublist (List.sublist_append_right _ _)⟩ fun prio => ?_
  obtain ⟨ts2, hz, hp⟩ := zip_insDesc (R := RepR tree bucket) (prio, c) tc hrep todo ts h
  exact ⟨ts2, hz, .of_perm (hp.flatMap_right VT.pts)⟩

theorem loop_items {tree : Array Node} {bucket : Nat} {dq : Nat → Int} (Q : Query) (k : Nat) :
    ∀ (fuel : Nat) (todo : List Item) (ts : List VT) (s s' : St),
      Zip (RepR tree bucket) todo ts → loop tree bucket dq Q k fuel todo s = some s' →
      SubPerm s'.res (s.res ++ items dq (ts.flatMap VT.pts)) := by
  intro fuel
  induction fuel with
  | zero =>
    intro todo ts s s' hz h
    cases hz with
    | nil => rw [loop_nil] at h; cases h; exact .of_sublist (List.sublist_append_left _ _)
    | cons hx hxs => simp [loop] at h
  | succ fuel ih =>
    intro todo ts s s' hz h
    cases hz with
    | nil => rw [loop_nil] at h; cases h; exact .of_sublist (List.sublist_append_left _ _)
    | @cons x t xs ts' hx hxs =>
      obtain ⟨prio, n⟩ := x
      have hrep : Rep tree bucket n t := hx
      rw [loop] at h
      rw [List.flatMap_cons, items_append, ← List.append_assoc]
      split at h
      · rename_i hgo
        cases hrep with
        | nil hneg => omega
        | @leaf _ ls _ hget hnonempty =>
          simp only [hget] at h
          have v := visitLeaves_items Q k dq (ls.take bucket) s
          split at h
          · cases h; exact v.trans (.of_sublist (List.sublist_append_left _ _))
          · exact (ih xs ts' _ s' hxs h).trans (v.append_right _)
        | @inner _ v lo0 up0 c0 lo1 up1 c1 t0 t1 _ hget hr0 hr1 =>
          simp only [hget] at h
          have w := visit_items Q k dq s v
          simp only [VT.pts]
          rw [← List.singleton_append, items_append, ← List.append_assoc]
          split at h
          · cases h
            exact w.trans (.of_sublist ((List.sublist_append_left _ _).trans (List.sublist_append_left _ _)))
          · obtain ⟨tsA, hzA, hA⟩ := pushChild_items Q ((visit Q k dq s v).tau - Q.tol) (dq v) lo0 up0 c0 t0 hr0 xs ts' hxs
            obtain ⟨tsB, hzB, hB⟩ := pushChild_items Q ((visit Q k dq s v).tau - Q.tol) (dq v) lo1 up1 c1 t1 hr1 _ tsA hzA
            refine (ih _ tsB _ s' hzB h).trans ?_
            have hpts : SubPerm (tsB.flatMap VT.pts) ((t0.pts ++ t1.pts) ++ ts'.flatMap VT.pts) :=
              (hB.trans (hA.append_left _)).trans (.of_perm (by
                rw [← List.append_assoc]
                exact List.perm_append_comm.append_right _))
            rw [List.append_assoc _ (items dq (t0.pts ++ t1.pts)), ← items_append]
            exact ((hpts.map _).append_left _).trans (w.append_right _)
      · exact (ih xs ts' s s' hxs h).trans (.of_sublist ((List.sublist_append_left _ _).append_right _))

theorem search_items {tree : Array Node} {bucket numpoints : Nat} {d : Nat → Nat → Int} {dq : Nat → Int} (Q : Query)
    (hinv : TreeInv tree bucket numpoints d) (res : List Item) (h : search tree numpoints bucket dq Q = some res) :
    (res.map (·.2)).Nodup ∧ ∀ it ∈ res, ∃ p, p < numpoints ∧ it = (dq p, (p : Int)) := by
  have hsub : SubPerm res (items dq (List.range numpoints)) := by
    unfold search at h
    split at h
    · obtain ⟨t, hrep, _, hperm⟩ := hinv
      cases hl : loop tree bucket dq Q Q.k.toNat numpoints [(1, (tree.size : Int) - 1)] { tau := Q.maxdist, res := [], exit := false } with
      | none => rw [hl] at h; cases h
      | some s' =>
        rw [hl] at h; cases h
        have := loop_items Q Q.k.toNat numpoints _ [t] _ s' (Zip.cons (show RepR tree bucket (1, (tree.size : Int) - 1) t from hrep) Zip.nil) hl
        simp only [List.nil_append, List.flatMap_cons, List.flatMap_nil, List.append_nil] at this
        exact this.trans (.of_perm (hperm.map _))
    · cases h; exact .of_sublist (List.nil_sublist _)
  obtain ⟨l, hp, hs⟩ := hsub
  constructor
  · refine (hp.map _).nodup_iff.mp ((hs.map (·.2)).nodup ?_)
    rw [items, List.map_map, List.Nodup, List.pairwise_map]
    exact (List.nodup_range (n := numpoints)).imp fun hne hc => hne (Int.ofNat.inj hc)
  · intro it hit
    obtain ⟨p, hp', rfl⟩ := List.mem_map.mp (hs.subset (hp.mem_iff.mpr hit))
    exact ⟨p, List.mem_range.mp hp', rfl⟩

theorem length_encLE (w : Nat) (x : Int) : (encLE w x).length = w := by
  induction w generalizing x with
  | zero => rfl
  | succ w ih => simp [encLE, ih]

theorem decLEu_encLE (w : Nat) (x : Int) : (decLEu (encLE w x) : Int) = x % 256 ^ w := by
  induction w generalizing x with
  | zero => simp [encLE, decLEu]
  | succ w ih =>
    simp only [encLE, decLEu, Int.natCast_add, Int.natCast_mul, Int.cast_ofNat_Int, ih,
      Int.toNat_of_nonneg (Int.emod_nonneg x (by decide : (256 : Int) ≠ 0))]
    -- `x % (256 * m) = x % 256 + 256 * (x / 256 % m)`, both sides written out as `x - …`
    rw [Int.pow_succ, Int.mul_comm _ 256, Int.emod_def x (256 * _), Int.emod_def (x / 256),
      Int.ediv_ediv_of_nonneg (by decide), Int.mul_sub, ← Int.mul_assoc]
    omega

def In32 (x : Int) : Prop := -2147483648 ≤ x ∧ x < 2147483648
def In64 (x : Int) : Prop := -9223372036854775808 ≤ x ∧ x < 9223372036854775808

/-- `m = 2 ^ (8 w - 1)`: the two's-complement range of `w` bytes -/
theorem readLE_encLE {w m : Nat} {x : Int} (rest : List Nat) (hm : 2 ^ (8 * w - 1) = m) (hM : (2 : Int) ^ (8 * w) = 2 * m)
    (h1 : -(m : Int) ≤ x) (h2 : x < m) : readLE w (encLE w x ++ rest) = some (x, rest) := by
  unfold readLE
  have hl : ¬ ((encLE w x ++ rest).length < w) := by simp [length_encLE]
  rw [if_neg hl, List.take_left' (length_encLE w x), List.drop_left' (length_encLE w x)]
  simp only [hm, hM, Option.some.injEq, Prod.mk.injEq, and_true]
  have e := decLEu_encLE w x
  rw [show (256 : Int) = 2 ^ 8 from rfl, ← Int.pow_mul, hM] at e
  by_cases h0 : 0 ≤ x
  · rw [Int.emod_eq_of_lt h0 (by omega)] at e
    rw [if_pos (by omega), e]
  · rw [← Int.add_emod_right, Int.emod_eq_of_lt (by omega) (by omega)] at e
    rw [if_neg (by omega), e]
    omega

theorem readLE4 (x : Int) (rest : List Nat) (h : In32 x) : readLE 4 (encLE 4 x ++ rest) = some (x, rest) :=
  readLE_encLE (m := 2147483648) rest (by decide) (by decide) h.1 h.2

theorem readInts_encInts (w : Nat) : ∀ (xs : List Int) (rest : List Nat),
    (∀ x ∈ xs, ∀ rest, readLE w (encLE w x ++ rest) = some (x, rest)) →
    readInts w xs.length (encInts w xs ++ rest) = some (xs, rest) := by
  intro xs
  induction xs with
  | nil => intro rest _; rfl
  | cons x xs ih =>
    intro rest h
    simp only [List.length_cons, readInts, encInts, List.append_assoc]
    rw [h x (by simp)]
    simp only
    rw [ih rest (fun y hy => h y (by simp [hy]))]

theorem readInts4 (xs : List Int) (rest : List Nat) (h : ∀ x ∈ xs, In32 x) :
    readInts 4 xs.length (encInts 4 xs ++ rest) = some (xs, rest) :=
  readInts_encInts 4 xs rest fun x hx rest => readLE4 x rest (h x hx)

theorem readInts8 (xs : List Int) (rest : List Nat) (h : ∀ x ∈ xs, In64 x) :
    readInts 8 xs.length (encInts 8 xs ++ rest) = some (xs, rest) :=
  readInts_encInts 8 xs rest fun x hx rest =>
    readLE_encLE (m := 9223372036854775808) rest (by decide) (by decide) (h x hx).1 (h x hx).2

/-- the stored fields fit their C++ types (`int` 32 bit, `dist_t` 64 bit) -/
def NodeRange : Node → Prop
  | .inner v lo0 up0 c0 lo1 up1 c1 => In32 (v : Int) ∧ In64 lo0 ∧ In64 up0 ∧ In32 c0 ∧ In64 lo1 ∧ In64 up1 ∧ In32 c1
  | .leaf ls => ∀ x ∈ ls, In32 x

theorem loadNodeBin_saveNodeBin (bucket : Nat) (n : Node) (rest : List Nat)
    (h : ∀ ls, n = .leaf ls → ls.length = bucket) (hr : NodeRange n) :
    loadNodeBin bucket (saveNodeBin n ++ rest) = .ok (n, rest) := by
  cases n with
  | inner v lo0 up0 c0 lo1 up1 c1 =>
    obtain ⟨hv, h1, h2, h3, h4, h5, h6⟩ := hr
    simp only [saveNodeBin, loadNodeBin, List.append_assoc]
    rw [readLE4 _ _ hv]
    have hv0 : ((v : Int) ≥ 0) := by omega
    simp only [hv0, if_true]
    have e8 := readInts8 [lo0, lo1, up0, up1] (encInts 4 [c0, c1] ++ rest)
      (by intro x hx; simp at hx; rcases hx with rfl | rfl | rfl | rfl <;> assumption)
    simp only [List.length_cons, List.length_nil] at e8
    rw [e8]
    have e4 := readInts4 [c0, c1] rest (by intro x hx; simp at hx; rcases hx with rfl | rfl <;> assumption)
    simp only [List.length_cons, List.length_nil] at e4
    simp only [e4, Int.toNat_natCast]
  | leaf ls =>
    have hl := h ls rfl
    simp only [saveNodeBin, loadNodeBin, List.append_assoc]
    rw [readLE4 (-1) _ (by unfold In32; omega)]
    have h1 : ¬ ((-1 : Int) ≥ 0) := by omega
    simp only [h1, if_false]
    have e4 := readInts4 ls rest hr
    rw [hl] at e4
    simp [e4]

def NodesRange : List Node → Prop
  | [] => True
  | n :: ns => NodeRange n ∧ NodesRange ns

theorem loadNodesBin_saveNodesBin (bucket : Nat) (numpoints : Int) (extra : List Nat) :
    ∀ (ns : List Node) (i : Nat) (used : List Int), NodesOK bucket numpoints i ns → NodesRange ns →
      (children ns).Nodup → (∀ c ∈ children ns, c ∉ used) →
      loadNodesBin bucket numpoints ns.length i used (saveNodesBin ns ++ extra) = .ok ns := by
  intro ns
  induction ns with
  | nil => intro i used _ _ _ _; simp [loadNodesBin]
  | cons n ns ih =>
    intro i used h hr hnd hdis
    obtain ⟨⟨hc, hl⟩, hrest⟩ := h
    obtain ⟨hu, hcs, hcu⟩ := claimNode_cons_iff.mpr ⟨hnd, hdis, rfl⟩
    simp only [List.length_cons, loadNodesBin, saveNodesBin, List.append_assoc]
    rw [loadNodeBin_saveNodeBin bucket n _ hl hr.1]
    simp only [hc, Bool.not_true, hu]
    rw [ih (i + 1) _ hrest hr.2 hcs hcu]
    simp

end GeoVerif.VPTree
