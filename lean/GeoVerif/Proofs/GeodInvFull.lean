import GeoVerif.Model.GeodInvFull
import GeoVerif.Proofs.GeodLine
import GeoVerif.Spec.RealInst
import Mathlib.Tactic.Ring
import Mathlib.Tactic.Linarith
import Mathlib.Tactic.FieldSimp
import Mathlib.Tactic.NormNum
import Mathlib.Tactic.Positivity
import Mathlib.Tactic.LinearCombination
/-!
# Lemmas about `Model/GeodInvFull.lean` (the whole of `GenInverse` behind the canonicalisation), for `Props/C02.lean`

Sections `AnyType` and `Cases` hold for every number type (binary64 included): which fields one pass of the Newton/bisection loop can
touch, the iteration budget, the case analysis of `solve`.  Section `Real`: the bracket is a bracket, a bisection step halves it,
output ranges, the closed forms of the equatorial and meridional answers.
-/
namespace GeoVerif.Proofs.GeodInvFull
open GeoVerif GeoVerif.GeodLine GeoVerif.GeodInvSeries GeoVerif.GeodInvFull GeoVerif.Proofs.GeodLine

section AnyType
open GeoVerif.RealLike.Lits
variable {α : Type} [RealLike α]

theorem updBracket_cases (p : Params α) (numit : Nat) (st : LoopSt α) (v : α) :
    updBracket p numit st v = st ∨
    (RealLike.ltb 0 v = true ∧ updBracket p numit st v = { st with salp1b := st.salp1, calp1b := st.calp1 }) ∨
    (RealLike.ltb v 0 = true ∧ updBracket p numit st v = { st with salp1a := st.salp1, calp1a := st.calp1 }) := by
  unfold updBracket
  split
  · next h => exact .inr (.inl ⟨(Bool.and_eq_true_iff.mp h).1, rfl⟩)
  · split
    · next h => exact .inr (.inr ⟨(Bool.and_eq_true_iff.mp h).1, rfl⟩)
    · exact .inl rfl

theorem newtonTry_eq_some (p : Params α) (numit : Nat) (st s : LoopSt α) (v dv : α) (h : newtonTry p numit st v dv = some s) :
    numit < p.maxit1 ∧ RealLike.ltb 0 dv = true ∧
    ∃ x y t, RealLike.ltb 0 x = true ∧ s = { st with salp1 := (norm2 x y).1, calp1 := (norm2 x y).2, tripn := t } := by
  unfold newtonTry at h
  split at h
  · next hc =>
    dsimp only at h
    split at h
    · split at h
      · next hn =>
        injection h with h
        exact ⟨of_decide_eq_true (Bool.and_eq_true_iff.mp hc).1, (Bool.and_eq_true_iff.mp hc).2, _, _, _, hn, h.symm⟩
      · cases h
    · cases h
  · cases h

theorem bisect_ends (p : Params α) (st : LoopSt α) :
    (bisect p st).salp1a = st.salp1a ∧ (bisect p st).calp1a = st.calp1a ∧ (bisect p st).salp1b = st.salp1b ∧
    (bisect p st).calp1b = st.calp1b ∧ (bisect p st).tripn = false := ⟨rfl, rfl, rfl, rfl, rfl⟩

theorem step_cases (p : Params α) (numit : Nat) (st : LoopSt α) (v dv : α) :
    step p numit st v dv = bisect p (updBracket p numit st v) ∨
    ∃ s, newtonTry p numit (updBracket p numit st v) v dv = some s ∧ step p numit st v dv = s := by
  unfold step
  dsimp only
  split
  · next s hs => exact .inr ⟨s, hs, rfl⟩
  · exact .inl rfl

theorem step_ends (p : Params α) (numit : Nat) (st : LoopSt α) (v dv : α) :
    (step p numit st v dv).salp1a = (updBracket p numit st v).salp1a ∧ (step p numit st v dv).calp1a = (updBracket p numit st v).calp1a ∧
    (step p numit st v dv).salp1b = (updBracket p numit st v).salp1b ∧ (step p numit st v dv).calp1b = (updBracket p numit st v).calp1b := by
  rcases step_cases p numit st v dv with h | ⟨s, hs, h⟩
  · rw [h]; exact ⟨rfl, rfl, rfl, rfl⟩
  · obtain ⟨_, _, x, y, t, _, rfl⟩ := newtonTry_eq_some p numit _ s v dv hs
    rw [h]; exact ⟨rfl, rfl, rfl, rfl⟩

theorem stopNow_at_budget (p : Params α) (sb : α) (st : LoopSt α) (v : α) : stopNow p sb p.maxit2 st v = true := by
  unfold stopNow
  simp

/-- started with `numit + fuel = maxit2_ + 1`, the `numit == maxit2_` exit fires before the fuel runs out -/
theorem loop_numit_le (p : Params α) (lam : α → α → Nat → LamOut α) (sb : α) (fuel numit : Nat) (st : LoopSt α) (nb : Nat) (its : List (α × α))
    (h : numit + fuel = p.maxit2 + 1) (hf : 0 < fuel) :
    (loop p lam sb fuel numit st nb its).numit ≤ p.maxit2 := by
  fun_induction loop p lam sb fuel numit st nb its with
  | case1 => omega
  | case2 fuel numit => show numit ≤ p.maxit2; omega
  | case3 fuel numit st _ _ _ _ hstop ih =>
    have hne : numit ≠ p.maxit2 := fun he => hstop (he ▸ stopNow_at_budget p sb st _)
    exact ih (by omega) (by omega)

theorem loop_evals (p : Params α) (lam : α → α → Nat → LamOut α) (sb : α) (fuel numit : Nat) (st : LoopSt α) (nb : Nat) (its : List (α × α)) :
    numit ≤ (loop p lam sb fuel numit st nb its).numit ∧
    (loop p lam sb fuel numit st nb its).iterates.length = its.length + ((loop p lam sb fuel numit st nb its).numit - numit) + 1 := by
  fun_induction loop p lam sb fuel numit st nb its with
  | case1 => exact ⟨Nat.le_refl _, by rw [Nat.sub_self]; rfl⟩
  | case2 => exact ⟨Nat.le_refl _, by rw [Nat.sub_self]; rfl⟩
  | case3 _ _ _ _ _ _ _ _ ih => exact ⟨by omega, by rw [ih.2, List.length_cons]; omega⟩

theorem loop_inv (p : Params α) (lam : α → α → Nat → LamOut α) (sb : α) (I : LoopSt α → Prop)
    (hstep : ∀ numit st, I st → I (step p numit st (lam st.salp1 st.calp1 numit).lam12 (lam st.salp1 st.calp1 numit).dlam12))
    (fuel numit : Nat) (st : LoopSt α) (nb : Nat) (its : List (α × α)) (h : I st) :
    I (loop p lam sb fuel numit st nb its).st := by
  fun_induction loop p lam sb fuel numit st nb its with
  | case1 => exact h
  | case2 => exact h
  | case3 _ _ _ _ _ _ _ _ ih => exact ih (hstep _ _ h)

/-- what the bracket ends are, for any kernel: the initial end, or a point at which the kernel was evaluated and found to
    have the sign that puts the root on the other side -/
def EndsObserved (p : Params α) (lam : α → α → Nat → LamOut α) (st : LoopSt α) : Prop :=
  ((st.salp1a = p.tiny ∧ st.calp1a = 1) ∨ ∃ n, RealLike.ltb (lam st.salp1a st.calp1a n).lam12 0 = true) ∧
  ((st.salp1b = p.tiny ∧ st.calp1b = -(1 : α)) ∨ ∃ n, RealLike.ltb 0 (lam st.salp1b st.calp1b n).lam12 = true)

theorem step_ends_observed (p : Params α) (lam : α → α → Nat → LamOut α) (numit : Nat) (st : LoopSt α) (dv : α)
    (h : EndsObserved p lam st) : EndsObserved p lam (step p numit st (lam st.salp1 st.calp1 numit).lam12 dv) := by
  obtain ⟨ha, hb⟩ := h
  have hs := step_ends p numit st (lam st.salp1 st.calp1 numit).lam12 dv
  unfold EndsObserved
  rw [hs.1, hs.2.1, hs.2.2.1, hs.2.2.2]
  rcases updBracket_cases p numit st (lam st.salp1 st.calp1 numit).lam12 with hu | ⟨hv, hu⟩ | ⟨hv, hu⟩ <;> rw [hu]
  · exact ⟨ha, hb⟩
  · exact ⟨ha, .inr ⟨numit, hv⟩⟩
  · exact ⟨.inr ⟨numit, hv⟩, hb⟩

end AnyType

section Cases
open GeoVerif.RealLike.Lits
variable {α : Type} [RealLike α]

theorem meridional_branch (p : Params α) (k : Kernels α) (β : Beta α) (s c : α) : (meridional p k β s c).sol.branch = .meridional := rfl
theorem equatorial_branch (p : Params α) (lon12 lam12 : α) : (equatorial p lon12 lam12).branch = .equatorial := rfl
theorem shortLine_branch (p : Params α) (st : StartOut α) (lam12 : α) : (shortLine p st lam12).branch = .short := rfl
theorem newtonBranch_branch (p : Params α) (k : Kernels α) (sb s c : α) : (newtonBranch p k sb s c).branch = .newton := rfl

theorem solve_branch (p : Params α) (k : Kernels α) (β : Beta α) (c : Canon α) :
    match (solve p k β c).1.branch with
    | .meridional => isMeridian c = true ∧ (meridional p k β c.slam12 c.clam12).accepted = true ∧
        (solve p k β c).1 = (meridional p k β c.slam12 c.clam12).sol
    | .equatorial => equatorialTest p β.sbet1 (lon12sOf c) = true ∧ (solve p k β c).1 = equatorial p c.lon12 (lam12Of c)
    | .short => RealLike.leb 0 k.start.sig12 = true ∧ (solve p k β c).1 = shortLine p k.start (lam12Of c)
    | .newton => RealLike.leb 0 k.start.sig12 = false ∧ (solve p k β c).1 = newtonBranch p k β.sbet1 c.slam12 c.clam12 := by
  unfold solve
  -- `solve` is an `if`-cascade over these four tests; in each combination of their values the branch tag is read off
  cases hm : isMeridian c <;> cases he : equatorialTest p β.sbet1 (lon12sOf c) <;> cases hs : RealLike.leb 0 k.start.sig12 <;>
    cases ha : (meridional p k β c.slam12 c.clam12).accepted <;> simp [ha, meridional_branch, equatorial_branch, shortLine_branch, newtonBranch_branch]

theorem solve_meridional (p : Params α) (k : Kernels α) (β : Beta α) (c : Canon α) (h : (solve p k β c).1.branch = .meridional) :
    isMeridian c = true ∧ (meridional p k β c.slam12 c.clam12).accepted = true ∧
    (solve p k β c).1 = (meridional p k β c.slam12 c.clam12).sol := by
  have := solve_branch p k β c
  rwa [h] at this

theorem solve_equatorial (p : Params α) (k : Kernels α) (β : Beta α) (c : Canon α) (h : (solve p k β c).1.branch = .equatorial) :
    equatorialTest p β.sbet1 (lon12sOf c) = true ∧ (solve p k β c).1 = equatorial p c.lon12 (lam12Of c) := by
  have := solve_branch p k β c
  rwa [h] at this

theorem solve_short (p : Params α) (k : Kernels α) (β : Beta α) (c : Canon α) (h : (solve p k β c).1.branch = .short) :
    RealLike.leb 0 k.start.sig12 = true ∧ (solve p k β c).1 = shortLine p k.start (lam12Of c) := by
  have := solve_branch p k β c
  rwa [h] at this

/-- the flags do not reach the solver -/
theorem genInverse_sol (p : Params α) (k : Kernels α) (β : Beta α) (c : Canon α) (ls sw lt : Int) :
    (genInverse p k β c ls sw lt).sol = (solve p k β c).1 := rfl

theorem loop_lo (p : Params α) (lam : α → α → Nat → LamOut α) (sb : α) (fuel numit : Nat) (st : LoopSt α) (nb : Nat) (its : List (α × α)) :
    ∃ s c n, (loop p lam sb fuel numit st nb its).lo = lam s c n := by
  fun_induction loop p lam sb fuel numit st nb its with
  | case1 => exact ⟨_, _, _, rfl⟩
  | case2 => exact ⟨_, _, _, rfl⟩
  | case3 _ _ _ _ _ _ _ _ ih => exact ih

/-- the clamp `if (a12 > Math::hd) a12 = Math::hd` (fix 62054f0) in every number type whose `<` is irreflexive at 180 (binary64, ℝ) -/
theorem clamp180_le (q : α) (h : RealLike.ltb (180 : α) 180 = false) : RealLike.ltb (180 : α) (clamp180 q) = false := by
  unfold clamp180
  split
  · exact h
  · rename_i hc; simpa using hc

/-- a `q` that does not compare `> 180` (a NaN included) passes through the clamp unchanged -/
theorem clamp180_passes (q : α) (h : RealLike.ltb (180 : α) q = false) : clamp180 q = q := by
  unfold clamp180; simp [h]

end Cases

section Real
open Real

theorem pi_real : (RealLike.pi : ℝ) = Real.pi := rfl
theorem atan2_real (y x : ℝ) : RealLike.atan2 y x = Complex.arg ⟨x, y⟩ := rfl
theorem max_real (x y : ℝ) : RealLike.max x y = max x y := rfl
theorem min_real (x y : ℝ) : RealLike.min x y = min x y := rfl

theorem lit_zero : @OfNat.ofNat ℝ 0 RealLike.Lits.instLit = (0 : ℝ) := by rw [lit_real]; simp
theorem lit_one : @OfNat.ofNat ℝ 1 RealLike.Lits.instLit = (1 : ℝ) := by rw [lit_real]; simp
theorem lit_two : @OfNat.ofNat ℝ 2 RealLike.Lits.instLit = (2 : ℝ) := by rw [lit_real]

theorem degree_eq : (degree : ℝ) = Real.pi / 180 := by
  unfold degree; simp only [pi_real, lit_real]

theorem atan2_range (y x : ℝ) (hy : 0 ≤ y) : 0 ≤ (RealLike.atan2 y x : ℝ) ∧ (RealLike.atan2 y x : ℝ) ≤ Real.pi := by
  rw [atan2_real]
  exact ⟨Complex.arg_nonneg_iff.mpr hy, Complex.arg_le_pi _⟩

theorem norm2_fst (x y : ℝ) : (norm2 x y).1 = x / Real.sqrt (x ^ 2 + y ^ 2) := rfl
theorem norm2_snd (x y : ℝ) : (norm2 x y).2 = y / Real.sqrt (x ^ 2 + y ^ 2) := rfl

theorem norm2_pos_unit (x y : ℝ) (hx : 0 < x) :
    0 < (norm2 x y).1 ∧ (norm2 x y).1 ^ 2 + (norm2 x y).2 ^ 2 = 1 ∧ (norm2 x y).2 / (norm2 x y).1 = y / x := by
  have hs : 0 < Real.sqrt (x ^ 2 + y ^ 2) := Real.sqrt_pos.mpr (add_pos_of_pos_of_nonneg (pow_pos hx 2) (sq_nonneg y))
  exact ⟨div_pos hx hs, norm2_unit x y (Or.inl hx.ne'), div_div_div_cancel_right₀ hs.ne' y x⟩

/-- the current point is a unit vector in the open upper half plane (`alp1 ∈ (0, π)`), the ends have positive sine -/
def Good (st : LoopSt ℝ) : Prop := 0 < st.salp1 ∧ st.salp1 ^ 2 + st.calp1 ^ 2 = 1 ∧ 0 < st.salp1a ∧ 0 < st.salp1b

/-- `ρ = cot(root)` lies strictly between the cotangents of the ends (`cot` decreases on `(0, π)`: the lower end has the larger one) -/
def Brackets (ρ : ℝ) (st : LoopSt ℝ) : Prop := st.calp1b / st.salp1b < ρ ∧ ρ < st.calp1a / st.salp1a

/-- the kernel is positive only above the root and negative only below it -/
def SignContract (lam : ℝ → ℝ → Nat → LamOut ℝ) (ρ : ℝ) : Prop :=
  ∀ s c n, 0 < s → (0 < (lam s c n).lam12 → c / s < ρ) ∧ ((lam s c n).lam12 < 0 → ρ < c / s)

theorem bisect_point (p : Params ℝ) (st : LoopSt ℝ) :
    (bisect p st).salp1 = (norm2 ((st.salp1a + st.salp1b) / 2) ((st.calp1a + st.calp1b) / 2)).1 ∧
    (bisect p st).calp1 = (norm2 ((st.salp1a + st.salp1b) / 2) ((st.calp1a + st.calp1b) / 2)).2 := by
  rw [← lit_two]; exact ⟨rfl, rfl⟩

theorem bisect_pos_unit (p : Params ℝ) (st : LoopSt ℝ) (ha : 0 < st.salp1a) (hb : 0 < st.salp1b) :
    0 < (bisect p st).salp1 ∧ (bisect p st).salp1 ^ 2 + (bisect p st).calp1 ^ 2 = 1 ∧
    (bisect p st).calp1 / (bisect p st).salp1 = (st.calp1a + st.calp1b) / (st.salp1a + st.salp1b) := by
  have h := norm2_pos_unit ((st.salp1a + st.salp1b) / 2) ((st.calp1a + st.calp1b) / 2) (half_pos (add_pos ha hb))
  rw [(bisect_point p st).1, (bisect_point p st).2]
  exact ⟨h.1, h.2.1, h.2.2.trans (div_div_div_cancel_right₀ two_ne_zero _ _)⟩

/-- the cotangent of the bisection's new point is the mediant of the ends' -/
theorem bisect_between (p : Params ℝ) (st : LoopSt ℝ) (ha : 0 < st.salp1a) (hb : 0 < st.salp1b)
    (hab : st.calp1b / st.salp1b < st.calp1a / st.salp1a) :
    st.calp1b / st.salp1b < (bisect p st).calp1 / (bisect p st).salp1 ∧
    (bisect p st).calp1 / (bisect p st).salp1 < st.calp1a / st.salp1a := by
  rw [(bisect_pos_unit p st ha hb).2.2]
  have hs : 0 < st.salp1a + st.salp1b := add_pos ha hb
  rw [div_lt_div_iff₀ hb ha] at hab
  constructor
  · rw [div_lt_div_iff₀ hb hs]; linarith
  · rw [div_lt_div_iff₀ hs ha]; linarith

theorem norm2_scaled (r s c : ℝ) (hr : 0 < r) (h : s ^ 2 + c ^ 2 = 1) : norm2 (s * r) (c * r) = (s, c) := by
  have hh : Real.sqrt ((s * r) ^ 2 + (c * r) ^ 2) = r := by
    rw [show (s * r) ^ 2 + (c * r) ^ 2 = r ^ 2 by linear_combination r ^ 2 * h, Real.sqrt_sq hr.le]
  ext
  · rw [norm2_fst, hh]; exact mul_div_cancel_right₀ _ hr.ne'
  · rw [norm2_snd, hh]; exact mul_div_cancel_right₀ _ hr.ne'

/-- a bisection step halves the bracket in the angle: the normalised midpoint of the chord between the directions `A` and `B` is
    the direction `(A + B)/2` -/
theorem bisect_angle (A B : ℝ) (h : |A - B| < Real.pi) :
    norm2 ((Real.sin A + Real.sin B) / 2) ((Real.cos A + Real.cos B) / 2) = (Real.sin ((A + B) / 2), Real.cos ((A + B) / 2)) := by
  -- with `A = u + w`, `B = u − w` the midpoint of the chord is `cos w · (sin u, cos u)`, and `cos w > 0`
  obtain ⟨u, w, rfl, rfl⟩ : ∃ u w, A = u + w ∧ B = u - w := ⟨(A + B) / 2, (A - B) / 2, by ring, by ring⟩
  have hw : 0 < Real.cos w :=
    Real.cos_pos_of_mem_Ioo ⟨by linarith [(abs_lt.mp h).1], by linarith [(abs_lt.mp h).2]⟩
  rw [show (u + w + (u - w)) / 2 = u by ring,
    show (Real.sin (u + w) + Real.sin (u - w)) / 2 = Real.sin u * Real.cos w by rw [Real.sin_add, Real.sin_sub]; ring,
    show (Real.cos (u + w) + Real.cos (u - w)) / 2 = Real.cos u * Real.cos w by rw [Real.cos_add, Real.cos_sub]; ring]
  exact norm2_scaled _ _ _ hw (Real.sin_sq_add_cos_sq u)

theorem updBracket_good (p : Params ℝ) (numit : Nat) (st : LoopSt ℝ) (v : ℝ) (h : Good st) : Good (updBracket p numit st v) := by
  obtain ⟨h1, h2, h3, h4⟩ := h
  rcases updBracket_cases p numit st v with hu | ⟨_, hu⟩ | ⟨_, hu⟩ <;> rw [hu]
  · exact ⟨h1, h2, h3, h4⟩
  · exact ⟨h1, h2, h3, h1⟩
  · exact ⟨h1, h2, h1, h4⟩

/-- the iterates stay in `(0, π)`, for every kernel -/
theorem step_good (p : Params ℝ) (numit : Nat) (st : LoopSt ℝ) (v dv : ℝ) (h : Good st) : Good (step p numit st v dv) := by
  have hu := updBracket_good p numit st v h
  rcases step_cases p numit st v dv with hs | ⟨s, hs, hst⟩
  · have hb := bisect_pos_unit p (updBracket p numit st v) hu.2.2.1 hu.2.2.2
    rw [hs]; exact ⟨hb.1, hb.2.1, hu.2.2.1, hu.2.2.2⟩
  · obtain ⟨_, _, x, y, t, hx, rfl⟩ := newtonTry_eq_some p numit _ s v dv hs
    have hn := norm2_pos_unit x y (by simpa [lit_zero] using hx)
    rw [hst]; exact ⟨hn.1, hn.2.1, hu.2.2.1, hu.2.2.2⟩

theorem updBracket_brackets (p : Params ℝ) (lam : ℝ → ℝ → Nat → LamOut ℝ) (ρ : ℝ) (numit : Nat) (st : LoopSt ℝ)
    (hc : SignContract lam ρ) (hg : Good st) (hb : Brackets ρ st) :
    Brackets ρ (updBracket p numit st (lam st.salp1 st.calp1 numit).lam12) := by
  have hs := hc st.salp1 st.calp1 numit hg.1
  rcases updBracket_cases p numit st (lam st.salp1 st.calp1 numit).lam12 with hu | ⟨hv, hu⟩ | ⟨hv, hu⟩ <;> rw [hu]
  · exact hb
  · exact ⟨hs.1 (by simpa [lit_zero] using hv), hb.2⟩
  · exact ⟨hb.1, hs.2 (by simpa [lit_zero] using hv)⟩

theorem step_brackets (p : Params ℝ) (lam : ℝ → ℝ → Nat → LamOut ℝ) (ρ : ℝ) (numit : Nat) (st : LoopSt ℝ) (dv : ℝ)
    (hc : SignContract lam ρ) (hg : Good st) (hb : Brackets ρ st) :
    Brackets ρ (step p numit st (lam st.salp1 st.calp1 numit).lam12 dv) := by
  have hs := step_ends p numit st (lam st.salp1 st.calp1 numit).lam12 dv
  have hu := updBracket_brackets p lam ρ numit st hc hg hb
  unfold Brackets at hu ⊢
  rw [hs.1, hs.2.1, hs.2.2.1, hs.2.2.2]
  exact hu

theorem a12_of_sig12 (s : ℝ) (h0 : 0 ≤ s) (h1 : s ≤ Real.pi) : 0 ≤ s / (degree : ℝ) ∧ s / (degree : ℝ) ≤ 180 := by
  have hd := degree_pos
  refine ⟨div_nonneg h0 hd.le, ?_⟩
  rw [div_le_iff₀ hd, degree_eq]
  have := Real.pi_pos
  linarith

local notation "lit0" => (@OfNat.ofNat ℝ 0 RealLike.Lits.instLit)

theorem meridional_sig12c (p : Params ℝ) (k : Kernels ℝ) (β : Beta ℝ) (s c : ℝ) :
    0 ≤ (meridional p k β s c).sig12c ∧ (meridional p k β s c).sig12c ≤ Real.pi := by
  show 0 ≤ RealLike.atan2 (RealLike.max lit0 _ + lit0) _ ∧ RealLike.atan2 (RealLike.max lit0 _ + lit0) _ ≤ Real.pi
  refine atan2_range _ _ ?_
  rw [lit_zero, max_real, add_zero]
  exact le_max_left _ _

theorem meridional_a12_eq (p : Params ℝ) (k : Kernels ℝ) (β : Beta ℝ) (s c : ℝ) :
    (meridional p k β s c).sol.a12 =
      (if (meridional p k β s c).zeroed then (0 : ℝ) else (meridional p k β s c).sig12c) / degree := by
  show (if (meridional p k β s c).zeroed then lit0 else (meridional p k β s c).sig12c) / degree = _
  rw [lit_zero]

theorem meridional_a12 (p : Params ℝ) (k : Kernels ℝ) (β : Beta ℝ) (s c : ℝ) :
    0 ≤ (meridional p k β s c).sol.a12 ∧ (meridional p k β s c).sol.a12 ≤ 180 := by
  rw [meridional_a12_eq]
  have h := meridional_sig12c p k β s c
  split
  · exact a12_of_sig12 0 le_rfl Real.pi_pos.le
  · exact a12_of_sig12 _ h.1 h.2

theorem clamp180_real (q : ℝ) : clamp180 q = min q 180 := by
  unfold clamp180
  simp only [ltb_real, lit_real]
  push_cast
  by_cases h : (180 : ℝ) < q
  · simp only [h, decide_true, if_true]; exact (min_eq_right h.le).symm
  · simp only [h, decide_false, Bool.false_eq_true, if_false]; exact (min_eq_left (not_lt.mp h)).symm

theorem equatorial_a12_eq (p : Params ℝ) (lon12 lam12 : ℝ) : (equatorial p lon12 lam12).a12 = min (lon12 / p.f1) 180 :=
  clamp180_real _

/-- by the clamp (fix 62054f0), whatever the cut-off test did -/
theorem equatorial_a12 (p : Params ℝ) (c : Canon ℝ) (hp : 0 < p.f1) (hl0 : 0 ≤ c.lon12) :
    0 ≤ (equatorial p c.lon12 (lam12Of c)).a12 ∧ (equatorial p c.lon12 (lam12Of c)).a12 ≤ 180 := by
  rw [equatorial_a12_eq]
  exact ⟨le_min (div_nonneg hl0 hp.le) (by norm_num), min_le_right _ _⟩

/-- the clamp is inactive when the cut-off test holds exactly (`lon12s = 180 − lon12 − e` with the error term `e ≥ 0`) -/
theorem equatorial_a12_unclamped (p : Params ℝ) (β : Beta ℝ) (c : Canon ℝ) (hf1 : p.f1 = 1 - p.f) (hf : p.f < 1)
    (hl1 : c.lon12 ≤ 180) (he : 0 ≤ c.lon12e) (ht : equatorialTest p β.sbet1 (lon12sOf c) = true) :
    (equatorial p c.lon12 (lam12Of c)).a12 = c.lon12 / p.f1 := by
  rw [equatorial_a12_eq]
  apply min_eq_left
  have hp : 0 < p.f1 := by rw [hf1]; linarith
  rw [div_le_iff₀ hp]
  unfold equatorialTest lon12sOf at ht
  simp only [Bool.and_eq_true, Bool.or_eq_true, leb_real, decide_eq_true_eq, lit_real] at ht
  push_cast at ht
  rcases ht.2 with h | h
  · rw [hf1]; linarith
  · rw [hf1]; linarith

/-- the series kernels satisfy the contract of `Props.C02.a12_range` -/
theorem lambda12_sig12 (g : Geod ℝ) (sbet1 cbet1 dn1 sbet2 cbet2 dn2 salp1 calp1 slam120 clam120 : ℝ) :
    0 ≤ (lambda12 g sbet1 cbet1 dn1 sbet2 cbet2 dn2 salp1 calp1 slam120 clam120).sig12 ∧
    (lambda12 g sbet1 cbet1 dn1 sbet2 cbet2 dn2 salp1 calp1 slam120 clam120).sig12 ≤ Real.pi := by
  show 0 ≤ RealLike.atan2 (RealLike.max lit0 _ + lit0) _ ∧ RealLike.atan2 (RealLike.max lit0 _ + lit0) _ ≤ Real.pi
  refine atan2_range _ _ ?_
  rw [lit_zero, max_real, add_zero]
  exact le_max_left _ _

theorem startFinish_sig12 (sig12 salp1 calp1 salp2 calp2 dnm : ℝ) : (startFinish sig12 salp1 calp1 salp2 calp2 dnm).sig12 = sig12 := by
  unfold startFinish; split <;> rfl

theorem startFinish_dnm (sig12 salp1 calp1 salp2 calp2 dnm : ℝ) : (startFinish sig12 salp1 calp1 salp2 calp2 dnm).dnm = dnm := by
  unfold startFinish; split <;> rfl

theorem ite_le_of {c : Prop} [Decidable c] {a b t : ℝ} (ha : a ≤ t) (hb : b ≤ t) : (if c then a else b) ≤ t := by
  split <;> assumption

theorem le_ite_of {c : Prop} [Decidable c] {a b t : ℝ} (ha : t ≤ a) (hb : t ≤ b) : t ≤ (if c then a else b) := by
  split <;> assumption

theorem inverseStart_sig12 (g : Geod ℝ) (eps0 sbet1 cbet1 dn1 sbet2 cbet2 dn2 lam12 slam12 clam12 : ℝ) :
    (inverseStart g eps0 sbet1 cbet1 dn1 sbet2 cbet2 dn2 lam12 slam12 clam12).sig12 ≤ Real.pi := by
  have hneg : (-(@OfNat.ofNat ℝ 1 RealLike.Lits.instLit)) ≤ Real.pi := by rw [lit_one]; have := Real.pi_pos; linarith
  unfold inverseStart
  simp only [apply_ite StartOut.sig12, startFinish_sig12]
  -- the nesting follows the `if`-tree of `inverseStart`: the short-line leaf is an `atan2 (hypot …) _`, every other leaf is `-1`
  refine ite_le_of ?_ (ite_le_of hneg (ite_le_of (ite_le_of hneg hneg) hneg))
  exact (atan2_range _ _ (by rw [hypot_real]; exact Real.sqrt_nonneg _)).2

theorem shortLine_s12 (p : Params ℝ) (st : StartOut ℝ) (lam12 : ℝ) (hs : 0 ≤ st.sig12) (hb : 0 ≤ p.b) (hd : 0 ≤ st.dnm) :
    0 ≤ (shortLine p st lam12).s12x := by
  show 0 ≤ st.sig12 * p.b * st.dnm
  positivity

theorem equatorial_s12 (p : Params ℝ) (c : Canon ℝ) (ha : 0 ≤ p.a) (hl : 0 ≤ c.lon12) :
    0 ≤ (equatorial p c.lon12 (lam12Of c)).s12x := by
  show 0 ≤ p.a * (c.lon12 * degree)
  have := degree_pos
  positivity

theorem restore_s12 (ls sw lt : Int) (s : Sol ℝ) (S : ℝ) : (restore ls sw lt s S).s12 = s.s12x := by
  show lit0 + s.s12x = _
  rw [lit_zero, zero_add]

theorem restore_m12 (ls sw lt : Int) (s : Sol ℝ) (S : ℝ) : (restore ls sw lt s S).m12 = s.m12x := by
  show lit0 + s.m12x = _
  rw [lit_zero, zero_add]

theorem restore_a12 (ls sw lt : Int) (s : Sol ℝ) (S : ℝ) : (restore ls sw lt s S).a12 = s.a12 := rfl
theorem restore_S12 (ls sw lt : Int) (s : Sol ℝ) (S : ℝ) : (restore ls sw lt s S).S12 = S := rfl

theorem mulSign_real (s : Int) (x : ℝ) : mulSign s x = if s < 0 then -x else x := rfl

theorem arg_pos_real (x : ℝ) (hx : 0 < x) : Complex.arg ⟨x, 0⟩ = 0 := by
  have : (⟨x, 0⟩ : ℂ) = (x : ℂ) := rfl
  rw [this]; exact Complex.arg_ofReal_of_nonneg hx.le

theorem atan2d_zero_pos (x : ℝ) (hx : 0 < x) : atan2d 0 x = 0 := by
  unfold atan2d signNeg
  have h1 : ¬ (|x| < |(0:ℝ)|) := by simp
  have h2 : ¬ (x < 0) := not_lt.mpr hx.le
  simp only [ltb_real, eqb_real, abs_real, lit_zero, h1, h2, hx.ne', decide_false, Bool.false_eq_true, if_false, Bool.false_and,
    Bool.or_false, atan2_real]
  rw [arg_pos_real x hx, zero_div]

theorem atan2d_zero_neg (x : ℝ) (hx : x < 0) : atan2d 0 x = 180 := by
  unfold atan2d signNeg copysign signNeg
  have h1 : ¬ (|x| < |(0:ℝ)|) := by simp
  have h0 : ¬ ((0:ℝ) < 0) := lt_irrefl _
  simp only [ltb_real, eqb_real, abs_real, lit_zero, h1, hx, h0, decide_false, decide_true, Bool.false_eq_true, if_false, if_true,
    Bool.true_or, Bool.false_or, atan2_real, div_zero, Bool.and_false]
  rw [arg_pos_real (-x) (by linarith), zero_div, lit_real]
  push_cast
  rw [abs_of_pos (by norm_num : (0:ℝ) < 180)]; ring

theorem areaAlp12_equatorial (tiny : ℝ) (p : Params ℝ) (β : Beta ℝ) (lon12 lam12 : ℝ) (h1 : β.sbet1 = 0) (h2 : β.sbet2 = 0)
    (hc1 : 0 < β.cbet1) (hc2 : 0 < β.cbet2) : areaAlp12 tiny β (equatorial p lon12 lam12) = 0 := by
  unfold areaAlp12
  split
  · rename_i hc
    -- the first branch of `areaAlp12` is guarded by `comg12 > -0.7071`, so `1 + comg12 > 0`
    have hcm : -(7071 / 10 ^ 4 : ℝ) < Real.cos (lam12 / p.f1) := by
      have := hc
      simp only [Bool.and_eq_true, ltb_real, decide_eq_true_eq] at this
      exact this.1.2
    have a0 : 0 < 1 + Real.cos (lam12 / p.f1) :=
      neg_lt_iff_pos_add'.mp ((by norm_num : (-1 : ℝ) < -(7071 / 10 ^ 4)).trans hcm)
    show ((2 : ℕ) : ℝ) * RealLike.atan2 (Real.sin (lam12 / p.f1) * (β.sbet1 * (((1 : ℕ) : ℝ) + β.cbet2) + β.sbet2 * (((1 : ℕ) : ℝ) + β.cbet1)))
      ((((1 : ℕ) : ℝ) + Real.cos (lam12 / p.f1)) * (β.sbet1 * β.sbet2 + (((1 : ℕ) : ℝ) + β.cbet1) * (((1 : ℕ) : ℝ) + β.cbet2))) = 0
    rw [h1, h2, Nat.cast_one, Nat.cast_ofNat, atan2_real]
    simp only [zero_mul, add_zero, mul_zero, zero_add]
    rw [arg_pos_real _ (mul_pos a0 (mul_pos (add_pos one_pos hc1) (add_pos one_pos hc2))), mul_zero]
  · show (if (RealLike.eqb (((1 : ℕ) : ℝ) * lit0 - lit0 * ((1 : ℕ) : ℝ)) lit0 && RealLike.ltb (lit0 * lit0 + ((1 : ℕ) : ℝ) * ((1 : ℕ) : ℝ)) lit0) = true then
        RealLike.atan2 (tiny * lit0) (-((1 : ℕ) : ℝ)) else RealLike.atan2 (((1 : ℕ) : ℝ) * lit0 - lit0 * ((1 : ℕ) : ℝ)) (lit0 * lit0 + ((1 : ℕ) : ℝ) * ((1 : ℕ) : ℝ))) = 0
    rw [lit_zero, Nat.cast_one]
    have e1 : (1 : ℝ) * 0 - 0 * 1 = 0 := by ring
    have e2 : (0 : ℝ) * 0 + 1 * 1 = 1 := by ring
    rw [e1, e2]
    have h10 : ¬ ((1:ℝ) < 0) := by norm_num
    simp only [eqb_real, ltb_real, h10, decide_false, Bool.and_false, Bool.false_eq_true, if_false, atan2_real]
    exact arg_pos_real 1 one_pos

theorem mulSign_pm_one (s : Int) (x : ℝ) (hx : x = 1 ∨ x = -1) : mulSign s x = 1 ∨ mulSign s x = -1 := by
  rw [mulSign_real]; split <;> rcases hx with rfl | rfl <;> simp

theorem mulSign_zero (s : Int) : mulSign s (0 : ℝ) = 0 := by
  rw [mulSign_real]; split <;> simp

theorem neg_lit0 : -lit0 = (0 : ℝ) := by rw [lit_zero, neg_zero]

theorem restore_equatorial (p : Params ℝ) (lon12 lam12 : ℝ) (ls sw lt : Int) (S : ℝ) :
    (restore ls sw lt (equatorial p lon12 lam12) S).s12 = p.a * lam12 ∧
    (restore ls sw lt (equatorial p lon12 lam12) S).m12 = p.b * Real.sin (lam12 / p.f1) ∧
    (restore ls sw lt (equatorial p lon12 lam12) S).M12 = Real.cos (lam12 / p.f1) ∧
    (restore ls sw lt (equatorial p lon12 lam12) S).M21 = Real.cos (lam12 / p.f1) ∧
    (restore ls sw lt (equatorial p lon12 lam12) S).a12 = min (lon12 / p.f1) 180 ∧
    (restore ls sw lt (equatorial p lon12 lam12) S).calp1 = 0 ∧ (restore ls sw lt (equatorial p lon12 lam12) S).calp2 = 0 ∧
    (restore ls sw lt (equatorial p lon12 lam12) S).salp1 = (if sw * ls < 0 then -1 else 1) ∧
    (restore ls sw lt (equatorial p lon12 lam12) S).salp2 = (if sw * ls < 0 then -1 else 1) := by
  refine ⟨?_, ?_, ite_self _, ite_self _, equatorial_a12_eq p lon12 lam12, ?_, ?_, ?_, ?_⟩
  · rw [restore_s12]; rfl
  · rw [restore_m12]; rfl
  · show mulSign (sw * lt) (if sw < 0 then lit0 else lit0) = 0
    rw [ite_self, lit_zero, mulSign_zero]
  · show mulSign (sw * lt) (if sw < 0 then lit0 else lit0) = 0
    rw [ite_self, lit_zero, mulSign_zero]
  · show mulSign (sw * ls) (if sw < 0 then ((1 : ℕ) : ℝ) else ((1 : ℕ) : ℝ)) = _
    rw [ite_self, Nat.cast_one, mulSign_real]
  · show mulSign (sw * ls) (if sw < 0 then ((1 : ℕ) : ℝ) else ((1 : ℕ) : ℝ)) = _
    rw [ite_self, Nat.cast_one, mulSign_real]

theorem areaS12_equatorial (p : Params ℝ) (k : Kernels ℝ) (β : Beta ℝ) (lon12 lam12 : ℝ) (ls sw lt : Int) (h1 : β.sbet1 = 0)
    (h2 : β.sbet2 = 0) (hc1 : 0 < β.cbet1) (hc2 : 0 < β.cbet2) (harea : k.area 1 0 1 0 = 0) :
    areaS12 p k β (equatorial p lon12 lam12) ls sw lt = 0 := by
  unfold areaS12
  rw [areaAlp12_equatorial p.tiny p β lon12 lam12 h1 h2 hc1 hc2]
  show mulSign (sw * ls * lt) (k.area ((1 : ℕ) : ℝ) lit0 ((1 : ℕ) : ℝ) lit0 + p.c2 * 0) + lit0 = 0
  rw [Nat.cast_one, lit_zero, harea, mulSign_real]
  split <;> simp

/-- the meridional candidate: `σ12 = σ2 − σ1` with `tan σ1 = sbet1/(clam12 cbet1)`, `tan σ2 = sbet2/cbet2`, clipped at 0 -/
theorem meridional_sig12c_eq (p : Params ℝ) (k : Kernels ℝ) (β : Beta ℝ) (s c : ℝ) :
    (meridional p k β s c).sig12c =
      RealLike.atan2 (max 0 (c * β.cbet1 * β.sbet2 - β.sbet1 * β.cbet2)) (c * β.cbet1 * β.cbet2 + β.sbet1 * β.sbet2) := by
  show RealLike.atan2 (RealLike.max lit0 (c * β.cbet1 * β.sbet2 - β.sbet1 * (((1 : ℕ) : ℝ) * β.cbet2)) + lit0)
      (c * β.cbet1 * (((1 : ℕ) : ℝ) * β.cbet2) + β.sbet1 * β.sbet2) = _
  rw [lit_zero, Nat.cast_one, one_mul, add_zero, max_real]

theorem meridional_fields (p : Params ℝ) (k : Kernels ℝ) (β : Beta ℝ) (s c : ℝ) :
    (meridional p k β s c).sol.salp1 = s ∧ (meridional p k β s c).sol.calp1 = c ∧
    (meridional p k β s c).sol.salp2 = 0 ∧ (meridional p k β s c).sol.calp2 = 1 ∧
    (meridional p k β s c).sol.s12x =
      (if (meridional p k β s c).zeroed then 0
       else (k.lenMerid (meridional p k β s c).sig12c β.sbet1 (c * β.cbet1) β.sbet2 β.cbet2).s12b) * p.b ∧
    (meridional p k β s c).sol.m12x =
      (if (meridional p k β s c).zeroed then 0
       else (k.lenMerid (meridional p k β s c).sig12c β.sbet1 (c * β.cbet1) β.sbet2 β.cbet2).m12b) * p.b := by
  refine ⟨rfl, rfl, lit_zero, lit_one, ?_, ?_⟩
  · show (if (meridional p k β s c).zeroed then lit0
      else (k.lenMerid (meridional p k β s c).sig12c β.sbet1 (c * β.cbet1) β.sbet2 (((1 : ℕ) : ℝ) * β.cbet2)).s12b) * p.b = _
    rw [lit_zero, Nat.cast_one, one_mul]
  · show (if (meridional p k β s c).zeroed then lit0
      else (k.lenMerid (meridional p k β s c).sig12c β.sbet1 (c * β.cbet1) β.sbet2 (((1 : ℕ) : ℝ) * β.cbet2)).m12b) * p.b = _
    rw [lit_zero, Nat.cast_one, one_mul]

theorem atan2d_zero_pm_one (x : ℝ) (hx : x = 1 ∨ x = -1) : atan2d 0 x = 0 ∨ atan2d 0 x = 180 := by
  rcases hx with rfl | rfl
  · exact Or.inl (atan2d_zero_pos 1 one_pos)
  · exact Or.inr (atan2d_zero_neg (-1) (by norm_num))

theorem atan2d_flagged_meridional (a b : Int) (s c : ℝ) (hs : s = 0) (hc : c = 1 ∨ c = -1) :
    mulSign a s = 0 ∧ (atan2d (mulSign a s) (mulSign b c) = 0 ∨ atan2d (mulSign a s) (mulSign b c) = 180) := by
  rw [hs, mulSign_zero]
  exact ⟨rfl, atan2d_zero_pm_one _ (mulSign_pm_one _ _ hc)⟩

/-- point 1 of the answer is the canonical point 2 when the points were exchanged (`sw < 0`) -/
theorem restore_azi1_meridional (ls sw lt : Int) (s : Sol ℝ) (S : ℝ) (h0 : (if sw < 0 then s.salp2 else s.salp1) = 0)
    (h1 : (if sw < 0 then s.calp2 else s.calp1) = 1 ∨ (if sw < 0 then s.calp2 else s.calp1) = -1) :
    (restore ls sw lt s S).salp1 = 0 ∧
    (atan2d (restore ls sw lt s S).salp1 (restore ls sw lt s S).calp1 = 0 ∨
      atan2d (restore ls sw lt s S).salp1 (restore ls sw lt s S).calp1 = 180) :=
  atan2d_flagged_meridional _ _ _ _ h0 h1

theorem restore_azi2_meridional (ls sw lt : Int) (s : Sol ℝ) (S : ℝ) (h0 : (if sw < 0 then s.salp1 else s.salp2) = 0)
    (h1 : (if sw < 0 then s.calp1 else s.calp2) = 1 ∨ (if sw < 0 then s.calp1 else s.calp2) = -1) :
    (restore ls sw lt s S).salp2 = 0 ∧
    (atan2d (restore ls sw lt s S).salp2 (restore ls sw lt s S).calp2 = 0 ∨
      atan2d (restore ls sw lt s S).salp2 (restore ls sw lt s S).calp2 = 180) :=
  atan2d_flagged_meridional _ _ _ _ h0 h1

theorem mulSign_neg_flag (s : Int) (hs : s = 1 ∨ s = -1) (x : ℝ) : mulSign (-s) x = -mulSign s x := by
  rcases hs with rfl | rfl
  · rfl
  · exact (neg_neg x).symm

theorem flag_mul {a b : Int} (ha : a = 1 ∨ a = -1) (hb : b = 1 ∨ b = -1) : a * b = 1 ∨ a * b = -1 := by
  rcases ha with rfl | rfl <;> rcases hb with rfl | rfl <;> decide

theorem mulSign_neg_left {a b : Int} (ha : a = 1 ∨ a = -1) (hb : b = 1 ∨ b = -1) (x : ℝ) :
    mulSign (-a * b) x = -mulSign (a * b) x := by
  rw [Int.neg_mul, mulSign_neg_flag _ (flag_mul ha hb)]

theorem mulSign_neg_right {a b : Int} (ha : a = 1 ∨ a = -1) (hb : b = 1 ∨ b = -1) (x : ℝ) :
    mulSign (a * -b) x = -mulSign (a * b) x := by
  rw [Int.mul_neg, mulSign_neg_flag _ (flag_mul ha hb)]

theorem areaS12_eq (p : Params ℝ) (k : Kernels ℝ) (β : Beta ℝ) (s : Sol ℝ) (ls sw lt : Int) :
    areaS12 p k β s ls sw lt = mulSign (sw * ls * lt) (k.area s.salp1 s.calp1 s.salp2 s.calp2 + p.c2 * areaAlp12 p.tiny β s) := by
  show _ + lit0 = _
  rw [lit_zero, add_zero]

theorem copysign_abs (m x : ℝ) : |copysign m x| = |m| := by
  unfold copysign; split <;> simp

theorem redOne_pos (f1 tiny s c : ℝ) (ht : 0 < tiny) : 0 < (redOne f1 tiny s c).2 := by
  show 0 < RealLike.max tiny _
  rw [max_real]; exact lt_of_lt_of_le ht (le_max_left _ _)

/-- with the latitudes ordered as the guard of fix 48445e6 leaves them, the radicand of `calp2` in `Lambda12` is non-negative for every
    trial azimuth: no `sqrt` of a negative number -/
theorem radicand_nonneg (sbet1 cbet1 sbet2 cbet2 calp1 : ℝ) (hc1 : 0 < cbet1) (hc2 : 0 < cbet2)
    (ho1 : cbet1 < -sbet1 → cbet1 ≤ cbet2) (ho2 : ¬ cbet1 < -sbet1 → |sbet2| ≤ -sbet1) :
    0 ≤ RealLike.sq (calp1 * cbet1) +
      (if RealLike.ltb cbet1 (-sbet1) then (cbet2 - cbet1) * (cbet1 + cbet2) else (sbet1 - sbet2) * (sbet1 + sbet2)) := by
  rw [sq_real, ltb_real]
  refine add_nonneg (sq_nonneg _) ?_
  split_ifs with hc
  · exact mul_nonneg (sub_nonneg.mpr (ho1 (of_decide_eq_true hc))) (add_pos hc1 hc2).le
  · -- `sbet1 ≤ sbet2 ≤ −sbet1`: both factors are non-positive
    obtain ⟨hl, hu⟩ := abs_le.mp (ho2 fun h => hc (decide_eq_true h))
    exact mul_nonneg_of_nonpos_of_nonpos (by linarith) (by linarith)

end Real

end GeoVerif.Proofs.GeodInvFull
