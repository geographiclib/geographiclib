import GeoVerif.Model.GridCodes
import GeoVerif.Proofs.GeohashScale
import Mathlib.Tactic.LinearCombination
import Mathlib.Tactic.FieldSimp
/-!
# Helpers for the resolution / precision functions of Geohash, GARS, Georef and for the values returned by the decoders
-/
namespace GeoVerif.GridHelpers
open GeoVerif GeoVerif.Grid F64 Gen.Grid

/-- `firstOr` is the search loop `for (p …) if (ok p) return p; return d`, here over strictly increasing candidates -/
theorem firstOr_least (ok : ℤ → Bool) (l : List ℤ) (d : ℤ) (hs : (l ++ [d]).Pairwise (· < ·)) :
    firstOr ok l d ∈ l ++ [d] ∧ (firstOr ok l d ≠ d → ok (firstOr ok l d) = true) ∧
    ∀ a ∈ l, a < firstOr ok l d → ok a = false := by
  induction l with
  | nil => exact ⟨by simp [firstOr], fun h => absurd rfl h, by simp⟩
  | cons a as ih =>
    rw [List.cons_append, List.pairwise_cons] at hs
    obtain ⟨ha, hs'⟩ := hs
    unfold firstOr
    by_cases h : ok a = true
    · rw [if_pos h]
      refine ⟨by simp, fun _ => h, fun b hb hlt => ?_⟩
      rcases List.mem_cons.mp hb with rfl | hb
      · exact absurd hlt (lt_irrefl _)
      · exact absurd hlt (not_lt.mpr (le_of_lt (ha b (List.mem_append_left _ hb))))
    · rw [if_neg h]
      obtain ⟨i1, i2, i3⟩ := ih hs'
      refine ⟨List.mem_cons_of_mem _ i1, i2, fun b hb hlt => ?_⟩
      rcases List.mem_cons.mp hb with rfl | hb
      · simpa using h
      · exact i3 b hb hlt

theorem clampLen_eq (l : ℤ) : (Geohash.clampLen l : ℤ) = max 0 (min 18 l) := by
  unfold Geohash.clampLen
  rw [show Geohash.maxlen = 18 from rfl]
  omega

theorem clampLen_mono {a b : ℤ} (h : a ≤ b) : Geohash.clampLen a ≤ Geohash.clampLen b := by
  have := clampLen_eq a
  have := clampLen_eq b
  omega

theorem clampLen_le (a : ℤ) : Geohash.clampLen a ≤ 18 := by
  have := clampLen_eq a
  omega

/-- **`DecimalPrecision(len) = −⌊log₁₀ LatitudeResolution(len)⌋`** on the model, in integers: with `d` the returned value
and `k = ⌊5·len/2⌋`: `10^(−d) ≤ 180/2^k < 10^(1−d)` (all lengths 0..18; `d` runs from −2 to 12) -/
theorem geohash_decimal_precision_spec : ∀ l : Fin 19,
    let d := Geohash.decimalPrecision (l.val : ℤ)
    let k := 5 * l.val / 2
    (if 0 ≤ d then 2 ^ k ≤ 180 * 10 ^ d.toNat else 2 ^ k * 10 ^ (-d).toNat ≤ 180) ∧
    (if 1 ≤ d then 180 * 10 ^ (d - 1).toNat < 2 ^ k else 180 < 2 ^ k * 10 ^ (1 - d).toNat) := by decide +kernel

theorem geohash_decimal_precision_values :
    (List.range 19).map (fun l => Geohash.decimalPrecision (l : ℤ)) = [-2, -1, 0, 0, 1, 2, 3, 3, 4, 5, 6, 6, 7, 8, 9, 9, 10, 11, 12] := by
  decide +kernel

theorem int_div_val (N D : ℤ) (hD : D ≠ 0) (hq : |(N:ℚ) / D| ≤ 2 ^ 52) :
    ∃ r : ℚ, IsRN 53 (-1074) ((N:ℚ) / D) r ∧ HasVal (F64.ofInt N / F64.ofInt D) r ∧
      (∀ g s : ℤ, |g| ≤ 2 ^ 53 → -1074 ≤ s → (N:ℚ) / D = (g:ℚ) * (2:ℚ) ^ s → r = (N:ℚ) / D) := by
  obtain ⟨r, hr, hv⟩ := (hasVal_div_rn (hasVal_ofInt N) (hasVal_ofInt D) (by exact_mod_cast hD)).small hq
  exact ⟨r, hr, hv, fun g s hg hs hz => hr.eq_of_fits g s hg hs hz⟩

/-- **Geohash `Reverse` value is exact** for every length and both `centerp`: with `U < 2^47` the shifted integer,
`U·(k/2^45) − k` (`k` = 180 or 90; `k/2^45` exact by `hasVal_eps`) involves no rounding -/
theorem geohash_reverse_value (U : ℕ) (hU : U < 2 ^ 47) (k : ℕ) (hk : k = 180 ∨ k = 90) :
    HasVal (F64.ofInt U * ((F64.fin false k 0) / shift45) - F64.fin false k 0) ((U:ℚ) * (k / (2:ℚ) ^ (45:ℕ)) - k) := by
  have hepsV := hasVal_eps k (by rcases hk with rfl | rfl <;> norm_num)
  have hkV := hasVal_nat k
  have hUq : (U:ℚ) < 2 ^ 47 := by exact_mod_cast hU
  have hU0 : (0:ℚ) ≤ (U:ℚ) := by positivity
  -- k = 45·j with j = 4 or 2: U·k/2^45 = (U·45)·2^(-43) or ·2^(-44)
  rcases hk with rfl | rfl
  · have hprod := (hasVal_mul_rn (hasVal_ofInt U) hepsV).exact (U * 45) (-43)
      (by rw [abs_of_nonneg (by positivity)]; omega) (by norm_num)
      (by push_cast; rw [zpow_neg]; norm_num; ring)
      (by push_cast; rw [abs_of_nonneg (by positivity)]; norm_num; linarith)
    have hsub := (hasVal_sub_rn hprod hkV).exact (U * 45 - 180 * 2 ^ 43) (-43)
      (by rw [abs_le]; constructor <;> omega) (by norm_num)
      (by push_cast; rw [zpow_neg]; norm_num; ring)
      (by push_cast; rw [abs_le]; constructor <;> norm_num <;> linarith)
    push_cast at hsub ⊢; exact hsub
  · have hprod := (hasVal_mul_rn (hasVal_ofInt U) hepsV).exact (U * 45) (-44)
      (by rw [abs_of_nonneg (by positivity)]; omega) (by norm_num)
      (by push_cast; rw [zpow_neg]; norm_num; ring)
      (by push_cast; rw [abs_of_nonneg (by positivity)]; norm_num; linarith)
    have hsub := (hasVal_sub_rn hprod hkV).exact (U * 45 - 90 * 2 ^ 44) (-44)
      (by rw [abs_le]; constructor <;> omega) (by norm_num)
      (by push_cast; rw [zpow_neg]; norm_num; ring)
      (by push_cast; rw [abs_le]; constructor <;> norm_num <;> linarith)
    push_cast at hsub ⊢; exact hsub

end GeoVerif.GridHelpers
