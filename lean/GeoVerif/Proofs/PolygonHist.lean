import GeoVerif.Model.Polygon
import GeoVerif.Model.PolygonF
import GeoVerif.Proofs.F64Val
import Mathlib.Tactic.Linarith
import Mathlib.Tactic.Ring
import Mathlib.Tactic.SplitIfs
/-!
Edit histories of `PolygonAreaT`, for C08.  `effective` (what a history leaves for the state) and the generic `foldl_effective`; then the facts about `exec`,
`compute`, `testPoint`, `testEdge` that the history theorems need, each once for the exact-sum model (`Polygon`) and
once for the bit-level record (`PolygonF`, names with `F`).
-/
namespace GeoVerif.Polygon

def Op.isAdd : Op → Bool
  | .addPoint .. => true
  | .addEdge .. => true
  | _ => false

def Op.isClear : Op → Bool
  | .clear => true
  | _ => false

theorem Op.eq_clear {op : Op} (h : op.isClear = true) : op = .clear := by
  cases op <;> simp_all [Op.isClear]

/-- what is left of a history for the state: the `Add*` operations after the last `Clear` -/
def effective (ops : List Op) : List Op :=
  ops.foldl (fun acc op => if op.isClear then [] else if op.isAdd then acc ++ [op] else acc) []

theorem effective_snoc (ops : List Op) (op : Op) :
    effective (ops ++ [op]) = if op.isClear then [] else if op.isAdd then effective ops ++ [op] else effective ops := by
  simp only [effective, List.foldl_append, List.foldl_cons, List.foldl_nil]

/-- with `effective_no_clear`: the definition of `effective` means what it says -/
theorem effective_append_clear (l r : List Op) : effective (l ++ Op.clear :: r) = effective r := by
  unfold effective
  rw [List.foldl_append, List.foldl_cons]
  simp [Op.isClear]

theorem effective_no_clear (r : List Op) (hc : ∀ op ∈ r, op.isClear = false) : effective r = r.filter Op.isAdd := by
  induction r using List.reverseRecOn with
  | nil => rfl
  | append_singleton r op ih =>
    rw [effective_snoc, hc op (by simp), if_neg Bool.false_ne_true, ih fun o ho => hc o (by simp [ho]), List.filter_append]
    cases h : op.isAdd <;> simp [h]

theorem effective_adds (r : List Op) (ha : ∀ op ∈ r, op.isAdd = true) : effective r = r := by
  rw [effective_no_clear r (fun op h => by have := ha op h; cases op <;> simp_all [Op.isAdd, Op.isClear])]
  exact List.filter_eq_self.mpr ha

theorem effective_isAdd (ops : List Op) : ∀ op ∈ effective ops, op.isAdd = true := by
  induction ops using List.reverseRecOn with
  | nil => simp [effective]
  | append_singleton ops o ih =>
    rw [effective_snoc]
    split_ifs with h1 h2
    · simp
    · intro op hop
      rcases List.mem_append.mp hop with h | h
      · exact ih op h
      · rwa [List.mem_singleton.mp h]
    · exact ih

theorem effective_no_clear_mem (ops : List Op) : ∀ op ∈ effective ops, op.isClear = false := by
  intro op h
  have := effective_isAdd ops op h
  cases op <;> simp_all [Op.isAdd, Op.isClear]

theorem foldl_effective {σ : Type} (step : σ → Op → σ) (P : σ → Prop) (i : σ) (hi : P i)
    (hP : ∀ s op, P s → P (step s op)) (hclear : ∀ s, P s → step s Op.clear = i)
    (hobs : ∀ s op, op.isAdd = false → op.isClear = false → step s op = s) (ops : List Op) :
    ops.foldl step i = (effective ops).foldl step i := by
  have key : P (ops.foldl step i) ∧ ops.foldl step i = (effective ops).foldl step i := by
    induction ops using List.reverseRecOn with
    | nil => exact ⟨hi, rfl⟩
    | append_singleton ops op ih =>
      rw [List.foldl_append, List.foldl_cons, List.foldl_nil, effective_snoc]
      refine ⟨hP _ _ ih.1, ?_⟩
      cases hc : op.isClear
      · cases ha : op.isAdd
        · rw [hobs _ _ ha hc, ih.2]; rfl
        · rw [ih.2]; simp
      · rw [Op.eq_clear hc, hclear _ ih.1]; rfl
  exact key.2

theorem run_cons (B : Backend) (A : ℚ) (st : State) (op : Op) (r : List Op) :
    run B A st (op :: r) = run B A (exec B A st op).1 r := rfl

theorem exec_polyline (B : Backend) (A : Rat) (st : State) (op : Op) : (exec B A st op).1.polyline = st.polyline := by
  cases op <;> simp only [exec, clear, init, addPoint, addEdge] <;> split_ifs <;> rfl

theorem exec_observer (B : Backend) (A : Rat) (st : State) (op : Op) (ha : op.isAdd = false) (hc : op.isClear = false) :
    (exec B A st op).1 = st := by
  cases op <;> simp_all [Op.isAdd, Op.isClear, exec]

theorem trace_append (B : Backend) (A : Rat) (st : State) (l r : List Op) :
    trace B A st (l ++ r) = trace B A st l ++ trace B A (run B A st l) r := by
  induction l generalizing st with
  | nil => rfl
  | cons op l ih => simp only [List.cons_append, trace, ih, run, List.foldl_cons]

theorem trace_length (B : Backend) (A : Rat) (st : State) (l : List Op) : (trace B A st l).length = l.length := by
  induction l generalizing st with
  | nil => rfl
  | cons op l ih => simp [trace, ih]

theorem compute_num (st : State) (A : ℚ) (rv sg : Bool) (s S : ℚ) : (compute st A rv sg s S).num = st.num := by
  unfold compute; split_ifs <;> rfl

theorem testPoint_num (st : State) (A : ℚ) (lon : F64) (rv sg : Bool) (k1 k2 : ℚ × ℚ) :
    (testPoint st A lon rv sg k1 k2).num = st.num + 1 := by
  unfold testPoint; split_ifs with h <;> simp [h]

theorem testEdge_num (st : State) (A s : ℚ) (lon2 : F64) (S12 : ℚ) (rv sg : Bool) (k2 : ℚ × ℚ) :
    (testEdge st A s lon2 S12 rv sg k2).num = if st.num = 0 then 0 else st.num + 1 := by
  unfold testEdge; split_ifs <;> rfl

theorem execF_polyline (B : Backend) (A : F64) (st : PolygonF.StateF) (op : Op) :
    (PolygonF.exec B A st op).1.polyline = st.polyline := by
  cases op <;> simp only [PolygonF.exec, PolygonF.clear, PolygonF.init, PolygonF.addPoint, PolygonF.addEdge] <;> split_ifs <;> rfl

theorem execF_observer (B : Backend) (A : F64) (st : PolygonF.StateF) (op : Op) (ha : op.isAdd = false) (hc : op.isClear = false) :
    (PolygonF.exec B A st op).1 = st := by
  cases op <;> simp_all [Op.isAdd, Op.isClear, PolygonF.exec]

theorem computeF_num (st : PolygonF.StateF) (A : F64) (rv sg : Bool) (s S : F64) :
    (PolygonF.compute st A rv sg s S).num = st.num := by
  unfold PolygonF.compute; split_ifs <;> rfl

theorem testPointF_num (st : PolygonF.StateF) (A lon : F64) (rv sg : Bool) (k1 k2 : F64 × F64) :
    (PolygonF.testPoint st A lon rv sg k1 k2).num = st.num + 1 := by
  unfold PolygonF.testPoint; split_ifs with h <;> simp [h]

theorem testEdgeF_num (st : PolygonF.StateF) (A s lon2 S12 : F64) (rv sg : Bool) (k2 : F64 × F64) :
    (PolygonF.testEdge st A s lon2 S12 rv sg k2).num = if st.num = 0 then 0 else st.num + 1 := by
  unfold PolygonF.testEdge; split_ifs <;> rfl

def Fresh (st : State) : Prop := st.num < 2 → st.perimsum = 0 ∧ st.areasum = 0 ∧ st.crossings = 0

theorem fresh_init (pl : Bool) : Fresh (init pl) := fun _ => ⟨rfl, rfl, rfl⟩

theorem fresh_exec (B : Backend) (A : ℚ) (st : State) (op : Op) (h : Fresh st) : Fresh (exec B A st op).1 := by
  cases op with
  | clear => exact fresh_init _
  | addPoint lat lon =>
    by_cases h0 : st.num = 0
    · intro _; have := h (by omega); simpa [exec, addPoint, h0] using this
    · intro hlt; simp [exec, addPoint, h0] at hlt; omega
  | addEdge azi s =>
    by_cases h0 : st.num = 0
    · intro _; have := h (by omega); simpa [exec, addEdge, h0] using this
    · intro hlt; simp [exec, addEdge, h0] at hlt; omega
  | _ => exact h

theorem fresh_run (B : Backend) (A : ℚ) (ops : List Op) (st : State) (h : Fresh st) : Fresh (run B A st ops) := by
  induction ops generalizing st with
  | nil => exact h
  | cons op r ih => rw [run_cons]; exact ih _ (fresh_exec B A st op h)

open GeoVerif.Accum

theorem negate_negate (a : Acc) : negate (negate a) = a := by
  cases a; simp [negate, F64.neg_neg]

def heldQ (a : Acc) : ℚ := a.s.val + a.t.val

theorem heldQ_negate (a : Acc) : heldQ (negate a) = - heldQ a := by
  simp only [heldQ, negate, F64.val_neg]; ring

end GeoVerif.Polygon
