import GeoVerif.Proofs.AuxRow
import Mathlib.Algebra.BigOperators.Intervals
import Mathlib.Algebra.BigOperators.Ring.Finset
import Mathlib.Data.List.GetD
import Mathlib.Tactic.Ring
/-!
# The row check is sound

Everything is read through coefficients: `p.coeff i` for a series in `n`, `t.co σ j i` for a Fourier polynomial (`σ` tells the
sine part from the cosine part, `j` is the harmonic); two Fourier polynomials are equivalent modulo `n^N` (`Trig.Eqv`) when
these agree for `i < N`.  The chain of results:

* each operation of `Series/Poly.lean` and `Series/TrigN.lean` gets one lemma saying what it does to coefficients
  (`Poly.coeff_*`, `Trig.co_*`); for the product it is `co_mul`: Cauchy products `conv`, summed along the product-to-sum
  formulas in four blocks (`blockF`, `mulF`);
* `mulB_eqv`: the product computed block by block is `Trig.mul`;
* `isLin_deriv`, `isLin_mul`: `a ↦ deriv a` and `a ↦ mul N a p` are linear over the coefficient ring (`IsLin`), hence so is
  the Taylor sum in the series that is differentiated (`isLin₂_taylorSum`), and a linear map goes through a combination
  (`lincomb_map`);
* `harmParts_eqv`: when the first factor is a single harmonic every sum of a block has one term (`IsHarm.block`), so the
  Taylor sum over the derivatives of `sin(2lx)` is what `harmParts` accumulates;
* `shiftBy_eqv_lincomb`: a sine series is the combination of its harmonics (`sinFrom_eqv_lincomb`), so its shift is the
  combination of their shifts `harmShift`;
* with `blockL_eq` (the recursive decoding of a table block is `block`) this is `rowCheck_sound`.
-/
namespace GeoVerif.Series
open Finset

/-! ### the Cauchy product; sums and lists -/

/-- coefficient `i` of the Cauchy product -/
def conv (f g : ℕ → ℚ) (i : ℕ) : ℚ := ∑ t ∈ range (i + 1), f t * g (i - t)

theorem conv_congr {f f' g g' : ℕ → ℚ} {i : ℕ} (hf : ∀ t ≤ i, f t = f' t) (hg : ∀ t ≤ i, g t = g' t) :
    conv f g i = conv f' g' i := by
  apply sum_congr rfl
  intro t ht
  rw [hf t (by simpa [Nat.lt_succ_iff] using ht), hg (i - t) (Nat.sub_le ..)]

theorem conv_zero_left (g : ℕ → ℚ) (i : ℕ) : conv (fun _ => 0) g i = 0 := by simp [conv]
theorem conv_zero_right (f : ℕ → ℚ) (i : ℕ) : conv f (fun _ => 0) i = 0 := by simp [conv]

theorem conv_add_left (f f' g : ℕ → ℚ) (i : ℕ) : conv (fun t => f t + f' t) g i = conv f g i + conv f' g i := by
  simp only [conv, add_mul, sum_add_distrib]

theorem conv_add_right (f g g' : ℕ → ℚ) (i : ℕ) : conv f (fun t => g t + g' t) i = conv f g i + conv f g' i := by
  simp only [conv, mul_add, sum_add_distrib]

theorem conv_smul_right (f g : ℕ → ℚ) (r : ℚ) (i : ℕ) : conv f (fun t => r * g t) i = r * conv f g i := by
  simp only [conv, mul_sum]
  exact sum_congr rfl fun t _ => by ring

theorem conv_sum_right {ι : Type} (s : Finset ι) (f : ℕ → ℚ) (g : ι → ℕ → ℚ) (i : ℕ) :
    conv f (fun t => ∑ x ∈ s, g x t) i = ∑ x ∈ s, conv f (g x) i := by
  simp only [conv, mul_sum]
  exact sum_comm

theorem conv_comm (f g : ℕ → ℚ) (i : ℕ) : conv f g i = conv g f i := by
  rw [conv, conv, ← sum_range_reflect]
  refine sum_congr rfl fun t ht => ?_
  have := mem_range.mp ht
  rw [mul_comm, Nat.add_sub_cancel, Nat.sub_sub_self (by omega)]

/-- the constant series `r` is the scalar `r` -/
theorem conv_const (r : ℚ) (g : ℕ → ℚ) (i : ℕ) : conv (fun t => if t = 0 then r else 0) g i = r * g i := by
  rw [conv, sum_eq_single 0]
  · simp
  · simp +contextual
  · simp

theorem conv_assoc (f g h : ℕ → ℚ) (i : ℕ) : conv (conv f g) h i = conv f (conv g h) i := by
  -- `Σ_{s ≤ i, t ≤ s}` and `Σ_{t ≤ i, u ≤ i − t}` (with `s = t + u`) enumerate the same triples
  have tri (F : ℕ → ℕ → ℚ) : ∑ s ∈ range (i + 1), ∑ t ∈ range (s + 1), F s t
      = ∑ t ∈ range (i + 1), ∑ u ∈ range (i - t + 1), F (t + u) t := by
    rw [sum_sigma', sum_sigma']
    refine sum_nbij' (fun x => ⟨x.2, x.1 - x.2⟩) (fun x => ⟨x.1 + x.2, x.1⟩) ?_ ?_ ?_ ?_ ?_
    all_goals simp only [mem_sigma, mem_range, Sigma.forall]
    · intro s t hst; omega
    · intro t u htu; omega
    · intro s t hst; rw [Nat.add_sub_cancel' (by omega)]
    · intro t u htu; simp
    · intro s t hst; rw [Nat.add_sub_cancel' (by omega)]
  simp only [conv, sum_mul, mul_sum]
  rw [tri fun s t => f t * g (s - t) * h (i - s)]
  refine sum_congr rfl fun t _ => sum_congr rfl fun u _ => ?_
  rw [Nat.add_sub_cancel_left, Nat.sub_sub, mul_assoc]

theorem sum_range_extend {n K : ℕ} (h : n ≤ K) {F : ℕ → ℚ} (hz : ∀ j, n ≤ j → F j = 0) :
    ∑ j ∈ range n, F j = ∑ j ∈ range K, F j :=
  sum_subset (range_subset_range.2 h) fun j _ hj => hz j (by simpa using hj)

theorem sum_range_ite_add (n k l : ℕ) (F : ℕ → ℚ) :
    ∑ j ∈ range n, (if j + k = l then F j else 0) = if k ≤ l ∧ l - k < n then F (l - k) else 0 := by
  by_cases h : k ≤ l
  · have e (j : ℕ) : j + k = l ↔ j = l - k := by omega
    simp only [e, sum_ite_eq', mem_range, h, true_and]
  · rw [sum_eq_zero fun j _ => if_neg (by omega), if_neg (by omega)]

theorem getD_zipLong {α : Type} {f : α → α → α} {d : α} (hl : ∀ x, f d x = x) (hr : ∀ x, f x d = x) :
    ∀ (xs ys : List α) (i : ℕ), (zipLong f xs ys).getD i d = f (xs.getD i d) (ys.getD i d)
  | [], _, _ => (hl _).symm
  | _ :: _, [], _ => (hr _).symm
  | _ :: _, _ :: _, 0 => rfl
  | _ :: xs, _ :: ys, i + 1 => getD_zipLong hl hr xs ys i

theorem getD_map_range {α : Type} (f : ℕ → α) (n l : ℕ) (d : α) :
    ((List.range n).map f).getD l d = if l < n then f l else d := by
  split
  · next h => rw [List.getD_eq_getElem _ _ (by simpa using h)]; simp
  · next h => exact List.getD_eq_default _ _ (by simpa using h)

theorem getD_map_fix {α : Type} {f : α → α} {d : α} (hf : f d = d) (l : List α) (j : ℕ) :
    (l.map f).getD j d = f (l.getD j d) := by
  have h := List.getD_map (l := l) (d := d) (n := j) f
  rwa [hf] at h

theorem length_iter {α : Type} (f : α → α) : ∀ (n : ℕ) (x : α), (iter f n x).length = n
  | 0, _ => rfl
  | n + 1, x => by rw [iter, List.length_cons, length_iter f n]

/-! ### what the operations of `Series/Poly.lean` and `Poly.mulv`, `Poly.addv` do to coefficients -/

namespace Poly

@[simp] theorem coeff_nil (i : ℕ) : coeff [] i = 0 := rfl

theorem coeff_eq_zero_of_length_le {p : Poly} {i : ℕ} (h : p.length ≤ i) : p.coeff i = 0 :=
  List.getD_eq_default _ _ h

theorem coeff_map_range (f : ℕ → ℚ) (n i : ℕ) : coeff ((List.range n).map f) i = if i < n then f i else 0 :=
  getD_map_range f n i 0

theorem coeff_smul (r : ℚ) (p : Poly) (i : ℕ) : (smul r p).coeff i = r * p.coeff i := getD_map_fix (mul_zero r) p i
theorem coeff_neg (p : Poly) (i : ℕ) : (neg p).coeff i = -p.coeff i := getD_map_fix neg_zero p i

theorem coeff_take {N i : ℕ} (h : i < N) (p : Poly) : coeff (p.take N) i = p.coeff i := by
  simp [coeff, List.getD_eq_getElem?_getD, h]

theorem coeff_addv {N i : ℕ} (h : i < N) (p q : Poly) : (addv N p q).coeff i = p.coeff i + q.coeff i := by
  unfold addv
  split
  · next hp => rw [List.isEmpty_iff.mp hp, coeff_take h]; simp
  split
  · next hq => rw [List.isEmpty_iff.mp hq, coeff_take h]; simp
  rw [coeff_map_range]
  split
  · rfl
  · next hi =>
    have : max p.length q.length ≤ i := by omega
    rw [coeff_eq_zero_of_length_le (le_trans (le_max_left ..) this),
      coeff_eq_zero_of_length_le (le_trans (le_max_right ..) this), add_zero]

theorem coeff_zipLong (p q : Poly) (i : ℕ) : coeff (zipLong (· + ·) p q) i = p.coeff i + q.coeff i :=
  getD_zipLong zero_add add_zero p q i

theorem coeff_foldr_zipLong (l : List Poly) (i : ℕ) :
    coeff (l.foldr (zipLong (· + ·)) []) i = (l.map fun p => p.coeff i).sum := by
  induction l with
  | nil => rfl
  | cons p l ih => rw [List.foldr_cons, coeff_zipLong, ih, List.map_cons, List.sum_cons]

theorem zipLong_nil_left (q : Poly) : zipLong (· + ·) [] q = q := rfl

theorem zipLong_nil_right : ∀ p : Poly, zipLong (· + ·) p [] = p
  | [] => rfl
  | _ :: _ => rfl

theorem coeff_sum {N i : ℕ} (h : i < N) (l : List Poly) : (sum N l).coeff i = (l.map fun p => p.coeff i).sum := by
  have gen : ∀ acc : Poly, (l.foldl (addv N) acc).coeff i = acc.coeff i + (l.map fun p => p.coeff i).sum := by
    induction l with
    | nil => simp
    | cons p l ih => intro acc; rw [List.foldl_cons, ih, coeff_addv h]; simp [add_assoc]
  simpa [sum] using gen []

theorem list_sum_map_range (f : ℕ → ℚ) (n : ℕ) : ((List.range n).map f).sum = ∑ j ∈ range n, f j := by
  induction n with
  | zero => simp
  | succ n ih => simp [List.range_succ, sum_range_succ, ih]

theorem sum_coeff_range (f : ℕ → Poly) (n i : ℕ) :
    (((List.range n).map f).map fun p => p.coeff i).sum = ∑ j ∈ range n, (f j).coeff i := by
  rw [List.map_map, list_sum_map_range]
  rfl

theorem coeff_shift (k : ℕ) (p : Poly) (i : ℕ) : (shift k p).coeff i = if i < k then 0 else p.coeff (i - k) := by
  unfold shift coeff
  split
  · next h => rw [List.getD_append _ _ _ _ (by simpa using h)]; simp [List.getD_eq_getElem?_getD, h]
  · next h => rw [List.getD_append_right _ _ _ _ (by simpa using h)]; simp

theorem coeff_mul (n : ℕ) (p q : Poly) (i : ℕ) : (mul n p q).coeff i = if i < n then conv p.coeff q.coeff i else 0 := by
  unfold mul
  rw [coeff_map_range, list_sum_map_range]
  rfl

theorem coeff_drop (a : ℕ) (p : Poly) (i : ℕ) : coeff (p.drop a) i = p.coeff (a + i) := by
  simp [coeff, List.getD_eq_getElem?_getD, List.getElem?_drop]

theorem coeff_lt_lz : ∀ (p : Poly) {t : ℕ}, t < lz p → p.coeff t = 0
  | [], _, h => by simp [lz] at h
  | c :: cs, t, h => by
    unfold lz at h
    split at h
    · next hc =>
      cases t with
      | zero => simpa [coeff] using hc
      | succ t => simpa [coeff] using coeff_lt_lz cs (Nat.lt_of_succ_lt_succ h)
    · omega

theorem coeff_eq_zero_of_length_le_lz {p : Poly} (h : p.length ≤ lz p) (t : ℕ) : p.coeff t = 0 := by
  by_cases ht : t < lz p
  · exact coeff_lt_lz p ht
  · exact coeff_eq_zero_of_length_le (by omega)

/-- a product of series that start at `n^a` and `n^b`: nothing below `n^(a+b)`, and above it the product of the shifted series -/
theorem conv_of_low_zero {f g : ℕ → ℚ} {a b : ℕ} (hf : ∀ t < a, f t = 0) (hg : ∀ t < b, g t = 0) (i : ℕ) :
    conv f g i = if i < a + b then 0 else conv (fun t => f (a + t)) (fun t => g (b + t)) (i - (a + b)) := by
  split
  · next h =>
    refine sum_eq_zero fun t hti => ?_
    have := mem_range.mp hti
    by_cases ht : t < a
    · rw [hf t ht, zero_mul]
    · rw [hg (i - t) (by omega), mul_zero]
  · next h =>
    obtain ⟨m, rfl⟩ : ∃ m, i = a + b + m := ⟨i - (a + b), by omega⟩
    have e : a + b + m + 1 = a + ((m + 1) + b) := by omega
    rw [conv, e, sum_range_add, sum_range_add, Nat.add_sub_cancel_left, conv]
    have z1 : ∑ t ∈ range a, f t * g (a + b + m - t) = 0 :=
      sum_eq_zero fun t ht => by rw [hf t (mem_range.mp ht), zero_mul]
    have z2 : ∑ t ∈ range b, f (a + (m + 1 + t)) * g (a + b + m - (a + (m + 1 + t))) = 0 :=
      sum_eq_zero fun t ht => by rw [hg _ (by have := mem_range.mp ht; omega), mul_zero]
    rw [z1, z2, zero_add, add_zero]
    refine sum_congr rfl fun t ht => ?_
    have := mem_range.mp ht
    congr 2
    omega

theorem coeff_mulv {N i : ℕ} (h : i < N) (p q : Poly) : (mulv N p q).coeff i = conv p.coeff q.coeff i := by
  have key := conv_of_low_zero (fun t => coeff_lt_lz p (t := t)) (fun t => coeff_lt_lz q (t := t)) i
  unfold mulv
  simp only [ge_iff_le, Bool.or_eq_true, decide_eq_true_eq]
  split
  · next hc =>
    rw [coeff_nil]
    rcases hc with (hc | hc) | hc
    · rw [funext (coeff_eq_zero_of_length_le_lz hc), conv_zero_left]
    · rw [funext (coeff_eq_zero_of_length_le_lz hc), conv_zero_right]
    · rw [key, if_pos (by omega)]
  · next hc =>
    rw [key, coeff_shift]
    split
    · rfl
    · rw [coeff_mul, if_pos (by omega)]
      exact conv_congr (fun t _ => coeff_drop ..) fun t _ => coeff_drop ..

theorem mulv_nil (N : ℕ) (p : Poly) : mulv N p [] = [] := by simp [mulv, lz]

theorem eqN_iff {N : ℕ} {p q : Poly} : eqN N p q = true ↔ ∀ i < N, p.coeff i = q.coeff i := by
  simp [eqN]

theorem isZero_iff {p : Poly} : isZero p = true ↔ ∀ i, p.coeff i = 0 := by
  induction p with
  | nil => simp [isZero]
  | cons c cs ih =>
    have : isZero (c :: cs) = (c == 0 && isZero cs) := rfl
    rw [this, Bool.and_eq_true, ih, beq_iff_eq]
    exact Nat.and_forall_add_one (p := fun i => coeff (c :: cs) i = 0)

end Poly

namespace Trig

/-! ### coefficient functions; what the operations other than the product do to them -/

/-- the list of cosine (`σ = false`) or sine (`σ = true`) harmonics -/
def part (t : Trig) (σ : Bool) : List Poly := bif σ then t.s else t.c

/-- the series in `n` at `cos(2jx)` (`σ = false`) or `sin(2jx)` (`σ = true`) -/
def harm (t : Trig) (σ : Bool) (j : ℕ) : Poly := bif σ then t.ss j else t.cc j

/-- the same as a coefficient function -/
def co (t : Trig) (σ : Bool) (j : ℕ) : ℕ → ℚ := (t.harm σ j).coeff

theorem co_false (t : Trig) (j : ℕ) : t.co false j = (t.cc j).coeff := rfl
theorem co_true (t : Trig) (j : ℕ) : t.co true j = (t.ss j).coeff := rfl

@[simp] theorem co_true_zero (t : Trig) : t.co true 0 = fun _ => 0 := rfl

/-- the sine part has no harmonic 0; every other harmonic is read off its list -/
theorem co_cases (σ : Bool) (j : ℕ) : σ = true ∧ j = 0 ∨ ∀ t : Trig, t.co σ j = ((t.part σ).getD j []).coeff := by
  cases σ
  · exact .inr fun _ => rfl
  · by_cases hj : j = 0
    · exact .inl ⟨rfl, hj⟩
    · exact .inr fun t => by simp [co, harm, part, ss, hj]

theorem co_mk_true (c s : List Poly) {k : ℕ} (hk : k ≠ 0) : (Trig.mk c s).co true k = (s.getD k []).coeff :=
  (co_cases true k).resolve_left (fun h => hk h.2) ⟨c, s⟩

/-- a Fourier polynomial given by two tables of `H` harmonics each -/
theorem co_mk_range {H : ℕ} {c s : ℕ → Poly} {σ : Bool} {k : ℕ} (h0 : ¬(σ = true ∧ k = 0)) (i : ℕ) :
    (Trig.mk ((List.range H).map c) ((List.range H).map s)).co σ k i
      = if k < H then (bif σ then s k else c k).coeff i else 0 := by
  have hp : (Trig.mk ((List.range H).map c) ((List.range H).map s)).part σ
      = (List.range H).map fun k => bif σ then s k else c k := by cases σ <;> rfl
  rw [(co_cases σ k).resolve_left h0, hp, getD_map_range]
  split
  · rfl
  · rfl

theorem co_of_length_le {t : Trig} {σ : Bool} {j : ℕ} (h : (t.part σ).length ≤ j) : t.co σ j = fun _ => 0 := by
  rcases co_cases σ j with ⟨rfl, rfl⟩ | e
  · rfl
  · rw [e, List.getD_eq_default _ _ h]
    rfl

theorem co_of_nh_le {t : Trig} {j : ℕ} (h : t.nh ≤ j) (σ : Bool) : t.co σ j = fun _ => 0 := by
  refine co_of_length_le (le_trans ?_ h)
  cases σ
  · exact le_max_left ..
  · exact le_max_right ..

theorem zero_co (σ : Bool) (j : ℕ) : zero.co σ j = fun _ => 0 := co_of_nh_le (Nat.zero_le j) σ

/-- equality modulo `n^N` -/
def Eqv (N : ℕ) (a b : Trig) : Prop := ∀ σ j i, i < N → a.co σ j i = b.co σ j i

theorem Eqv.refl {N : ℕ} (a : Trig) : Eqv N a a := fun _ _ _ _ => rfl
theorem Eqv.symm {N : ℕ} {a b : Trig} (h : Eqv N a b) : Eqv N b a := fun σ j i hi => (h σ j i hi).symm
theorem Eqv.trans {N : ℕ} {a b c : Trig} (h : Eqv N a b) (h' : Eqv N b c) : Eqv N a c :=
  fun σ j i hi => (h σ j i hi).trans (h' σ j i hi)

/-- harmonic 0 of the sine part is absent on both sides -/
theorem Eqv.of_ne {N : ℕ} {a b : Trig} (h : ∀ σ k i, i < N → ¬(σ = true ∧ k = 0) → a.co σ k i = b.co σ k i) : Eqv N a b :=
  fun σ k i hi => by
    by_cases h0 : σ = true ∧ k = 0
    · obtain ⟨rfl, rfl⟩ := h0
      rw [co_true_zero, co_true_zero]
    · exact h σ k i hi h0

theorem co_smul (r : ℚ) (a : Trig) (σ : Bool) (j i : ℕ) : (smul r a).co σ j i = r * a.co σ j i := by
  rcases co_cases σ j with ⟨rfl, rfl⟩ | e
  · simp
  · have hp : (smul r a).part σ = (a.part σ).map (Poly.smul r) := by cases σ <;> rfl
    rw [e, e, hp, getD_map_fix rfl, Poly.coeff_smul]

theorem co_deriv (a : Trig) (σ : Bool) (j i : ℕ) :
    (deriv a).co σ j i = (bif σ then -(2 * (j : ℚ)) else 2 * j) * a.co (!σ) j i := by
  rcases co_cases σ j with ⟨rfl, rfl⟩ | e
  · simp
  · have hp : (deriv a).part σ = (List.range a.nh).map fun (l : ℕ) =>
        Poly.smul (bif σ then -(2 * (l : ℚ)) else 2 * l) (a.harm (!σ) l) := by cases σ <;> rfl
    rw [e, hp, getD_map_range]
    split
    · exact Poly.coeff_smul ..
    · next h => rw [co_of_nh_le (Nat.le_of_not_lt h)]; simp

/-- dropping trailing harmonics that vanish identically changes no coefficient -/
theorem coeff_dropTrailingZero (l : List Poly) (j i : ℕ) :
    ((dropTrailingZero l).getD j []).coeff i = (l.getD j []).coeff i := by
  have split : l = dropTrailingZero l ++ (l.reverse.takeWhile Poly.isZero).reverse := by
    unfold dropTrailingZero
    rw [← List.reverse_append, List.takeWhile_append_dropWhile, List.reverse_reverse]
  by_cases hj : j < (dropTrailingZero l).length
  · conv => rhs; rw [split, List.getD_append _ _ _ _ hj]
  · have hj := Nat.le_of_not_lt hj
    conv => rhs; rw [split, List.getD_append_right _ _ _ _ hj]
    rw [List.getD_eq_default _ _ hj, Poly.coeff_nil]
    by_cases h : j - (dropTrailingZero l).length < (l.reverse.takeWhile Poly.isZero).reverse.length
    · rw [List.getD_eq_getElem _ _ h]
      exact (Poly.isZero_iff.mp (List.all_eq_true.mp List.all_takeWhile _ (List.mem_reverse.mp (List.getElem_mem h))) i).symm
    · rw [List.getD_eq_default _ _ (Nat.le_of_not_lt h), Poly.coeff_nil]

theorem co_trim (t : Trig) (σ : Bool) (j i : ℕ) : (trim t).co σ j i = t.co σ j i := by
  rcases co_cases σ j with ⟨rfl, rfl⟩ | e
  · rfl
  · have hp : (trim t).part σ = dropTrailingZero (t.part σ) := by cases σ <;> rfl
    rw [e, e, hp, coeff_dropTrailingZero]

theorem co_addz (a b : Trig) (σ : Bool) (j i : ℕ) : (addz a b).co σ j i = a.co σ j i + b.co σ j i := by
  rcases co_cases σ j with ⟨rfl, rfl⟩ | e
  · simp
  · have hp : (addz a b).part σ = zipLong (zipLong (· + ·)) (a.part σ) (b.part σ) := by cases σ <;> rfl
    rw [e, e, e, hp, getD_zipLong Poly.zipLong_nil_left Poly.zipLong_nil_right, Poly.coeff_zipLong]

section coefficients
variable {N i : ℕ} (hi : i < N)
include hi

theorem co_add (a b : Trig) (σ : Bool) (j : ℕ) : (add N a b).co σ j i = a.co σ j i + b.co σ j i := by
  rcases co_cases σ j with ⟨rfl, rfl⟩ | e
  · simp
  · have hp : (add N a b).part σ = (List.range (max a.nh b.nh)).map fun l => Poly.addv N (a.harm σ l) (b.harm σ l) := by
      cases σ <;> rfl
    rw [e (add N a b), hp, getD_map_range]
    split
    · exact Poly.coeff_addv hi ..
    · next h => rw [co_of_nh_le (by omega), co_of_nh_le (by omega)]; simp

theorem co_pmul (p : Poly) (a : Trig) (σ : Bool) (j : ℕ) : (pmul N p a).co σ j i = conv p.coeff (a.co σ j) i := by
  rcases co_cases σ j with ⟨rfl, rfl⟩ | e
  · simp [conv_zero_right]
  · have hp : (pmul N p a).part σ = (a.part σ).map (Poly.mulv N p) := by cases σ <;> rfl
    rw [e, e, hp, getD_map_fix (Poly.mulv_nil N p), Poly.coeff_mulv hi]

end coefficients

section congruence
variable {N : ℕ} {a a' b b' : Trig}

theorem add_congr (ha : Eqv N a a') (hb : Eqv N b b') : Eqv N (add N a b) (add N a' b') := fun σ j i hi => by
  rw [co_add hi, co_add hi, ha σ j i hi, hb σ j i hi]

theorem addz_congr (ha : Eqv N a a') (hb : Eqv N b b') : Eqv N (addz a b) (addz a' b') := fun σ j i hi => by
  rw [co_addz, co_addz, ha σ j i hi, hb σ j i hi]

theorem smul_congr (r : ℚ) (ha : Eqv N a a') : Eqv N (smul r a) (smul r a') := fun σ j i hi => by
  rw [co_smul, co_smul, ha σ j i hi]

theorem pmul_congr (p : Poly) (ha : Eqv N a a') : Eqv N (pmul N p a) (pmul N p a') := fun σ j i hi => by
  rw [co_pmul hi, co_pmul hi]
  exact conv_congr (fun _ _ => rfl) fun t ht => ha σ j t (by omega)

theorem add_eqv_addz : Eqv N (add N a b) (addz a b) := fun σ j i hi => by
  rw [co_add hi, co_addz]

end congruence

/-! ### the product: `co_mul`, and `mulB_eqv` -/

/-- one block of the product-to-sum formulas on coefficient functions: `u`, `v` are the cosine or the sine coefficients of the
    two factors, `e₁ e₂ e₃` the signs with which the pairs `i + j = k`, `i − j = k`, `j − i = k` enter; `K` bounds the harmonics
    of both factors -/
def blockF (K : ℕ) (e₁ e₂ e₃ : ℚ) (u v : ℕ → ℕ → ℚ) (k i : ℕ) : ℚ :=
  e₁ * ∑ j ∈ range (k + 1), conv (u j) (v (k - j)) i + e₂ * ∑ j ∈ range K, conv (u (j + k)) (v j) i
    + if k = 0 then 0 else e₃ * ∑ j ∈ range K, conv (u j) (v (j + k)) i

/-- harmonic `k` of the product of the series with coefficient functions `A` and `B`: cos·cos and sin·sin make the cosine
    part, sin·cos and cos·sin the sine part -/
def mulF (K : ℕ) (A B : Bool → ℕ → ℕ → ℚ) (σ : Bool) (k i : ℕ) : ℚ :=
  if σ = true ∧ k = 0 then 0 else
    1 / 2 * (blockF K 1 1 (bif σ then -1 else 1) (A σ) (B false) k i
      + blockF K (bif σ then 1 else -1) (bif σ then -1 else 1) 1 (A (!σ)) (B true) k i)

section blocks
variable {M K Ha Hb : ℕ} {e₁ e₂ e₃ : ℚ} {u u' v : ℕ → ℕ → ℚ} {k i : ℕ}

/-- enlarging the bound adds only vanishing terms -/
theorem blockF_bound (hMK : M ≤ K) (hu : ∀ j, M ≤ j → u j = fun _ => 0) (hv : ∀ j, M ≤ j → v j = fun _ => 0) :
    blockF M e₁ e₂ e₃ u v k i = blockF K e₁ e₂ e₃ u v k i := by
  unfold blockF
  rw [sum_range_extend hMK fun j hj => ?_, sum_range_extend hMK fun j hj => ?_]
  · rw [hu j hj]; exact conv_zero_left ..
  · rw [hv j hj]; exact conv_zero_right ..

/-- no harmonic beyond the sum of the two degrees -/
theorem blockF_eq_zero (hu : ∀ j, Ha ≤ j → u j = fun _ => 0) (hv : ∀ j, Hb ≤ j → v j = fun _ => 0) (hk : Ha + Hb ≤ k) :
    blockF K e₁ e₂ e₃ u v k i = 0 := by
  have z1 (j : ℕ) : conv (u j) (v (k - j)) i = 0 := by
    by_cases hj : Ha ≤ j
    · rw [hu j hj]; exact conv_zero_left ..
    · rw [hv (k - j) (by omega)]; exact conv_zero_right ..
  have z2 (j : ℕ) : conv (u (j + k)) (v j) i = 0 := by rw [hu (j + k) (by omega)]; exact conv_zero_left ..
  have z3 (j : ℕ) : conv (u j) (v (j + k)) i = 0 := by rw [hv (j + k) (by omega)]; exact conv_zero_right ..
  simp [blockF, z1, z2, z3]

theorem blockF_congr (h : ∀ j t, t ≤ i → u j t = u' j t) : blockF K e₁ e₂ e₃ u v k i = blockF K e₁ e₂ e₃ u' v k i := by
  have e (j : ℕ) (g : ℕ → ℚ) : conv (u j) g i = conv (u' j) g i := conv_congr (h j) fun _ _ => rfl
  simp only [blockF, e]

theorem blockF_add : blockF K e₁ e₂ e₃ (fun j t => u j t + u' j t) v k i
    = blockF K e₁ e₂ e₃ u v k i + blockF K e₁ e₂ e₃ u' v k i := by
  simp only [blockF, conv_add_left, sum_add_distrib]
  split
  · ring
  · ring

/-- a common factor `p` of all coefficients of the first factor comes out of the product -/
theorem blockF_conv (p : ℕ → ℚ) : blockF K e₁ e₂ e₃ (fun j => conv p (u j)) v k i
    = conv p (fun t => blockF K e₁ e₂ e₃ u v k t) i := by
  by_cases hk : k = 0
  · simp only [blockF, hk, if_true, conv_assoc, conv_smul_right, conv_add_right, conv_sum_right, conv_zero_right]
  · simp only [blockF, hk, if_false, conv_assoc, conv_smul_right, conv_add_right, conv_sum_right]

end blocks

theorem mulF_eq_zero {Ha Hb K : ℕ} {A B : Bool → ℕ → ℕ → ℚ} (hA : ∀ τ j, Ha ≤ j → A τ j = fun _ => 0)
    (hB : ∀ τ j, Hb ≤ j → B τ j = fun _ => 0) {k : ℕ} (hk : Ha + Hb ≤ k) (σ : Bool) (i : ℕ) : mulF K A B σ k i = 0 := by
  unfold mulF
  rw [blockF_eq_zero (hA _) (hB _) hk, blockF_eq_zero (hA _) (hB _) hk]
  simp

/-- the coefficients of a product, for any bound `K` on the harmonics of the factors -/
theorem co_mul {N i K : ℕ} (hi : i < N) {a b : Trig} (ha : a.nh ≤ K) (hb : b.nh ≤ K) (σ : Bool) (k : ℕ) :
    (mul N a b).co σ k i = mulF K a.co b.co σ k i := by
  have za (τ : Bool) (j : ℕ) (hj : a.nh ≤ j) : a.co τ j = fun _ => 0 := co_of_nh_le hj τ
  have zb (τ : Bool) (j : ℕ) (hj : b.nh ≤ j) : b.co τ j = fun _ => 0 := co_of_nh_le hj τ
  by_cases h0 : σ = true ∧ k = 0
  · obtain ⟨rfl, rfl⟩ := h0
    rw [co_true_zero, mulF, if_pos ⟨rfl, rfl⟩]
  simp only [mul]
  rw [co_trim, co_mk_range h0]
  split
  · -- read the coefficients off the terms that `mul` lists; its sums run to `max a.nh b.nh`
    have zaM (τ : Bool) (j : ℕ) (hj : max a.nh b.nh ≤ j) := za τ j (le_trans (le_max_left ..) hj)
    have zbM (τ : Bool) (j : ℕ) (hj : max a.nh b.nh ≤ j) := zb τ j (le_trans (le_max_right ..) hj)
    rw [mulF, if_neg h0, ← blockF_bound (max_le ha hb) (zaM σ) (zbM false), ← blockF_bound (max_le ha hb) (zaM (!σ)) (zbM true)]
    cases σ
    · by_cases hk : k = 0
      · subst hk
        simp only [blockF, co_false, co_true, cond_false, Bool.not_false, beq_self_eq_true, if_true, Poly.coeff_smul,
          Poly.coeff_sum hi, List.map_append, List.sum_append, Poly.sum_coeff_range, Poly.coeff_addv hi, Poly.coeff_mulv hi,
          Poly.coeff_neg, List.map_nil, List.sum_nil, sum_add_distrib, sum_neg_distrib, add_zero]
        ring
      · simp only [blockF, co_false, co_true, cond_false, Bool.not_false, beq_iff_eq, hk, if_false, Poly.coeff_smul,
          Poly.coeff_sum hi, List.map_append, List.sum_append, Poly.sum_coeff_range, Poly.coeff_addv hi, Poly.coeff_mulv hi,
          Poly.coeff_neg, sum_add_distrib, sum_neg_distrib]
        ring
    · have hk : k ≠ 0 := fun hk => h0 ⟨rfl, hk⟩
      simp only [blockF, co_false, co_true, cond_true, Bool.not_true, beq_iff_eq, hk, if_false, Poly.coeff_smul,
        Poly.coeff_sum hi, List.map_append, List.sum_append, Poly.sum_coeff_range, Poly.coeff_addv hi, Poly.coeff_mulv hi,
        Poly.coeff_neg, sum_add_distrib, sum_neg_distrib]
      ring
  · next hk => exact (mulF_eq_zero za zb (Nat.le_of_not_lt hk) σ i).symm

theorem coeff_sgn (σ : Bool) (p : Poly) (i : ℕ) : (sgn σ p).coeff i = (bif σ then -1 else 1) * p.coeff i := by
  cases σ
  · simp [sgn]
  · simp [sgn, Poly.coeff_neg]

/-- the terms that `mulTerms` lists add up to the block, for any bound `K` on the harmonics of the two factors -/
theorem sum_mulTerms {N i : ℕ} (hi : i < N) {σ₁ σ₂ σ₃ : Bool} {u v : ℕ → Poly} {nu nv K : ℕ}
    (hu : ∀ j, nu ≤ j → u j = []) (hv : ∀ j, nv ≤ j → v j = []) (huK : nu ≤ K) (hvK : nv ≤ K) (k : ℕ) :
    ((mulTerms N σ₁ σ₂ σ₃ u v nu nv k).map fun p => p.coeff i).sum
      = blockF K (bif σ₁ then -1 else 1) (bif σ₂ then -1 else 1) (bif σ₃ then -1 else 1)
          (fun j => (u j).coeff) (fun j => (v j).coeff) k i := by
  have zu (j : ℕ) (hj : nu ≤ j) (g : ℕ → ℚ) : conv (u j).coeff g i = 0 := by rw [hu j hj]; exact conv_zero_left ..
  have zv (j : ℕ) (hj : nv ≤ j) (f : ℕ → ℚ) : conv f (v j).coeff i = 0 := by rw [hv j hj]; exact conv_zero_right ..
  unfold mulTerms blockF
  split
  · next h =>
    rcases (by simpa using h : nu = 0 ∨ nv = 0) with h0 | h0
    · have z (j : ℕ) (g : ℕ → ℚ) : conv (u j).coeff g i = 0 := zu j (by omega) g
      simp [z]
    · have z (j : ℕ) (f : ℕ → ℚ) : conv f (v j).coeff i = 0 := zv j (by omega) f
      simp [z]
  · simp only [List.map_append, List.sum_append, Poly.sum_coeff_range, coeff_sgn, Poly.coeff_mulv hi, ← mul_sum]
    congr 1
    · congr 2
      exact sum_range_extend (by omega) fun j hj => zu _ (by omega) _
    · by_cases hk : k = 0
      · simp [hk]
      · simp only [beq_iff_eq, hk, if_false, Poly.sum_coeff_range, coeff_sgn, Poly.coeff_mulv hi, ← mul_sum]
        congr 1
        exact sum_range_extend (by omega) fun j hj => zv _ (by omega) _

theorem cc_of_length_le {t : Trig} {j : ℕ} (h : t.c.length ≤ j) : t.cc j = [] := List.getD_eq_default _ _ h

theorem ss_of_length_le {t : Trig} {j : ℕ} (h : t.s.length ≤ j) : t.ss j = [] := by
  unfold ss
  split
  · rfl
  · exact List.getD_eq_default _ _ h

/-- the product computed block by block is `mul` modulo `n^N` -/
theorem mulB_eqv (N : ℕ) (a b : Trig) : Eqv N (mul N a b) (mulB N a b) := Eqv.of_ne fun σ k i hi h0 => by
  have hac : a.c.length ≤ max a.nh b.nh := le_trans (le_max_left ..) (le_max_left ..)
  have has : a.s.length ≤ max a.nh b.nh := le_trans (le_max_right ..) (le_max_left ..)
  have hbc : b.c.length ≤ max a.nh b.nh := le_trans (le_max_left ..) (le_max_right ..)
  have hbs : b.s.length ≤ max a.nh b.nh := le_trans (le_max_right ..) (le_max_right ..)
  rw [co_mul hi (le_max_left a.nh b.nh) (le_max_right ..)]
  unfold mulB
  rw [co_trim, co_mk_range h0]
  split
  · rw [mulF, if_neg h0]
    cases σ
    · simp only [cond_false]
      rw [Poly.coeff_smul, Poly.coeff_foldr_zipLong, List.map_append, List.sum_append,
        sum_mulTerms hi (fun _ => cc_of_length_le) (fun _ => cc_of_length_le) hac hbc,
        sum_mulTerms hi (fun _ => ss_of_length_le) (fun _ => ss_of_length_le) has hbs]
      rfl
    · have hk : k ≠ 0 := fun hk => h0 ⟨rfl, hk⟩
      simp only [cond_true, beq_iff_eq, hk, if_false]
      rw [Poly.coeff_smul, Poly.coeff_foldr_zipLong, List.map_append, List.sum_append,
        sum_mulTerms hi (fun _ => ss_of_length_le) (fun _ => cc_of_length_le) has hbc,
        sum_mulTerms hi (fun _ => cc_of_length_le) (fun _ => ss_of_length_le) hac hbs]
      rfl
  · next hk => exact mulF_eq_zero (fun τ _ hj => co_of_nh_le hj τ) (fun τ _ hj => co_of_nh_le hj τ) (Nat.le_of_not_lt hk) σ i

/-! ### linear maps: `deriv`, the product in its first factor, the Taylor sum -/

/-- `F` is linear over the coefficient ring, modulo `n^N` -/
structure IsLin (N : ℕ) (F : Trig → Trig) : Prop where
  congr : ∀ {a a'}, Eqv N a a' → Eqv N (F a) (F a')
  add : ∀ a a', Eqv N (F (add N a a')) (add N (F a) (F a'))
  pmul : ∀ p a, Eqv N (F (pmul N p a)) (pmul N p (F a))

theorem isLin_deriv (N : ℕ) : IsLin N deriv where
  congr h σ j i hi := by rw [co_deriv, co_deriv, h (!σ) j i hi]
  add a a' σ j i hi := by rw [co_deriv, co_add hi, co_add hi, co_deriv, co_deriv, mul_add]
  pmul p a σ j i hi := by rw [co_deriv, co_pmul hi, co_pmul hi, funext (co_deriv a σ j), conv_smul_right]

/-- the product is linear in its first factor: the blocks are additive in it and a common factor comes out (`blockF_conv`) -/
theorem isLin_mul (N : ℕ) (b : Trig) : IsLin N fun a => mul N a b where
  congr {a a'} h σ k i hi := by
    have hc (τ : Bool) (j t : ℕ) (ht : t ≤ i) := h τ j t (by omega)
    let K := max (max a.nh a'.nh) b.nh
    rw [co_mul hi (K := K) (by omega) (by omega), co_mul hi (K := K) (by omega) (by omega)]
    unfold mulF
    rw [blockF_congr (hc σ), blockF_congr (hc (!σ))]
  add a a' σ k i hi := by
    have hc (τ : Bool) (j t : ℕ) (ht : t ≤ i) : (add N a a').co τ j t = a.co τ j t + a'.co τ j t := co_add (by omega) ..
    let K := max (max (add N a a').nh (max a.nh a'.nh)) b.nh
    rw [co_add hi, co_mul hi (K := K) (by omega) (by omega), co_mul hi (K := K) (by omega) (by omega),
      co_mul hi (K := K) (by omega) (by omega)]
    unfold mulF
    rw [blockF_congr (hc σ), blockF_congr (hc (!σ)), blockF_add, blockF_add]
    split
    · rw [add_zero]
    · ring
  pmul p a σ k i hi := by
    by_cases h0 : σ = true ∧ k = 0
    · obtain ⟨rfl, rfl⟩ := h0
      rw [co_true_zero, co_true_zero]
    have hc (τ : Bool) (j t : ℕ) (ht : t ≤ i) : (pmul N p a).co τ j t = conv p.coeff (a.co τ j) t := co_pmul (by omega) ..
    let K := max (max (pmul N p a).nh a.nh) b.nh
    have e (t : ℕ) (ht : t ≤ i) : (mul N a b).co σ k t = _ :=
      (co_mul (K := K) (by omega) (by omega) (by omega) σ k).trans (if_neg h0)
    rw [co_pmul hi, co_mul hi (K := K) (by omega) (by omega), mulF, if_neg h0, conv_congr (fun _ _ => rfl) e,
      blockF_congr (hc σ), blockF_congr (hc (!σ)), blockF_conv, blockF_conv]
    simp only [conv_smul_right, conv_add_right]

theorem isLin_smul (N : ℕ) (r : ℚ) : IsLin N (smul r) where
  congr := smul_congr r
  add a b σ j i hi := by rw [co_smul, co_add hi, co_add hi, co_smul, co_smul, mul_add]
  pmul p a σ j i hi := by rw [co_smul, co_pmul hi, co_pmul hi, funext (co_smul r a σ j), conv_smul_right]

theorem pmul_add_eqv {N : ℕ} {p : Poly} {a b : Trig} : Eqv N (pmul N p (add N a b)) (add N (pmul N p a) (pmul N p b)) :=
  fun σ j i hi => by
    rw [co_add hi, co_pmul hi, co_pmul hi, co_pmul hi, ← conv_add_right]
    exact conv_congr (fun _ _ => rfl) fun t ht => co_add (by omega) ..

theorem add_add_add_comm_eqv {N : ℕ} {a b c d : Trig} :
    Eqv N (add N (add N a b) (add N c d)) (add N (add N a c) (add N b d)) := fun σ j i hi => by
  simp only [co_add hi]
  ring

theorem IsLin.comp {N : ℕ} {F G : Trig → Trig} (hG : IsLin N G) (hF : IsLin N F) : IsLin N fun a => G (F a) where
  congr h := hG.congr (hF.congr h)
  add a a' := (hG.congr (hF.add a a')).trans (hG.add _ _)
  pmul p a := (hG.congr (hF.pmul p a)).trans (hG.pmul _ _)

/-- a linear map kills `zero`, the empty multiple of anything -/
theorem IsLin.zero {N : ℕ} {F : Trig → Trig} (hF : IsLin N F) : Eqv N (F Trig.zero) Trig.zero :=
  (hF.pmul [] Trig.zero).trans fun σ j i hi => by
    rw [co_pmul hi, zero_co]
    exact conv_zero_left ..

/-- `G` is linear in its two arguments jointly -/
structure IsLin₂ (N : ℕ) (G : Trig → Trig → Trig) : Prop where
  congr : ∀ {a a' s s'}, Eqv N a a' → Eqv N s s' → Eqv N (G a s) (G a' s')
  add : ∀ a a' s s', Eqv N (G (add N a a') (add N s s')) (add N (G a s) (G a' s'))
  pmul : ∀ p a s, Eqv N (G (pmul N p a) (pmul N p s)) (pmul N p (G a s))

/-- one step of the Taylor sum: the first argument is mapped on, a linear image of it is added to the second -/
theorem IsLin₂.step {N : ℕ} {G : Trig → Trig → Trig} {D M : Trig → Trig} (hG : IsLin₂ N G) (hD : IsLin N D) (hM : IsLin N M) :
    IsLin₂ N fun a s => G (D a) (Trig.add N s (M a)) where
  congr h hs := hG.congr (hD.congr h) (add_congr hs (hM.congr h))
  add a a' _ _ :=
    (hG.congr (hD.add a a') ((add_congr (Eqv.refl _) (hM.add a a')).trans add_add_add_comm_eqv)).trans
      (hG.add _ _ _ _)
  pmul p a _ :=
    (hG.congr (hD.pmul p a) ((add_congr (Eqv.refl _) (hM.pmul p a)).trans pmul_add_eqv.symm)).trans
      (hG.pmul _ _ _)

/-- started from the empty sum, a jointly linear map is linear in its first argument -/
theorem IsLin₂.left {N : ℕ} {G : Trig → Trig → Trig} (hG : IsLin₂ N G) : IsLin N fun a => G a Trig.zero where
  congr h := hG.congr h (Eqv.refl _)
  add a a' := hG.add a a' Trig.zero Trig.zero
  pmul p a := hG.pmul p a Trig.zero

/-- the Taylor sum is linear in the function that is differentiated and the running sum -/
theorem isLin₂_taylorSum (N : ℕ) : ∀ (n : ℕ) (ps : List Trig) (k : ℕ), IsLin₂ N fun a s => taylorSum N (iter deriv n a) ps k s
  | 0, _, _ => ⟨fun _ hs => hs, fun _ _ _ _ => Eqv.refl _, fun _ _ _ => Eqv.refl _⟩
  | _ + 1, [], _ => ⟨fun _ hs => hs, fun _ _ _ _ => Eqv.refl _, fun _ _ _ => Eqv.refl _⟩
  | n + 1, p :: ps, k =>
    (isLin₂_taylorSum N n ps (k + 1)).step (isLin_deriv N) ((isLin_smul N (1 / (fact k : ℚ))).comp (isLin_mul N p))

/-- a linear map goes through a combination `Σ_l p_l · x_l` -/
theorem lincomb_map {N : ℕ} {F : Trig → Trig} (hF : IsLin N F) :
    ∀ (ps : List Poly) (xs : List Trig), Eqv N (F (lincomb N ps xs)) (lincomb N ps (xs.map F))
  | [], _ => hF.zero
  | _ :: _, [] => hF.zero
  | p :: ps, x :: xs => (hF.congr add_eqv_addz.symm).trans <| (hF.add _ _).trans <|
    add_eqv_addz.trans (addz_congr (hF.pmul p x) (lincomb_map hF ps xs))

theorem lincomb_congr {N : ℕ} {f g : ℕ → Trig} (h : ∀ l, Eqv N (f l) (g l)) :
    ∀ (ps : List Poly) (ls : List ℕ), Eqv N (lincomb N ps (ls.map f)) (lincomb N ps (ls.map g))
  | [], _ => Eqv.refl _
  | _ :: _, [] => Eqv.refl _
  | p :: ps, l :: ls => addz_congr (pmul_congr p (h l)) (lincomb_congr h ps ls)

/-! ### a single harmonic as first factor: `harmParts_eqv` -/

/-- `d = rc · cos(2lx) + rs · sin(2lx)` with rational `rc`, `rs` -/
def IsHarm (l : ℕ) (rc rs : ℚ) (d : Trig) : Prop :=
  ∀ σ j, d.co σ j = fun t => if t = 0 then (if j = l then (bif σ then rs else rc) else 0) else 0

/-- what a block is when its first factor is the harmonic `l` with coefficient 1: every sum has one term -/
def harmF (e₁ e₂ e₃ : ℚ) (l : ℕ) (v : ℕ → ℕ → ℚ) (k i : ℕ) : ℚ :=
  (if l ≤ k then e₁ * v (k - l) i else 0) + (if k ≤ l then e₂ * v (l - k) i else 0) + if k = 0 then 0 else e₃ * v (l + k) i

section harmonic
variable {l K : ℕ} {rc rs : ℚ} {d : Trig} (h : IsHarm l rc rs d)
include h

theorem IsHarm.deriv : IsHarm l (2 * l * rs) (-(2 * l * rc)) d.deriv := fun σ j => by
  funext t
  rw [co_deriv, h]
  by_cases hj : j = l
  · cases σ
    · simp [hj]
    · simp [hj]
  · simp [hj]

theorem IsHarm.conv_co (σ : Bool) (j : ℕ) (g : ℕ → ℚ) (i : ℕ) :
    conv (d.co σ j) g i = if j = l then (bif σ then rs else rc) * g i else 0 := by
  rw [h σ j, conv_const, ite_mul, zero_mul]

theorem IsHarm.block (hK : l < K) {e₁ e₂ e₃ : ℚ} {σ : Bool} {v : ℕ → ℕ → ℚ} {k i : ℕ} :
    blockF K e₁ e₂ e₃ (d.co σ) v k i = (bif σ then rs else rc) * harmF e₁ e₂ e₃ l v k i := by
  have hlk : l - k < K := by omega
  simp only [blockF, harmF, h.conv_co, sum_ite_eq', sum_range_ite_add, mem_range, Nat.lt_succ_iff, hK, hlk, and_true, if_true]
  split_ifs <;> ring

end harmonic

/-- nothing beyond the harmonic `l + H` when `v` has nothing from `H` on -/
theorem harmF_eq_zero {e₁ e₂ e₃ : ℚ} {l H k i : ℕ} {v : ℕ → ℕ → ℚ} (hv : ∀ j, H ≤ j → v j i = 0) (hk : l + H ≤ k) :
    harmF e₁ e₂ e₃ l v k i = 0 := by
  unfold harmF
  rw [hv (k - l) (by omega), hv (l + k) (by omega), mul_zero, mul_zero, ite_self, ite_self, zero_add, add_zero]
  split
  · rw [hv (l - k) (by omega), mul_zero]
  · rfl

section harmMul
variable {l : ℕ} {b : Trig} {σ : Bool} {k : ℕ} (h0 : ¬(σ = true ∧ k = 0)) (i : ℕ)
include h0

theorem co_cosMul : (cosMul l b).co σ k i = harmF 1 (bif σ then -1 else 1) 1 l (b.co σ) k i := by
  unfold cosMul
  rw [co_mk_range h0]
  split
  · cases σ
    · simp only [harmF, Poly.coeff_zipLong, apply_ite (fun p : Poly => p.coeff i), Poly.coeff_nil, cond_false, one_mul]
      rfl
    · have hk : k ≠ 0 := fun hk => h0 ⟨rfl, hk⟩
      simp only [harmF, hk, if_false, Poly.coeff_zipLong, apply_ite (fun p : Poly => p.coeff i), Poly.coeff_nil,
        Poly.coeff_neg, cond_true, one_mul, neg_one_mul]
      rfl
  · next h => exact (harmF_eq_zero (fun j hj => congrFun (co_of_nh_le hj _) i) (Nat.le_of_not_lt h)).symm

theorem co_sinMul :
    (sinMul l b).co σ k i = harmF (bif σ then 1 else -1) 1 (bif σ then -1 else 1) l (b.co (!σ)) k i := by
  unfold sinMul
  rw [co_mk_range h0]
  split
  · cases σ
    · simp only [harmF, Poly.coeff_zipLong, apply_ite (fun p : Poly => p.coeff i), Poly.coeff_nil, Poly.coeff_neg,
        cond_false, one_mul, neg_one_mul]
      rfl
    · have hk : k ≠ 0 := fun hk => h0 ⟨rfl, hk⟩
      simp only [harmF, hk, if_false, Poly.coeff_zipLong, apply_ite (fun p : Poly => p.coeff i), Poly.coeff_nil,
        Poly.coeff_neg, cond_true, one_mul, neg_one_mul]
      rfl
  · next h => exact (harmF_eq_zero (fun j hj => congrFun (co_of_nh_le hj _) i) (Nat.le_of_not_lt h)).symm

end harmMul

section harmEqv
variable {N l : ℕ}

theorem harmF_addz {e₁ e₂ e₃ : ℚ} (a b : Trig) (τ : Bool) (k i : ℕ) :
    harmF e₁ e₂ e₃ l ((addz a b).co τ) k i = harmF e₁ e₂ e₃ l (a.co τ) k i + harmF e₁ e₂ e₃ l (b.co τ) k i := by
  simp only [harmF, co_addz]
  split_ifs <;> ring

theorem harmF_smul {e₁ e₂ e₃ : ℚ} (c : ℚ) (a : Trig) (τ : Bool) (k i : ℕ) :
    harmF e₁ e₂ e₃ l ((smul c a).co τ) k i = c * harmF e₁ e₂ e₃ l (a.co τ) k i := by
  simp only [harmF, co_smul]
  split_ifs <;> ring

/-- the product with the single harmonic `2r cos(2lx)`, times `w` -/
theorem mul_cos_eqv {r : ℚ} {d : Trig} (h : IsHarm l (2 * r) 0 d) (w : ℚ) (b : Trig) :
    Eqv N (smul w (mul N d b)) (cosMul l (smul (w * r) b)) := Eqv.of_ne fun σ k i hi h0 => by
  have hK : l < max (max d.nh b.nh) (l + 1) := by omega
  rw [co_smul, co_mul hi (K := max (max d.nh b.nh) (l + 1)) (by omega) (by omega), mulF, if_neg h0, h.block hK, h.block hK,
    co_cosMul h0, harmF_smul]
  cases σ
  · simp only [cond_true, cond_false, Bool.not_false]
    ring
  · simp only [cond_true, cond_false, Bool.not_true]
    ring

theorem mul_sin_eqv {r : ℚ} {d : Trig} (h : IsHarm l 0 (2 * r) d) (w : ℚ) (b : Trig) :
    Eqv N (smul w (mul N d b)) (sinMul l (smul (w * r) b)) := Eqv.of_ne fun σ k i hi h0 => by
  have hK : l < max (max d.nh b.nh) (l + 1) := by omega
  rw [co_smul, co_mul hi (K := max (max d.nh b.nh) (l + 1)) (by omega) (by omega), mulF, if_neg h0, h.block hK, h.block hK,
    co_sinMul h0, harmF_smul]
  cases σ
  · simp only [cond_true, cond_false, Bool.not_false]
    ring
  · simp only [cond_true, cond_false, Bool.not_true]
    ring

/-- `cosMul l` and `sinMul l` are additive, so a further term joins the part of the sum that has the same factor -/
theorem add_cosMul_eqv {S O Y : Trig} :
    Eqv N (add N (addz S (cosMul l O)) (cosMul l Y)) (addz S (cosMul l (addz O Y))) := Eqv.of_ne fun σ k i hi h0 => by
  rw [co_add hi, co_addz, co_addz, co_cosMul h0, co_cosMul h0, co_cosMul h0, harmF_addz, add_assoc]

theorem add_sinMul_eqv {E C Y : Trig} :
    Eqv N (add N (addz (sinMul l E) C) (sinMul l Y)) (addz (sinMul l (addz E Y)) C) := Eqv.of_ne fun σ k i hi h0 => by
  rw [co_add hi, co_addz, co_addz, co_sinMul h0, co_sinMul h0, co_sinMul h0, harmF_addz, add_right_comm]

theorem cosMul_congr {b b' : Trig} (h : Eqv N b b') : Eqv N (cosMul l b) (cosMul l b') := Eqv.of_ne fun σ k i hi h0 => by
  have e (j : ℕ) := h σ j i hi
  rw [co_cosMul h0, co_cosMul h0]
  simp only [harmF, e]

theorem sinMul_congr {b b' : Trig} (h : Eqv N b b') : Eqv N (sinMul l b) (sinMul l b') := Eqv.of_ne fun σ k i hi h0 => by
  have e (j : ℕ) := h (!σ) j i hi
  rw [co_sinMul h0, co_sinMul h0]
  simp only [harmF, e]

theorem zero_eqv_harm : Eqv N zero (addz (sinMul l zero) (cosMul l zero)) := Eqv.of_ne fun σ k i _ h0 => by
  rw [co_addz, co_sinMul h0, co_cosMul h0]
  simp [harmF, zero_co]

end harmEqv

/-- the Taylor sum over the derivatives of a single harmonic is `2 sin(2lx) · E + 2 cos(2lx) · O` for the parts that
    `harmParts` accumulates -/
theorem harmParts_eqv (N l : ℕ) : ∀ (ps : List Trig) (k : ℕ) (r : ℚ) (c : Bool) (d s E O : Trig),
    IsHarm l (if c then 2 * r else 0) (if c then 0 else 2 * r) d → Eqv N s (addz (sinMul l E) (cosMul l O)) →
      Eqv N (taylorSum N (iter deriv ps.length d) ps k s)
        (addz (sinMul l (harmParts l ps k r c E O).1) (cosMul l (harmParts l ps k r c E O).2))
  | [], _, _, _, _, _, _, _, _, hs => hs
  | p :: ps, k, r, true, d, s, E, O, hd, hs => by
    have hd : IsHarm l (2 * r) 0 d := by simpa using hd
    have e := (add_congr hs (mul_cos_eqv (N := N) hd (1 / (fact k : ℚ)) p)).trans add_cosMul_eqv
    rw [one_div_mul_eq_div] at e
    have hd' := hd.deriv
    rw [mul_zero, show -(2 * (l : ℚ) * (2 * r)) = 2 * (-(2 * l * r)) by ring] at hd'
    exact harmParts_eqv N l ps (k + 1) (-(2 * l * r)) false d.deriv _ E _ (by simpa using hd') e
  | p :: ps, k, r, false, d, s, E, O, hd, hs => by
    have hd : IsHarm l 0 (2 * r) d := by simpa using hd
    have e := (add_congr hs (mul_sin_eqv (N := N) hd (1 / (fact k : ℚ)) p)).trans add_sinMul_eqv
    rw [one_div_mul_eq_div] at e
    have hd' := hd.deriv
    rw [mul_zero, neg_zero, show 2 * (l : ℚ) * (2 * r) = 2 * (2 * l * r) by ring] at hd'
    exact harmParts_eqv N l ps (k + 1) (2 * l * r) true d.deriv _ _ O (by simpa using hd') e

theorem harmParts_congr {N : ℕ} (l : ℕ) {ps ps' : List Trig} (h : List.Forall₂ (Eqv N) ps ps') :
    ∀ (k : ℕ) (r : ℚ) (c : Bool) {E E' O O' : Trig}, Eqv N E E' → Eqv N O O' →
      Eqv N (harmParts l ps k r c E O).1 (harmParts l ps' k r c E' O').1 ∧
        Eqv N (harmParts l ps k r c E O).2 (harmParts l ps' k r c E' O').2 := by
  induction h with
  | nil => exact fun _ _ _ _ _ _ _ hE hO => ⟨hE, hO⟩
  | cons hp _ ih =>
    intro k r c E E' O O' hE hO
    cases c
    · exact ih _ _ _ (addz_congr hE (smul_congr _ hp)) hO
    · exact ih _ _ _ hE (addz_congr hO (smul_congr _ hp))

theorem harmShift_congr {N : ℕ} (l : ℕ) {ps ps' : List Trig} (h : List.Forall₂ (Eqv N) ps ps') :
    Eqv N (harmShift l ps) (harmShift l ps') :=
  have e := harmParts_congr l h 0 (1 / 2) false (Eqv.refl zero) (Eqv.refl zero)
  addz_congr (sinMul_congr e.1) (cosMul_congr e.2)

/-- the table of powers by `mulB` is the table of powers by `mul` -/
theorem iter_mulB (N : ℕ) (a : Trig) : ∀ (n : ℕ) {x x' : Trig}, Eqv N x x' →
    List.Forall₂ (Eqv N) (iter (fun p => mul N p a) n x) (iter (fun p => mulB N p a) n x')
  | 0, _, _, _ => .nil
  | n + 1, _, _, h => .cons h (iter_mulB N a n (((isLin_mul N a).congr h).trans (mulB_eqv N _ a)))

/-! ### a sine series as a combination of single harmonics: `shiftBy_eqv_lincomb` -/

/-- `Σ_l bs[l] sin(2(m+1+l)x)` -/
def sinFrom (m : ℕ) (bs : List Poly) : Trig := ⟨[], List.replicate (m + 1) [] ++ bs⟩

theorem co_sinFrom (m : ℕ) (bs : List Poly) (σ : Bool) (j i : ℕ) :
    (sinFrom m bs).co σ j i = if σ = true ∧ m < j then (bs.getD (j - (m + 1)) []).coeff i else 0 := by
  cases σ
  · exact (if_neg fun h => Bool.false_ne_true h.1).symm
  by_cases hj : j = 0
  · subst hj; simp
  unfold sinFrom
  rw [co_mk_true _ _ hj]
  by_cases h : j ≤ m
  · rw [if_neg fun h' => absurd h'.2 (by omega), List.getD_append _ _ _ _ (by simp; omega)]
    simp [List.getD_eq_getElem?_getD, h]
  · rw [if_pos ⟨rfl, by omega⟩, List.getD_append_right _ _ _ _ (by simp; omega)]
    simp

theorem isHarm_sinFrom (l : ℕ) : IsHarm (l + 1) 0 1 (sinFrom l [[1]]) := fun σ j => by
  funext t
  rw [co_sinFrom]
  cases σ
  · simp
  simp only [true_and, cond_true]
  by_cases h1 : j ≤ l
  · rw [if_neg (by omega), if_neg (by omega : j ≠ l + 1), ite_self]
  by_cases h2 : j = l + 1
  · subst h2
    rw [if_pos (by omega), Nat.sub_self, if_pos rfl]
    cases t
    · rfl
    · rfl
  · obtain ⟨n, hn⟩ : ∃ n, j - (l + 1) = n + 1 := ⟨j - (l + 1) - 1, by omega⟩
    rw [if_pos (by omega), if_neg h2, ite_self, hn]
    rfl

theorem sinFrom_cons (N : ℕ) (m : ℕ) (p : Poly) (bs : List Poly) :
    Eqv N (sinFrom m (p :: bs)) (addz (pmul N p (sinFrom m [[1]])) (sinFrom (m + 1) bs)) := fun σ j i hi => by
  rw [co_addz, co_pmul hi, conv_comm, (isHarm_sinFrom m).conv_co, co_sinFrom, co_sinFrom]
  cases σ
  · simp
  simp only [true_and, cond_true, one_mul]
  by_cases h1 : j ≤ m
  · rw [if_neg (by omega), if_neg (by omega : j ≠ m + 1), if_neg (by omega), add_zero]
  by_cases h2 : j = m + 1
  · subst h2
    rw [if_pos (by omega), if_pos rfl, if_neg (by omega), Nat.sub_self, add_zero]
    rfl
  · obtain ⟨n, hn⟩ : ∃ n, j - (m + 1) = n + 1 := ⟨j - (m + 1) - 1, by omega⟩
    rw [if_pos (by omega), if_neg h2, if_pos (by omega), zero_add, hn, (by omega : j - (m + 1 + 1) = n)]
    rfl

theorem sinFrom_eqv_lincomb (N : ℕ) : ∀ (bs : List Poly) (m : ℕ),
    Eqv N (sinFrom m bs) (lincomb N bs ((List.range' m bs.length).map fun l => sinFrom l [[1]]))
  | [], m => show Eqv N (sinFrom m []) zero from fun σ j i _ => by
    rw [co_sinFrom, zero_co]
    simp
  | p :: bs, m => (sinFrom_cons N m p bs).trans (addz_congr (Eqv.refl _) (sinFrom_eqv_lincomb N bs (m + 1)))

/-- the Taylor shift of a sine series by `a` is the combination of the shifts of `sin 2x, sin 4x, …` with its coefficients -/
theorem shiftBy_eqv_lincomb (N : ℕ) (bs : List Poly) (a : Trig) :
    Eqv N (shiftBy N (ofSin bs) a) (lincomb N bs ((List.range bs.length).map fun l =>
      harmShift (l + 1) (iter (fun p => mulB N p a) N (const [1])))) := by
  rw [shiftBy_eq]
  have hF := (isLin₂_taylorSum N N (iter (fun p => mul N p a) N (const [1])) 0).left
  have hB : Eqv N (ofSin bs) (lincomb N bs ((List.range bs.length).map fun l => sinFrom l [[1]])) := by
    rw [List.range_eq_range']; exact sinFrom_eqv_lincomb N bs 0
  refine (hF.congr hB).trans ((lincomb_map hF bs _).trans ?_)
  rw [List.map_map]
  refine lincomb_congr (fun l => ?_) bs _
  have := harmParts_eqv N (l + 1) (iter (fun p => mul N p a) N (const [1])) 0 (1 / 2) false (sinFrom l [[1]]) zero zero zero
    (by simpa using isHarm_sinFrom l) zero_eqv_harm
  rw [length_iter] at this
  exact this.trans (harmShift_congr (l + 1) (iter_mulB N a N (Eqv.refl _)))

/-! ### the comparisons -/

theorem isZero_iff {N : ℕ} {a : Trig} : isZero N a = true ↔ Eqv N a zero := by
  unfold isZero
  rw [Bool.and_eq_true, List.all_eq_true, List.all_eq_true]
  simp only [Poly.eqN_iff, Poly.coeff_nil, List.mem_range]
  constructor
  · rintro ⟨hc, hs⟩ σ j i hi
    rw [zero_co]
    by_cases hj : j < (a.part σ).length
    · cases σ
      · rw [co_false, show a.cc j = a.c[j] from List.getD_eq_getElem _ _ hj]
        exact hc _ (List.getElem_mem hj) i hi
      · exact hs j hj i hi
    · exact congrFun (co_of_length_le (Nat.le_of_not_lt hj)) i
  · intro h
    constructor
    · intro p hp i hi
      obtain ⟨j, hj, rfl⟩ := List.getElem_of_mem hp
      have e := (h false j i hi).trans (congrFun (zero_co false j) i)
      rwa [co_false, show a.cc j = a.c[j] from List.getD_eq_getElem _ _ hj] at e
    · intro l _ i hi
      exact (h true l i hi).trans (congrFun (zero_co true l) i)

theorem isZero_congr {N : ℕ} {a a' : Trig} (h : Eqv N a a') : isZero N a = isZero N a' :=
  Bool.eq_iff_iff.mpr (by rw [isZero_iff, isZero_iff]; exact ⟨fun ha => h.symm.trans ha, fun ha => h.trans ha⟩)

theorem eqN_eq_isZero_addz {N : ℕ} (x : Trig) {a a' : Trig} (h : Eqv N a a') : eqN N x a = isZero N (addz x (smul (-1) a')) :=
  isZero_congr ((add_congr (Eqv.refl _) (smul_congr _ h)).trans add_eqv_addz)

end Trig

/-! ### the decoding of a block, and the row check -/

namespace Aux

theorem foldl_fst_length {α β : Type} (f : List α × β → ℕ → List α × β) (hf : ∀ acc l, (f acc l).1.length = acc.1.length + 1) :
    ∀ (ls : List ℕ) (acc : List α × β), (ls.foldl f acc).1.length = acc.1.length + ls.length
  | [], _ => rfl
  | l :: ls, acc => by rw [List.foldl_cons, foldl_fst_length f hf ls, hf, List.length_cons, Nat.add_assoc, Nat.add_comm 1]

theorem block_length (o i : ℕ) : (block o i).length = L := by
  unfold block decode
  rw [foldl_fst_length _ (fun _ _ => by simp)]
  simp

theorem foldl_decode (ev : Bool) : ∀ (ls : List ℕ) (acc : List Poly × ℕ),
    (ls.foldl (fun (acc : List Poly × ℕ) l =>
      let m := if ev then (L - l - 1) / 2 else (L - l - 1)
      let p := Poly.ofHighFirst ((Gen.AuxSeries.coeffs.drop acc.2).take (m + 1))
      let p := if ev then Poly.subSq p else p
      (acc.1 ++ [Poly.trunc N (Poly.shift (l + 1) p)], acc.2 + m + 1)) acc).1
      = acc.1 ++ blockFrom ev ls (Gen.AuxSeries.coeffs.drop acc.2)
  | [], acc => (List.append_nil _).symm
  | l :: ls, acc => by
    rw [List.foldl_cons, foldl_decode ev ls]
    simp only [blockFrom, List.append_assoc, List.singleton_append, List.drop_drop, Nat.add_assoc]

/-- decoding with the table consumed as it goes gives the block that `decode` computes -/
theorem blockL_eq (o i : ℕ) : blockL o i = block o i :=
  (foldl_decode (evenOnly o i) (List.range L) ([], Gen.AuxSeries.ptrs.getD (Gen.AuxSeries.AUXNUMBER * o + i) 0)).symm

/-- a row certificate yields the check of every outer latitude of its row: the reversion for `c = a`, the composition otherwise -/
theorem rowCheck_sound {b a : ℕ} (h : rowCheck b a = true) {c : ℕ} (hc : c ∈ outers b a) :
    if c = a then checkRevert a b = true else checkCompose c b a = true := by
  simp only [rowCheck, blockL_eq, Bool.and_eq_true, List.all_eq_true] at h
  obtain ⟨hA, hB, hS⟩ := h.1, (h.2 c hc).1, (h.2 c hc).2
  have e := (Trig.add_congr (Trig.Eqv.refl (ser b a)) (Trig.shiftBy_eqv_lincomb N (block c b) (ser b a))).trans
    Trig.add_eqv_addz
  rw [block_length] at e
  split
  · next hca =>
    subst hca
    rw [if_pos (beq_self_eq_true c)] at hS
    simp only [checkRevert, Bool.and_eq_true]
    exact ⟨⟨hA, hB⟩, (Trig.isZero_congr e).trans hS⟩
  · next hca =>
    rw [if_neg (by simpa using hca)] at hS
    simp only [checkCompose, Bool.and_eq_true]
    exact ⟨⟨hA, hB⟩, (Trig.eqN_eq_isZero_addz _ e).trans hS⟩

end Aux
end GeoVerif.Series
