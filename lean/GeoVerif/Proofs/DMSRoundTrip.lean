import GeoVerif.Proofs.DMSClosure
import GeoVerif.Proofs.DMSRound
import GeoVerif.Proofs.DMSStrVal
/-!
# `Decode (Encode x)` is within half a unit of the last printed digit of `x`, plus round-off: the composition
-/
namespace GeoVerif.DMSProofs
open GeoVerif GeoVerif.DMS GeoVerif.Gen GeoVerif.Decimal

theorem natDivMod_cast (a b : ℕ) : (a : ℚ) = ((a / b : ℕ) : ℚ) * b + ((a % b : ℕ) : ℚ) := by
  have := Nat.div_add_mod a b
  have h : ((b * (a / b) + a % b : ℕ) : ℚ) = (a : ℚ) := by rw [this]
  push_cast at h; rw [← h]; ring

theorem splitFields_zero (i : ℕ) : splitFields 0 i = (i, 0, 0) := rfl
theorem splitFields_one (i : ℕ) : splitFields 1 i = (i / 60, i % 60, 0) := by
  simp [splitFields, DMSC.compMINUTE, MathC.dm]
theorem splitFields_two (i : ℕ) : splitFields 2 i = (i / 60 / 60, i / 60 % 60, i % 60) := by
  simp [splitFields, DMSC.compMINUTE, DMSC.compSECOND, MathC.dm, MathC.ms]

theorem scaleOf_zero : scaleOf 0 = 1 := rfl
theorem scaleOf_one : scaleOf 1 = 60 := rfl
theorem scaleOf_two : scaleOf 2 = 3600 := rfl

theorem one_le_scaleOf (t : ℕ) : (1:ℚ) ≤ scaleOf t := by
  unfold scaleOf; split_ifs <;> norm_num

theorem splitFields_val (t i : ℕ) (ht : t ≤ 2) :
    ((splitFields t i).1 : ℚ) + ((splitFields t i).2.1 : ℚ) / 60 + ((splitFields t i).2.2 : ℚ) / 3600 = (i : ℚ) / scaleOf t ∧
    (splitFields t i).2.1 < 60 ∧ (splitFields t i).2.2 < 60 := by
  have h2 := natDivMod_cast i 60
  have h3 := natDivMod_cast (i / 60) 60
  have h60 : (0:ℕ) < 60 := by decide
  have ht' : t = 0 ∨ t = 1 ∨ t = 2 := by omega
  rcases ht' with rfl | rfl | rfl
  · rw [splitFields_zero, scaleOf_zero]
    exact ⟨by simp, h60, h60⟩
  · rw [splitFields_one, scaleOf_one]
    refine ⟨?_, Nat.mod_lt _ h60, h60⟩
    push_cast at h2 ⊢
    rw [h2]; field_simp; ring
  · rw [splitFields_two, scaleOf_two]
    refine ⟨?_, Nat.mod_lt _ h60, Nat.mod_lt _ h60⟩
    push_cast at h2 h3 ⊢
    rw [h2, h3]; field_simp; ring

theorem printed_degree (u P : ℕ) :
    ((u / 10 ^ P : ℕ) : ℚ) + ((u % 10 ^ P : ℕ) : ℚ) / 10 ^ P = (u : ℚ) / 10 ^ P := by
  have h1 := natDivMod_cast u (10 ^ P)
  have hp : (0:ℚ) < 10 ^ P := by positivity
  push_cast at h1 ⊢
  rw [h1]
  field_simp

theorem numVal_numOf (X : Bytes) : numVal (numOf X) = (digitsVal 0 X : ℚ) := rfl
theorem numOK_numOf (X : Bytes) : NumOK (numOf X) := fun h => Bool.noConfusion h

theorem numVal_lastNum (X F : Bytes) : numVal (lastNum X F) = (digitsVal 0 X : ℚ) + (digitsVal 0 F : ℚ) / 10 ^ F.length := by
  unfold lastNum
  split
  · rename_i h; subst h
    show ((digitsVal 0 X : ℕ) : ℚ) = _
    simp [digitsVal]
  · rfl

theorem numOK_lastNum (X F : Bytes) (hF : AllDigits F) (hl : F.length ≤ 15) : NumOK (lastNum X F) := by
  unfold lastNum
  split
  · exact numOK_numOf X
  · intro _
    exact ⟨hl, digitsVal_lt F hF⟩

theorem lastNum_int (X F : Bytes) : (lastNum X F).int = digitsVal 0 X := by
  unfold lastNum; split <;> rfl

theorem clampPrec_le15 (t p : ℕ) : clampPrec t p ≤ 15 := by unfold clampPrec; omega

/-- `i`: whole trailing units, `k`: whole degrees split off, `F`: fraction digits -/
theorem slotsOf_fields (t : ℕ) (ht : t ≤ 2) (D M S F : Bytes) (i k : ℕ)
    (v1 : digitsVal 0 D = (splitFields t i).1 + k) (v2 : digitsVal 0 M = (splitFields t i).2.1)
    (v3 : digitsVal 0 S = (splitFields t i).2.2) (hdk : (splitFields t i).1 + k < 2 ^ 41)
    (hF : AllDigits F) (hl : F.length ≤ 15) :
    SlotsOK (slotsOf t D M S F) ∧
    slotsVal (slotsOf t D M S F) = (k : ℚ) + ((i : ℚ) + (digitsVal 0 F : ℚ) / 10 ^ F.length) / scaleOf t := by
  obtain ⟨hval, hmi, hse⟩ := splitFields_val t i ht
  have hoF := fun X => numOK_lastNum X F hF hl
  have h60 : (0:ℕ) < 60 := by decide
  rw [← v2] at hval hmi
  rw [← v3] at hval hse
  rw [← v1] at hdk
  have hD : ((digitsVal 0 D : ℕ) : ℚ) = ((splitFields t i).1 : ℚ) + k := by rw [v1]; push_cast; rfl
  have ht' : t = 0 ∨ t = 1 ∨ t = 2 := by omega
  rcases ht' with rfl | rfl | rfl
  · refine ⟨⟨by rw [← lastNum_int D F] at hdk; exact hdk, h60, h60, hoF D, numOK_empty, numOK_empty,
      fun h => absurd numVal_empty h, fun h => absurd numVal_empty h⟩, ?_⟩
    show numVal (lastNum D F) + numVal {} / 60 + numVal {} / 3600 = _
    rw [numVal_lastNum, numVal_empty, hD, add_div (i:ℚ), ← hval, v2, v3, splitFields_zero, scaleOf_zero]
    simp only [Nat.cast_zero, zero_div, add_zero, Nat.cast_one, div_one]
    ring
  · refine ⟨⟨hdk, by rw [← lastNum_int M F] at hmi; exact hmi, h60, numOK_numOf D, hoF M, numOK_empty,
      fun h => absurd numVal_empty h, fun _ => rfl⟩, ?_⟩
    show numVal (numOf D) + numVal (lastNum M F) / 60 + numVal {} / 3600 = _
    rw [numVal_numOf, numVal_lastNum, numVal_empty, hD, add_div (i:ℚ), ← hval, v3, splitFields_one, scaleOf_one]
    push_cast
    ring
  · refine ⟨⟨hdk, hmi, by rw [← lastNum_int S F] at hse; exact hse, numOK_numOf D, numOK_numOf M, hoF S,
      fun _ => ⟨rfl, rfl⟩, fun _ => rfl⟩, ?_⟩
    show numVal (numOf D) + numVal (numOf M) / 60 + numVal (lastNum S F) / 3600 = _
    rw [numVal_numOf, numVal_numOf, numVal_lastNum, hD, add_div (i:ℚ), ← hval, scaleOf_two]
    push_cast
    ring

theorem roundtrip_core (neg : Bool) (sl : Slots) (X B : ℚ) (hsl : SlotsOK sl) (hV : |slotsVal sl - X| ≤ B) :
    ∃ v : F64, evalSlots neg sl = .ok v ∧ (F64.add F64.nzero v).isFinite = true ∧
      |((F64.add F64.nzero v).val - (if neg then -X else X))| ≤ B + 4 * (2:ℚ) ^ (-(53:ℤ)) * (X + B) := by
  obtain ⟨v, hv, hrep, hvb, hve⟩ := evalSlots_bound neg sl hsl
  have h1024 : |v.val| < (2:ℚ) ^ (1024:ℤ) := lt_huge_of_le53 hvb
  obtain ⟨hfin, hval⟩ := add_nzero_exact v hrep h1024
  refine ⟨v, hv, hfin, ?_⟩
  rw [hval]
  have hu : (0:ℚ) < 4 * (2:ℚ) ^ (-(53:ℤ)) := by have := two_m53_pos; linarith
  have hVX : slotsVal sl ≤ X + B := by have := (abs_le.mp hV).2; linarith
  have h4 := mul_le_mul_of_nonneg_left hVX hu.le
  have hV' := abs_le.mp hV
  have hve' := abs_le.mp hve
  rw [abs_le]
  cases neg
  · simp only [Bool.false_eq_true, if_false] at hve' ⊢
    constructor <;> linarith [hve'.1, hve'.2, hV'.1, hV'.2]
  · simp only [if_true] at hve' ⊢
    constructor <;> linarith [hve'.1, hve'.2, hV'.1, hV'.2]

theorem val_sign (s : Bool) (m : ℕ) (e : ℤ) :
    (F64.fin s m e).val = if s then -|(F64.fin s m e).val| else |(F64.fin s m e).val| := by
  rw [abs_val_fin, F64.val_fin]
  cases s <;> simp

theorem readNeg_of_ne_azi (ind : Flag) (neg : Bool) (h : ind ≠ Flag.azi) : readNeg ind neg = neg := by
  simp [readNeg, h]

theorem floor_nat (X : ℚ) (hX : 0 ≤ X) : ∃ k : ℕ, ((⌊X⌋ : ℤ) : ℚ) = (k : ℚ) :=
  ⟨⌊X⌋.toNat, by exact_mod_cast (Int.toNat_of_nonneg (Int.floor_nonneg.mpr hX)).symm⟩

theorem degree_field (cd k : ℕ) (idg : F64) (hf : idg.isFinite = true) (hk : idg.val = k) (hb : cd + k ≤ 2 ^ 53) :
    fixedUnits (F64.add (F64.ofNat cd) idg) 0 = cd + k := by
  obtain ⟨h1, h2⟩ := add_carry_exact cd idg hf k hk hb
  exact fixedUnits_int _ h1 (cd + k) h2

/-- `k`: the whole degrees split off (none for trailing DEGREE) -/
theorem encFields_eq (h : Head) (t k : ℕ) (hf : h.idegree.isFinite = true) (hk : h.idegree.val = k) (h0 : t = 0 → k = 0)
    (hb : (splitFields t (h.units / 10 ^ h.prec)).1 + k ≤ 2 ^ 53) :
    encFields h t = ((splitFields t (h.units / 10 ^ h.prec)).1 + k, (splitFields t (h.units / 10 ^ h.prec)).2.1,
      (splitFields t (h.units / 10 ^ h.prec)).2.2, h.units % 10 ^ h.prec) := by
  unfold encFields
  by_cases ht : t = 0
  · subst ht; rw [if_pos rfl, h0 rfl]; rfl
  · rw [if_neg ht, degree_field _ k h.idegree hf hk hb]

/-- the round-trip bound: half a unit of the last printed digit, the round-off `2⁻⁵³` of the scaling in `Encode`, and
    `4·2⁻⁵³` relative for the three roundings of `Decode` -/
def rtBound (t p : ℕ) (X : ℚ) : ℚ :=
  ((1 / 2) / ((scaleOf t : ℚ) * 10 ^ clampPrec t p) + (2:ℚ) ^ (-(53:ℤ))) +
    4 * (2:ℚ) ^ (-(53:ℤ)) * (X + ((1 / 2) / ((scaleOf t : ℚ) * 10 ^ clampPrec t p) + (2:ℚ) ^ (-(53:ℤ))))

/-- The round trip, stated for two angles because of AZIMUTH: `Encode x t p ind` prints the head of some `x₀ = fin s0 m0 e0`
    computed as for a flag `ind0 ≠ AZIMUTH` (`hhead`) — `x₀ = x`, `ind0 = ind` for NONE / LATITUDE / LONGITUDE, and
    `x₀ = aziReduce x`, `ind0 = NONE` for AZIMUTH — and the sign `Decode` reads back from the layout of `ind` is that of
    `x₀` (`hsgn`). -/
theorem roundtrip_gen (t : ℕ) (ht : t ≤ 2) (s : Bool) (m : ℕ) (e : ℤ) (p : ℕ) (ind : Flag) (sep : ℕ)
    (hsep : sep = 0 ∨ sep = 58) (hN : ind ≠ Flag.num) (s0 : Bool) (m0 : ℕ) (e0 : ℤ) (ind0 : Flag) (hA0 : ind0 ≠ Flag.azi)
    (hx : F64.IsRep (F64.fin s0 m0 e0)) (hb : |(F64.fin s0 m0 e0).val| < 2 ^ 40)
    (hhead : encodeHead (F64.fin s m e) t p ind = encodeHead (F64.fin s0 m0 e0) t p ind0)
    (hsgn : (if readNeg ind s0 then -|(F64.fin s0 m0 e0).val| else |(F64.fin s0 m0 e0).val|) = (F64.fin s0 m0 e0).val) :
    ∃ y : F64, decode (encode (F64.fin s m e) t p ind sep) = .ok (y, readFlag ind) ∧ y.isFinite = true ∧
      |(y.val - (F64.fin s0 m0 e0).val)| ≤ rtBound t p |(F64.fin s0 m0 e0).val| := by
  obtain ⟨D, M, S, F, hD, hM, hS, hF, nD, nM, nS, hl, v1, v2, v3, v4, henc⟩ := encode_shape s m e t p ind sep ht
  obtain ⟨a1, a2, a3, _, a5, a6⟩ := encodeHead_bound s0 m0 e0 hx (lt_huge_of_le53 (le_trans hb.le (by norm_num)))
    t p (by omega) ind0 hA0
  rw [← hhead] at a1 a2 a3 a5 a6
  generalize encodeHead (F64.fin s m e) t p ind = h at *
  have hX0 := abs_nonneg (F64.fin s0 m0 e0).val
  generalize |(F64.fin s0 m0 e0).val| = X at *
  have hsc := one_le_scaleOf t
  have hT : (1:ℚ) ≤ 10 ^ clampPrec t p := one_le_pow₀ (by norm_num)
  obtain ⟨k, hk, h0⟩ : ∃ k : ℕ, h.idegree.val = k ∧ (t = 0 → k = 0) := by
    by_cases ht0 : t = 0
    · exact ⟨0, by rw [a5, if_pos ht0]; rfl, fun _ => rfl⟩
    · obtain ⟨k, hk⟩ := floor_nat X hX0
      exact ⟨k, by rw [a5, if_neg ht0, hk], fun h => absurd h ht0⟩
  rw [hk] at a6
  -- the printed value is below `2^40 + 1`, so the degrees field (carry included) is exact and below `2^41`
  obtain ⟨hval, _, _⟩ := splitFields_val t (h.units / 10 ^ clampPrec t p) ht
  have hcd : (splitFields t (h.units / 10 ^ clampPrec t p)).1 + k < 2 ^ 40 + 1 := by
    have h1 : (((h.units / 10 ^ clampPrec t p : ℕ) : ℚ)) ≤ (h.units : ℚ) / 10 ^ clampPrec t p := by
      rw [le_div_iff₀ (by linarith)]
      exact_mod_cast Nat.div_mul_le_self h.units (10 ^ clampPrec t p)
    have h2 : (1 / 2 : ℚ) / ((scaleOf t : ℚ) * 10 ^ clampPrec t p) ≤ 1 / 2 :=
      div_le_self (by norm_num) (one_le_mul_of_one_le_of_one_le hsc hT)
    have h3 : (2:ℚ) ^ (-(53:ℤ)) ≤ 1 / 4 := u_le_quarter
    have h4 : ((splitFields t (h.units / 10 ^ clampPrec t p)).1 : ℚ) ≤
        (h.units : ℚ) / ((scaleOf t : ℚ) * 10 ^ clampPrec t p) := by
      rw [mul_comm, ← div_div]
      refine le_trans ?_ (div_le_div_of_nonneg_right h1 (by linarith))
      rw [← hval]
      have : (0:ℚ) ≤ ((splitFields t (h.units / 10 ^ clampPrec t p)).2.1 : ℚ) / 60 +
          ((splitFields t (h.units / 10 ^ clampPrec t p)).2.2 : ℚ) / 3600 := by positivity
      linarith
    have h5 := (abs_le.mp a6).2
    have h6 : (((splitFields t (h.units / 10 ^ clampPrec t p)).1 + k : ℕ) : ℚ) < ((2 ^ 40 + 1 : ℕ) : ℚ) := by
      push_cast; linarith
    exact_mod_cast h6
  rw [encFields_eq h t k a3 hk h0 (by rw [a2]; omega), a2] at v1 v2 v3 v4
  simp only at v1 v2 v3 v4
  obtain ⟨hok, hVeq⟩ := slotsOf_fields t ht D M S F (h.units / 10 ^ clampPrec t p) k v1 v2 v3 (by omega) hF
    (by rw [hl]; exact clampPrec_le15 t p)
  rw [v4, hl, printed_degree, div_div, mul_comm] at hVeq
  obtain ⟨v, hv, hfin, hbound⟩ := roundtrip_core (readNeg ind h.neg) (slotsOf t D M S F) X
    ((1 / 2) / ((scaleOf t : ℚ) * 10 ^ clampPrec t p) + (2:ℚ) ^ (-(53:ℤ))) hok (by rw [hVeq]; exact a6)
  refine ⟨F64.add F64.nzero v, ?_, hfin, ?_⟩
  · rw [henc]
    exact decode_layout t sep D M S F ind h.neg v ht hsep hN hD hM hS hF nD nM nS hv
  · rw [a1, hsgn] at hbound
    exact hbound

/-- the angle `Encode` prints for the AZIMUTH flag: `AngNormalize`, then `+360` if negative, `0 + a` otherwise -/
def aziReduce (x : F64) : F64 :=
  if F64.lt (MathF.angNormalize x) F64.pzero then F64.add (MathF.angNormalize x) MathF.td
  else F64.add F64.pzero (MathF.angNormalize x)

theorem rep_180 (s : Bool) : Rep (F64.fin s 180 0).val := by
  rw [F64.val_fin]
  cases s
  · exact ⟨180, 0, by norm_num, by norm_num, by simp⟩
  · exact ⟨-180, 0, by norm_num, by norm_num, by simp⟩

theorem angNormalize_rep (s : Bool) (m : ℕ) (e : ℤ) (hx : F64.IsRep (F64.fin s m e)) :
    F64.IsRep (MathF.angNormalize (F64.fin s m e)) ∧ |(MathF.angNormalize (F64.fin s m e)).val| ≤ 180 := by
  obtain ⟨hrep, hb⟩ := F64.remainder360_rep s m e hx
  have htd : MathF.td = F64.fin false 360 0 := rfl
  unfold MathF.angNormalize
  rw [htd]
  simp only []
  by_cases hE : F64.eq (F64.abs (F64.remainder (F64.fin s m e) (F64.fin false 360 0))) MathF.hd = true
  · rw [if_pos hE]
    have hcs : F64.copysign MathF.hd (F64.fin s m e) = F64.fin s 180 0 := rfl
    rw [hcs]
    refine ⟨⟨rfl, rep_180 s⟩, ?_⟩
    rw [F64.val_fin]; cases s <;> simp
  · rw [if_neg hE]
    exact ⟨hrep, hb⟩

theorem aziReduce_spec (s : Bool) (m : ℕ) (e : ℤ) (hx : F64.IsRep (F64.fin s m e)) :
    F64.IsRep (aziReduce (F64.fin s m e)) ∧ 0 ≤ (aziReduce (F64.fin s m e)).val ∧ (aziReduce (F64.fin s m e)).val ≤ 512 ∧
    ((MathF.angNormalize (F64.fin s m e)).val < 0 →
      RN ((MathF.angNormalize (F64.fin s m e)).val + 360) (aziReduce (F64.fin s m e)).val) ∧
    (0 ≤ (MathF.angNormalize (F64.fin s m e)).val → (aziReduce (F64.fin s m e)).val = (MathF.angNormalize (F64.fin s m e)).val) := by
  obtain ⟨⟨hfa, hra⟩, hab⟩ := angNormalize_rep s m e hx
  unfold aziReduce
  generalize MathF.angNormalize (F64.fin s m e) = a at *
  have hab' := abs_le.mp hab
  have h0 : F64.pzero.val = 0 := F64.val_fin_zero _ _
  have htdv : MathF.td.val = 360 := by
    show (F64.fin false 360 0).val = 360
    rw [F64.val_fin]; simp
  by_cases hlt : F64.lt a F64.pzero = true
  · rw [if_pos hlt]
    have hav : a.val < 0 := by have := (F64.lt_iff hfa rfl).mp hlt; rwa [h0] at this
    obtain ⟨f1, f2, f3⟩ := F64.add_rn a MathF.td hfa rfl 9 (by norm_num) (by norm_num) (by
      rw [htdv, abs_le]; constructor <;> norm_num <;> linarith)
    rw [htdv] at f2
    have hnn : 0 ≤ (a + MathF.td).val := IsRN.nonneg f2 (by linarith)
    have f3' := (abs_le.mp f3).2
    refine ⟨⟨f1, RN.rep f2⟩, hnn, by norm_num at f3'; exact f3', fun _ => f2, fun h => absurd hav (not_lt.mpr h)⟩
  · rw [if_neg hlt]
    have hav : 0 ≤ a.val := by
      by_contra hc
      exact hlt ((F64.lt_iff hfa rfl).mpr (by rw [h0]; exact not_le.mp hc))
    have hz : F64.pzero.val + a.val = a.val := by rw [h0, zero_add]
    obtain ⟨f1, hval⟩ := F64.add_exact F64.pzero a rfl hfa (by rw [hz]; exact hra)
      (lt_huge_of_le53 (by rw [hz]; exact le_trans hab (by norm_num)))
    rw [hz] at hval
    refine ⟨⟨f1, by rw [hval]; exact hra⟩, by rw [hval]; exact hav, by rw [hval]; linarith,
      fun h => absurd hav (not_le.mpr h), fun _ => hval⟩

end GeoVerif.DMSProofs
