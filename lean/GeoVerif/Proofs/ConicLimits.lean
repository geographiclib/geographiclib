import GeoVerif.Proofs.ConicSeries
import GeoVerif.Proofs.ConicDD
import Mathlib.Analysis.SpecialFunctions.Log.Deriv
/-!
# The limits of the series of `AlbersEqualArea`

The Taylor series of `atanhee` on an oblate ellipsoid as a `HasSum` (from Mathlib's `Real.hasSum_log_sub_log_of_abs_lt_one`), from
which the limits of `atanhxm1` and `DDatanhee1` in `Props/C11.lean` are derived, and the partial sums of the series of
`DDatanhee1` as finite sums.  The declarations continue the namespace of `Proofs/ConicSeries.lean`; this file is
separate because it alone needs the analysis library.
-/
namespace GeoVerif.Proofs.ConicSeries
open GeoVerif GeoVerif.Conic GeoVerif.Proofs.Conic Finset

theorem atanhee_hasSum (f e s : ℝ) (hf : 0 < f) (he : 0 < e) (hs : |e * s| < 1) :
    HasSum (fun l : ℕ => (e ^ 2) ^ l * s ^ (2 * l + 1) / ((2 * l + 1 : ℕ) : ℝ)) (atanhee f e s) := by
  have h := Real.hasSum_log_sub_log_of_abs_lt_one hs
  have h2 := h.mul_left (1 / (2 * e))
  obtain ⟨h1, h1'⟩ := abs_lt.mp hs
  have hval : 1 / (2 * e) * (Real.log (1 + e * s) - Real.log (1 - e * s)) = atanhee f e s := by
    rw [ConicDD.atanhee_pos hf, Real.log_div (neg_lt_iff_pos_add'.mp h1).ne' (sub_pos.mpr h1').ne']; ring
  rw [hval] at h2
  have hfun : (fun l : ℕ => (e ^ 2) ^ l * s ^ (2 * l + 1) / ((2 * l + 1 : ℕ) : ℝ)) =
      (fun i : ℕ => 1 / (2 * e) * (2 * (1 / (2 * (i : ℝ) + 1)) * (e * s) ^ (2 * i + 1))) := by
    funext l
    have hene : e ≠ 0 := he.ne'
    push_cast
    rw [mul_pow, ← pow_mul, pow_succ e (2 * l)]
    field_simp
  rw [hfun]; exact h2

theorem dd1Sum_eq_sum (e2 x y : ℝ) (L : ℕ) :
    dd1Sum e2 x y L = ∑ l ∈ range (L + 1), e2 ^ l * dd1C x y l / ((2 * l + 1 : ℕ) : ℝ) := by
  induction L with
  | zero => simp [dd1Sum, dd1C]
  | succ L ih => rw [dd1Sum, ih, Finset.sum_range_succ (n := L + 1)]

end GeoVerif.Proofs.ConicSeries
