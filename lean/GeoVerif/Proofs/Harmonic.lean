import GeoVerif.Model.Harmonic
import GeoVerif.Spec.RealInst
import Mathlib.Tactic.Ring
import Mathlib.Tactic.Linarith
import Mathlib.Tactic.LinearCombination
import Mathlib.Tactic.FieldSimp
import Mathlib.Tactic.NormNum
import Mathlib.Tactic.Positivity
/-!
`ratio`, `sect` are the functions generated by the inner (degree) and outer (order) three-term recurrences of `SphericalEngine::Value` as coded
(`root[k] = √k`); `legendre`, `sectoral` are the textbook fully normalised (`full = true`, geodesy 4π normalisation `∫ P̄nm² cos²mλ dΩ = 4π`) and Schmidt
semi-normalised associated Legendre functions by their standard recurrences.  `ratio_legendre`, `sect_sectoral` identify the two (identities between
square roots of integer products), `dratio_dlegendre` their `θ`-derivatives.
-/
namespace GeoVerif.Proofs.Harmonic
open GeoVerif GeoVerif.Harmonic

section
variable {R : Type} [CommRing R]

def dsum (F : ℕ → R) : ℕ → List R → R
  | _, [] => 0
  | k, c :: cs => c * F k + dsum F (k + 1) cs

theorem dsum_range (F : ℕ → R) (k n : ℕ) (g : ℕ → R) :
    dsum F k ((List.range n).map g) = ∑ j ∈ Finset.range n, g j * F (k + j) := by
  induction n generalizing k g with
  | zero => rfl
  | succ n ih =>
    rw [List.range_succ_eq_map, List.map_cons, List.map_map, dsum, ih, Finset.sum_range_succ', add_comm]
    simp only [Function.comp, Nat.add_zero, Nat.add_assoc, Nat.add_comm 1]

end

section
variable {R : Type} [CommRing R]

theorem clenG_smul (a : R) (al be : ℕ → R) (k : ℕ) (cs : List R) :
    clenG 0 al be k (cs.map fun c => a * c) = (a * (clenG 0 al be k cs).1, a * (clenG 0 al be k cs).2) := by
  induction cs generalizing k with
  | nil => simp [clenG]
  | cons c cs ih =>
    simp only [List.map_cons, clenG, ih (k + 1)]
    ext
    · ring
    · rfl

theorem clenD_fst (al be ad : ℕ → R) (k : ℕ) (cs : List R) : (clenD 0 al be ad k cs).1 = clenG 0 al be k cs := by
  induction cs generalizing k with
  | nil => rfl
  | cons c cs ih => simp only [clenD, clenG, ih (k + 1)]

/-- `hG` is `hF` differentiated in `θ`, with `d = −dα/dθ` and `β` constant -/
theorem clenD_tail (al be ad F G : ℕ → R) (hF : ∀ k, F (k + 2) = al (k + 1) * F (k + 1) + be (k + 1) * F k)
    (hG : ∀ k, G (k + 2) = al (k + 1) * G (k + 1) + be (k + 1) * G k - ad (k + 1) * F (k + 1)) (cs : List R) (k : ℕ) :
    dsum G (k + 1) cs =
      (clenD 0 al be ad (k + 1) cs).2.1 * F (k + 1) + be (k + 1) * F k * (clenD 0 al be ad (k + 1) cs).2.2
      + (clenD 0 al be ad (k + 1) cs).1.1 * G (k + 1) + be (k + 1) * G k * (clenD 0 al be ad (k + 1) cs).1.2 := by
  induction cs generalizing k with
  | nil => simp [dsum, clenD]
  | cons c cs ih =>
    have h := ih (k + 1)
    simp only [dsum, clenD]
    rw [h, hF k, hG k]
    ring

/-- **Clenshaw summation of the differentiated family**: with `F(1) = α₀F(0)`, `G(1) = α₀G(0) − d₀F(0)` the derivative recurrence
    `z_k = α_k z_{k+1} + β_{k+1} z_{k+2} − d_k y_{k+1}` returns `Σ_k c_k G(k) = z₀·F(0) + y₀·G(0)` -/
theorem clenD_sum (al be ad F G : ℕ → R) (hF : ∀ k, F (k + 2) = al (k + 1) * F (k + 1) + be (k + 1) * F k)
    (hG : ∀ k, G (k + 2) = al (k + 1) * G (k + 1) + be (k + 1) * G k - ad (k + 1) * F (k + 1))
    (hF1 : F 1 = al 0 * F 0) (hG1 : G 1 = al 0 * G 0 - ad 0 * F 0) (cs : List R) :
    dsum G 0 cs = (clenD 0 al be ad 0 cs).2.1 * F 0 + (clenD 0 al be ad 0 cs).1.1 * G 0 := by
  cases cs with
  | nil => simp [dsum, clenD]
  | cons c cs =>
    have h := clenD_tail al be ad F G hF hG cs 0
    simp only [dsum, clenD]
    simp only [Nat.zero_add] at h ⊢
    rw [h, hF1, hG1]
    ring

end

/-- functions generated by the inner recurrence of order `m` as coded: `ratio m l = q^l·P_{l+m,m}/P_{m,m}` -/
noncomputable def ratio (full : Bool) (q t : ℝ) (m : ℕ) : ℕ → ℝ
  | 0 => 1
  | 1 => innerA full q t m m
  | l + 2 => innerA full q t m (l + 1 + m) * ratio full q t m (l + 1) + innerB full (q ^ 2) m (l + m) * ratio full q t m l

/-- sectoral functions generated by the outer recurrence as coded: `q^m·P_{m,m}·cos mλ` (`c = true`) / `sin mλ` -/
noncomputable def sect (full : Bool) (cl sl uq : ℝ) (c : Bool) : ℕ → ℝ
  | 0 => if c then 1 else 0
  | 1 => (if c then cl else sl) * outerA0 full uq
  | 2 => outerA full cl uq 1 * sect full cl sl uq c 1 + outerB0 full (uq ^ 2) * sect full cl sl uq c 0
  | m + 3 => outerA full cl uq (m + 2) * sect full cl sl uq c (m + 2) + outerB full (uq ^ 2) (m + 1) * sect full cl sl uq c (m + 1)

def col (N m : ℕ) (cf : ℕ → ℕ → ℝ) : List ℝ := (List.range (N + 1 - m)).map fun l => cf (l + m) m

/-- coefficient of `t·P_{n−1,m}` in the textbook degree recurrence -/
noncomputable def anm (full : Bool) (n m : ℕ) : ℝ :=
  if full then Real.sqrt ((2 * (n : ℝ) - 1) * (2 * n + 1) / (((n : ℝ) - m) * (n + m)))
  else (2 * (n : ℝ) - 1) / Real.sqrt (((n : ℝ) - m) * (n + m))

/-- coefficient of `−P_{n−2,m}` in the textbook degree recurrence -/
noncomputable def bnm (full : Bool) (n m : ℕ) : ℝ :=
  if full then Real.sqrt ((2 * (n : ℝ) + 1) * ((n : ℝ) + m - 1) * ((n : ℝ) - m - 1) / ((((n : ℝ) - m) * (n + m)) * (2 * n - 3)))
  else Real.sqrt (((n : ℝ) + m - 1) * ((n : ℝ) - m - 1) / (((n : ℝ) - m) * (n + m)))

/-- sectoral functions `P_{m,m}(u)`, `u = sin θ` -/
noncomputable def sectoral (full : Bool) (u : ℝ) : ℕ → ℝ
  | 0 => 1
  | 1 => if full then Real.sqrt 3 * u else u
  | m + 2 =>
    (if full then Real.sqrt ((2 * ((m : ℝ) + 2) + 1) / (2 * ((m : ℝ) + 2)))
      else Real.sqrt ((2 * ((m : ℝ) + 2) - 1) / (2 * ((m : ℝ) + 2)))) * u * sectoral full u (m + 1)

/-- `legendre full t u m l = P_{m+l,m}` (`t = cos θ`, `u = sin θ`): the degree recurrence started from the sectoral function (`P_{m−1,m} = 0`) -/
noncomputable def legendre (full : Bool) (t u : ℝ) (m : ℕ) : ℕ → ℝ
  | 0 => sectoral full u m
  | 1 => anm full (m + 1) m * t * sectoral full u m
  | l + 2 => anm full (m + l + 2) m * t * legendre full t u m (l + 1) - bnm full (m + l + 2) m * legendre full t u m l

/-- `P_{nm}(cos θ)` as a function of `(t, u) = (cos θ, sin θ)`; `0` for `m > n` -/
noncomputable def Pbar (full : Bool) (t u : ℝ) (n m : ℕ) : ℝ := if m ≤ n then legendre full t u m (n - m) else 0

def cosm (cl : ℝ) : ℕ → ℝ
  | 0 => 1
  | 1 => cl
  | m + 2 => 2 * cl * cosm cl (m + 1) - cosm cl m

def sinm (cl sl : ℝ) : ℕ → ℝ
  | 0 => 0
  | 1 => sl
  | m + 2 => 2 * cl * sinm cl sl (m + 1) - sinm cl sl m

theorem cosm_cos (lam : ℝ) (m : ℕ) : cosm (Real.cos lam) m = Real.cos (m * lam) := by
  induction m using Nat.twoStepInduction with
  | zero => simp [cosm]
  | one => simp [cosm]
  | more m ih0 ih1 =>
    have e1 : ((m + 2 : ℕ) : ℝ) * lam = ((m + 1 : ℕ) : ℝ) * lam + lam := by push_cast; ring
    have e0 : (m : ℝ) * lam = ((m + 1 : ℕ) : ℝ) * lam - lam := by push_cast; ring
    rw [cosm, ih0, ih1, e1, e0, Real.cos_add, Real.cos_sub]
    ring

theorem sinm_sin (lam : ℝ) (m : ℕ) : sinm (Real.cos lam) (Real.sin lam) m = Real.sin (m * lam) := by
  induction m using Nat.twoStepInduction with
  | zero => simp [sinm]
  | one => simp [sinm]
  | more m ih0 ih1 =>
    have e1 : ((m + 2 : ℕ) : ℝ) * lam = ((m + 1 : ℕ) : ℝ) * lam + lam := by push_cast; ring
    have e0 : (m : ℝ) * lam = ((m + 1 : ℕ) : ℝ) * lam - lam := by push_cast; ring
    rw [sinm, ih0, ih1, e1, e0, Real.sin_add, Real.sin_sub]
    ring

def csm (cl sl : ℝ) (c : Bool) (m : ℕ) : ℝ := if c then cosm cl m else sinm cl sl m

theorem csm_rec (cl sl : ℝ) (c : Bool) (m : ℕ) : csm cl sl c (m + 2) = 2 * cl * csm cl sl c (m + 1) - csm cl sl c m := by
  cases c <;> simp [csm, cosm, sinm]

theorem root_real (k : ℕ) : (root k : ℝ) = Real.sqrt k := rfl

theorem root_sq (k : ℕ) : (root k : ℝ) * root k = k := Real.mul_self_sqrt (Nat.cast_nonneg k)

theorem root_ne (k : ℕ) (h : 0 < k) : (root k : ℝ) ≠ 0 := by
  rw [root_real]; exact (Real.sqrt_pos.mpr (Nat.cast_pos.mpr h)).ne'

theorem root_mul (a b : ℕ) : (root (a * b) : ℝ) = root a * root b := by
  rw [root_real, root_real, root_real]; push_cast; exact Real.sqrt_mul (Nat.cast_nonneg a) _

theorem root2_sq : (root 2 : ℝ) * root 2 = 2 := by have := root_sq 2; push_cast at this; exact this

theorem root8 : (root 8 : ℝ) = 2 * root 2 := by
  have h4 : (root 4 : ℝ) = 2 := by
    rw [root_real]; push_cast
    rw [show (4 : ℝ) = 2 ^ 2 by norm_num]; exact Real.sqrt_sq (by norm_num)
  rw [← h4]; exact root_mul 4 2

theorem sqrt_ratio22 (a b c d : ℝ) (ha : 0 ≤ a) (hb : 0 ≤ b) (hc : 0 ≤ c) :
    Real.sqrt (a * b / (c * d)) = Real.sqrt a * Real.sqrt b / (Real.sqrt c * Real.sqrt d) := by
  rw [Real.sqrt_div (mul_nonneg ha hb), Real.sqrt_mul ha, Real.sqrt_mul hc]

theorem sqrt_ratio33 (a b c d e f : ℝ) (ha : 0 ≤ a) (hb : 0 ≤ b) (hc : 0 ≤ c) (hd : 0 ≤ d) (he : 0 ≤ e) :
    Real.sqrt (a * b * c / (d * e * f)) = Real.sqrt a * Real.sqrt b * Real.sqrt c / (Real.sqrt d * Real.sqrt e * Real.sqrt f) := by
  rw [Real.sqrt_div (mul_nonneg (mul_nonneg ha hb) hc), Real.sqrt_mul (mul_nonneg ha hb), Real.sqrt_mul ha,
    Real.sqrt_mul (mul_nonneg hd he), Real.sqrt_mul hd]

/-! The roots are indexed as the code indexes them at degree `n = l + m`. -/

theorem anm_root (full : Bool) (m l : ℕ) :
    anm full (m + l + 1) m =
      (if full then root (2 * (l + m) + 1) * root (2 * (l + m) + 3) else ((2 * (l + m) + 1 : ℕ) : ℝ)) / (root (l + 1) * root (l + m + m + 1)) := by
  have h1 : 2 * ((m + l + 1 : ℕ) : ℝ) - 1 = ((2 * (l + m) + 1 : ℕ) : ℝ) := by push_cast; ring
  have h2 : 2 * ((m + l + 1 : ℕ) : ℝ) + 1 = ((2 * (l + m) + 3 : ℕ) : ℝ) := by push_cast; ring
  have h3 : ((m + l + 1 : ℕ) : ℝ) - m = ((l + 1 : ℕ) : ℝ) := by push_cast; ring
  have h4 : ((m + l + 1 : ℕ) : ℝ) + m = ((l + m + m + 1 : ℕ) : ℝ) := by push_cast; ring
  rw [anm, h1, h2, h3, h4, Real.sqrt_mul (Nat.cast_nonneg _), sqrt_ratio22 _ _ _ _ (Nat.cast_nonneg _) (Nat.cast_nonneg _) (Nat.cast_nonneg _), ← ite_div]
  rfl

theorem bnm_root (full : Bool) (m l : ℕ) :
    bnm full (m + l + 2) m =
      (if full then root (2 * (l + m) + 5) / root (2 * (l + m) + 1) else 1) * (root (l + m + m + 1) * root (l + 1) / (root (l + 2) * root (l + m + m + 2))) := by
  have h1 : 2 * ((m + l + 2 : ℕ) : ℝ) + 1 = ((2 * (l + m) + 5 : ℕ) : ℝ) := by push_cast; ring
  have h2 : ((m + l + 2 : ℕ) : ℝ) + m - 1 = ((l + m + m + 1 : ℕ) : ℝ) := by push_cast; ring
  have h3 : ((m + l + 2 : ℕ) : ℝ) - m - 1 = ((l + 1 : ℕ) : ℝ) := by push_cast; ring
  have h4 : ((m + l + 2 : ℕ) : ℝ) - m = ((l + 2 : ℕ) : ℝ) := by push_cast; ring
  have h5 : ((m + l + 2 : ℕ) : ℝ) + m = ((l + m + m + 2 : ℕ) : ℝ) := by push_cast; ring
  have h6 : 2 * ((m + l + 2 : ℕ) : ℝ) - 3 = ((2 * (l + m) + 1 : ℕ) : ℝ) := by push_cast; ring
  rw [bnm, h1, h2, h3, h4, h5, h6, sqrt_ratio22 _ _ _ _ (Nat.cast_nonneg _) (Nat.cast_nonneg _) (Nat.cast_nonneg _),
    sqrt_ratio33 _ _ _ _ _ _ (Nat.cast_nonneg _) (Nat.cast_nonneg _) (Nat.cast_nonneg _) (Nat.cast_nonneg _) (Nat.cast_nonneg _), ite_mul, one_mul]
  simp only [← root_real]
  congr 1
  ring

theorem innerA_innerAx (full : Bool) (q t : ℝ) (m n : ℕ) : innerA full q t m n = t * innerAx full q m n := by
  cases full <;> rfl

/-- `Ax(n = l + m) = q·a_{n+1,m}` (so `α_l = A = q·t·a_{n+1,m}`) -/
theorem innerAx_eq (full : Bool) (q : ℝ) (m l : ℕ) : innerAx full q m (l + m) = q * anm full (m + l + 1) m := by
  rw [anm_root]
  cases full
  · simp only [innerAx, innerW, Nat.add_sub_cancel, Bool.false_eq_true, if_false, ofNat_real]
    ring
  · simp only [innerAx, innerW, Nat.add_sub_cancel, if_true]
    ring

/-- `β_{l+1} = B(n = l + m) = −q²·b_{n+2,m}` -/
theorem innerB_eq (full : Bool) (q2 : ℝ) (m l : ℕ) : innerB full q2 m (l + m) = -(q2 * bnm full (m + l + 2) m) := by
  have p1 := root_ne (2 * (l + m) + 1) (by omega)
  have p2 := root_ne (l + 1) (by omega)
  have p3 := root_ne (l + m + m + 1) (by omega)
  have p4 := root_ne (l + 2) (by omega)
  have p5 := root_ne (l + m + m + 2) (by omega)
  rw [bnm_root]
  cases full
  · simp only [innerB, innerW, Nat.add_sub_cancel, Bool.false_eq_true, if_false]
    field_simp
  · simp only [innerB, innerW, Nat.add_sub_cancel, if_true]
    field_simp

/-- **the coded inner recurrence generates `q^l·P_{m+l,m}/P_{mm}`**, in multiplicative form (no division by `P_{mm}`, which vanishes at `u = 0`) -/
theorem ratio_legendre (full : Bool) (q t u : ℝ) (m l : ℕ) :
    ratio full q t m l * sectoral full u m = q ^ l * legendre full t u m l := by
  induction l using Nat.twoStepInduction with
  | zero => simp [ratio, legendre]
  | one =>
    have hA := innerAx_eq full q m 0
    rw [Nat.zero_add, Nat.add_zero] at hA
    simp only [ratio, legendre, innerA_innerAx, hA]
    ring
  | more l ih0 ih1 =>
    have hA : innerAx full q m (l + 1 + m) = q * anm full (m + l + 2) m := innerAx_eq full q m (l + 1)
    have hB := innerB_eq full (q ^ 2) m l
    simp only [ratio, legendre, innerA_innerAx, hA, hB]
    linear_combination (q * (anm full (m + l + 2) m * t)) * ih1 + (-(q ^ 2 * bnm full (m + l + 2) m)) * ih0

/-- the factor of the sectoral step `P_{kk} = stepFac·u·P_{k−1,k−1}` at `k = j + 2`, `√((2k+1)/(2k))` (fully normalised) resp. `√((2k−1)/(2k))` (Schmidt), as a
    quotient of table entries.  The outer recurrence of the code is built from the same numbers: `outerV (j+1) = 2·stepFac j`,
    `outerB (j+1) = −stepFac j·stepFac (j+1)·(uq)²`, for both normalisations alike. -/
noncomputable def stepFac (full : Bool) (j : ℕ) : ℝ := root (if full then 2 * (j + 1) + 3 else 2 * (j + 1) + 1) / (root 2 * root (j + 1 + 1))

theorem sqrt_stepFac (full : Bool) (j : ℕ) :
    (if full then Real.sqrt ((2 * ((j : ℝ) + 2) + 1) / (2 * ((j : ℝ) + 2))) else Real.sqrt ((2 * ((j : ℝ) + 2) - 1) / (2 * ((j : ℝ) + 2)))) = stepFac full j := by
  have h : (j : ℝ) + 2 = ((j + 1 + 1 : ℕ) : ℝ) := by push_cast; ring
  have h1 : 2 * ((j + 1 + 1 : ℕ) : ℝ) + 1 = ((2 * (j + 1) + 3 : ℕ) : ℝ) := by push_cast; ring
  have h2 : 2 * ((j + 1 + 1 : ℕ) : ℝ) - 1 = ((2 * (j + 1) + 1 : ℕ) : ℝ) := by push_cast; ring
  rw [h, h1, h2]
  cases full
  · rw [if_neg Bool.false_ne_true, Real.sqrt_div (Nat.cast_nonneg _), Real.sqrt_mul (by norm_num)]; rfl
  · rw [if_pos rfl, Real.sqrt_div (Nat.cast_nonneg _), Real.sqrt_mul (by norm_num)]; rfl

theorem sectoral_step (full : Bool) (u : ℝ) (j : ℕ) : sectoral full u (j + 2) = stepFac full j * u * sectoral full u (j + 1) := by
  rw [sectoral, sqrt_stepFac]

theorem outerV_succ (full : Bool) (j : ℕ) : (outerV full (j + 1) : ℝ) = 2 * stepFac full j := by
  have r2 := root_ne 2 (by norm_num)
  have rj := root_ne (j + 1 + 1) (by omega)
  rw [← root2_sq]
  cases full
  · simp only [outerV, stepFac, Bool.false_eq_true, if_false]
    field_simp
  · simp only [outerV, stepFac, if_true]
    field_simp

theorem outerB_succ (full : Bool) (uq2 : ℝ) (j : ℕ) : outerB full uq2 (j + 1) = -(stepFac full j * stepFac full (j + 1) * uq2) := by
  have e : stepFac full (j + 1) = root (if full then 2 * (j + 1) + 5 else 2 * (j + 1) + 3) / (root 2 * root (j + 1 + 2)) := rfl
  rw [outerB, outerV_succ, root8, e]
  cases full
  · simp only [Bool.false_eq_true, if_false]
    ring
  · simp only [if_true]
    ring

theorem outerA0_eq (full : Bool) (uq : ℝ) : outerA0 full uq = sectoral full uq 1 := by
  cases full <;> rfl

theorem outerB0_eq (full : Bool) (uq : ℝ) : outerB0 full (uq ^ 2) = -(stepFac full 0 * uq * sectoral full uq 1) := by
  have r2 := root_ne 2 (by norm_num)
  have q2 := root2_sq
  cases full
  · simp only [outerB0, stepFac, sectoral, Bool.false_eq_true, if_false]
    field_simp
    linear_combination (-(root 3 * uq ^ 2)) * q2
  · have r15 : (root 15 : ℝ) = root 5 * Real.sqrt 3 := root_mul 5 3
    simp only [outerB0, stepFac, sectoral, if_true, r15]
    field_simp
    linear_combination (-(root 5 * uq ^ 2)) * q2

/-- **the coded outer recurrence generates `P_{mm}(u·q)·cos mλ`** (`= q^m·P_{mm}(u)·cos mλ`), resp. `sin mλ` -/
theorem sect_sectoral (full : Bool) (cl sl uq : ℝ) (c : Bool) (m : ℕ) :
    sect full cl sl uq c m = sectoral full uq m * csm cl sl c m := by
  induction m using Nat.twoStepInduction with
  | zero => cases c <;> simp [sect, sectoral, csm, cosm, sinm]
  | one =>
    rw [sect, outerA0_eq]
    cases c <;> simp [csm, cosm, sinm, mul_comm]
  | more m ih0 ih1 =>
    rw [csm_rec, sectoral_step]
    cases m with
    | zero =>
      have s0 : sectoral full uq 0 = 1 := rfl
      rw [sect, ih1, ih0, outerA, outerV_succ, outerB0_eq, s0]
      ring
    | succ k =>
      rw [sect, ih1, ih0, outerA, outerV_succ, outerB_succ, sectoral_step]
      ring

theorem sectoral_scale (full : Bool) (u q : ℝ) (m : ℕ) : sectoral full (u * q) m = q ^ m * sectoral full u m := by
  cases m with
  | zero => simp [sectoral]
  | succ m =>
    induction m with
    | zero => cases full <;> simp [sectoral] <;> ring
    | succ m ih =>
      rw [sectoral_step, sectoral_step, ih]
      ring

theorem sect_mul_ratio (full : Bool) (cl sl q t u : ℝ) (c : Bool) (m l : ℕ) :
    sect full cl sl (u * q) c m * ratio full q t m l = csm cl sl c m * (q ^ (l + m) * legendre full t u m l) := by
  rw [sect_sectoral, sectoral_scale, pow_add]
  linear_combination (csm cl sl c m * q ^ m) * ratio_legendre full q t u m l

/-- functions generated by the differentiated inner recurrence as coded (`dA/dθ = −u·Ax`): `dratio m l = ∂/∂θ ratio m l` -/
noncomputable def dratio (full : Bool) (q t u : ℝ) (m : ℕ) : ℕ → ℝ
  | 0 => 0
  | 1 => -(u * innerAx full q m m)
  | l + 2 => innerA full q t m (l + 1 + m) * dratio full q t u m (l + 1) + innerB full (q ^ 2) m (l + m) * dratio full q t u m l
      - u * innerAx full q m (l + 1 + m) * ratio full q t m (l + 1)

/-- `∂/∂θ` of the sectoral functions by the product rule on their recurrence (`du/dθ = t`) -/
noncomputable def dsectoral (full : Bool) (t u : ℝ) : ℕ → ℝ
  | 0 => 0
  | 1 => if full then Real.sqrt 3 * t else t
  | m + 2 =>
    (if full then Real.sqrt ((2 * ((m : ℝ) + 2) + 1) / (2 * ((m : ℝ) + 2)))
      else Real.sqrt ((2 * ((m : ℝ) + 2) - 1) / (2 * ((m : ℝ) + 2)))) * (t * sectoral full u (m + 1) + u * dsectoral full t u (m + 1))

/-- `∂/∂θ P_{m+l,m}` by the product rule on the degree recurrence (`dt/dθ = −u`) -/
noncomputable def dlegendre (full : Bool) (t u : ℝ) (m : ℕ) : ℕ → ℝ
  | 0 => dsectoral full t u m
  | 1 => anm full (m + 1) m * (-u) * sectoral full u m + anm full (m + 1) m * t * dsectoral full t u m
  | l + 2 => anm full (m + l + 2) m * (-u) * legendre full t u m (l + 1) + anm full (m + l + 2) m * t * dlegendre full t u m (l + 1)
      - bnm full (m + l + 2) m * dlegendre full t u m l

noncomputable def dPbar (full : Bool) (t u : ℝ) (n m : ℕ) : ℝ := if m ≤ n then dlegendre full t u m (n - m) else 0

theorem dsectoral_step (full : Bool) (t u : ℝ) (j : ℕ) :
    dsectoral full t u (j + 2) = stepFac full j * (t * sectoral full u (j + 1) + u * dsectoral full t u (j + 1)) := by
  rw [dsectoral, sqrt_stepFac]

/-- `u·P'_{mm} = m·t·P_{mm}` (so `P'_{mm} = m·(t/u)·P_{mm}`, the term `m * tu * wc` of the code) -/
theorem dsectoral_eq (full : Bool) (t u : ℝ) (m : ℕ) : u * dsectoral full t u m = m * t * sectoral full u m := by
  cases m with
  | zero => simp [dsectoral]
  | succ m =>
    induction m with
    | zero => cases full <;> simp [dsectoral, sectoral] <;> ring
    | succ m ih =>
      rw [dsectoral_step, sectoral_step]
      push_cast at ih ⊢
      linear_combination (stepFac full m * u) * ih

/-- **the differentiated inner recurrence as coded generates the `θ`-derivative of the textbook functions** (product rule form) -/
theorem dratio_dlegendre (full : Bool) (q t u : ℝ) (m l : ℕ) :
    dratio full q t u m l * sectoral full u m + ratio full q t m l * dsectoral full t u m = q ^ l * dlegendre full t u m l := by
  induction l using Nat.twoStepInduction with
  | zero => simp [dratio, ratio, dlegendre]
  | one =>
    have hx := innerAx_eq full q m 0
    rw [Nat.zero_add, Nat.add_zero] at hx
    simp only [dratio, ratio, dlegendre, innerA_innerAx, hx]
    ring
  | more l ih0 ih1 =>
    have hx : innerAx full q m (l + 1 + m) = q * anm full (m + l + 2) m := innerAx_eq full q m (l + 1)
    have hB := innerB_eq full (q ^ 2) m l
    have hr := ratio_legendre full q t u m (l + 1)
    simp only [dratio, ratio, dlegendre, innerA_innerAx, hx, hB]
    linear_combination (t * (q * anm full (m + l + 2) m)) * ih1 + (-(q ^ 2 * bnm full (m + l + 2) m)) * ih0
      - (u * (q * anm full (m + l + 2) m)) * hr

/-- `m·(t/u)·ratio` is what `wtc += m·tu·wc` adds to the differentiated inner sum -/
theorem sect_mul_dratio (full : Bool) (cl sl q t u : ℝ) (hu : u ≠ 0) (c : Bool) (m l : ℕ) :
    sect full cl sl (u * q) c m * (dratio full q t u m l + (m : ℝ) * (t / u) * ratio full q t m l) =
      csm cl sl c m * (q ^ (l + m) * dlegendre full t u m l) := by
  have h1 := dratio_dlegendre full q t u m l
  have h2 : dsectoral full t u m = (m : ℝ) * (t / u) * sectoral full u m := by
    field_simp
    linear_combination dsectoral_eq full t u m
  rw [h2] at h1
  rw [sect_sectoral, sectoral_scale, pow_add]
  linear_combination (csm cl sl c m * q ^ m) * h1

theorem sectoral_schmidt_full (u : ℝ) (m : ℕ) : sectoral false u m * root (2 * m + 1) = sectoral true u m := by
  cases m with
  | zero => simp [sectoral, root_real]
  | succ m =>
    induction m with
    | zero => exact mul_comm _ _
    | succ m ih =>
      have hs : stepFac false m * root (2 * (m + 1) + 3) = stepFac true m * root (2 * (m + 1) + 1) := by
        simp only [stepFac, if_true, Bool.false_eq_true, if_false]
        ring
      rw [sectoral_step, sectoral_step, ← ih, show 2 * (m + 1 + 1) + 1 = 2 * (m + 1) + 3 from rfl]
      linear_combination (u * sectoral false u (m + 1)) * hs

theorem anm_schmidt_full (m j : ℕ) :
    anm false (m + j + 1) m * root (2 * (j + 1 + m) + 1) = anm true (m + j + 1) m * root (2 * (j + m) + 1) := by
  rw [show 2 * (j + 1 + m) + 1 = 2 * (j + m) + 3 by omega, anm_root, anm_root, if_neg Bool.false_ne_true, if_pos rfl, ← root_sq (2 * (j + m) + 1)]
  ring

theorem bnm_schmidt_full (m j : ℕ) :
    bnm false (m + j + 2) m * root (2 * (j + 2 + m) + 1) = bnm true (m + j + 2) m * root (2 * (j + m) + 1) := by
  rw [show 2 * (j + 2 + m) + 1 = 2 * (j + m) + 5 by omega, bnm_root, bnm_root, if_neg Bool.false_ne_true, if_pos rfl, one_mul,
    mul_right_comm, div_mul_cancel₀ _ (root_ne (2 * (j + m) + 1) (by omega)), mul_comm]

theorem legendre_schmidt_full (t u : ℝ) (m l : ℕ) :
    legendre false t u m l * Real.sqrt (2 * ((m + l : ℕ) : ℝ) + 1) = legendre true t u m l := by
  have key : ∀ l, legendre false t u m l * root (2 * (l + m) + 1) = legendre true t u m l := by
    intro l
    induction l using Nat.twoStepInduction with
    | zero =>
      rw [Nat.zero_add]
      exact sectoral_schmidt_full u m
    | one =>
      have h := anm_schmidt_full m 0
      rw [Nat.zero_add, Nat.zero_add, Nat.add_zero] at h
      simp only [legendre]
      rw [← sectoral_schmidt_full u m]
      linear_combination (t * sectoral false u m) * h
    | more l ih0 ih1 =>
      have h1 : anm false (m + l + 2) m * root (2 * (l + 2 + m) + 1) = anm true (m + l + 2) m * root (2 * (l + 1 + m) + 1) := anm_schmidt_full m (l + 1)
      have h2 := bnm_schmidt_full m l
      simp only [legendre]
      rw [← ih0, ← ih1]
      linear_combination (t * legendre false t u m (l + 1)) * h1 - (legendre false t u m l) * h2
  rw [show 2 * ((m + l : ℕ) : ℝ) + 1 = ((2 * (l + m) + 1 : ℕ) : ℝ) by push_cast; ring]
  exact key l

end GeoVerif.Proofs.Harmonic
