import GeoVerif.Proofs.DMS
/-!
# `DMS::Decode`: NUL bytes, sums of signed pieces, hemisphere / sign rules

For every string of the byte-level model.  A NUL byte survives every stage in front of the component loop, which rejects
it, and `nummatch` does not match it (`internalDecode_nul`).  A string of signed pieces is split back into those pieces
and decodes to their left-to-right binary64 sum (`decode_sum`).  `strip` is taken in stages (`strip_stages`).
-/
namespace GeoVerif.DMSProofs
open GeoVerif GeoVerif.DMS GeoVerif.Gen GeoVerif.Decimal

theorem replaceGo_keeps_nul (pat : Bytes) (c : Nat) (hp : 0 ∉ pat) :
    ∀ (fuel : Nat) (s : Bytes), 0 ∈ s → 0 ∈ replaceGo pat c fuel s := by
  intro fuel
  induction fuel with
  | zero => intro s h; simpa [replaceGo] using h
  | succ fuel ih =>
    intro s h
    unfold replaceGo
    by_cases hpre : pat.isPrefixOf s = true
    · have hd : 0 ∈ s.drop pat.length := by
        obtain ⟨t, ht⟩ := List.isPrefixOf_iff_prefix.mp hpre
        subst ht
        rw [List.drop_left]
        rcases List.mem_append.mp h with h | h
        · exact absurd h hp
        · exact h
      rw [if_pos hpre]
      split
      · exact ih _ hd
      · exact ih _ (List.mem_cons_of_mem _ hd)
    · rw [if_neg hpre]
      cases s with
      | nil => cases h
      | cons x t =>
        simp only
        rcases List.mem_cons.mp h with h | h
        · rw [← h]; exact List.mem_cons_self
        · exact List.mem_cons_of_mem _ (ih t h)

theorem replaceTable_no_nul : ∀ pc ∈ DMSC.replaceTable, 0 ∉ pc.1 := by decide +kernel

theorem replaceAll_inv (P : Bytes → Prop)
    (step : ∀ pc ∈ DMSC.replaceTable, ∀ (fuel : Nat) (s : Bytes), P s → P (replaceGo pc.1 pc.2 fuel s)) :
    ∀ s : Bytes, P s → P (replaceAll s) := by
  unfold replaceAll
  generalize DMSC.replaceTable = tbl at step
  induction tbl with
  | nil => intro s h; exact h
  | cons pc tbl ih =>
    intro s h
    rw [List.foldl_cons]
    refine ih (fun q hq => step q (List.mem_cons_of_mem _ hq)) _ ?_
    unfold replace1
    split
    · exact h
    · exact step pc List.mem_cons_self _ s h

theorem replaceAll_keeps_nul (s : Bytes) (h : 0 ∈ s) : 0 ∈ replaceAll s :=
  replaceAll_inv (0 ∈ ·) (fun pc hpc => replaceGo_keeps_nul pc.1 pc.2 (replaceTable_no_nul pc hpc)) s h

theorem trim_keeps_nul (s : Bytes) (h : 0 ∈ s) : 0 ∈ trim s := by
  unfold trim
  have h0 : isspace 0 = false := by decide
  exact List.mem_reverse.mpr (mem_dropWhile_of_false (List.mem_reverse.mpr (mem_dropWhile_of_false h h0)) h0)

theorem pieces_flatten : ∀ (fuel : Nat) (first : Bool) (t : Bytes), t.length ≤ fuel → (pieces fuel first t).flatten = t := by
  intro fuel
  induction fuel with
  | zero =>
    intro first t h
    have : t = [] := by cases t with | nil => rfl | cons _ _ => simp at h
    subst this; simp [pieces]
  | succ fuel ih =>
    intro first t h
    cases t with
    | nil => simp [pieces]
    | cons c t' =>
      simp only [pieces, List.isEmpty_cons, Bool.false_eq_true, if_false, List.flatten_cons]
      rw [ih]
      · exact List.take_append_drop _ _
      · simp only [List.length_drop, List.length_cons] at h ⊢
        omega

theorem pieces_keep_nul (t : Bytes) (h : 0 ∈ t) : ∃ p ∈ pieces (t.length + 1) true t, 0 ∈ p := by
  have hj := pieces_flatten (t.length + 1) true t (Nat.le_succ _)
  rw [← hj] at h
  obtain ⟨p, hp, h0⟩ := List.mem_flatten.mp h
  exact ⟨p, hp, h0⟩

def stripLead (s : Bytes) : Flag × Bool × Bytes :=
  match s with
  | c :: t => let k := lookup DMSC.hemispheres c
              if k ≥ 0 then (hemiFlag k, hemiNeg k, t) else (Flag.none, false, s)
  | [] => (Flag.none, false, s)

def stripTrail (ind1 : Flag) (neg1 : Bool) (s1 : Bytes) : Except Err (Flag × Bool × Bytes) :=
  match s1.getLast? with
  | some c =>
    let k := lookup DMSC.hemispheres c
    if k ≥ 0 then
      (if ind1 ≠ Flag.none then .error "Repeated or contradictory hemisphere indicators"
       else .ok (hemiFlag k, hemiNeg k, s1.dropLast))
    else .ok (ind1, neg1, s1)
  | Option.none => .ok (ind1, neg1, s1)

def stripSign (neg : Bool) (s2 : Bytes) : Bool × Bytes :=
  match s2 with
  | c :: t => let k := lookup DMSC.signs c
              if k ≥ 0 then ((if k = 0 then !neg else neg), t) else (neg, s2)
  | [] => (neg, s2)

theorem strip_stages (s : Bytes) :
    strip s =
      match stripTrail (stripLead s).1 (stripLead s).2.1 (stripLead s).2.2 with
      | .error e => .error e
      | .ok (ind, neg, s2) =>
        if (stripSign neg s2).2.isEmpty then .error "Empty or incomplete DMS string"
        else .ok ⟨(stripSign neg s2).1, ind, (stripSign neg s2).2⟩ := by
  rfl

theorem ne_zero_of_lookup_nonneg {tbl : Bytes} {c : Nat} (h : lookup tbl c ≥ 0) : c ≠ 0 :=
  ((lookup_nonneg_iff tbl c).mp h).1

theorem stripLead_decomp (s : Bytes) :
    ∃ pre, s = pre ++ (stripLead s).2.2 ∧ ∀ c ∈ pre, c ≠ 0 := by
  cases s with
  | nil => exact ⟨[], rfl, by intro c hc; cases hc⟩
  | cons c t =>
    by_cases hk : lookup DMSC.hemispheres c ≥ 0
    · refine ⟨[c], by simp [stripLead, hk], ?_⟩
      intro x hx
      rw [List.mem_singleton] at hx; subst hx
      exact ne_zero_of_lookup_nonneg hk
    · exact ⟨[], by simp [stripLead, hk], by intro c hc; cases hc⟩

theorem stripTrail_decomp {ind1 : Flag} {neg1 : Bool} {s1 : Bytes} {ind : Flag} {neg : Bool} {s2 : Bytes}
    (h : stripTrail ind1 neg1 s1 = .ok (ind, neg, s2)) :
    ∃ post, s1 = s2 ++ post ∧ ∀ c ∈ post, c ≠ 0 := by
  unfold stripTrail at h
  split at h
  · rename_i c hc
    obtain ⟨ys, hys⟩ := List.getLast?_eq_some_iff.mp hc
    simp only at h
    split at h
    · rename_i hk
      split at h
      · cases h
      · cases h
        refine ⟨[c], ?_, ?_⟩
        · rw [hys, List.dropLast_concat]
        · intro x hx
          rw [List.mem_singleton] at hx; subst hx
          exact ne_zero_of_lookup_nonneg hk
    · cases h
      exact ⟨[], by simp, by intro c hc; cases hc⟩
  · cases h
    exact ⟨[], by simp, by intro c hc; cases hc⟩

theorem stripSign_decomp (neg : Bool) (s2 : Bytes) :
    ∃ pre, s2 = pre ++ (stripSign neg s2).2 ∧ ∀ c ∈ pre, c ≠ 0 := by
  cases s2 with
  | nil => exact ⟨[], rfl, by intro c hc; cases hc⟩
  | cons c t =>
    by_cases hk : lookup DMSC.signs c ≥ 0
    · refine ⟨[c], by simp [stripSign, hk], ?_⟩
      intro x hx
      rw [List.mem_singleton] at hx; subst hx
      exact ne_zero_of_lookup_nonneg hk
    · exact ⟨[], by simp [stripSign, hk], by intro c hc; cases hc⟩

theorem strip_decomp {s : Bytes} {st : Stripped} (h : strip s = .ok st) :
    ∃ pre post, s = pre ++ st.body ++ post ∧ (∀ c ∈ pre, c ≠ 0) ∧ (∀ c ∈ post, c ≠ 0) := by
  rw [strip_stages] at h
  obtain ⟨pre1, e1, n1⟩ := stripLead_decomp s
  split at h
  · cases h
  · rename_i ind neg s2 htr
    obtain ⟨post, e2, n2⟩ := stripTrail_decomp htr
    obtain ⟨pre3, e3, n3⟩ := stripSign_decomp neg s2
    split at h
    · cases h
    · cases h
      refine ⟨pre1 ++ pre3, post, ?_, ?_, n2⟩
      · simp only
        rw [List.append_assoc pre1, ← e3, List.append_assoc, ← e2, ← e1]
      · intro c hc
        rcases List.mem_append.mp hc with hc | hc
        · exact n1 c hc
        · exact n3 c hc

theorem strip_keeps_nul {s : Bytes} {st : Stripped} (h : strip s = .ok st) (h0 : 0 ∈ s) : 0 ∈ st.body := by
  obtain ⟨pre, post, e, n1, n2⟩ := strip_decomp h
  rw [e] at h0
  rcases List.mem_append.mp h0 with h0 | h0
  · rcases List.mem_append.mp h0 with h0 | h0
    · exact absurd rfl (n1 0 h0)
    · exact h0
  · exact absurd rfl (n2 0 h0)

theorem mem_stripTrailing {x c : Nat} {s : Bytes} (hx : x ∈ s) (hne : x ≠ c) : x ∈ stripTrailing c s := by
  unfold stripTrailing
  refine List.mem_reverse.mpr (mem_dropWhile_of_false (p := (· == c)) (List.mem_reverse.mpr hx) ?_)
  simpa using hne

theorem stripTrailing_prefix (c : Nat) (s : Bytes) : stripTrailing c s <+: s := by
  unfold stripTrailing
  have := List.dropWhile_suffix (l := s.reverse) (· == c)
  rw [← List.reverse_prefix, List.reverse_reverse] at this
  exact this

/-- the spellings `Utility::nummatch` compares with (after upper-casing, dropping the sign and trailing zeros) -/
def nummatchLits : List Bytes :=
  [strBytes "NAN", strBytes "1.#QNAN", strBytes "1.#SNAN", strBytes "1.#IND", strBytes "1.#R", strBytes "INF",
    strBytes "1.#INF", strBytes "INFINITY"]

theorem nummatch_none (s : Bytes)
    (h : ∀ l ∈ nummatchLits, (stripTrailing 48 (s.map toupper)).drop
      (if ((s.map toupper).head? == some 45 || (s.map toupper).head? == some 43) = true then 1 else 0) ≠ l) :
    nummatch s = Option.none := by
  simp only [nummatchLits, List.forall_mem_cons, List.not_mem_nil, false_imp_iff, implies_true, and_true] at h
  obtain ⟨h1, h2, h3, h4, h5, h6, h7, h8⟩ := h
  unfold nummatch
  simp only []
  generalize (if ((s.map toupper).head? == some 45 || (s.map toupper).head? == some 43) = true then 1 else 0) = p0 at *
  split
  · rfl
  · split
    · rfl
    · simp [h1, h2, h3, h4, h5, h6, h7, h8]

theorem ite_one_zero_le (c : Prop) [Decidable c] : (if c then 1 else 0) ≤ 1 := by
  by_cases h : c <;> simp [h]

theorem nummatch_nul (s : Bytes) (h : 0 ∈ s) : nummatch s = Option.none := by
  have ht : 0 ∈ s.map toupper := List.mem_map.mpr ⟨0, h, by decide⟩
  have hu : 0 ∈ stripTrailing 48 (s.map toupper) := mem_stripTrailing ht (by decide)
  obtain ⟨r, hr⟩ := stripTrailing_prefix 48 (s.map toupper)
  apply nummatch_none
  generalize hp0 : (if ((s.map toupper).head? == some 45 || (s.map toupper).head? == some 43) = true then 1 else 0) = p0
  have hw : 0 ∈ (stripTrailing 48 (s.map toupper)).drop p0 := by
    cases hU : stripTrailing 48 (s.map toupper) with
    | nil => rw [hU] at hu; cases hu
    | cons a u' =>
      rw [hU] at hu hr
      rw [← hr] at hp0
      simp only [List.cons_append, List.head?_cons] at hp0
      by_cases ha : a = 0
      · subst ha
        have : p0 = 0 := by rw [← hp0]; simp
        subst this; simp
      · have hu' : 0 ∈ u' := by
          rcases List.mem_cons.mp hu with h | h
          · exact absurd h.symm ha
          · exact h
        have hle : p0 ≤ 1 := by rw [← hp0]; exact ite_one_zero_le _
        match p0, hle with
        | 0, _ => exact hu
        | 1, _ => simpa using hu'
  exact fun l hl e => (by decide : ∀ l ∈ nummatchLits, 0 ∉ l) l hl (e ▸ hw)

theorem parseFields_nul (p : Bytes) (h : 0 ∈ p) : ∃ e, parseFields p = .error e := by
  unfold parseFields
  cases hs : strip p with
  | error e => exact ⟨e, rfl⟩
  | ok st =>
    obtain ⟨e, he⟩ := comps_nul 4 0 {} st.body (strip_keeps_nul hs h)
    simp only [he]
    exact ⟨e, rfl⟩

theorem internalDecode_nul (p : Bytes) (h : 0 ∈ p) : ∃ e, internalDecode p = .error e := by
  obtain ⟨e, he⟩ := parseFields_nul p h
  unfold internalDecode
  simp only [he, nummatch_nul p h]
  exact ⟨e, rfl⟩

theorem sumPieces_error_of_mem (ps : List Bytes) (h : ∃ p ∈ ps, ∃ e, internalDecode p = .error e) :
    ∀ (v : F64) (ind : Flag), ∃ e, sumPieces ps v ind = .error e := by
  induction ps with
  | nil => obtain ⟨p, hp, _⟩ := h; cases hp
  | cons q ps ih =>
    intro v ind
    unfold sumPieces
    cases hq : internalDecode q with
    | error e => exact ⟨e, rfl⟩
    | ok x =>
      obtain ⟨x1, x2⟩ := x
      simp only
      cases hc : combineFlags ind x2 with
      | error e => exact ⟨e, rfl⟩
      | ok ind' =>
        simp only
        apply ih
        obtain ⟨p, hp, e, he⟩ := h
        rcases List.mem_cons.mp hp with hp | hp
        · subst hp; rw [hq] at he; cases he
        · exact ⟨p, hp, e, he⟩

def foldFlags : List Flag → Flag → Except Err Flag
  | [], i => .ok i
  | f :: fs, i => match combineFlags i f with | .error e => .error e | .ok i' => foldFlags fs i'

theorem sumPieces_ok (ps : List Bytes) (xs : List (F64 × Flag)) :
    ps.map internalDecode = xs.map Except.ok →
    ∀ (v : F64) (ind : Flag),
    sumPieces ps v ind =
      match foldFlags (xs.map (·.2)) ind with
      | .error e => .error e
      | .ok f => .ok ((xs.map (·.1)).foldl F64.add v, f) := by
  induction ps generalizing xs with
  | nil =>
    intro h v ind
    cases xs with
    | nil => rfl
    | cons _ _ => simp at h
  | cons p ps ih =>
    intro h v ind
    cases xs with
    | nil => simp at h
    | cons x xs =>
      simp only [List.map_cons, List.cons.injEq] at h
      obtain ⟨hpx, hrest⟩ := h
      obtain ⟨x1, x2⟩ := x
      simp only [sumPieces, hpx, List.map_cons, foldFlags, List.foldl_cons]
      cases hc : combineFlags ind x2 with
      | error e => rfl
      | ok ind' => exact ih xs hrest _ _

theorem isSignRaw_iff (c : Nat) : isSignRaw c = true ↔ (c = 45 ∨ c = 43) := by
  simp [isSignRaw, DMSC.signs]

theorem isSign_eq_isSignRaw (c : Nat) : isSign c = isSignRaw c := by
  have h1 := isSign_iff c
  have h2 := isSignRaw_iff c
  cases ha : isSign c <;> cases hb : isSignRaw c <;> simp_all

theorem isHemi_of_isSign {c : Nat} (h : isSign c = true) : isHemi c = false := by
  rcases (isSign_iff c).mp h with rfl | rfl <;> rfl

def SignStart (R : Bytes) : Prop := ∀ c t, R = c :: t → isSignRaw c = true

def LaterPiece (p : Bytes) : Prop :=
  ∃ c body, p = c :: body ∧ isSignRaw c = true ∧ ∀ x ∈ body, isSignRaw x = false

/-- optional hemisphere letter, optional sign, sign-free text; not empty, not ending right after the
    hemisphere letter, and the decomposition is the greedy one (no letter taken ⇒ the text does not start with one) -/
def FirstPiece (p : Bytes) : Prop :=
  ∃ (h sg : Option Nat) (body : Bytes), p = h.toList ++ (sg.toList ++ body) ∧
    (∀ c ∈ h, isHemi c = true) ∧ (∀ c ∈ sg, isSign c = true) ∧
    (∀ x ∈ body, isSignRaw x = false) ∧
    (sg = none → body ≠ []) ∧
    (h = none → sg = none → ∀ c ∈ body.head?, isHemi c = false)

theorem FirstPiece.unsigned (b : Nat) (body : Bytes) (hh : isHemi b = false) (hraw : ∀ x ∈ b :: body, isSignRaw x = false) :
    FirstPiece (b :: body) :=
  ⟨none, none, b :: body, rfl, (by intro c hc; cases hc), (by intro c hc; cases hc), hraw, (by intro _; simp),
    (by intro _ _ c hc; cases hc; exact hh)⟩

theorem FirstPiece.signed (sg : Nat) (body : Bytes) (hs : isSign sg = true) (hraw : ∀ x ∈ body, isSignRaw x = false) :
    FirstPiece (sg :: body) :=
  ⟨none, some sg, body, rfl, (by intro c hc; cases hc), (by intro c hc; cases hc; exact hs), hraw, (by intro h; cases h),
    (by intro _ h; cases h)⟩

theorem takeWhile_body (body R : Bytes) (hb : ∀ x ∈ body, isSignRaw x = false) (hR : SignStart R) :
    (body ++ R).takeWhile (fun c => !isSignRaw c) = body :=
  takeWhile_append_stop body R (by intro x hx; simp [hb x hx]) (by intro c t h; simp [hR c t h])

theorem pieceLen_later (c : Nat) (body R : Bytes) (hb : ∀ x ∈ body, isSignRaw x = false) (hR : SignStart R) :
    pieceLen false ((c :: body) ++ R) = (c :: body).length := by
  simp only [pieceLen, Bool.false_and, Bool.false_eq_true, if_false, Bool.not_false, Bool.true_or, if_true,
    List.cons_append, Nat.zero_add, List.drop_succ_cons, List.drop_zero, List.length_cons]
  rw [takeWhile_body body R hb hR]
  omega

theorem pieceLen_hemi_sign (c s : Nat) (u : Bytes) (hc : isHemi c = true) (hs : isSign s = true) :
    pieceLen true (c :: s :: u) = 2 + (u.takeWhile fun c => !isSignRaw c).length := by
  simp [pieceLen, hc, hs] <;> omega

theorem pieceLen_hemi_nosign (c x : Nat) (u : Bytes) (hc : isHemi c = true) (hx : isSign x = false) :
    pieceLen true (c :: x :: u) = 1 + ((x :: u).takeWhile fun c => !isSignRaw c).length := by
  simp [pieceLen, hc, hx] <;> omega

theorem pieceLen_sign (s : Nat) (u : Bytes) (hc : isHemi s = false) (hs : isSign s = true) :
    pieceLen true (s :: u) = 1 + (u.takeWhile fun c => !isSignRaw c).length := by
  simp [pieceLen, hc, hs] <;> omega

theorem pieceLen_plain (b : Nat) (u : Bytes) (hc : isHemi b = false) (hs : isSign b = false) :
    pieceLen true (b :: u) = ((b :: u).takeWhile fun c => !isSignRaw c).length := by
  simp [pieceLen, hc, hs]

theorem pieceLen_first (p R : Bytes) (hp : FirstPiece p) (hR : SignStart R) :
    pieceLen true (p ++ R) = p.length := by
  obtain ⟨h, sg, body, rfl, hh, hsg, hb, hne, hgreedy⟩ := hp
  have tw := takeWhile_body body R hb hR
  cases h with
  | some c =>
    have hc : isHemi c = true := hh c rfl
    cases sg with
    | some s =>
      have hs : isSign s = true := hsg s rfl
      show pieceLen true (c :: s :: (body ++ R)) = (c :: s :: body).length
      rw [pieceLen_hemi_sign c s _ hc hs, tw]
      simp only [List.length_cons]; omega
    | none =>
      cases body with
      | nil => exact absurd rfl (hne rfl)
      | cons b body' =>
        have hbs : isSign b = false := by rw [isSign_eq_isSignRaw]; exact hb b List.mem_cons_self
        show pieceLen true (c :: b :: (body' ++ R)) = (c :: b :: body').length
        rw [pieceLen_hemi_nosign c b _ hc hbs]
        show 1 + (List.takeWhile (fun c => !isSignRaw c) (b :: body' ++ R)).length = _
        rw [tw]
        simp only [List.length_cons]; omega
  | none =>
    cases sg with
    | some s =>
      have hs : isSign s = true := hsg s rfl
      show pieceLen true (s :: (body ++ R)) = (s :: body).length
      rw [pieceLen_sign s _ (isHemi_of_isSign hs) hs, tw]
      simp only [List.length_cons]; omega
    | none =>
      cases body with
      | nil => exact absurd rfl (hne rfl)
      | cons b body' =>
        have hbs : isSign b = false := by rw [isSign_eq_isSignRaw]; exact hb b List.mem_cons_self
        have hbh : isHemi b = false := hgreedy rfl rfl b rfl
        show pieceLen true (b :: (body' ++ R)) = (b :: body').length
        rw [pieceLen_plain b _ hbh hbs]
        show (List.takeWhile (fun c => !isSignRaw c) (b :: body' ++ R)).length = _
        rw [tw]

theorem pieces_step (fuel : Nat) (first : Bool) (p R : Bytes) (hp : p ≠ [])
    (hlen : pieceLen first (p ++ R) = p.length) :
    pieces (fuel + 1) first (p ++ R) = p :: pieces fuel false R := by
  have hne : (p ++ R).isEmpty = false := by cases p with | nil => exact absurd rfl hp | cons _ _ => rfl
  have hpl : 1 ≤ p.length := by cases p with | nil => exact absurd rfl hp | cons _ _ => simp
  have hn : max 1 (min (pieceLen first (p ++ R)) (p ++ R).length) = p.length := by
    rw [hlen, List.length_append]; omega
  simp only [pieces, hne, Bool.false_eq_true, if_false, hn, List.take_left', List.drop_left']

theorem laterPiece_ne_nil {p : Bytes} (h : LaterPiece p) : p ≠ [] := by
  obtain ⟨c, body, rfl, _, _⟩ := h; simp

theorem firstPiece_ne_nil {p : Bytes} (h : FirstPiece p) : p ≠ [] := by
  obtain ⟨h, sg, body, rfl, _, _, _, hne, _⟩ := h
  cases sg with
  | none => have := hne rfl; simp [this]
  | some s => simp

theorem signStart_flatten (ps : List Bytes) (h : ∀ p ∈ ps, LaterPiece p) : SignStart ps.flatten := by
  intro c t e
  cases ps with
  | nil => simp at e
  | cons q ps' =>
    obtain ⟨c', body, rfl, hc', _⟩ := h q List.mem_cons_self
    simp only [List.flatten_cons, List.cons_append, List.cons.injEq] at e
    rw [← e.1]; exact hc'

theorem pieces_nil (fuel : Nat) (first : Bool) : pieces fuel first [] = [] := by
  cases fuel <;> simp [pieces]

theorem pieces_later (ps : List Bytes) (h : ∀ p ∈ ps, LaterPiece p) :
    ∀ fuel, ps.flatten.length ≤ fuel → pieces fuel false ps.flatten = ps := by
  induction ps with
  | nil => intro fuel _; exact pieces_nil fuel false
  | cons q ps ih =>
    intro fuel hf
    have hq := h q List.mem_cons_self
    have hps : ∀ p ∈ ps, LaterPiece p := fun p hp => h p (List.mem_cons_of_mem _ hp)
    have hqne := laterPiece_ne_nil hq
    have hql : 1 ≤ q.length := by cases q with | nil => exact absurd rfl hqne | cons _ _ => simp
    simp only [List.flatten_cons, List.length_append] at hf ⊢
    obtain ⟨f, rfl⟩ : ∃ f, fuel = f + 1 := ⟨fuel - 1, by omega⟩
    obtain ⟨c, body, rfl, _, hb⟩ := hq
    rw [pieces_step f false _ _ hqne (pieceLen_later c body _ hb (signStart_flatten ps hps))]
    rw [ih hps f (by omega)]

theorem pieces_split (p1 : Bytes) (rest : List Bytes) (h1 : FirstPiece p1) (hr : ∀ p ∈ rest, LaterPiece p)
    (fuel : Nat) (hf : (p1 :: rest).flatten.length ≤ fuel) :
    pieces fuel true (p1 :: rest).flatten = p1 :: rest := by
  have hne := firstPiece_ne_nil h1
  have hl : 1 ≤ p1.length := by cases p1 with | nil => exact absurd rfl hne | cons _ _ => simp
  simp only [List.flatten_cons, List.length_append] at hf ⊢
  obtain ⟨f, rfl⟩ : ∃ f, fuel = f + 1 := ⟨fuel - 1, by omega⟩
  rw [pieces_step f true _ _ hne (pieceLen_first p1 _ h1 (signStart_flatten rest hr))]
  rw [pieces_later rest hr f (by omega)]

theorem decode_sum (p1 : Bytes) (rest : List Bytes) (h1 : FirstPiece p1) (hr : ∀ p ∈ rest, LaterPiece p)
    (hrep : replaceAll (p1 :: rest).flatten = (p1 :: rest).flatten)
    (htrim : trim (p1 :: rest).flatten = (p1 :: rest).flatten) :
    decode (p1 :: rest).flatten = sumPieces (p1 :: rest) F64.nzero Flag.none := by
  unfold decode
  simp only [hrep, htrim]
  rw [pieces_split p1 rest h1 hr _ (Nat.le_succ _)]
  rfl

-- the example of the documentation, `S3-2.5+4.1N`
theorem example_first : FirstPiece (strBytes "S3") :=
  ⟨some 83, none, [51], (by decide), (by intro c hc; cases hc; decide), (by intro c hc; cases hc), (by decide),
    (by intro _; simp), (by intro h; cases h)⟩

theorem example_later : ∀ p ∈ [strBytes "-2.5", strBytes "+4.1N"], LaterPiece p := by
  intro p hp
  simp only [List.mem_cons, List.not_mem_nil, or_false] at hp
  rcases hp with rfl | rfl
  · exact ⟨45, strBytes "2.5", by decide, by decide, by decide⟩
  · exact ⟨43, strBytes "4.1N", by decide, by decide, by decide⟩

example : pieces 12 true (strBytes "S3-2.5+4.1N") = [strBytes "S3", strBytes "-2.5", strBytes "+4.1N"] :=
  pieces_split (strBytes "S3") [strBytes "-2.5", strBytes "+4.1N"] example_first example_later 12 (by decide)

example : decode (strBytes "S3-2.5+4.1N") =
    sumPieces [strBytes "S3", strBytes "-2.5", strBytes "+4.1N"] F64.nzero Flag.none :=
  decode_sum (strBytes "S3") [strBytes "-2.5", strBytes "+4.1N"] example_first example_later
    (by decide +kernel) (by decide +kernel)

theorem isHemi_true_iff (c : Nat) : isHemi c = true ↔ lookup DMSC.hemispheres c ≥ 0 := by simp [isHemi]
theorem isSign_true_iff (c : Nat) : isSign c = true ↔ lookup DMSC.signs c ≥ 0 := by simp [isSign]

theorem stripLead_hemi (c : Nat) (t : Bytes) (h : isHemi c = true) :
    stripLead (c :: t) = (hemiFlag (lookup DMSC.hemispheres c), hemiNeg (lookup DMSC.hemispheres c), t) := by
  have := (isHemi_true_iff c).mp h
  simp [stripLead, this]

theorem stripLead_nohemi (c : Nat) (t : Bytes) (h : isHemi c = false) :
    stripLead (c :: t) = (Flag.none, false, c :: t) := by
  have : ¬ lookup DMSC.hemispheres c ≥ 0 := by rw [← isHemi_true_iff, h]; simp
  simp only [stripLead, this, if_false]

theorem stripTrail_nohemi (ind : Flag) (neg : Bool) (s : Bytes) (h : ∀ c ∈ s.getLast?, isHemi c = false) :
    stripTrail ind neg s = .ok (ind, neg, s) := by
  unfold stripTrail
  split
  · rename_i c hc
    have : ¬ lookup DMSC.hemispheres c ≥ 0 := by rw [← isHemi_true_iff, h c hc]; simp
    simp only [this, if_false]
  · rfl

theorem stripTrail_hemi (ind : Flag) (neg : Bool) (s : Bytes) (c : Nat) (h : isHemi c = true) :
    stripTrail ind neg (s ++ [c]) =
      if ind ≠ Flag.none then .error "Repeated or contradictory hemisphere indicators"
      else .ok (hemiFlag (lookup DMSC.hemispheres c), hemiNeg (lookup DMSC.hemispheres c), s) := by
  have := (isHemi_true_iff c).mp h
  simp only [stripTrail, List.getLast?_concat, this, if_true, List.dropLast_concat]

theorem stripSign_sign (neg : Bool) (c : Nat) (t : Bytes) (h : isSign c = true) :
    stripSign neg (c :: t) = ((if lookup DMSC.signs c = 0 then !neg else neg), t) := by
  have := (isSign_true_iff c).mp h
  simp only [stripSign, this, if_true]

theorem stripSign_nosign (neg : Bool) (c : Nat) (t : Bytes) (h : isSign c = false) :
    stripSign neg (c :: t) = (neg, c :: t) := by
  have : ¬ lookup DMSC.signs c ≥ 0 := by rw [← isSign_true_iff, h]; simp
  simp only [stripSign, this, if_false]

theorem hemiFlag_ne_none (k : Int) : hemiFlag k ≠ Flag.none := by
  unfold hemiFlag; split <;> simp

theorem getLast?_cons_of_ne_nil (c : Nat) (body : Bytes) (h : body ≠ []) : (c :: body).getLast? = body.getLast? := by
  cases body with
  | nil => exact absurd rfl h
  | cons b t => simp [List.getLast?_cons_cons]

theorem strip_leading_sign (sg : Nat) (body : Bytes) (hs : isSign sg = true) (hne : body ≠ [])
    (hlast : ∀ c ∈ body.getLast?, isHemi c = false) :
    strip (sg :: body) = .ok ⟨(if lookup DMSC.signs sg = 0 then true else false), Flag.none, body⟩ := by
  have hb : body.isEmpty = false := by cases body with | nil => exact absurd rfl hne | cons _ _ => rfl
  rw [strip_stages, stripLead_nohemi sg _ (isHemi_of_isSign hs)]
  simp only
  rw [stripTrail_nohemi _ _ _ (by rw [getLast?_cons_of_ne_nil sg body hne]; exact hlast)]
  simp only [stripSign_sign _ sg body hs, hb, Bool.false_eq_true, if_false, Bool.not_false]

theorem strip_unsigned (b : Nat) (body : Bytes) (hbh : isHemi b = false) (hbs : isSign b = false)
    (hlast : ∀ c ∈ (b :: body).getLast?, isHemi c = false) :
    strip (b :: body) = .ok ⟨false, Flag.none, b :: body⟩ := by
  rw [strip_stages, stripLead_nohemi b _ hbh]
  simp only
  rw [stripTrail_nohemi _ _ _ hlast]
  simp only [stripSign_nosign _ b body hbs]
  rfl

theorem strip_internal_sign_not_removed (body : Bytes) (hne : body ≠ []) (hlast : ∀ c ∈ body.getLast?, isHemi c = false) :
    strip (45 :: 45 :: body) = .ok ⟨true, Flag.none, 45 :: body⟩ :=
  strip_leading_sign 45 (45 :: body) rfl (by simp) (by rw [getLast?_cons_of_ne_nil 45 body hne]; exact hlast)

theorem number_sign_head (body : Bytes) : number (45 :: body) = ({}, 45 :: body) := by
  have h : digitVal 45 = Option.none := by decide
  simp only [number, scanDigits, h]

theorem comps_internal_sign (f np : Nat) (sl : Slots) (body : Bytes) :
    comps (f + 1) np sl (45 :: body) = .error "Internal sign" := by
  have hk : lookup DMSC.dmsindicators 45 < 0 := by decide
  have hs : isSign 45 = true := by decide
  rw [comps, number_sign_head]
  dsimp only
  rw [if_neg (by decide), if_pos hk, if_pos hs]

theorem parseFields_double_sign (body : Bytes) (hne : body ≠ []) (hlast : ∀ c ∈ body.getLast?, isHemi c = false) :
    parseFields (45 :: 45 :: body) = .error "Internal sign" := by
  simp only [parseFields, strip_internal_sign_not_removed body hne hlast, comps_internal_sign]

theorem strip_trailing_hemi (b hemi : Nat) (body : Bytes) (hbh : isHemi b = false) (hbs : isSign b = false)
    (hh : isHemi hemi = true) :
    strip (b :: (body ++ [hemi])) =
      .ok ⟨hemiNeg (lookup DMSC.hemispheres hemi), hemiFlag (lookup DMSC.hemispheres hemi), b :: body⟩ := by
  rw [strip_stages, stripLead_nohemi b _ hbh]
  simp only
  rw [← List.cons_append, stripTrail_hemi _ _ (b :: body) hemi hh]
  simp only [ne_eq, not_true_eq_false, if_false, stripSign_nosign _ b body hbs]
  rfl

theorem nummatch_double_sign (body : Bytes) : nummatch (45 :: 45 :: body) = Option.none := by
  apply nummatch_none
  obtain ⟨r, hr⟩ := stripTrailing_prefix 48 ((45 :: 45 :: body).map toupper)
  have hw : ∀ u : Bytes, u ++ r = 45 :: 45 :: body.map toupper → (u.drop 1).head? = none ∨ (u.drop 1).head? = some 45 := by
    intro u hu
    match u, hu with
    | [], _ => exact Or.inl rfl
    | [_], _ => exact Or.inl rfl
    | _ :: b :: _, hu =>
      simp only [List.cons_append, List.cons.injEq] at hu
      exact Or.inr (by rw [hu.2.1]; rfl)
  intro l hl e
  have := (by decide : ∀ l ∈ nummatchLits, l.head? ≠ none ∧ l.head? ≠ some 45) l hl
  rcases hw _ hr with h | h
  · exact this.1 (e ▸ h)
  · exact this.2 (e ▸ h)

end GeoVerif.DMSProofs
