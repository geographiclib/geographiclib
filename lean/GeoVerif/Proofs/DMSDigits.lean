import GeoVerif.Proofs.DMS
/-!
# Digit strings of the formatter (`%.0f`, `%.*f`, `to_string`, zero fill): only digits, right widths, right values
-/
namespace GeoVerif.DMSProofs
open GeoVerif GeoVerif.DMS GeoVerif.Gen GeoVerif.Decimal

theorem isDigit_toNat {c : Char} (h : c.isDigit = true) : IsDigit c.toNat := by
  simp only [Char.isDigit, Bool.and_eq_true, decide_eq_true_eq] at h
  obtain ⟨h1, h2⟩ := h
  have a := UInt32.le_iff_toNat_le.mp h1
  have b := UInt32.le_iff_toNat_le.mp h2
  exact ⟨a, b⟩

theorem AllDigits.nil : AllDigits [] := by intro c hc; cases hc
theorem AllDigits.append {a b : Bytes} (ha : AllDigits a) (hb : AllDigits b) : AllDigits (a ++ b) := by
  intro c hc
  rcases List.mem_append.mp hc with h | h
  · exact ha c h
  · exact hb c h
theorem AllDigits.zeros (k : Nat) : AllDigits (List.replicate k 48) := by
  intro c hc
  have := (List.mem_replicate.mp hc).2
  subst this; exact ⟨by omega, by omega⟩
theorem AllDigits.take {a : Bytes} (ha : AllDigits a) (k : Nat) : AllDigits (a.take k) :=
  fun c hc => ha c (List.mem_of_mem_take hc)
theorem AllDigits.drop {a : Bytes} (ha : AllDigits a) (k : Nat) : AllDigits (a.drop k) :=
  fun c hc => ha c (List.mem_of_mem_drop hc)

theorem digitBytes_allDigits (n : Nat) : AllDigits (digitBytes n) := by
  intro c hc
  simp only [digitBytes, List.mem_map] at hc
  obtain ⟨ch, hm, rfl⟩ := hc
  exact isDigit_toNat (Nat.isDigit_of_mem_toDigits (by decide) (by decide) hm)

theorem digitBytes_ne_nil (n : Nat) : digitBytes n ≠ [] := by
  simp [digitBytes]

theorem digitBytes_length_le (n k : Nat) (hk : 0 < k) : (digitBytes n).length ≤ k ↔ n < 10 ^ k := by
  simp only [digitBytes, List.length_map]
  exact Nat.length_toDigits_le_iff (by decide) hk

theorem digitsVal_map (v : Nat) (cs : List Char) : digitsVal v (cs.map Char.toNat) = Nat.ofDigitChars 10 cs v := by
  simp only [digitsVal, Nat.ofDigitChars, List.foldl_map]
  rfl

theorem digitsVal_digitBytes (n : Nat) : digitsVal 0 (digitBytes n) = n := by
  rw [digitBytes, digitsVal_map]; exact Nat.ofDigitChars_ten_toDigits

theorem digitsVal_append (v : Nat) (a b : Bytes) : digitsVal v (a ++ b) = digitsVal (digitsVal v a) b := by
  simp only [digitsVal, List.foldl_append]

theorem digitsVal_shift (v : Nat) (ds : Bytes) : digitsVal v ds = v * 10 ^ ds.length + digitsVal 0 ds := by
  induction ds generalizing v with
  | nil => simp [digitsVal]
  | cons c t ih =>
    rw [digitsVal_cons, digitsVal_cons, ih, ih (10 * 0 + (c - 48))]
    simp only [List.length_cons, Nat.pow_succ]
    have : (10 * v + (c - 48)) * 10 ^ t.length = v * (10 ^ t.length * 10) + (10 * 0 + (c - 48)) * 10 ^ t.length := by
      rw [Nat.add_mul, Nat.add_mul]; simp only [Nat.mul_zero, Nat.zero_mul, Nat.zero_add]
      congr 1
      rw [Nat.mul_comm 10 v, Nat.mul_assoc, Nat.mul_comm 10]
    omega

theorem digitsVal_zeros (k : Nat) : digitsVal 0 (List.replicate k 48) = 0 := by
  induction k with
  | zero => rfl
  | succ k ih => rw [List.replicate_succ, digitsVal_cons]; exact ih

theorem digitsVal_lt_aux (ds : Bytes) (h : AllDigits ds) (v : Nat) : digitsVal v ds < (v + 1) * 10 ^ ds.length := by
  induction ds generalizing v with
  | nil => simp [digitsVal]
  | cons c t ih =>
    have hc : IsDigit c := h c (by simp)
    have ht : AllDigits t := fun x hx => h x (by simp [hx])
    rw [digitsVal_cons]
    have h1 := ih ht (10 * v + (c - 48))
    have h2 : (10 * v + (c - 48) + 1) * 10 ^ t.length ≤ ((v + 1) * 10) * 10 ^ t.length := by
      apply Nat.mul_le_mul_right
      unfold IsDigit at hc; omega
    simp only [List.length_cons, Nat.pow_succ]
    rw [Nat.mul_comm (10 ^ t.length) 10, ← Nat.mul_assoc]
    omega

theorem digitsVal_lt (ds : Bytes) (h : AllDigits ds) : digitsVal 0 ds < 10 ^ ds.length := by
  have := digitsVal_lt_aux ds h 0
  simpa using this

theorem digitsVal_zfill (k : Nat) (ds : Bytes) : digitsVal 0 (List.replicate k 48 ++ ds) = digitsVal 0 ds := by
  rw [digitsVal_append, digitsVal_zeros]

theorem padDigits_allDigits (w n : Nat) : AllDigits (padDigits w n) :=
  (AllDigits.zeros _).append (digitBytes_allDigits n)

theorem padDigits_length (w n : Nat) : (padDigits w n).length = max w (digitBytes n).length := by
  simp only [padDigits, List.length_append, List.length_replicate]; omega

theorem padDigits_val (w n : Nat) : digitsVal 0 (padDigits w n) = n := by
  simp only [padDigits]; rw [digitsVal_zfill, digitsVal_digitBytes]

theorem padDigits_length_eq (w n : Nat) (hw : 0 < w) (hn : n < 10 ^ w) : (padDigits w n).length = w := by
  rw [padDigits_length]
  have := (digitBytes_length_le n w hw).mpr hn
  omega

theorem digitsVal_take_drop (ds : Bytes) (h : AllDigits ds) (p : Nat) (hp : p ≤ ds.length) :
    digitsVal 0 (ds.take (ds.length - p)) = digitsVal 0 ds / 10 ^ p ∧
    digitsVal 0 (ds.drop (ds.length - p)) = digitsVal 0 ds % 10 ^ p := by
  have hsplit : ds = ds.take (ds.length - p) ++ ds.drop (ds.length - p) := (List.take_append_drop _ _).symm
  have hlen : (ds.drop (ds.length - p)).length = p := by simp only [List.length_drop]; omega
  have hv : digitsVal 0 ds = digitsVal 0 (ds.take (ds.length - p)) * 10 ^ p + digitsVal 0 (ds.drop (ds.length - p)) := by
    conv => lhs; rw [hsplit]
    rw [digitsVal_append, digitsVal_shift, hlen]
  have hlt := digitsVal_lt _ (h.drop (ds.length - p))
  rw [hlen] at hlt
  have hpos : 0 < 10 ^ p := Nat.pow_pos (by decide)
  constructor
  · rw [hv, Nat.add_comm, Nat.add_mul_div_right _ _ hpos, Nat.div_eq_of_lt hlt, Nat.zero_add]
  · rw [hv, Nat.add_comm, Nat.add_mul_mod_self_right, Nat.mod_eq_of_lt hlt]

theorem unitsToFixed_shape (N p : Nat) :
    ∃ I F : Bytes, unitsToFixed N p = I ++ (if p = 0 then [] else 46 :: F) ∧ AllDigits I ∧ I ≠ [] ∧ AllDigits F ∧
      F.length = p ∧ digitsVal 0 I = N / 10 ^ p ∧ digitsVal 0 F = N % 10 ^ p := by
  by_cases hp : p = 0
  · subst hp
    refine ⟨padDigits 1 N, [], ?_, padDigits_allDigits _ _, ?_, AllDigits.nil, rfl, ?_, ?_⟩
    · simp [unitsToFixed]
    · intro h
      have := padDigits_length 1 N
      rw [h] at this; simp at this; omega
    · rw [padDigits_val]; simp
    · simp [digitsVal, Nat.mod_one]
  · have hall := padDigits_allDigits (p + 1) N
    have hlen : p + 1 ≤ (padDigits (p + 1) N).length := by rw [padDigits_length]; omega
    obtain ⟨h1, h2⟩ := digitsVal_take_drop _ hall p (by omega)
    rw [padDigits_val] at h1 h2
    refine ⟨(padDigits (p + 1) N).take ((padDigits (p + 1) N).length - p),
      (padDigits (p + 1) N).drop ((padDigits (p + 1) N).length - p), ?_, hall.take _, ?_, hall.drop _, ?_, h1, h2⟩
    · simp only [unitsToFixed, hp, if_false, List.append_assoc, List.singleton_append]
    · intro h
      have := congrArg List.length h
      simp only [List.length_take, List.length_nil] at this
      omega
    · simp only [List.length_drop]; omega

theorem fracText_shape (u p : Nat) :
    ∃ F : Bytes, fracText u p = (if p = 0 then [] else 46 :: F) ∧ AllDigits F ∧ F.length = p ∧ digitsVal 0 F = u % 10 ^ p := by
  by_cases hp : p = 0
  · subst hp; exact ⟨[], by simp [fracText], AllDigits.nil, rfl, by simp [digitsVal, Nat.mod_one]⟩
  · refine ⟨padDigits p (u % 10 ^ p), by simp [fracText, hp], padDigits_allDigits _ _, ?_, padDigits_val _ _⟩
    exact padDigits_length_eq _ _ (by omega) (Nat.mod_lt _ (Nat.pow_pos (by decide)))

end GeoVerif.DMSProofs
