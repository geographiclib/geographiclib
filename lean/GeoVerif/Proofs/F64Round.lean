import GeoVerif.Proofs.Round53
/-!
From `IsRN` to the `F64` operations: `F64.rnd` without overflow, finite `add` / `sub` / `mul`, `floor`, and "one correctly
rounded operation, then floor" (`floor_of_isRN`).
-/
namespace GeoVerif
open Dy

namespace Dy

theorem int_ediv_spec (N D : ℤ) (hD : 0 < D) : ((N / D : ℤ) : ℚ) ≤ (N:ℚ) / D ∧ (N:ℚ) / D < ((N / D : ℤ) : ℚ) + 1 := by
  have hDq : (0:ℚ) < D := by exact_mod_cast hD
  constructor
  · rw [le_div_iff₀ hDq]; exact_mod_cast Int.ediv_mul_le N hD.ne'
  · rw [div_lt_iff₀ hDq]; exact_mod_cast Int.lt_ediv_add_one_mul_self N hD

theorem floor_spec (x : Dy) : ((Dy.floor x : ℤ) : ℚ) ≤ x.val ∧ x.val < ((Dy.floor x : ℤ) : ℚ) + 1 := by
  unfold Dy.floor
  by_cases h : x.e ≥ 0
  · rw [if_pos h, shl_cast _ _ h]
    unfold val
    constructor <;> linarith
  · -- `x.val = m / 2^k` with `k = −e`, and integer division is the floor
    rw [if_neg h]
    have hv : (x.m:ℚ) / ((2 ^ (-x.e).toNat : ℤ) : ℚ) = x.val := by
      rw [val, two_zpow_of_nonpos (by omega), div_eq_mul_inv]; push_cast; rfl
    rw [← hv]
    exact int_ediv_spec x.m _ (by positivity)

theorem floor_unique (x : Dy) (n : ℤ) (h1 : (n:ℚ) ≤ x.val) (h2 : x.val < (n:ℚ) + 1) : Dy.floor x = n := by
  obtain ⟨f1, f2⟩ := floor_spec x
  have a' : n < Dy.floor x + 1 := by exact_mod_cast lt_of_le_of_lt h1 f2
  have b' : Dy.floor x < n + 1 := by exact_mod_cast lt_of_le_of_lt f1 h2
  omega

theorem floor_congr (x y : Dy) (h : x.val = y.val) : Dy.floor x = Dy.floor y :=
  floor_unique x _ (h ▸ (floor_spec y).1) (h ▸ (floor_spec y).2)

theorem floor_mono (x y : Dy) (h : x.val ≤ y.val) : Dy.floor x ≤ Dy.floor y := by
  have : Dy.floor x < Dy.floor y + 1 := by
    exact_mod_cast lt_of_le_of_lt ((floor_spec x).1.trans h) (floor_spec y).2
  omega

end Dy

theorem F64.big_of_le {r : ℚ} (h : |r| ≤ 2 ^ 52) : |r| < (2:ℚ) ^ (1024:ℤ) :=
  lt_of_le_of_lt h (by rw [← zpow_natCast]; exact Dy.two_zpow_lt_iff.mpr (by norm_num))

namespace IsRN

theorem eq_of_fits {z r : ℚ} (h : IsRN 53 (-1074) z r) (g s : ℤ) (hg : |g| ≤ 2 ^ 53) (hs : -1074 ≤ s)
    (hz : z = (g:ℚ) * (2:ℚ) ^ s) : r = z := h.eq_self_of_fits (by norm_num) g s hg hs hz

theorem int53 (n : ℤ) (hn : |n| ≤ 2 ^ 53) : IsRN 53 (-1074) (n:ℚ) (n:ℚ) := by
  simpa using self_of_fits (p := 53) (by norm_num) (emin := -1074) n 0 hn (by norm_num)

theorem int_le {z r : ℚ} (h : IsRN 53 (-1074) z r) (n : ℤ) (hn : |n| ≤ 2 ^ 53) (hz : (n:ℚ) ≤ z) : (n:ℚ) ≤ r :=
  mono (by norm_num) (int53 n hn) h hz

theorem le_int {z r : ℚ} (h : IsRN 53 (-1074) z r) (n : ℤ) (hn : |n| ≤ 2 ^ 53) (hz : z ≤ (n:ℚ)) : r ≤ (n:ℚ) :=
  mono (by norm_num) h (int53 n hn) hz

theorem lt_huge {z r : ℚ} (h : IsRN 53 (-1074) z r) (hz : |z| ≤ 2 ^ 52) : |r| < (2:ℚ) ^ (1024:ℤ) := by
  have hPa := abs_le.mp hz
  have r2 := h.le_int (2 ^ 52) (by norm_num) (by push_cast; exact hPa.2)
  have r1 := h.int_le (-(2 ^ 52)) (by norm_num) (by push_cast; exact hPa.1)
  push_cast at r1 r2
  exact F64.big_of_le (abs_le.mpr ⟨r1, r2⟩)

end IsRN

namespace F64

theorem overflow_false_of_lt (d : Dy) (h : |d.val| < (2:ℚ) ^ (1024:ℤ)) : overflow d = false := by
  unfold overflow
  by_cases hm : d.m = 0
  · simp [hm]
  · have := Dy.bexp_le_of_lt d hm 1024 h
    unfold Dy.bexp at this
    have h2 : ¬ ((Dy.blen d.m.natAbs : ℤ) + d.e > 1024) := by omega
    simp [h2]

theorem rnd_fin (d : Dy) (zs : Bool) (h : |(Dy.round53 d).val| < (2:ℚ) ^ (1024:ℤ)) :
    (rnd d zs).isFinite = true ∧ (rnd d zs).val = (Dy.round53 d).val := by
  unfold rnd
  dsimp only
  by_cases h0 : (Dy.round53 d).m = 0
  · rw [if_pos h0]
    exact ⟨rfl, by rw [val_fin_zero, Dy.val_of_m_zero _ h0]⟩
  · rw [if_neg h0, overflow_false_of_lt _ h]
    exact ⟨rfl, val_ofDy _⟩

/-- overflow to `−∞` included -/
theorem rnd_nonpos_not_gt (d : Dy) (zs : Bool) (h : d.val ≤ 0) : F64.gt (F64.rnd d zs) 0 = false := by
  have hr : (Dy.round53 d).val ≤ 0 := (roundTo_isRN 53 (-1074) d).nonpos h
  have key : ∀ a : F64, a.isFinite = true → a.val ≤ 0 → F64.gt a 0 = false := fun a ha hle => by
    rw [Bool.eq_false_iff]
    intro hc
    exact absurd ((F64.lt_iff rfl ha).mp hc) (by rw [val_zero]; exact not_lt.mpr hle)
  unfold rnd
  dsimp only
  split
  · exact key _ rfl (by rw [val_fin_zero])
  · split
    · have : (Dy.round53 d).m < 0 := by have := (Dy.val_nonpos_iff _).mp hr; omega
      rw [decide_eq_true this]; rfl
    · exact key _ rfl (by rw [val_ofDy]; exact hr)

theorem rnd_isRN (d : Dy) (zs : Bool) :
    ∃ r : ℚ, IsRN 53 (-1074) d.val r ∧ (|r| < (2:ℚ) ^ (1024:ℤ) → (rnd d zs).isFinite = true ∧ (rnd d zs).val = r) :=
  ⟨_, roundTo_isRN 53 (-1074) d, rnd_fin d zs⟩

theorem add_isRN (a b : F64) (ha : a.isFinite = true) (hb : b.isFinite = true) :
    ∃ r : ℚ, IsRN 53 (-1074) (a.val + b.val) r ∧
      (|r| < (2:ℚ) ^ (1024:ℤ) → (a + b).isFinite = true ∧ (a + b).val = r) := by
  obtain ⟨sa, ma, ea, rfl⟩ := exists_fin_of_isFinite a ha
  obtain ⟨sb, mb, eb, rfl⟩ := exists_fin_of_isFinite b hb
  rw [val, val, ← Dy.val_add]
  exact rnd_isRN _ (sa && sb)

theorem sub_isRN (a b : F64) (ha : a.isFinite = true) (hb : b.isFinite = true) :
    ∃ r : ℚ, IsRN 53 (-1074) (a.val - b.val) r ∧
      (|r| < (2:ℚ) ^ (1024:ℤ) → (a - b).isFinite = true ∧ (a - b).val = r) := by
  have := add_isRN a (neg b) ha (by rwa [isFinite_neg])
  rwa [val_neg, ← sub_eq_add_neg] at this

theorem mul_isRN (a b : F64) (ha : a.isFinite = true) (hb : b.isFinite = true) :
    ∃ r : ℚ, IsRN 53 (-1074) (a.val * b.val) r ∧
      (|r| < (2:ℚ) ^ (1024:ℤ) → (a * b).isFinite = true ∧ (a * b).val = r) := by
  obtain ⟨sa, ma, ea, rfl⟩ := exists_fin_of_isFinite a ha
  obtain ⟨sb, mb, eb, rfl⟩ := exists_fin_of_isFinite b hb
  rw [val, val, ← Dy.val_mul]
  exact rnd_isRN _ (sa != sb)

/-- for any `F64`: NaN/inf read as 0 on both sides -/
theorem floor_toDy_floor (x : F64) : Dy.floor (F64.floor x).toDy = Dy.floor x.toDy := by
  cases x with
  | nan => rfl
  | inf s => rfl
  | fin s m e =>
    unfold F64.floor
    dsimp only
    by_cases hm : (m == 0) = true
    · rw [if_pos hm]
    · rw [if_neg hm]
      by_cases hf : Dy.floor (F64.fin s m e).toDy = 0
      · rw [if_pos hf, hf]
        cases s <;> rfl
      · rw [if_neg hf]
        unfold F64.ofInt
        rw [toDy_ofDy]
        unfold Dy.floor Dy.shl
        simp

/-- `int(floor(x))` as the models write it (`UTMUPS.fl`, `Grid.OSGB.fl`, `Geoid.fl`, `mulFloorCoded`, `divFloorCoded`) -/
theorem intFloor_spec (x : F64) :
    ((Dy.floor (F64.floor x).toDy : ℤ) : ℚ) ≤ x.val ∧ x.val < ((Dy.floor (F64.floor x).toDy : ℤ) : ℚ) + 1 := by
  rw [floor_toDy_floor]; exact Dy.floor_spec x.toDy

theorem floor_val (s : Bool) (m : ℕ) (e : ℤ) :
    (F64.floor (.fin s m e)).isFinite = true ∧ (F64.floor (.fin s m e)).val = (Dy.floor (F64.fin s m e).toDy : ℤ) := by
  unfold F64.floor
  dsimp only
  by_cases hm : (m == 0) = true
  · rw [if_pos hm]
    obtain rfl : m = 0 := by simpa using hm
    have h0 : (F64.fin s 0 e).toDy.val = 0 := val_fin_zero s e
    rw [val_fin_zero, Dy.floor_unique _ 0 (by rw [h0]; simp) (by rw [h0]; simp)]
    exact ⟨rfl, by simp⟩
  · rw [if_neg hm]
    by_cases hf : Dy.floor (F64.fin s m e).toDy = 0
    · rw [if_pos hf, hf]; exact ⟨rfl, by rw [val_fin_zero]; simp⟩
    · rw [if_neg hf]
      exact ⟨rfl, val_ofInt _⟩

theorem floor_of_isRN {z r : ℚ} (h : IsRN 53 (-1074) z r) (hz : |z| ≤ 2 ^ 52) (n : ℤ)
    (h1 : (n:ℚ) ≤ z) (h2 : z < (n:ℚ) + 1) (d : Dy) (hd : d.val = r) :
    Dy.floor d = n ∨ (Dy.floor d = n + 1 ∧ r = (n:ℚ) + 1 ∧
      (n:ℚ) + 1 - z ≤ max (|z| * (2:ℚ) ^ (-(53:ℤ))) ((2:ℚ) ^ (-(1075:ℤ)))) := by
  have hPa := abs_le.mp hz
  have hn1 : -(2:ℤ) ^ 52 - 1 < n := by
    have : (-(2:ℚ) ^ 52 - 1) < (n:ℚ) := by linarith [hPa.1]
    exact_mod_cast this
  have hn2 : n ≤ (2:ℤ) ^ 52 := by
    have : (n:ℚ) ≤ (2:ℚ) ^ 52 := by linarith [hPa.2]
    exact_mod_cast this
  -- rounding does not cross the integers `n` and `n + 1`
  have r1 := h.int_le n (abs_le.mpr ⟨by omega, by omega⟩) h1
  have r2 := h.le_int (n + 1) (abs_le.mpr ⟨by omega, by omega⟩) (by push_cast; linarith)
  push_cast at r2
  by_cases hlt : r < (n:ℚ) + 1
  · left; exact Dy.floor_unique d n (by rw [hd]; exact r1) (by rw [hd]; exact hlt)
  · right
    have heq : r = (n:ℚ) + 1 := le_antisymm r2 (not_lt.mp hlt)
    refine ⟨Dy.floor_unique d (n + 1) (by rw [hd, heq]; push_cast; exact le_refl _)
      (by rw [hd, heq]; push_cast; linarith), heq, ?_⟩
    have := h.err
    rw [heq] at this
    exact le_trans (le_abs_self _) (by exact_mod_cast this)

end F64
end GeoVerif
