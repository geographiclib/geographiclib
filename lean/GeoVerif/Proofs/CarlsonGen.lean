import GeoVerif.Gen.Carlson
import GeoVerif.Proofs.Carlson
/-!
# The constants of Carlson's algorithms as extracted from `EllipticFunction.cpp` (`Gen/Carlson.lean`) are the ones of the model

`Gen/Carlson.lean` is generated from the source by a symbolic evaluation of the C++ expressions
(`tools/translate.d/C15.py`, `gen_carlson`).
-/
namespace GeoVerif.Proofs.CarlsonGen
open GeoVerif GeoVerif.Elliptic Real

/-- value of a monomial table `[(exponents, coefficient)]` at a point -/
noncomputable def evalMV (p : List (List Nat × Int)) (v : List ℝ) : ℝ :=
  (p.map fun ec => (ec.2 : ℝ) * ((ec.1.zip v).map fun kx => kx.2 ^ kx.1).prod).sum

noncomputable def evalMVq (p : List (List Nat × Rat)) (v : List ℝ) : ℝ :=
  (p.map fun ec => (ec.2 : ℝ) * ((ec.1.zip v).map fun kx => kx.2 ^ kx.1).prod).sum

noncomputable def evalLin (w : List Rat) (v : List ℝ) : ℝ := ((w.zip v).map fun wx => (wx.1 : ℝ) * wx.2).sum

/-- the tolerances: `tolRF⁸ = (3/100)ε`, `tolRD⁸ = (1/500)ε` in `RD` and in `RJ`, `tolRG0 = (27/10)√(ε/100)` in the two AGM
    forms, `tolJAC = √(ε/100)` in `sncndn` and `Einv`, `ε^(3/4)` (the model's `tolJACam`, as `tolJACam⁴ = ε³`) in `am`;
    the trip caps and `num_` -/
theorem tolerances :
    (tolRF : ℝ) ^ Gen.Carlson.tolRFpow = (Gen.Carlson.tolRFcoef : ℝ) * RealX.eps ∧
    (tolRD : ℝ) ^ Gen.Carlson.tolRDpow = (Gen.Carlson.tolRDcoef : ℝ) * RealX.eps ∧
    (tolRD : ℝ) ^ Gen.Carlson.tolRJpow = (Gen.Carlson.tolRJcoef : ℝ) * RealX.eps ∧
    (tolRG0 : ℝ) = (Gen.Carlson.tolRF2fac : ℝ) * √((Gen.Carlson.tolRF2eps : ℝ) * RealX.eps) ∧
    (tolRG0 : ℝ) = (Gen.Carlson.tolRG2fac : ℝ) * √((Gen.Carlson.tolRG2eps : ℝ) * RealX.eps) ∧
    (tolJAC : ℝ) = (Gen.Carlson.tolJACSncndnfac : ℝ) * √((Gen.Carlson.tolJACSncndneps : ℝ) * RealX.eps) ∧
    (tolJAC : ℝ) = (Gen.Carlson.tolJACEinvfac : ℝ) * √((Gen.Carlson.tolJACEinveps : ℝ) * RealX.eps) ∧
    Gen.Carlson.tolJACamExp = 3 / 4 ∧ (tolJACam : ℝ) ^ 4 = RealX.eps ^ 3 ∧
    Gen.Carlson.rf2Trips = trips ∧ Gen.Carlson.rg2Trips = trips ∧ Gen.Carlson.num = num := by
  have he : (RealX.eps : ℝ) = 1 / 2 ^ 52 := eps_real
  -- the factors extracted for the two AGM forms, and for `sncndn` and `Einv`, are the same pair
  have hRG0 : (tolRG0 : ℝ) = ((27 / 10 : ℚ) : ℝ) * √(((1 / 100 : ℚ) : ℝ) * RealX.eps) := by
    unfold tolRG0; simp only [Carlson.ofDec_real, sqrt_real]; push_cast
    rw [mul_comm (RealX.eps : ℝ)]; norm_num
  have hJAC : (tolJAC : ℝ) = ((1 : ℚ) : ℝ) * √(((1 / 100 : ℚ) : ℝ) * RealX.eps) := by
    unfold tolJAC; simp only [Carlson.ofDec_real, sqrt_real]; push_cast
    rw [mul_comm (RealX.eps : ℝ)]; norm_num
  refine ⟨?_, ?_, ?_, hRG0, hRG0, hJAC, hJAC, by decide +kernel, ?_, by decide, by decide, by decide⟩
  · rw [show Gen.Carlson.tolRFpow = 8 from rfl, Carlson.tolRF_pow.1, he]; simp only [Gen.Carlson.tolRFcoef]; push_cast; ring
  · rw [show Gen.Carlson.tolRDpow = 8 from rfl, Carlson.tolRD_pow.1, he]; simp only [Gen.Carlson.tolRDcoef]; push_cast; ring
  · rw [show Gen.Carlson.tolRJpow = 8 from rfl, Carlson.tolRD_pow.1, he]; simp only [Gen.Carlson.tolRJcoef]; push_cast; ring
  · unfold tolJACam; simp only [sqrt_real]
    have h0 : (0 : ℝ) ≤ RealX.eps := by rw [he]; positivity
    have h1 : √(RealX.eps : ℝ) ^ 2 = RealX.eps := Real.sq_sqrt h0
    have h2 : √(√(RealX.eps : ℝ)) ^ 2 = √(RealX.eps : ℝ) := Real.sq_sqrt (Real.sqrt_nonneg _)
    calc (√(RealX.eps : ℝ) * √(√(RealX.eps : ℝ))) ^ 4 = (√(RealX.eps : ℝ) ^ 2) ^ 2 * (√(√(RealX.eps : ℝ)) ^ 2) ^ 2 := by ring
      _ = RealX.eps ^ 2 * (√(RealX.eps : ℝ)) ^ 2 := by rw [h2, h1]
      _ = RealX.eps ^ 2 * RealX.eps := by rw [h1]
      _ = RealX.eps ^ 3 := by ring

end GeoVerif.Proofs.CarlsonGen
