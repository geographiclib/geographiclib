import GeoVerif.Proofs.AuxRow
/-! Kernel-checked row certificates `rowCheck 3 a` for the series tables of `AuxLatitude.cpp` (`Gen/AuxSeries.lean`, extracted
from the source): the inner series is `C[μ←a]`.  One module per inner latitude.  Numbering of the latitudes: 0 φ, 1 β, 2 θ, 3 μ, 4 χ, 5 ξ. -/
namespace GeoVerif.Proofs.AuxCert
open GeoVerif.Series.Aux

theorem row_3_0 : rowCheck 3 0 = true := by decide +kernel
theorem row_3_1 : rowCheck 3 1 = true := by decide +kernel
theorem row_3_2 : rowCheck 3 2 = true := by decide +kernel
theorem row_3_4 : rowCheck 3 4 = true := by decide +kernel
theorem row_3_5 : rowCheck 3 5 = true := by decide +kernel

end GeoVerif.Proofs.AuxCert
