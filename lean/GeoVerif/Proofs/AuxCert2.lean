import GeoVerif.Proofs.AuxRow
/-! Kernel-checked row certificates `rowCheck 2 a` for the series tables of `AuxLatitude.cpp` (`Gen/AuxSeries.lean`, extracted
from the source): the inner series is `C[θ←a]`.  One module per inner latitude.  Numbering of the latitudes: 0 φ, 1 β, 2 θ, 3 μ, 4 χ, 5 ξ. -/
namespace GeoVerif.Proofs.AuxCert
open GeoVerif.Series.Aux

theorem row_2_0 : rowCheck 2 0 = true := by decide +kernel
theorem row_2_1 : rowCheck 2 1 = true := by decide +kernel
theorem row_2_3 : rowCheck 2 3 = true := by decide +kernel
theorem row_2_4 : rowCheck 2 4 = true := by decide +kernel
theorem row_2_5 : rowCheck 2 5 = true := by decide +kernel

end GeoVerif.Proofs.AuxCert
