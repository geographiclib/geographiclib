import GeoVerif.Proofs.F64Val
/-!
`IsRN p emin z r`: `r` is the round-to-nearest-even of the *rational* `z` to `p` significant bits with last-bit exponent
`≥ emin` (the description of IEEE 754, via the binade `2^(E−1) ≤ |z| < 2^E`).  `Dy.roundTo` satisfies it for dyadic `z`
(`Proofs/Round53.lean`) and `Dy.divTo` for quotients (`Proofs/DivTo.lean`), so monotonicity, fixed points and the error
bounds are proved once, here.
-/
namespace GeoVerif
open Dy

structure IsRN (p : ℕ) (emin : ℤ) (z r : ℚ) : Prop where
  zero : z = 0 → r = 0
  nz : z ≠ 0 → ∃ E k : ℤ, (2:ℚ) ^ (E - 1) ≤ |z| ∧ |z| < (2:ℚ) ^ E ∧
      r = k * (2:ℚ) ^ (max (E - p) emin) ∧ 2 * |r - z| ≤ (2:ℚ) ^ (max (E - p) emin) ∧
      (2 * |r - z| = (2:ℚ) ^ (max (E - p) emin) → k % 2 = 0)

theorem Dy.isRN_zero (p : ℕ) (emin : ℤ) : IsRN p emin 0 0 where
  zero := fun _ => rfl
  nz := fun h => absurd rfl h

theorem Dy.grid_coarsen (g : ℤ) {s t : ℤ} (h : t ≤ s) :
    (g:ℚ) * (2:ℚ) ^ s = ((g * 2 ^ (s - t).toNat : ℤ) : ℚ) * (2:ℚ) ^ t := by
  rw [Int.cast_mul, Int.cast_pow, Int.cast_ofNat, mul_assoc, two_zpow_toNat_mul h]

namespace IsRN
variable {p : ℕ} {emin : ℤ}

theorem binade_le {z : ℚ} {E1 E2 : ℤ} (h1 : (2:ℚ) ^ (E1 - 1) ≤ |z|) (h2 : |z| < (2:ℚ) ^ E2) : E1 ≤ E2 := by
  have := two_zpow_lt_iff.mp (lt_of_le_of_lt h1 h2)
  omega

theorem neg {z r : ℚ} (h : IsRN p emin z r) : IsRN p emin (-z) (-r) where
  zero := fun hz => by rw [h.zero (neg_eq_zero.mp hz), neg_zero]
  nz := fun hz => by
    obtain ⟨E, k, h1, h2, h3, h4, h5⟩ := h.nz (fun e => hz (neg_eq_zero.mpr e))
    have e : -r - -z = -(r - z) := by ring
    refine ⟨E, -k, by rwa [abs_neg], by rwa [abs_neg], by rw [h3]; push_cast; ring, ?_, ?_⟩
    · rw [e, abs_neg]; exact h4
    · rw [e, abs_neg]; intro e; have := h5 e; omega

/-- the binade containing `z` is unique -/
theorem spec_at {z r : ℚ} (h : IsRN p emin z r) {E : ℤ} (h1 : (2:ℚ) ^ (E - 1) ≤ |z|) (h2 : |z| < (2:ℚ) ^ E) :
    ∃ k : ℤ, r = k * (2:ℚ) ^ (max (E - p) emin) ∧ 2 * |r - z| ≤ (2:ℚ) ^ (max (E - p) emin) ∧
      (2 * |r - z| = (2:ℚ) ^ (max (E - p) emin) → k % 2 = 0) := by
  have hz : z ≠ 0 := fun e => absurd h1 (by rw [e, abs_zero]; exact not_le.mpr (two_zpow_pos _))
  obtain ⟨E', k, a1, a2, a3⟩ := h.nz hz
  obtain rfl : E' = E := le_antisymm (binade_le a1 h2) (binade_le h1 a2)
  exact ⟨k, a3⟩

theorem no_cross_le {z r : ℚ} (h : IsRN p emin z r) {E : ℤ} (h1 : (2:ℚ) ^ (E - 1) ≤ |z|) (h2 : |z| < (2:ℚ) ^ E)
    (g : ℤ) {s : ℤ} (hs : max (E - p) emin ≤ s) (hle : z ≤ g * (2:ℚ) ^ s) : r ≤ g * (2:ℚ) ^ s := by
  obtain ⟨k, h3, h4, _⟩ := h.spec_at h1 h2
  set t := max (E - p) emin
  have htp := two_zpow_pos t
  rw [grid_coarsen g hs] at hle ⊢
  set g' := g * 2 ^ (s - t).toNat
  by_contra hc
  rw [h3] at hc h4
  -- `k ≥ g' + 1`, so `r − z ≥ 2^t`, more than half a step
  have hkg : (g':ℚ) + 1 ≤ k := by exact_mod_cast lt_of_mul_lt_mul_right (not_le.mp hc) htp.le
  have h6 := mul_le_mul_of_nonneg_right hkg htp.le
  have h7 := le_abs_self ((k:ℚ) * (2:ℚ) ^ t - z)
  linarith

theorem no_cross_ge {z r : ℚ} (h : IsRN p emin z r) {E : ℤ} (h1 : (2:ℚ) ^ (E - 1) ≤ |z|) (h2 : |z| < (2:ℚ) ^ E)
    (g : ℤ) {s : ℤ} (hs : max (E - p) emin ≤ s) (hle : g * (2:ℚ) ^ s ≤ z) : g * (2:ℚ) ^ s ≤ r := by
  have := no_cross_le h.neg (by rwa [abs_neg]) (by rwa [abs_neg]) (-g) hs (by push_cast; linarith)
  push_cast at this; linarith

theorem nonneg {z r : ℚ} (h : IsRN p emin z r) (hz : 0 ≤ z) : 0 ≤ r := by
  by_cases h0 : z = 0
  · rw [h.zero h0]
  · obtain ⟨E, k, h1, h2, _⟩ := h.nz h0
    simpa using no_cross_ge h h1 h2 0 (le_refl _) (by simpa using hz)

theorem nonpos {z r : ℚ} (h : IsRN p emin z r) (hz : z ≤ 0) : r ≤ 0 := by
  have := nonneg h.neg (by linarith); linarith

/-- this is where ties-to-even is needed -/
theorem mono_same {z1 r1 z2 r2 : ℚ} (t : ℤ) (k1 k2 : ℤ)
    (a3 : r1 = k1 * (2:ℚ) ^ t) (a4 : 2 * |r1 - z1| ≤ (2:ℚ) ^ t) (a5 : 2 * |r1 - z1| = (2:ℚ) ^ t → k1 % 2 = 0)
    (b3 : r2 = k2 * (2:ℚ) ^ t) (b4 : 2 * |r2 - z2| ≤ (2:ℚ) ^ t) (b5 : 2 * |r2 - z2| = (2:ℚ) ^ t → k2 % 2 = 0)
    (h : z1 ≤ z2) : r1 ≤ r2 := by
  have hT := two_zpow_pos t
  rw [a3] at a4 a5 ⊢
  rw [b3] at b4 b5 ⊢
  generalize (2:ℚ) ^ t = T at *
  by_contra hc
  have hlt : (k2:ℚ) + 1 ≤ k1 := by exact_mod_cast lt_of_mul_lt_mul_right (not_le.mp hc) hT.le
  have a1 := le_abs_self ((k1:ℚ) * T - z1)
  have b1 := neg_abs_le ((k2:ℚ) * T - z2)
  -- `(k1 − k2)·T ≤ T`: the two results are neighbours and both roundings are ties
  have hle : ((k1:ℚ) - k2 - 1) * T ≤ 0 := by linarith
  have hkk : (k1:ℚ) = k2 + 1 := by
    have := nonpos_of_mul_nonpos_left hle hT
    linarith
  have hkk' : k1 = k2 + 1 := by exact_mod_cast hkk
  have ea : (k1:ℚ) * T - z1 = T / 2 := by rw [hkk] at a1 a4 ⊢; linarith
  have eb : (k2:ℚ) * T - z2 = -(T / 2) := by rw [hkk] at a1 a4; linarith
  have e1 := a5 (by rw [ea, abs_of_pos (by linarith)]; ring)
  have e2 := b5 (by rw [eb, abs_neg, abs_of_pos (by linarith)]; ring)
  omega

theorem mono_pos (hp : 1 ≤ p) {z1 r1 z2 r2 : ℚ} (h1 : IsRN p emin z1 r1) (h2 : IsRN p emin z2 r2)
    (hz : 0 < z1) (h : z1 ≤ z2) : r1 ≤ r2 := by
  have hz2 : 0 < z2 := lt_of_lt_of_le hz h
  obtain ⟨E1, k1, a1, a2, a3, a4, a5⟩ := h1.nz hz.ne'
  obtain ⟨E2, k2, b1, b2, b3, b4, b5⟩ := h2.nz hz2.ne'
  have hE : E1 ≤ E2 := binade_le a1 (by rw [abs_of_pos hz]; rw [abs_of_pos hz2] at b2; linarith)
  by_cases ht : max (E1 - p) emin = max (E2 - p) emin
  · rw [ht] at a3 a4 a5
    exact mono_same _ k1 k2 a3 a4 a5 b3 b4 b5 h
  · -- different grids: the power `2^(E2−1)` lies between `z1` and `z2` and is crossed by neither rounding
    have r1' := no_cross_le h1 a1 a2 1 (show max (E1 - p) emin ≤ E2 - 1 by omega) (by
      rw [abs_of_pos hz] at a2
      have := two_zpow_le (show E1 ≤ E2 - 1 by omega)
      push_cast; linarith)
    have r2' := no_cross_ge h2 b1 b2 1 (show max (E2 - p) emin ≤ E2 - 1 by omega) (by
      rw [abs_of_pos hz2] at b1; push_cast; linarith)
    linarith

theorem mono (hp : 1 ≤ p) {z1 r1 z2 r2 : ℚ} (h1 : IsRN p emin z1 r1) (h2 : IsRN p emin z2 r2)
    (h : z1 ≤ z2) : r1 ≤ r2 := by
  by_cases hx : 0 < z1
  · exact mono_pos hp h1 h2 hx h
  · by_cases hy : z2 < 0
    · have := mono_pos hp h2.neg h1.neg (by linarith) (by linarith)
      linarith
    · have := nonpos h1 (not_lt.mp hx)
      have := nonneg h2 (not_lt.mp hy)
      linarith

theorem unique (hp : 1 ≤ p) {z r1 r2 : ℚ} (h1 : IsRN p emin z r1) (h2 : IsRN p emin z r2) : r1 = r2 :=
  le_antisymm (mono hp h1 h2 (le_refl _)) (mono hp h2 h1 (le_refl _))

theorem eq_self_of_fits (hp : 1 ≤ p) {z r : ℚ} (h : IsRN p emin z r) (g s : ℤ) (hg : |g| ≤ 2 ^ p) (hs : emin ≤ s)
    (hz : z = (g:ℚ) * (2:ℚ) ^ s) : r = z := by
  by_cases h0 : z = 0
  · rw [h.zero h0, h0]
  obtain ⟨E, k, h1, h2, _⟩ := h.nz h0
  -- `z` is a point of a grid `2^s'` at least as coarse as the rounding grid, so it is crossed from neither side
  have key : ∀ (g' s' : ℤ), z = (g':ℚ) * (2:ℚ) ^ s' → max (E - p) emin ≤ s' → r = z := fun g' s' e hs' =>
    le_antisymm (e ▸ no_cross_le h h1 h2 g' hs' e.le) (e ▸ no_cross_ge h h1 h2 g' hs' e.ge)
  have hsp := two_zpow_pos s
  have habs : |z| = ((|g| : ℤ) : ℚ) * (2:ℚ) ^ s := by rw [hz, abs_mul, abs_of_pos hsp, Int.cast_abs]
  by_cases hlt : |g| < 2 ^ p
  · refine key g s hz ?_
    have : |z| < (2:ℚ) ^ ((p:ℤ) + s) := by
      rw [habs, two_zpow_split, zpow_natCast]
      exact mul_lt_mul_of_pos_right (by exact_mod_cast hlt) hsp
    have := binade_le h1 this
    omega
  · -- `|g| = 2^p`: `z = ±2^(p−1) · 2^(s+1)`
    have hge : |g| = 2 ^ p := le_antisymm hg (not_lt.mp hlt)
    have hpp : (2:ℤ) ^ p = 2 ^ (p - 1) * 2 := by rw [← pow_succ, Nat.sub_add_cancel hp]
    have hE : E ≤ p + s + 1 := binade_le h1 (by
      rw [habs, hge, two_zpow_add_one, two_zpow_split, zpow_natCast]; push_cast
      linarith [mul_pos (pow_pos (by norm_num : (0:ℚ) < 2) p) hsp])
    have hg2 : g = 2 ^ (p - 1) * 2 ∨ g = -(2 ^ (p - 1)) * 2 := by
      rcases abs_cases g with ⟨e1, _⟩ | ⟨e1, _⟩ <;> [left; right] <;> omega
    rcases hg2 with e | e
    · refine key (2 ^ (p - 1)) (s + 1) (by rw [hz, e, two_zpow_add_one]; push_cast; ring) (by omega)
    · refine key (-(2 ^ (p - 1))) (s + 1) (by rw [hz, e, two_zpow_add_one]; push_cast; ring) (by omega)

theorem fits {z r : ℚ} (h : IsRN p emin z r) : ∃ k t : ℤ, r = k * (2:ℚ) ^ t ∧ |k| ≤ 2 ^ p ∧ emin ≤ t := by
  by_cases h0 : z = 0
  · exact ⟨0, emin, by rw [h.zero h0]; simp, by simp, le_refl _⟩
  obtain ⟨E, k, h1, h2, h3, _⟩ := h.nz h0
  set t := max (E - p) emin
  have htp := two_zpow_pos t
  -- `|z| < 2^E ≤ 2^p·2^t`, and the grid points `±2^p·2^t` are not crossed
  have hG : |z| ≤ ((2 ^ p : ℤ) : ℚ) * (2:ℚ) ^ t := by
    have := two_zpow_le (show E ≤ p + t by omega)
    rw [two_zpow_split, zpow_natCast] at this
    push_cast; linarith
  have hG1 := no_cross_le h h1 h2 (2 ^ p) (le_refl t) (le_trans (le_abs_self _) hG)
  have hG2 := no_cross_ge h h1 h2 (-(2 ^ p)) (le_refl t) (by push_cast at hG ⊢; linarith [neg_abs_le z])
  rw [h3] at hG1 hG2
  refine ⟨k, t, h3, abs_le.mpr ⟨?_, ?_⟩, le_max_right _ _⟩
  · exact_mod_cast le_of_mul_le_mul_right hG2 htp
  · exact_mod_cast le_of_mul_le_mul_right hG1 htp

theorem abserr {z r : ℚ} (h : IsRN p emin z r) (E : ℤ) (hE : |z| < (2:ℚ) ^ E) :
    2 * |r - z| ≤ (2:ℚ) ^ (max (E - p) emin) := by
  by_cases h0 : z = 0
  · rw [h.zero h0, h0]; simp; positivity
  · obtain ⟨E', k, h1, h2, h3, h4, _⟩ := h.nz h0
    have := binade_le h1 hE
    exact le_trans h4 (two_zpow_le (by omega))

theorem err {z r : ℚ} (h : IsRN p emin z r) :
    |r - z| ≤ max (|z| * (2:ℚ) ^ (-(p:ℤ))) ((2:ℚ) ^ (emin - 1)) := by
  by_cases h0 : z = 0
  · rw [h.zero h0, h0]; simp
  · obtain ⟨E, k, h1, h2, h3, h4, _⟩ := h.nz h0
    have hs : ∀ t : ℤ, (2:ℚ) ^ t = 2 * (2:ℚ) ^ (t - 1) := fun t => by rw [← two_zpow_add_one, sub_add_cancel]
    by_cases hc : emin ≤ E - p
    · rw [max_eq_left hc, hs, show E - p - 1 = (E - 1) + -(p:ℤ) by ring, two_zpow_split] at h4
      have := mul_le_mul_of_nonneg_right h1 (two_zpow_pos (-(p:ℤ))).le
      exact le_trans (by linarith) (le_max_left _ _)
    · rw [max_eq_right (by omega), hs] at h4
      exact le_trans (by linarith) (le_max_right _ _)

end IsRN
end GeoVerif
