import GeoVerif.Model.TM
import GeoVerif.Series.Poly
import GeoVerif.Spec.RealInst
import Mathlib.Tactic.Ring
import Mathlib.Data.List.GetD
/-!
# The coefficients `_alp[l]`, `_bet[l]` the constructor computes are the values at `n` of the truncated power series the
table certificates talk about

`TM.coeffs tbl n` (executed by the driver in binary64, here read at `ℝ`) is `n^l · polyval(block) / denominator`; `blockPoly tbl l` is the
same thing as a `Series.Poly`, the object of the certificates `alp_bet_revert`, `alp_is_aux`, ….
-/
namespace GeoVerif.Proofs.TMCoeff
open GeoVerif GeoVerif.TM GeoVerif.Series

noncomputable def ev (p : Poly) (x : ℝ) : ℝ := p.foldr (fun c acc => (c : ℝ) + x * acc) 0

@[simp] theorem ev_nil (x : ℝ) : ev [] x = 0 := rfl
@[simp] theorem ev_cons (c : Rat) (p : Poly) (x : ℝ) : ev (c :: p) x = (c : ℝ) + x * ev p x := rfl

theorem ev_append (p q : Poly) (x : ℝ) : ev (p ++ q) x = ev p x + x ^ p.length * ev q x := by
  induction p with
  | nil => simp
  | cons c p ih => simp only [List.cons_append, ev_cons, ih, List.length_cons, pow_succ]; ring

theorem ev_replicate_zero (k : ℕ) (x : ℝ) : ev (List.replicate k (0 : Rat)) x = 0 := by
  induction k with
  | zero => rfl
  | succ k ih => simp [List.replicate_succ, ih]

theorem ev_shift (k : ℕ) (p : Poly) (x : ℝ) : ev (Poly.shift k p) x = x ^ k * ev p x := by
  unfold Poly.shift
  rw [ev_append, ev_replicate_zero, List.length_replicate]; ring

theorem ev_smul (c : Rat) (p : Poly) (x : ℝ) : ev (Poly.smul c p) x = (c : ℝ) * ev p x := by
  unfold Poly.smul
  induction p with
  | nil => simp
  | cons a p ih => simp only [List.map_cons, ev_cons, ih]; push_cast; ring

theorem trunc_eq_append (M : ℕ) (p : Poly) (h : p.length ≤ M) : Poly.trunc M p = p ++ List.replicate (M - p.length) 0 := by
  apply List.ext_getElem
  · simp [Poly.trunc]; omega
  · intro i h1 h2
    simp only [Poly.trunc, List.getElem_map, List.getElem_range, Poly.coeff]
    by_cases hi : i < p.length
    · rw [List.getElem_append_left hi, List.getD_eq_getElem _ _ hi]
    · rw [List.getElem_append_right (by omega), List.getElem_replicate, List.getD_eq_default _ _ (by omega)]

theorem ev_trunc (M : ℕ) (p : Poly) (h : p.length ≤ M) (x : ℝ) : ev (Poly.trunc M p) x = ev p x := by
  rw [trunc_eq_append M p h, ev_append, ev_replicate_zero]; ring

theorem eqN_refl (N : ℕ) (p : Poly) : Poly.eqN N p p = true :=
  List.all_eq_true.mpr fun _ _ => beq_self_eq_true _

theorem ofRat_real (q : Rat) : (ofRat q : ℝ) = (q : ℝ) := by
  have hn : (if q.num < 0 then -(RealLike.ofNat q.num.natAbs : ℝ) else RealLike.ofNat q.num.natAbs) = ((q.num : ℤ) : ℝ) := by
    simp only [ofNat_real, ← Int.cast_natCast (R := ℝ)]
    split
    · next h => rw [Int.ofNat_natAbs_of_nonpos h.le, Int.cast_neg, neg_neg]
    · next h => rw [Int.natAbs_of_nonneg (not_lt.mp h)]
  unfold ofRat
  simp only [hn]
  split
  · next h => rw [Rat.cast_def, h, Nat.cast_one, div_one]
  · rw [ofNat_real, Rat.cast_def]

/-- Horner from the highest coefficient, as `Math::polyval` does it -/
theorem foldl_horner (cs : List Rat) (a x : ℝ) :
    (cs.map fun c => (ofRat c : ℝ)).foldl (fun y c => y * x + c) a = a * x ^ cs.length + ev cs.reverse x := by
  induction cs generalizing a with
  | nil => simp
  | cons c cs ih =>
    simp only [List.map_cons, List.foldl_cons, List.reverse_cons, List.length_cons]
    rw [ih, ev_append, ofRat_real]
    simp only [List.length_reverse, ev_cons, ev_nil]
    ring

theorem polyval_eq_ev (q : List Rat) (x : ℝ) : polyval (q.map fun c => (ofRat c : ℝ)) x = ev (Poly.ofHighFirst q) x := by
  unfold Poly.ofHighFirst
  cases q with
  | nil => simp [polyval, ofNat_real]
  | cons c cs =>
    simp only [polyval, List.map_cons]
    rw [foldl_horner, List.reverse_cons, ev_append, ofRat_real]
    simp only [List.length_reverse, ev_cons, ev_nil]
    ring

/-- the same as `Props/C06.tmBlock` and `Series/TMSeries.coeffPoly`, the objects of the table certificates -/
def blockPoly (tbl : List Rat) (l : Nat) : Poly :=
  let b := TM.block tbl l
  Poly.trunc (TM.N + 1) (Poly.shift l (Poly.smul (1 / b.2) (Poly.ofHighFirst b.1)))

theorem block_length (tbl : List Rat) (l : ℕ) (hN : l ≤ TM.N) : l + (TM.block tbl l).1.length ≤ TM.N + 1 := by
  simp only [TM.block, List.length_take]
  omega

theorem ev_blockPoly (tbl : List Rat) (l : ℕ) (hN : l ≤ TM.N) (x : ℝ) :
    ev (blockPoly tbl l) x = x ^ l * polyval ((TM.block tbl l).1.map fun c => (ofRat c : ℝ)) x / (ofRat (TM.block tbl l).2 : ℝ) := by
  have hlen : (Poly.shift l (Poly.smul (1 / (TM.block tbl l).2) (Poly.ofHighFirst (TM.block tbl l).1))).length ≤ TM.N + 1 := by
    simp only [Poly.shift, Poly.smul, Poly.ofHighFirst, List.length_append, List.length_replicate, List.length_map, List.length_reverse]
    exact block_length tbl l hN
  show ev (Poly.trunc (TM.N + 1) _) x = _
  rw [ev_trunc _ _ hlen, ev_shift, ev_smul, polyval_eq_ev, ofRat_real]
  push_cast
  ring

theorem coeffs_fold (P d : ℕ → ℝ) (n : ℝ) (m : ℕ) :
    (List.range m).foldl (fun (acc : List ℝ × ℝ) i => (acc.1 ++ [acc.2 * P i / d i], acc.2 * n)) ([], n) =
      ((List.range m).map fun i => n ^ (i + 1) * P i / d i, n ^ (m + 1)) := by
  induction m with
  | zero => simp
  | succ m ih =>
    rw [List.range_succ, List.foldl_append, ih]
    simp only [List.foldl_cons, List.foldl_nil, List.map_append, List.map_cons, List.map_nil]
    congr 1

theorem coeffs_closed (tbl : List Rat) (n : ℝ) :
    coeffs tbl n = (List.range TM.N).map fun i => n ^ (i + 1) * polyval ((TM.block tbl (i + 1)).1.map fun c => (ofRat c : ℝ)) n / (ofRat (TM.block tbl (i + 1)).2 : ℝ) :=
  congrArg Prod.fst (coeffs_fold (fun i => polyval ((TM.block tbl (i + 1)).1.map ofRat) n) (fun i => ofRat (TM.block tbl (i + 1)).2) n TM.N)

/-- `_alp[l]` / `_bet[l]` as computed are the values at `n` of the certified polynomials (`l = i + 1`) -/
theorem coeffs_eval (tbl : List Rat) (n : ℝ) (i : ℕ) (hi : i < TM.N) :
    (coeffs tbl n).getD i 0 = ev (blockPoly tbl (i + 1)) n := by
  rw [coeffs_closed, ev_blockPoly tbl (i + 1) (by omega), List.getD_eq_getElem _ _ (by simpa using hi),
    List.getElem_map, List.getElem_range]

theorem coeffs_zero (tbl : List Rat) : coeffs tbl (0 : ℝ) = List.replicate TM.N 0 := by
  rw [coeffs_closed]
  apply List.ext_getElem
  · simp
  · intro i h1 h2
    simp [pow_succ]

end GeoVerif.Proofs.TMCoeff
