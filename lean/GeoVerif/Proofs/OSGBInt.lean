import GeoVerif.Proofs.Digits
import Mathlib.Tactic.Ring
import Mathlib.Data.List.Induction
/-!
# OSGB grid references on the integer level: letters, digit strings, decoder ∘ encoder, acceptance

Everything here is about `Grid.OSGB.encodeInt`, `Grid.OSGB.decodeInt` (the definitions the driver executes) and the
specification-side encoder `encodeCell` (letters + two width-`p` decimal strings).
-/
namespace GeoVerif.OSGBInt
open GeoVerif GeoVerif.Grid GeoVerif.Grid.OSGB Gen.Grid

theorem lookup_go_spec (tbl : List Char) (u : Nat) (i0 : Nat) (k : Nat) (h : lookup.go u tbl i0 = some k) :
    i0 ≤ k ∧ k - i0 < tbl.length ∧ (tbl.getD (k - i0) '\x00').toNat = u := by
  induction tbl generalizing i0 with
  | nil => simp [lookup.go] at h
  | cons d ds ih =>
    unfold lookup.go at h
    by_cases hd : d.toNat = u
    · rw [if_pos hd] at h
      have : i0 = k := by simpa using h
      subst this
      simp [hd]
    · rw [if_neg hd] at h
      obtain ⟨a, b, c⟩ := ih (i0 + 1) h
      refine ⟨by omega, by simp; omega, ?_⟩
      have : k - i0 = (k - (i0 + 1)) + 1 := by omega
      rw [this, List.getD_cons_succ]; exact c

theorem lookup_some_spec (tbl : List Char) (c k : Nat) (h : lookup tbl c = some k) :
    c ≠ 0 ∧ k < tbl.length ∧ (chr tbl k).toNat = upper c := by
  unfold lookup at h
  by_cases hc : c = 0
  · simp [hc] at h
  · rw [if_neg hc] at h
    obtain ⟨_, b, d⟩ := lookup_go_spec tbl (upper c) 0 k h
    exact ⟨hc, by simpa using b, by simpa [chr] using d⟩

theorem lookup_go_none (tbl : List Char) (u i0 : Nat) (h : ∀ d ∈ tbl, d.toNat ≠ u) : lookup.go u tbl i0 = none := by
  induction tbl generalizing i0 with
  | nil => rfl
  | cons d ds ih =>
    unfold lookup.go
    rw [if_neg (h d (by simp))]
    exact ih _ (fun x hx => h x (by simp [hx]))

theorem lookup_go_isSome (tbl : List Char) (u i0 : Nat) (h : ∃ d ∈ tbl, d.toNat = u) : (lookup.go u tbl i0).isSome = true := by
  induction tbl generalizing i0 with
  | nil => simp at h
  | cons d ds ih =>
    unfold lookup.go
    by_cases hd : d.toNat = u
    · rw [if_pos hd]; rfl
    · rw [if_neg hd]
      obtain ⟨x, hx, hxu⟩ := h
      rcases List.mem_cons.mp hx with rfl | hx'
      · exact absurd hxu hd
      · exact ih _ ⟨x, hx', hxu⟩

theorem lookup_isSome_iff (tbl : List Char) (c : Nat) :
    (lookup tbl c).isSome = true ↔ c ≠ 0 ∧ ∃ d ∈ tbl, d.toNat = upper c := by
  unfold lookup
  by_cases hc : c = 0
  · simp [hc]
  · rw [if_neg hc]
    constructor
    · intro h
      refine ⟨hc, ?_⟩
      by_contra hne
      rw [lookup_go_none tbl (upper c) 0 (by
        intro d hd he; exact hne ⟨d, hd, he⟩)] at h
      simp at h
    · intro ⟨_, h⟩
      exact lookup_go_isSome tbl (upper c) 0 h

/-- the OSGB letters: A–Z without I (either case) -/
def isLetter (c : Nat) : Bool := (65 ≤ upper c && upper c ≤ 90 && upper c != 73)
def isDigit (c : Nat) : Bool := (48 ≤ c && c ≤ 57)

theorem lookup_none_of_large (tbl : List Char) (c : Nat) (hc : 123 ≤ c) (ht : ∀ d ∈ tbl, d.toNat ≤ 122) : lookup tbl c = none := by
  unfold lookup upper
  rw [if_neg (by omega), if_neg (by omega)]
  exact lookup_go_none tbl c 0 (fun d hd he => by have := ht d hd; omega)

theorem letters_isSome (c : Nat) : (lookup letters c).isSome = isLetter c := by
  by_cases hc : c < 123
  · have : ∀ c < 123, (lookup letters c).isSome = isLetter c := by decide +kernel
    exact this c hc
  · rw [lookup_none_of_large letters c (by omega) (by decide +kernel)]
    unfold isLetter upper
    rw [if_neg (by omega)]
    simp; omega

theorem digits_isSome (c : Nat) : (lookup digits c).isSome = isDigit c := by
  by_cases hc : c < 123
  · have : ∀ c < 123, (lookup digits c).isSome = isDigit c := by decide +kernel
    exact this c hc
  · rw [lookup_none_of_large digits c (by omega) (by decide +kernel)]
    unfold isDigit
    simp; omega

theorem digits_lookup_val (c k : Nat) (h : lookup digits c = some k) : k < 10 ∧ c = 48 + k := by
  have hs : (lookup digits c).isSome = true := by rw [h]; rfl
  rw [digits_isSome] at hs
  unfold isDigit at hs
  have hc : 48 ≤ c ∧ c ≤ 57 := by simpa using hs
  have : ∀ c, 48 ≤ c → c ≤ 57 → lookup digits c = some (c - 48) := by
    intro c h1 h2
    have : ∀ c < 58, 48 ≤ c → lookup digits c = some (c - 48) := by decide +kernel
    exact this c (by omega) h1
  rw [this c hc.1 hc.2] at h
  have : c - 48 = k := by simpa using h
  omega

def digitsVal (l : List Nat) : Nat := l.foldl (fun a d => 10 * a + d) 0
def natDigits : Nat → Nat → List Nat
  | 0, _ => []
  | w + 1, n => natDigits w (n / 10) ++ [n % 10]

theorem natDigits_length (w n : Nat) : (natDigits w n).length = w := by
  induction w generalizing n with
  | zero => rfl
  | succ w ih => simp [natDigits, ih]

theorem digitsVal_append (a : List Nat) (d : Nat) : digitsVal (a ++ [d]) = 10 * digitsVal a + d := by
  simp [digitsVal, List.foldl_append]

theorem digitsVal_natDigits (w n : Nat) : digitsVal (natDigits w n) = n % 10 ^ w := by
  induction w generalizing n with
  | zero => simp [natDigits, digitsVal, Nat.mod_one]
  | succ w ih =>
    rw [natDigits, digitsVal_append, ih, Nat.pow_succ, Nat.mul_comm (10 ^ w) 10, Nat.mod_mul]
    omega

theorem foldl_digits_shift (l : List Nat) (a : Nat) :
    l.foldl (fun a d => 10 * a + d) a = a * 10 ^ l.length + digitsVal l := by
  induction l generalizing a with
  | nil => simp [digitsVal]
  | cons d ds ih =>
    simp only [List.foldl_cons, List.length_cons, digitsVal]
    rw [ih (10 * a + d), ih (10 * 0 + d), Nat.pow_succ]
    ring

theorem digitsVal_concat (a b : List Nat) : digitsVal (a ++ b) = digitsVal a * 10 ^ b.length + digitsVal b := by
  unfold digitsVal
  rw [List.foldl_append, foldl_digits_shift b]
  rfl

theorem readDigits_append (tbl : List Char) (a b : List Nat) :
    readDigits tbl (a ++ b) = match readDigits tbl a, readDigits tbl b with
      | some x, some y => some (x ++ y)
      | _, _ => none := by
  induction a with
  | nil =>
    simp only [List.nil_append, readDigits]
    cases readDigits tbl b <;> rfl
  | cons c cs ih =>
    simp only [List.cons_append, readDigits, ih]
    cases lookup tbl c <;> cases readDigits tbl cs <;> cases readDigits tbl b <;> rfl

theorem digits_chr_lookup : ∀ k < 10, lookup digits (chr digits k).toNat = some k := by decide +kernel
theorem letters_chr_lookup : ∀ k < 25, lookup letters (chr letters k).toNat = some k := by decide +kernel

theorem readDigits_digitsW (w n : Nat) : readDigits digits (toBytes (digitsW digits 10 w n)) = some (natDigits w n) := by
  induction w generalizing n with
  | zero => rfl
  | succ w ih =>
    rw [digitsW, Digits.toBytes_append, readDigits_append, ih, natDigits]
    simp only [toBytes, List.map_cons, List.map_nil, readDigits, digits_chr_lookup (n % 10) (Nat.mod_lt _ (by norm_num))]

theorem digitsW_split (tbl : List Char) (b : Nat) (hb : 0 < b) (w1 w2 a c : Nat) (hc : c < b ^ w2) :
    digitsW tbl b w1 a ++ digitsW tbl b w2 c = digitsW tbl b (w1 + w2) (a * b ^ w2 + c) := by
  induction w2 generalizing c with
  | zero =>
    have : c = 0 := by simpa using hc
    subst this
    simp [digitsW]
  | succ w2 ih =>
    have e1 : (a * b ^ (w2 + 1) + c) / b = a * b ^ w2 + c / b := by
      rw [Nat.pow_succ, ← Nat.mul_assoc, Nat.add_comm, Nat.add_mul_div_right _ _ hb, Nat.add_comm]
    have e2 : (a * b ^ (w2 + 1) + c) % b = c % b := by
      rw [Nat.pow_succ, ← Nat.mul_assoc, Nat.add_comm, Nat.add_mul_mod_self_right]
    have hc' : c / b < b ^ w2 := by
      rw [Nat.div_lt_iff_lt_mul hb, ← Nat.pow_succ]; exact hc
    show digitsW tbl b w1 a ++ digitsW tbl b (w2 + 1) c = digitsW tbl b (w1 + w2 + 1) (a * b ^ (w2 + 1) + c)
    rw [digitsW, digitsW, e1, e2, ← ih (c / b) hc', List.append_assoc]

theorem digitsW_nospace (w n : Nat) : ∀ c ∈ toBytes (digitsW digits 10 w n), isSpace c = false := by
  intro c hc
  simp only [toBytes, List.mem_map] at hc
  obtain ⟨ch, hch, rfl⟩ := hc
  obtain ⟨k, hk, rfl⟩ := Digits.digitsW_mem digits 10 (by norm_num) w n ch hch
  have : ∀ k < 10, isSpace (chr digits k).toNat = false := by decide +kernel
  exact this k hk

theorem letters_nospace (k : Nat) : isSpace (chr letters k).toNat = false := by
  by_cases hk : k < 25
  · have : ∀ k < 25, isSpace (chr letters k).toNat = false := by decide +kernel
    exact this k hk
  · have : chr letters k = '\x00' := by
      unfold chr
      rw [List.getD_eq_getElem?_getD, List.getElem?_eq_none (by
        have : letters.length = 25 := by decide +kernel
        omega)]
      rfl
    rw [this]; decide

/-- letters and two width-`p` decimal strings of the in-tile indices `X`, `Y` (units of `10^(5−p)` m) -/
def encodeCell (xh yh : Int) (X Y : Nat) (p : Nat) : List Char :=
  tileLetters xh yh ++ digitsW digits 10 p X ++ digitsW digits 10 p Y

def cellIndex (sc : Sc) (p : Nat) : Nat := sc.i1.toNat * 10 ^ (p - 5) + sc.i2.toNat

theorem encodeInt_eq_cell (sx sy : Sc) (p : Nat) (hx : sx.i2.toNat < 10 ^ (p - 5)) (hy : sy.i2.toNat < 10 ^ (p - 5)) :
    encodeInt sx sy p = encodeCell sx.h sy.h (cellIndex sx p) (cellIndex sy p) p := by
  unfold encodeInt encodeCell cellIndex
  have e5 : osgb_tilelevel.toNat = 5 := rfl
  have e10 : osgb_base.toNat = 10 := rfl
  simp only [e5, e10]
  by_cases h : p ≤ 5
  · have h0 : p - 5 = 0 := by omega
    have hm : min p 5 = p := by omega
    have zx : sx.i2.toNat = 0 := by simpa [h0] using hx
    have zy : sy.i2.toNat = 0 := by simpa [h0] using hy
    simp [h0, hm, digitsW, zx, zy]
  · have hm : min p 5 = 5 := by omega
    have hp : 5 + (p - 5) = p := by omega
    have ex := digitsW_split digits 10 (by norm_num) 5 (p - 5) sx.i1.toNat sx.i2.toNat hx
    have ey := digitsW_split digits 10 (by norm_num) 5 (p - 5) sy.i1.toNat sy.i2.toNat hy
    rw [hp] at ex ey
    rw [hm, ← ex, ← ey]
    simp only [List.append_assoc]

theorem tileLetters_form (xh yh : Int) :
    tileLetters xh yh = [chr letters ((5 - ((yh + 5) / 5) - 1) * 5 + ((xh + 10) / 5)).toNat,
                         chr letters ((5 - ((yh + 5) % 5) - 1) * 5 + ((xh + 10) % 5)).toNat] := rfl

theorem letterStep_tileIndex (xh yh : Int) (hx : -10 ≤ xh ∧ xh < 15) (hy : -5 ≤ yh ∧ yh < 20) :
    let i := ((5 - ((yh + 5) / 5) - 1) * 5 + ((xh + 10) / 5)).toNat
    let j := ((5 - ((yh + 5) % 5) - 1) * 5 + ((xh + 10) % 5)).toNat
    i < 25 ∧ j < 25 ∧ (letterStep (letterStep (0, 0) i) j).1 - osgb_tileoffx = xh ∧
      (letterStep (letterStep (0, 0) i) j).2 - osgb_tileoffy = yh := by
  intro i j
  have hi : (i : Int) = (5 - ((yh + 5) / 5) - 1) * 5 + ((xh + 10) / 5) := by omega
  have hj : (j : Int) = (5 - ((yh + 5) % 5) - 1) * 5 + ((xh + 10) % 5) := by omega
  simp only [letterStep, osgb_tilegrid, osgb_tileoffx, osgb_tileoffy]
  refine ⟨by omega, by omega, by omega, by omega⟩

theorem decode_encodeCell (xh yh : Int) (X Y p : Nat) (hp : p ≤ 11) (hx : -10 ≤ xh ∧ xh < 15) (hy : -5 ≤ yh ∧ yh < 20) :
    decodeInt (toBytes (encodeCell xh yh X Y p)) = .ok ⟨xh, yh, natDigits p X, natDigits p Y, p⟩ := by
  obtain ⟨hi25, hj25, hxh, hyh⟩ := letterStep_tileIndex xh yh hx hy
  set i := ((5 - ((yh + 5) / 5) - 1) * 5 + ((xh + 10) / 5)).toNat with hi
  set j := ((5 - ((yh + 5) % 5) - 1) * 5 + ((xh + 10) % 5)).toNat with hj
  set dx := toBytes (digitsW digits 10 p X) with hdx
  set dy := toBytes (digitsW digits 10 p Y) with hdy
  have ldx : dx.length = p := by simp [hdx, toBytes, Digits.digitsW_length]
  have ldy : dy.length = p := by simp [hdy, toBytes, Digits.digitsW_length]
  have hS : toBytes (encodeCell xh yh X Y p) = (chr letters i).toNat :: (chr letters j).toNat :: (dx ++ dy) := by
    unfold encodeCell
    rw [tileLetters_form]
    simp [toBytes, hdx, hdy, hi, hj]
  have hfilt : ((chr letters i).toNat :: (chr letters j).toNat :: (dx ++ dy)).filter (fun c => !isSpace c)
      = (chr letters i).toNat :: (chr letters j).toNat :: (dx ++ dy) := by
    apply List.filter_eq_self.mpr
    intro c hc
    rcases List.mem_cons.mp hc with rfl | hc
    · simp [letters_nospace]
    rcases List.mem_cons.mp hc with rfl | hc
    · simp [letters_nospace]
    rcases List.mem_append.mp hc with h | h
    · simp [digitsW_nospace p X c h]
    · simp [digitsW_nospace p Y c h]
  unfold decodeInt
  simp only [hS, hfilt]
  have hlen : ((chr letters i).toNat :: (chr letters j).toNat :: (dx ++ dy)).length = 2 + 2 * p := by
    simp [ldx, ldy]; omega
  have e11 : osgb_maxprec.toNat = 11 := rfl
  rw [hlen, e11]
  rw [if_neg (by omega), if_neg (by omega), if_neg (by omega)]
  have g0 : ((chr letters i).toNat :: (chr letters j).toNat :: (dx ++ dy)).getD 0 0 = (chr letters i).toNat := rfl
  have g1 : ((chr letters i).toNat :: (chr letters j).toNat :: (dx ++ dy)).getD 1 0 = (chr letters j).toNat := rfl
  rw [g0, g1, letters_chr_lookup i hi25, letters_chr_lookup j hj25]
  simp only []
  have hprec : (2 + 2 * p - 2) / 2 = p := by omega
  rw [hprec]
  have d1 : (List.drop 2 ((chr letters i).toNat :: (chr letters j).toNat :: (dx ++ dy))).take p = dx := by
    simp [List.take_append_of_le_length, ldx]
  have d2 : List.drop (2 + p) ((chr letters i).toNat :: (chr letters j).toNat :: (dx ++ dy)) = dy := by
    rw [Nat.add_comm]
    simp [List.drop_append, ldx]
  rw [d1, d2, hdx, hdy, readDigits_digitsW, readDigits_digitsW]
  simp only []
  rw [hxh, hyh]

theorem digitsW_eq_map (w n : Nat) : digitsW digits 10 w n = (natDigits w n).map (chr digits) := by
  induction w generalizing n with
  | zero => rfl
  | succ w ih => simp [digitsW, natDigits, ih]

theorem natDigits_digitsVal (ds : List Nat) (h : ∀ d ∈ ds, d < 10) : natDigits ds.length (digitsVal ds) = ds := by
  induction ds using List.reverseRecOn with
  | nil => rfl
  | append_singleton init d ih =>
    have hd : d < 10 := h d (by simp)
    rw [List.length_append, List.length_singleton, natDigits, digitsVal_append,
      show (10 * digitsVal init + d) / 10 = digitsVal init by omega,
      show (10 * digitsVal init + d) % 10 = d by omega,
      ih (fun x hx => h x (by simp [hx]))]

theorem readDigits_spec (l ds : List Nat) (h : readDigits digits l = some ds) :
    l = ds.map (48 + ·) ∧ ∀ d ∈ ds, d < 10 := by
  induction l generalizing ds with
  | nil =>
    have : ds = [] := by simpa [readDigits] using h.symm
    subst this; simp
  | cons c cs ih =>
    unfold readDigits at h
    cases hc : lookup digits c with
    | none => rw [hc] at h; simp at h
    | some k =>
      cases hr : readDigits digits cs with
      | none => rw [hc, hr] at h; simp at h
      | some ks =>
        rw [hc, hr] at h
        have : ds = k :: ks := by simpa using h.symm
        subst this
        obtain ⟨a, b⟩ := ih ks hr
        obtain ⟨k10, ck⟩ := digits_lookup_val c k hc
        refine ⟨by simp [ck, ← a], ?_⟩
        intro d hd
        rcases List.mem_cons.mp hd with rfl | hd
        · exact k10
        · exact b d hd

theorem readDigits_isSome_iff (l : List Nat) : (readDigits digits l).isSome = true ↔ ∀ c ∈ l, isDigit c = true := by
  induction l with
  | nil => simp [readDigits]
  | cons c cs ih =>
    unfold readDigits
    have hd := digits_isSome c
    cases hc : lookup digits c with
    | none =>
      rw [hc] at hd
      simp only [Option.isSome_none] at hd
      simp [← hd]
    | some k =>
      rw [hc] at hd
      simp only [Option.isSome_some] at hd
      cases hr : readDigits digits cs with
      | none =>
        rw [hr] at ih
        simp only [Option.isSome_none, Bool.false_eq_true, false_iff] at ih
        simp only [Option.isSome_none, Bool.false_eq_true, List.mem_cons, forall_eq_or_imp, false_iff, not_and]
        intro _; exact ih
      | some ks =>
        rw [hr] at ih
        simp only [Option.isSome_some, true_iff] at ih
        simp only [Option.isSome_some, List.mem_cons, forall_eq_or_imp, true_iff]
        exact ⟨hd.symm, ih⟩

theorem chr_digits_toNat : ∀ k < 10, (chr digits k).toNat = 48 + k := by decide +kernel

theorem upper_digit (d : Nat) (h : d < 10) : upper (48 + d) = 48 + d := by
  unfold upper; rw [if_neg (by omega)]

theorem tileLetters_letterStep (i j : Nat) (hi : i < 25) (hj : j < 25) :
    tileLetters ((letterStep (letterStep (0, 0) i) j).1 - osgb_tileoffx) ((letterStep (letterStep (0, 0) i) j).2 - osgb_tileoffy)
      = [chr letters i, chr letters j] := by
  rw [tileLetters_form]
  simp only [letterStep, osgb_tilegrid, osgb_tileoffx, osgb_tileoffy]
  have a : ((5 - (((0:Int) * 5 + 5 - (i:Int) / 5 - 1) * 5 + 5 - (j:Int) / 5 - 1 - 5 + 5) / 5 - 1) * 5
      + (((0:Int) * 5 + (i:Int) % 5) * 5 + (j:Int) % 5 - 10 + 10) / 5).toNat = i := by omega
  have b : ((5 - (((0:Int) * 5 + 5 - (i:Int) / 5 - 1) * 5 + 5 - (j:Int) / 5 - 1 - 5 + 5) % 5 - 1) * 5
      + (((0:Int) * 5 + (i:Int) % 5) * 5 + (j:Int) % 5 - 10 + 10) % 5).toNat = j := by omega
  rw [a, b]

theorem letterStep_range (i j : Nat) (hi : i < 25) (hj : j < 25) :
    -10 ≤ (letterStep (letterStep (0, 0) i) j).1 - osgb_tileoffx ∧ (letterStep (letterStep (0, 0) i) j).1 - osgb_tileoffx < 15 ∧
    -5 ≤ (letterStep (letterStep (0, 0) i) j).2 - osgb_tileoffy ∧ (letterStep (letterStep (0, 0) i) j).2 - osgb_tileoffy < 20 := by
  simp only [letterStep, osgb_tilegrid, osgb_tileoffx, osgb_tileoffy]
  omega

theorem decodeInt_ok (s : List Nat) (d : Dec) (h : decodeInt s = .ok d) :
    let g := s.filter (fun c => !isSpace c)
    ∃ i j : Nat, g.length = 2 + 2 * d.prec ∧ d.prec ≤ 11 ∧
      lookup letters (g.getD 0 0) = some i ∧ lookup letters (g.getD 1 0) = some j ∧
      d.xh = (letterStep (letterStep (0, 0) i) j).1 - osgb_tileoffx ∧ d.yh = (letterStep (letterStep (0, 0) i) j).2 - osgb_tileoffy ∧
      readDigits digits ((g.drop 2).take d.prec) = some d.xd ∧ readDigits digits (g.drop (2 + d.prec)) = some d.yd := by
  intro g
  unfold decodeInt at h
  simp only [] at h
  have e11 : osgb_maxprec.toNat = 11 := rfl
  rw [e11] at h
  by_cases c1 : g.length > 2 + 2 * 11
  · rw [if_pos c1] at h; cases h
  rw [if_neg c1] at h
  by_cases c2 : g.length < 2
  · rw [if_pos c2] at h; cases h
  rw [if_neg c2] at h
  by_cases c3 : g.length % 2 ≠ 0
  · rw [if_pos c3] at h; cases h
  rw [if_neg c3] at h
  cases hi : lookup letters (g.getD 0 0) with
  | none => rw [hi] at h; cases h
  | some i =>
    cases hj : lookup letters (g.getD 1 0) with
    | none => rw [hi, hj] at h; cases h
    | some j =>
      rw [hi, hj] at h
      simp only [] at h
      cases hx : readDigits digits ((g.drop 2).take ((g.length - 2) / 2)) with
      | none => rw [hx] at h; cases h
      | some xd =>
        cases hy : readDigits digits (g.drop (2 + (g.length - 2) / 2)) with
        | none => rw [hx, hy] at h; cases h
        | some yd =>
          rw [hx, hy] at h
          simp only [] at h
          have hd : d = ⟨(letterStep (letterStep (0, 0) i) j).1 - osgb_tileoffx, (letterStep (letterStep (0, 0) i) j).2 - osgb_tileoffy,
              xd, yd, (g.length - 2) / 2⟩ := by
            injection h with h; exact h.symm
          subst hd
          exact ⟨i, j, by show g.length = 2 + 2 * ((g.length - 2) / 2); omega, by show (g.length - 2) / 2 ≤ 11; omega,
            rfl, rfl, rfl, rfl, hx, hy⟩

theorem reencode (s : List Nat) (d : Dec) (h : decodeInt s = .ok d) :
    toBytes (encodeCell d.xh d.yh (digitsVal d.xd) (digitsVal d.yd) d.prec) = (s.filter (fun c => !isSpace c)).map upper := by
  obtain ⟨i, j, hlen, _, hi, hj, hxh, hyh, hx, hy⟩ := decodeInt_ok s d h
  set g := s.filter (fun c => !isSpace c) with hg
  obtain ⟨_, i25, ci⟩ := lookup_some_spec letters _ i hi
  obtain ⟨_, j25, cj⟩ := lookup_some_spec letters _ j hj
  have l25 : letters.length = 25 := by decide +kernel
  rw [l25] at i25 j25
  obtain ⟨ex, bx⟩ := readDigits_spec _ _ hx
  obtain ⟨ey, by_⟩ := readDigits_spec _ _ hy
  have lxd : d.xd.length = d.prec := by
    have := congrArg List.length ex
    rw [List.length_map, List.length_take, List.length_drop] at this
    omega
  have lyd : d.yd.length = d.prec := by
    have := congrArg List.length ey
    rw [List.length_map, List.length_drop] at this
    omega
  have hsplit : g = g.getD 0 0 :: g.getD 1 0 :: ((g.drop 2).take d.prec ++ g.drop (2 + d.prec)) := by
    match g, hlen with
    | a :: b :: rest, _ =>
      simp only [List.getD_cons_zero, List.getD_cons_succ, List.drop_succ_cons, List.drop_zero]
      rw [show 2 + d.prec = d.prec + 2 by omega]
      simp only [List.drop_succ_cons, List.take_append_drop]
    | [], hl => simp at hl; omega
    | [_], hl => simp at hl; omega
  unfold encodeCell
  rw [hxh, hyh, tileLetters_letterStep i j i25 j25]
  rw [← lxd, digitsW_eq_map, natDigits_digitsVal _ bx, lxd, ← lyd, digitsW_eq_map, natDigits_digitsVal _ by_]
  conv_rhs => rw [hsplit]
  rw [ex, ey]
  simp only [toBytes, List.map_cons, List.map_append, List.map_map, List.cons_append, List.nil_append, ci, cj]
  congr 2
  have hdig : ∀ ds : List Nat, (∀ d ∈ ds, d < 10) →
      ds.map (Char.toNat ∘ chr digits) = ds.map (upper ∘ fun x => 48 + x) := by
    intro ds hds
    apply List.map_congr_left
    intro k hk
    simp only [Function.comp]
    rw [chr_digits_toNat k (hds k hk), upper_digit k (hds k hk)]
  congr 1
  · exact hdig _ bx
  · exact hdig _ by_

theorem upper_idem (c : Nat) : upper (upper c) = upper c := by
  unfold upper
  by_cases h : 97 ≤ c ∧ c ≤ 122
  · rw [if_pos h, if_neg (by omega)]
  · rw [if_neg h, if_neg h]

theorem upper_eq_zero (c : Nat) : upper c = 0 ↔ c = 0 := by
  unfold upper
  by_cases h : 97 ≤ c ∧ c ≤ 122
  · rw [if_pos h]; omega
  · rw [if_neg h]

theorem lookup_upper (tbl : List Char) (c : Nat) : lookup tbl (upper c) = lookup tbl c := by
  unfold lookup
  rw [upper_idem]
  by_cases h : c = 0
  · rw [if_pos ((upper_eq_zero c).mpr h), if_pos h]
  · rw [if_neg (fun e => h ((upper_eq_zero c).mp e)), if_neg h]

theorem isSpace_upper (c : Nat) : isSpace (upper c) = isSpace c := by
  unfold upper
  by_cases h : 97 ≤ c ∧ c ≤ 122
  · rw [if_pos h]
    have a : isSpace (c - 32) = false := by
      unfold isSpace
      have a1 : ¬ (c - 32 = 32) := by omega
      have a2 : ¬ (c - 32 ≤ 13) := by omega
      simp [a1, a2]
    have b : isSpace c = false := by
      unfold isSpace
      have b1 : ¬ (c = 32) := by omega
      have b2 : ¬ (c ≤ 13) := by omega
      simp [b1, b2]
    rw [a, b]
  · rw [if_neg h]

theorem readDigits_upper (tbl : List Char) (l : List Nat) : readDigits tbl (l.map upper) = readDigits tbl l := by
  induction l with
  | nil => rfl
  | cons c cs ih => simp only [List.map_cons, readDigits, lookup_upper, ih]

end GeoVerif.OSGBInt
