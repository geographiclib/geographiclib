import GeoVerif.Model.MaskInverse
import GeoVerif.Proofs.Mask
/-! `Canon` / `CanonX` (what `Props/C12.lean` checks of the masks `GenInverse` hands to `Lengths`) and, from them, the mask
independence of `GenInverse` (`genInverse_agree`), which outputs it assigns, and that it reads no unassigned local. -/
namespace GeoVerif.Props.C12
open GeoVerif GeoVerif.Mask Gen.Mask

theorem want_M21 (e : Enum) (x : Nat) : want e x .M21 = want e x .M12 := rfl

/-- the masks `GenInverse` passes to `Lengths` are *canonical* at the (reduced) mask `m`: what the caller wants is asked
    of `Lengths`, `GEODESICSCALE` is asked of it exactly when the caller wants it, on the meridional branch the distance
    and the reduced length are always obtained (they are tested), and `DISTANCE` accompanies `REDUCEDLENGTH` /
    `GEODESICSCALE` (so that the series `Lengths` forms `J12` in one way only) -/
def Canon (c : InvCfg) (m : Nat) : Prop :=
  (want c.e m .s12 = true → want c.e (c.newt m &&& c.red) .s12 = true) ∧
  (want c.e m .m12 = true → want c.e (c.newt m &&& c.red) .m12 = true) ∧
  want c.e (c.newt m &&& c.red) .M12 = want c.e m .M12 ∧
  (wantRG c.e (c.newt m &&& c.red) = true → want c.e (c.newt m &&& c.red) .s12 = true) ∧
  want c.e (c.mer m &&& c.red) .M12 = want c.e m .M12 ∧
  want c.e (c.mer m &&& c.red) .m12 = true ∧
  want c.e (c.mer m &&& c.red) .s12 = true
instance (c : InvCfg) (m : Nat) : Decidable (Canon c m) := by unfold Canon; infer_instance

/-- the same without the two `DISTANCE` clauses (the exact `Lengths` forms `J12` in one way) -/
def CanonX (c : InvCfg) (m : Nat) : Prop :=
  (want c.e m .s12 = true → want c.e (c.newt m &&& c.red) .s12 = true) ∧
  (want c.e m .m12 = true → want c.e (c.newt m &&& c.red) .m12 = true) ∧
  want c.e (c.newt m &&& c.red) .M12 = want c.e m .M12 ∧
  want c.e (c.mer m &&& c.red) .M12 = want c.e m .M12 ∧
  want c.e (c.mer m &&& c.red) .m12 = true
instance (c : InvCfg) (m : Nat) : Decidable (CanonX c m) := by unfold CanonX; infer_instance

theorem Canon.toX {c : InvCfg} {m : Nat} (h : Canon c m) : CanonX c m :=
  ⟨h.1, h.2.1, h.2.2.1, h.2.2.2.2.1, h.2.2.2.2.2.1⟩

section Clauses
variable {c : InvCfg} {m : Nat}

theorem CanonX.newt_s12 (h : CanonX c m) : want c.e m .s12 = true → want c.e (c.newt m &&& c.red) .s12 = true := h.1
theorem CanonX.newt_m12 (h : CanonX c m) : want c.e m .m12 = true → want c.e (c.newt m &&& c.red) .m12 = true := h.2.1
theorem CanonX.newt_M12 (h : CanonX c m) : want c.e (c.newt m &&& c.red) .M12 = want c.e m .M12 := h.2.2.1
theorem CanonX.mer_M12 (h : CanonX c m) : want c.e (c.mer m &&& c.red) .M12 = want c.e m .M12 := h.2.2.2.1
theorem CanonX.mer_m12 (h : CanonX c m) : want c.e (c.mer m &&& c.red) .m12 = true := h.2.2.2.2
theorem Canon.newt_dist (h : Canon c m) : wantRG c.e (c.newt m &&& c.red) = true → want c.e (c.newt m &&& c.red) .s12 = true :=
  h.2.2.2.1
theorem Canon.mer_s12 (h : Canon c m) : want c.e (c.mer m &&& c.red) .s12 = true := h.2.2.2.2.2.2

end Clauses

def FieldsAgree (e : Enum) (l1 l2 : Nat) (L1 L2 : LenOut) : Prop :=
  (want e l1 .s12 = true → want e l2 .s12 = true → L1.s12b = L2.s12b) ∧
  (want e l1 .m12 = true → want e l2 .m12 = true → L1.m12b = L2.m12b) ∧
  (want e l1 .M12 = true → want e l2 .M12 = true → L1.M12 = L2.M12 ∧ L1.M21 = L2.M21)

/-- the series `Lengths` forms `J12` in two ways; with `DISTANCE` accompanying `REDUCEDLENGTH` / `GEODESICSCALE` in both
    masks it is the same one -/
theorem lengthsG_agree (e : Enum) (l1 l2 : Nat) (eps : T)
    (d1 : wantRG e l1 = true → want e l1 .s12 = true) (d2 : wantRG e l2 = true → want e l2 .s12 = true) :
    FieldsAgree e l1 l2 (lengthsG e l1 eps) (lengthsG e l2 eps) := by
  refine ⟨fun h1 h2 => ?_, fun r1 r2 => ?_, fun g1 g2 => ?_⟩
  · simp only [lengthsG, wantLen_eq, h1, h2, Bool.true_or]
  · have h1 := d1 (wantRG_of_m12 r1)
    have h2 := d2 (wantRG_of_m12 r2)
    simp only [lengthsG, wantLen_eq, wantRG_eq, h1, h2, r1, r2, Bool.true_or, Bool.and_self]
  · have h1 := d1 (wantRG_of_M12 g1)
    have h2 := d2 (wantRG_of_M12 g2)
    have g1' : want e l1 .M21 = true := g1
    have g2' : want e l2 .M21 = true := g2
    simp only [lengthsG, wantLen_eq, wantRG_eq, h1, h2, g1, g2, g1', g2', Bool.true_or, Bool.or_true, Bool.and_self, and_self]

theorem lengthsX_agree (e : Enum) (l1 l2 : Nat) (E : T) : FieldsAgree e l1 l2 (lengthsX e l1 E) (lengthsX e l2 E) := by
  refine ⟨fun h1 h2 => ?_, fun r1 r2 => ?_, fun g1 g2 => ?_⟩
  · simp only [lengthsX, h1, h2]
  · simp only [lengthsX, wantRG_of_m12 r1, wantRG_of_m12 r2, r1, r2, Bool.and_self]
  · have g1' : want e l1 .M21 = true := g1
    have g2' : want e l2 .M21 = true := g2
    simp only [lengthsX, wantRG_of_M12 g1, wantRG_of_M12 g2, g1, g2, g1', g2', Bool.and_self, and_self]

theorem lengthsG_M_none (e : Enum) (l : Nat) (eps : T) (g : want e l .M12 = false) :
    (lengthsG e l eps).M12 = none ∧ (lengthsG e l eps).M21 = none := by
  have g' : want e l .M21 = false := g
  constructor <;> simp [lengthsG, g, g']

def ScaleIffWanted (e : Enum) (l : Nat) (L : LenOut) : Prop :=
  L.M12.isSome = want e l .M12 ∧ L.M21.isSome = want e l .M21

theorem lengthsG_scale (e : Enum) (l : Nat) (eps : T) : ScaleIffWanted e l (lengthsG e l eps) := by
  constructor <;> simp only [lengthsG, isSome_ite]

theorem lengthsX_scale (e : Enum) (l : Nat) (E : T) : ScaleIffWanted e l (lengthsX e l E) := by
  constructor <;> simp only [lengthsX, wantRG_and_M12, wantRG_and_M21, isSome_ite]

theorem mem_writtenInverse_iff (e : Enum) (om : Nat) (o : Out) :
    o ∈ writtenInverse e om ↔ (o ≠ .lat2 ∧ o ≠ .lon2) ∧ want e (om &&& e.outMask) o = true := by
  unfold writtenInverse want
  cases o <;> simp [List.mem_filter]

section GenInverse
variable (c : InvCfg) (br : InvBranch) (m1 m2 : Nat)
  (an : FieldsAgree c.e (c.newt m1 &&& c.red) (c.newt m2 &&& c.red)
    (c.lengths c.e (c.newt m1 &&& c.red) (.sym "eps|E")) (c.lengths c.e (c.newt m2 &&& c.red) (.sym "eps|E")))
  (am : FieldsAgree c.e (c.mer m1 &&& c.red) (c.mer m2 &&& c.red)
    (c.lengths c.e (c.mer m1 &&& c.red) (.sym "_n|E")) (c.lengths c.e (c.mer m2 &&& c.red) (.sym "_n|E")))
  (c1 : CanonX c m1) (c2 : CanonX c m2)
  (hmer : br = .meridian → want c.e (c.mer m1 &&& c.red) .s12 = true ∧ want c.e (c.mer m2 &&& c.red) .s12 = true)
include am c1 c2 hmer

/-- the meridional branch tests `s12x` and `m12x` whatever is requested, so both must have been asked of `Lengths` -/
theorem invCore_a12_agree : (invCore c br m1).a12 = (invCore c br m2).a12 := by
  cases br
  case meridian => simp only [invCore, am.1 (hmer rfl).1 (hmer rfl).2, am.2.1 c1.mer_m12 c2.mer_m12]
  all_goals rfl

include an

theorem invCore_s12x_agree (h1 : want c.e m1 .s12 = true) (h2 : want c.e m2 .s12 = true) :
    (invCore c br m1).s12x = (invCore c br m2).s12x := by
  cases br
  case meridian => simp only [invCore, am.1 (hmer rfl).1 (hmer rfl).2, am.2.1 c1.mer_m12 c2.mer_m12]
  case newton => simp only [invCore, an.1 (c1.newt_s12 h1) (c2.newt_s12 h2)]
  all_goals rfl

theorem invCore_m12x_agree (h1 : want c.e m1 .m12 = true) (h2 : want c.e m2 .m12 = true) :
    (invCore c br m1).m12x = (invCore c br m2).m12x := by
  cases br
  case meridian => simp only [invCore, am.1 (hmer rfl).1 (hmer rfl).2, am.2.1 c1.mer_m12 c2.mer_m12]
  case newton => simp only [invCore, an.2.1 (c1.newt_m12 h1) (c2.newt_m12 h2)]
  all_goals rfl

theorem invCore_M_agree (h1 : want c.e m1 .M12 = true) (h2 : want c.e m2 .M12 = true) :
    (invCore c br m1).M12 = (invCore c br m2).M12 ∧ (invCore c br m1).M21 = (invCore c br m2).M21 := by
  have hn := an.2.2 (c1.newt_M12.trans h1) (c2.newt_M12.trans h2)
  have hm := am.2.2 (c1.mer_M12.trans h1) (c2.mer_M12.trans h2)
  cases br <;> simp only [invCore, hn, hm, h1, h2, and_self]

end GenInverse

theorem genInverse_agree (c : InvCfg) (br : InvBranch) (wred : Nat) (om1 om2 : Nat) (o : Out)
    (an : FieldsAgree c.e (c.newt (om1 &&& wred) &&& c.red) (c.newt (om2 &&& wred) &&& c.red)
      (c.lengths c.e (c.newt (om1 &&& wred) &&& c.red) (.sym "eps|E")) (c.lengths c.e (c.newt (om2 &&& wred) &&& c.red) (.sym "eps|E")))
    (am : FieldsAgree c.e (c.mer (om1 &&& wred) &&& c.red) (c.mer (om2 &&& wred) &&& c.red)
      (c.lengths c.e (c.mer (om1 &&& wred) &&& c.red) (.sym "_n|E")) (c.lengths c.e (c.mer (om2 &&& wred) &&& c.red) (.sym "_n|E")))
    (c1 : CanonX c (om1 &&& wred)) (c2 : CanonX c (om2 &&& wred))
    (hmer : br = .meridian → want c.e (c.mer (om1 &&& wred) &&& c.red) .s12 = true ∧ want c.e (c.mer (om2 &&& wred) &&& c.red) .s12 = true)
    (h1 : want c.e (om1 &&& wred) o = true) (h2 : want c.e (om2 &&& wred) o = true) :
    genInverse c wred br om1 o = genInverse c wred br om2 o ∧ genInverseRet c wred br om1 = genInverseRet c wred br om2 := by
  refine ⟨?_, invCore_a12_agree c br _ _ am c1 c2 hmer⟩
  cases o
  case lat2 => rfl
  case lon2 => rfl
  case azi2 => simp only [genInverse, h1, h2]
  case S12 => simp only [genInverse, h1, h2]
  case s12 => simp only [genInverse, h1, h2, invCore_s12x_agree c br _ _ an am c1 c2 hmer h1 h2]
  case m12 => simp only [genInverse, h1, h2, invCore_m12x_agree c br _ _ an am c1 c2 hmer h1 h2]
  case M12 =>
    have := invCore_M_agree c br _ _ an am c1 c2 hmer h1 h2
    simp only [genInverse, h1, h2, this.1, this.2]
  case M21 =>
    have := invCore_M_agree c br _ _ an am c1 c2 hmer h1 h2
    simp only [genInverse, h1, h2, this.1, this.2]

theorem genInverseG_ret_mask_independent (c : InvCfg) (hl : c.lengths = lengthsG) (wred : Nat) (br : InvBranch) (om1 om2 : Nat)
    (c1 : Canon c (om1 &&& wred)) (c2 : Canon c (om2 &&& wred)) :
    genInverseRet c wred br om1 = genInverseRet c wred br om2 := by
  refine invCore_a12_agree c br _ _ ?_ c1.toX c2.toX (fun _ => ⟨c1.mer_s12, c2.mer_s12⟩)
  rw [hl]; exact lengthsG_agree _ _ _ _ (fun _ => c1.mer_s12) (fun _ => c2.mer_s12)

theorem genInverseG_mask_independent (c : InvCfg) (hl : c.lengths = lengthsG) (wred : Nat) (br : InvBranch) (om1 om2 : Nat) (o : Out)
    (h1 : want c.e (om1 &&& wred) o = true) (h2 : want c.e (om2 &&& wred) o = true)
    (c1 : Canon c (om1 &&& wred)) (c2 : Canon c (om2 &&& wred)) :
    genInverse c wred br om1 o = genInverse c wred br om2 o ∧ genInverseRet c wred br om1 = genInverseRet c wred br om2 := by
  refine genInverse_agree c br wred om1 om2 o ?_ ?_ c1.toX c2.toX (fun _ => ⟨c1.mer_s12, c2.mer_s12⟩) h1 h2
  · rw [hl]; exact lengthsG_agree _ _ _ _ c1.newt_dist c2.newt_dist
  · rw [hl]; exact lengthsG_agree _ _ _ _ (fun _ => c1.mer_s12) (fun _ => c2.mer_s12)

/-- the exact `Lengths` needs no `DISTANCE` to form `J12`, but the meridional branch reads `s12x`: `hmer`
    (discharged by `geodx_meridian_distance_always`) -/
theorem genInverseX_mask_independent (c : InvCfg) (hl : c.lengths = lengthsX) (wred : Nat) (br : InvBranch) (om1 om2 : Nat) (o : Out)
    (h1 : want c.e (om1 &&& wred) o = true) (h2 : want c.e (om2 &&& wred) o = true)
    (c1 : CanonX c (om1 &&& wred)) (c2 : CanonX c (om2 &&& wred))
    (hmer : br = .meridian → want c.e (c.mer (om1 &&& wred) &&& c.red) .s12 = true ∧ want c.e (c.mer (om2 &&& wred) &&& c.red) .s12 = true) :
    genInverse c wred br om1 o = genInverse c wred br om2 o ∧ genInverseRet c wred br om1 = genInverseRet c wred br om2 := by
  refine genInverse_agree c br wred om1 om2 o ?_ ?_ c1 c2 hmer h1 h2 <;> rw [hl] <;> exact lengthsX_agree _ _ _ _

theorem invCore_scale (c : InvCfg) (br : InvBranch) (m : Nat) (cx : CanonX c m)
    (sn : ScaleIffWanted c.e (c.newt m &&& c.red) (c.lengths c.e (c.newt m &&& c.red) (.sym "eps|E")))
    (sm : ScaleIffWanted c.e (c.mer m &&& c.red) (c.lengths c.e (c.mer m &&& c.red) (.sym "_n|E"))) :
    (invCore c br m).M12.isSome = want c.e m .M12 ∧ (invCore c br m).M21.isSome = want c.e m .M12 := by
  cases br
  case meridian => exact ⟨sm.1.trans cx.mer_M12, sm.2.trans cx.mer_M12⟩
  case newton => exact ⟨sn.1.trans cx.newt_M12, sn.2.trans cx.newt_M12⟩
  all_goals exact ⟨isSome_ite _ _, isSome_ite _ _⟩

theorem genInverse_isSome_iff (c : InvCfg) (br : InvBranch) (om : Nat) (o : Out) (cx : CanonX c (om &&& c.e.outMask))
    (sn : ScaleIffWanted c.e (c.newt (om &&& c.e.outMask) &&& c.red) (c.lengths c.e (c.newt (om &&& c.e.outMask) &&& c.red) (.sym "eps|E")))
    (sm : ScaleIffWanted c.e (c.mer (om &&& c.e.outMask) &&& c.red) (c.lengths c.e (c.mer (om &&& c.e.outMask) &&& c.red) (.sym "_n|E"))) :
    (genInverse c c.e.outMask br om o).isSome = true ↔ o ∈ writtenInverse c.e om := by
  rw [mem_writtenInverse_iff]
  obtain ⟨k1, k2⟩ := invCore_scale c br _ cx sn sm
  cases o
  case M12 =>
    cases hw : want c.e (om &&& c.e.outMask) .M12
    · simp [genInverse, hw, k1]
    · rw [hw] at k1 k2
      obtain ⟨a, ha⟩ := Option.isSome_iff_exists.mp k1
      obtain ⟨b, hb⟩ := Option.isSome_iff_exists.mp k2
      simp [genInverse, hw, ha, hb]
  case M21 =>
    cases hw : want c.e (om &&& c.e.outMask) .M12
    · have hw' : want c.e (om &&& c.e.outMask) .M21 = false := hw
      simp [genInverse, hw', k2, hw]
    · rw [hw] at k1 k2
      have hw' : want c.e (om &&& c.e.outMask) .M21 = true := hw
      obtain ⟨a, ha⟩ := Option.isSome_iff_exists.mp k1
      obtain ⟨b, hb⟩ := Option.isSome_iff_exists.mp k2
      simp [genInverse, hw', ha, hb]
  all_goals simp [genInverse, isSome_ite]

theorem genInverseG_no_uninit (c : InvCfg) (hl : c.lengths = lengthsG) (wred : Nat) (br : InvBranch) (om : Nat) (o : Out)
    (h : want c.e (om &&& wred) o = true) (cn : Canon c (om &&& wred)) :
    (genInverse c wred br om o).all (fun t => !t.hasUninit) = true ∧ (genInverseRet c wred br om).hasUninit = false := by
  obtain ⟨ns, nm, nG, nJ, mG, mm, ms⟩ := cn
  constructor
  · cases o
    case lat2 => rfl
    case lon2 => rfl
    case azi2 => simp [genInverse, h, T.hasUninit, T.anyUninit]
    case S12 => simp [genInverse, h, T.hasUninit, T.anyUninit]
    case s12 =>
      cases br <;> simp [genInverse, h, invCore, hl, lengthsG, wantLen_eq, wantRG_eq, orUninit, lenArgs, ms, mm, ns h, T.hasUninit, T.anyUninit]
    case m12 =>
      have n2 := nm h
      have n1 := nJ (wantRG_of_m12 n2)
      cases br <;> simp [genInverse, h, invCore, hl, lengthsG, wantLen_eq, wantRG_eq, orUninit, lenArgs, ms, mm, n1, n2, T.hasUninit, T.anyUninit]
    case M12 =>
      have g1 := nG.trans h
      have g2 := mG.trans h
      have n1 := nJ (wantRG_of_M12 g1)
      have g1' : want c.e (c.newt (om &&& wred) &&& c.red) .M21 = true := g1
      have g2' : want c.e (c.mer (om &&& wred) &&& c.red) .M21 = true := g2
      cases br <;> simp [genInverse, h, invCore, hl, lengthsG, wantLen_eq, wantRG_eq, orUninit, lenArgs, ms, mm, n1, g1, g2, g1', g2', T.hasUninit, T.anyUninit]
    case M21 =>
      have h' : want c.e (om &&& wred) .M12 = true := h
      have g1 := nG.trans h'
      have g2 := mG.trans h'
      have n1 := nJ (wantRG_of_M12 g1)
      have g1' : want c.e (c.newt (om &&& wred) &&& c.red) .M21 = true := g1
      have g2' : want c.e (c.mer (om &&& wred) &&& c.red) .M21 = true := g2
      cases br <;> simp [genInverse, h, h', invCore, hl, lengthsG, wantLen_eq, wantRG_eq, orUninit, lenArgs, ms, mm, n1, g1, g2, g1', g2', T.hasUninit, T.anyUninit]
  · cases br <;> simp [genInverseRet, invCore, hl, lengthsG, wantLen_eq, wantRG_eq, orUninit, lenArgs, ms, mm, T.hasUninit, T.anyUninit]

end GeoVerif.Props.C12
