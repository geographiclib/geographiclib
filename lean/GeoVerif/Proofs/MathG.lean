import GeoVerif.Proofs.TwoSum
import GeoVerif.Model.MathG
/-!
About the degree functions of `Model/MathG.lean`.  The special-value branches of `sincosd` (`2|d| = 90`, `3|d| = 90`) are taken exactly at ±45°, ±30°; `remquo` is odd and
shifts with even multiples (from uniqueness of the nearest-even integer); the quadrant switch; exact results of
`atan2d` on the axes, `atand(±1)`, `tand` at odd multiples of 45°; the first subtraction of `AngRound`.
-/
namespace GeoVerif
open Dy

namespace MathF
open F64

theorem sqrtHalf_eq : sqrtHalf = F64.fin false 6369051672525773 (-53) := by decide +kernel

theorem sqrtHalf_val : sqrtHalf.val = 6369051672525773 * (2:ℚ) ^ (-53:ℤ) := by
  rw [sqrtHalf_eq, F64.val_fin]; norm_num

theorem sqrt3Half_val : sqrt3Half.val = 7800463371553962 * (2:ℚ) ^ (-53:ℤ) := by
  have h : sqrt3Half.toDy.m = 7800463371553962 ∧ sqrt3Half.toDy.e = -53 := by decide +kernel
  unfold F64.val Dy.val; rw [h.1, h.2]; norm_num

theorem half_val : half.val = 1 / 2 := by
  have h : half.toDy.m = 4503599627370496 ∧ half.toDy.e = -53 := by decide +kernel
  unfold F64.val Dy.val; rw [h.1, h.2]; norm_num

theorem qd_val : qd.val = 90 := by exact_mod_cast F64.val_nat 90

theorem natmul_rn (n : ℕ) (hn : (n:ℚ) ≤ 4) (d : F64) (hd : d.isFinite = true) (hb : |d.val| ≤ (2:ℚ) ^ (1000:ℤ)) :
    ((OfNat.ofNat n : F64) * F64.abs d).isFinite = true ∧
    RN ((n:ℚ) * |d.val|) ((OfNat.ofNat n : F64) * F64.abs d).val := by
  have hv1 : (OfNat.ofNat n : F64).val = n := F64.val_nat n
  have hle : |((n:ℚ) * |d.val|)| ≤ (2:ℚ) ^ (1002:ℤ) := by
    rw [abs_mul, abs_abs, abs_of_nonneg (Nat.cast_nonneg n), show (1002:ℤ) = 2 + 1000 by norm_num,
      Dy.two_zpow_split, show (2:ℚ) ^ (2:ℤ) = 4 by norm_num]
    generalize (2:ℚ) ^ (1000:ℤ) = B at *
    exact mul_le_mul hn hb (abs_nonneg _) (by norm_num)
  have := F64.mul_rn (OfNat.ofNat n) (F64.abs d) rfl ((F64.isFinite_abs d).trans hd) 1002 (by norm_num) (by norm_num)
    (by rwa [hv1, F64.val_abs])
  rw [hv1, F64.val_abs] at this
  exact ⟨this.1, this.2.1⟩

theorem rep90 : Rep (90:ℚ) := ⟨90, 0, by norm_num, by norm_num, by norm_num⟩

theorem eq_two_abs_iff (d : F64) (h : IsRep d) (hb : |d.val| ≤ (2:ℚ) ^ (1000:ℤ)) :
    F64.eq ((2 : F64) * F64.abs d) qd = true ↔ |d.val| = 45 := by
  obtain ⟨hf, hr⟩ := natmul_rn 2 (by norm_num) d h.1 hb
  have hrep : Rep (((2:ℕ):ℚ) * |d.val|) := by have := h.abs.2.two_mul; rwa [F64.val_abs] at this
  rw [F64.eq_fin_iff _ _ hf rfl, show ((2 : F64) * F64.abs d).val = _ from hrep.rn_eq hr, qd_val]
  push_cast
  constructor
  · intro h1; linarith
  · intro h1; linarith

/-- the product `3·|d|` is rounded, but for no other binary64 `|d|` does it round to 90 -/
theorem eq_three_abs_iff (d : F64) (h : IsRep d) (hb : |d.val| ≤ (2:ℚ) ^ (1000:ℤ)) :
    F64.eq ((3 : F64) * F64.abs d) qd = true ↔ |d.val| = 30 := by
  obtain ⟨hf, hr⟩ := natmul_rn 3 (by norm_num) d h.1 hb
  set a := |d.val| with ha
  have harep : Rep a := by have := h.abs.2; rwa [F64.val_abs] at this
  rw [F64.eq_fin_iff _ _ hf rfl, qd_val]
  push_cast at hr
  constructor
  · intro h90
    rw [show ((3 : F64) * F64.abs d).val = 90 from h90] at hr
    -- 3a is within half an ulp of 90, so a is within 2^-48 of 30, and a is a multiple of 2^-48
    have hne : (3:ℚ) * a ≠ 0 := by
      intro h0; rw [h0] at hr; have := hr.eq_zero; norm_num at this
    obtain ⟨_, hclose⟩ := hr.spec hne
    -- 64 ≤ 3a < 128
    have hlo : (64:ℚ) ≤ 3 * a := by
      by_contra hc
      have : (90:ℚ) ≤ 64 := hr.le_of_le_rep ⟨64, 0, by norm_num, by norm_num, by norm_num⟩ (le_of_lt (not_le.mp hc))
      norm_num at this
    have hhi : (3:ℚ) * a < 128 := by
      by_contra hc
      have : (128:ℚ) ≤ 90 := hr.ge_of_ge_rep ⟨128, 0, by norm_num, by norm_num, by norm_num⟩ (not_lt.mp hc)
      norm_num at this
    have ha0 : 0 ≤ a := abs_nonneg _
    have htq : tq (3 * a) = -46 := by
      rw [tq_of_binade (E := 7) (by rw [abs_of_nonneg (by linarith)]; norm_num; linarith)
        (by rw [abs_of_nonneg (by linarith)]; norm_num; linarith)]
      norm_num
    rw [htq] at hclose
    -- a on the grid 2^-48 (a ≥ 16)
    have hag : OnGrid (-48) a := by
      have := harep.onGrid_of_ge 5 (by rw [abs_of_nonneg ha0]; norm_num; linarith)
      simpa using this
    have h30g : OnGrid (-48) (30:ℚ) := ⟨30 * 2 ^ 48, by norm_num⟩
    apply hag.eq_of_close h30g
    rw [show (90:ℚ) - 3 * a = -(3 * (a - 30)) by ring, abs_neg, abs_mul, show |(3:ℚ)| = 3 by norm_num,
      show (2:ℚ) ^ (-46:ℤ) = 4 * (2:ℚ) ^ (-48:ℤ) by
        rw [show (-46:ℤ) = 2 + -48 by norm_num, Dy.two_zpow_split]; norm_num] at hclose
    have hp := Dy.two_zpow_pos (-48)
    linarith [abs_nonneg (a - 30)]
  · intro h30
    rw [h30, show (3:ℚ) * 30 = 90 by norm_num] at hr
    exact rep90.rn_eq hr

theorem remquo_neg (sx sy : Bool) (mx my : ℕ) (ex ey : ℤ) (hy : my ≠ 0) :
    F64.remquoN (F64.fin (!sx) mx ex) (F64.fin sy my ey) = -F64.remquoN (F64.fin sx mx ex) (F64.fin sy my ey) ∧
    (F64.remainder (F64.fin (!sx) mx ex) (F64.fin sy my ey)).val = -(F64.remainder (F64.fin sx mx ex) (F64.fin sy my ey)).val := by
  have hnv : (F64.fin (!sx) mx ex).val = -(F64.fin sx mx ex).val := F64.neg_fin_val sx mx ex
  have h1 := remquoN_nearest (!sx) sy mx my ex ey hy
  have h2 := (remquoN_nearest sx sy mx my ex ey hy).neg
  rw [hnv, neg_div] at h1
  have hq := h1.unique h2
  obtain ⟨_, v1, _, _⟩ := F64.remainder_spec (!sx) sy mx my ex ey hy
  obtain ⟨_, v2, _, _⟩ := F64.remainder_spec sx sy mx my ex ey hy
  refine ⟨hq, ?_⟩
  rw [v1, v2, hq, hnv]; push_cast; ring

theorem remquo_add_even (sx sx' sy : Bool) (mx mx' my : ℕ) (ex ex' ey : ℤ) (hy : my ≠ 0) (j : ℤ)
    (h : (F64.fin sx' mx' ex').val = (F64.fin sx mx ex).val + 2 * j * (F64.fin sy my ey).val) :
    F64.remquoN (F64.fin sx' mx' ex') (F64.fin sy my ey) = F64.remquoN (F64.fin sx mx ex) (F64.fin sy my ey) + 2 * j ∧
    (F64.remainder (F64.fin sx' mx' ex') (F64.fin sy my ey)).val = (F64.remainder (F64.fin sx mx ex) (F64.fin sy my ey)).val := by
  have hy0 : (F64.fin sy my ey).val ≠ 0 := by
    have := F64.toDy_m_ne sy my ey hy
    intro hc; exact this ((Dy.m_zero_iff _).mpr hc)
  have h1 := remquoN_nearest sx' sy mx' my ex' ey hy
  have h2 := (remquoN_nearest sx sy mx my ex ey hy).add_even j
  have e : (F64.fin sx' mx' ex').val / (F64.fin sy my ey).val = (F64.fin sx mx ex).val / (F64.fin sy my ey).val + 2 * j := by
    rw [h]; field_simp
  rw [e] at h1
  have hq := h1.unique h2
  obtain ⟨_, v1, _, _⟩ := F64.remainder_spec sx' sy mx' my ex' ey hy
  obtain ⟨_, v2, _, _⟩ := F64.remainder_spec sx sy mx my ex ey hy
  refine ⟨hq, ?_⟩
  rw [v1, v2, hq, h]; push_cast; ring

theorem quadSwitch_add4 {α : Type} [Neg α] (q n : ℤ) (s c : α) : quadSwitch (q + 4 * n) s c = quadSwitch q s c := by
  unfold quadSwitch
  have : (q + 4 * n) % 4 = q % 4 := by omega
  rw [this]

theorem quadSwitch_mod {α : Type} [Neg α] (q : ℤ) (s c : α) : quadSwitch q s c = quadSwitch (q % 4) s c := by
  unfold quadSwitch
  have : q % 4 % 4 = q % 4 := by omega
  rw [this]

theorem quadSwitch_neg {α : Type} [Neg α] (hnn : ∀ a : α, - -a = a) (q : ℤ) (s c : α) :
    quadSwitch (-q) (-s) c = (-(quadSwitch q s c).1, (quadSwitch q s c).2) := by
  unfold quadSwitch
  have h4 : q % 4 = 0 ∨ q % 4 = 1 ∨ q % 4 = 2 ∨ q % 4 = 3 := by omega
  rcases h4 with h | h | h | h
  · have h' : (-q) % 4 = 0 := by omega
    simp [h, h']
  · have h' : (-q) % 4 = 3 := by omega
    simp [h, h']
  · have h' : (-q) % 4 = 2 := by omega
    simp [h, h']
  · have h' : (-q) % 4 = 1 := by omega
    simp [h, h', hnn]

theorem degreeD_eq : degreeD = F64.fin false 5030569068109113 (-58) := by decide +kernel
theorem hd_fin : hd = F64.fin false 180 0 := rfl
theorem qd_fin : qd = F64.fin false 90 0 := rfl

theorem gt_abs_zero (sy sx : Bool) (ey : ℤ) (mx : ℕ) (ex : ℤ) :
    F64.gt (F64.abs (F64.fin sy 0 ey)) (F64.abs (F64.fin sx mx ex)) = false := by
  rw [Bool.eq_false_iff]
  intro h
  have := (F64.lt_iff (a := F64.abs (F64.fin sx mx ex)) rfl rfl).mp h
  rw [F64.val_abs, F64.val_abs, F64.val_fin_zero, abs_zero] at this
  exact absurd this (not_lt.mpr (abs_nonneg _))

theorem gt_abs_nonzero (sy sx : Bool) (ex : ℤ) (my : ℕ) (ey : ℤ) (hmy : my ≠ 0) :
    F64.gt (F64.abs (F64.fin sy my ey)) (F64.abs (F64.fin sx 0 ex)) = true := by
  refine (F64.lt_iff (a := F64.abs (F64.fin sx 0 ex)) rfl rfl).mpr ?_
  rw [F64.val_abs, F64.val_abs, F64.val_fin_zero, abs_zero, abs_pos]
  exact fun h => F64.toDy_m_ne sy my ey hmy ((Dy.m_zero_iff _).mpr h)

theorem canon_y0 (sy sx : Bool) (ey : ℤ) (mx : ℕ) (ex : ℤ) :
    atan2dCanon (F64.fin sy 0 ey) (F64.fin sx mx ex) = (F64.fin sy 0 ey, F64.fin false mx ex, if sx then 1 else 0) := by
  unfold atan2dCanon atan2dCanonG
  have hg : f64Ops.gt (f64Ops.abs (F64.fin sy 0 ey)) (f64Ops.abs (F64.fin sx mx ex)) = false := gt_abs_zero sy sx ey mx ex
  simp only [hg, Bool.false_eq_true, if_false]
  cases sx <;> rfl

theorem canon_x0 (sy sx : Bool) (ex : ℤ) (my : ℕ) (ey : ℤ) (hmy : my ≠ 0) :
    atan2dCanon (F64.fin sy my ey) (F64.fin sx 0 ex) = (F64.fin sx 0 ex, F64.fin false my ey, if sy then 3 else 2) := by
  unfold atan2dCanon atan2dCanonG
  have hg : f64Ops.gt (f64Ops.abs (F64.fin sy my ey)) (f64Ops.abs (F64.fin sx 0 ex)) = true := gt_abs_nonzero sy sx ex my ey hmy
  simp only [hg, if_true]
  cases sy <;> rfl

theorem zero_div_degree (s : Bool) (e : ℤ) : F64.fin s 0 e / degreeD = F64.fin s 0 0 := by
  rw [degreeD_eq]; cases s <;> rfl

theorem wrap_q1 (sy : Bool) (ey : ℤ) : F64.sub (F64.copysign hd (F64.fin sy 0 ey)) (F64.fin sy 0 0) = F64.fin sy 180 0 := by
  have : F64.copysign hd (F64.fin sy 0 ey) = F64.fin sy 180 0 := rfl
  rw [this]; clear this; revert sy; decide +kernel
theorem wrap_q2 (s : Bool) : F64.sub qd (F64.fin s 0 0) = F64.fin false 90 0 := by revert s; decide +kernel
theorem wrap_q3 (s : Bool) : F64.add (F64.neg qd) (F64.fin s 0 0) = F64.fin true 90 0 := by revert s; decide +kernel

/-- `hk`: `atan2(±0, x') = ±0` for `x' ≥ 0` (C11 F.10.1.4) -/
theorem atan2dM_axis_y0 (k : Kern) (sy sx : Bool) (ey : ℤ) (mx : ℕ) (ex : ℤ)
    (hk : k.atan2 (F64.fin sy 0 ey) (F64.fin false mx ex) = F64.fin sy 0 0) :
    atan2dM k (F64.fin sy 0 ey) (F64.fin sx mx ex) = if sx then F64.fin sy 180 0 else F64.fin sy 0 0 := by
  unfold atan2dM
  rw [canon_y0]
  dsimp only
  rw [hk, zero_div_degree]
  unfold atan2dWrap atan2dWrapG
  have hc := canon_y0 sy sx ey mx ex
  unfold atan2dCanon at hc
  rw [hc]
  cases sx
  · rfl
  · exact wrap_q1 sy ey

theorem atan2dM_axis_x0 (k : Kern) (sy sx : Bool) (ex : ℤ) (my : ℕ) (ey : ℤ) (hmy : my ≠ 0)
    (hk : k.atan2 (F64.fin sx 0 ex) (F64.fin false my ey) = F64.fin sx 0 0) :
    atan2dM k (F64.fin sy my ey) (F64.fin sx 0 ex) = F64.fin sy 90 0 := by
  unfold atan2dM
  rw [canon_x0 sy sx ex my ey hmy]
  dsimp only
  rw [hk, zero_div_degree]
  unfold atan2dWrap atan2dWrapG
  have hc := canon_x0 sy sx ex my ey hmy
  unfold atan2dCanon at hc
  rw [hc]
  cases sy
  · exact wrap_q2 sx
  · exact wrap_q3 sx

/-- `atand(±1) = ±45`.  `hk`: the kernel returns the correctly rounded `π/4` for `atan2(1, 1)` and is odd in its first
argument -/
theorem atandM_one (k : Kern) (s : Bool) (hk : k.atan2 (F64.fin s 1 0) 1 = F64.copysign (piD / 4) (F64.fin s 1 0)) :
    atandM k (F64.fin s 1 0) = F64.fin s 6333186975989760 (-47) := by
  unfold atandM atan2dM
  have hc : atan2dCanon (F64.fin s 1 0) 1 = (F64.fin s 1 0, 1, 0) := by cases s <;> decide +kernel
  rw [hc]
  dsimp only
  rw [hk]
  unfold atan2dWrap atan2dWrapG
  unfold atan2dCanon at hc
  rw [hc]
  cases s <;> decide +kernel

theorem val_45 (s : Bool) : (F64.fin s 6333186975989760 (-47)).val = if s then -45 else 45 := by
  rw [F64.val_fin]; cases s <;> norm_num

theorem sincosFinish_nz (q : ℤ) (z s c : F64) (h : F64.eq (quadSwitch q s c).1 0 = false) :
    sincosFinish q z (s, c) = ((quadSwitch q s c).1, (quadSwitch q s c).2 + 0) := by
  unfold sincosFinish
  dsimp only
  rw [h]; simp

def tanOf (sc : F64 × F64) : F64 := stdMin (stdMax (sc.1 / sc.2) (F64.neg tandOverflow)) tandOverflow

theorem tandM_eq (k : Kern) (x : F64) : tandM k x = tanOf (sincosdM k x) := rfl

/-- the value 1 as the unnormalised `2^52·2^−52`, the form in which the division of the model returns `sqrtHalf / sqrtHalf` -/
def one52 : F64 := F64.fin false 4503599627370496 (-52)

/-- `6369051672525773·2^−53` is `sqrtHalf` -/
theorem tan45_closed : ∀ (sg : Bool) (r : ℤ), r ∈ [0, 1, 2, 3] →
    let p := quadSwitch r (F64.fin sg 6369051672525773 (-53)) (F64.fin false 6369051672525773 (-53))
    F64.eq p.1 0 = false ∧ (tanOf (p.1, p.2 + 0) = one52 ∨ tanOf (p.1, p.2 + 0) = F64.neg one52) := by
  decide +kernel

theorem one52_val : one52.val = 1 := by unfold one52; rw [F64.val_fin]; norm_num

theorem tandM_s45 (k : Kern) (x : F64) (h : sincosBranch (F64.remainder x qd) = Branch.s45) :
    tandM k x = one52 ∨ tandM k x = F64.neg one52 := by
  have hb : F64.eq ((2 : F64) * F64.abs (F64.remainder x qd)) qd = true := by
    by_contra hc
    have hc' : F64.eq ((2 : F64) * F64.abs (F64.remainder x qd)) qd = false := by simpa using hc
    unfold sincosBranch at h
    rw [hc'] at h
    simp only [Bool.false_eq_true, if_false] at h
    by_cases h3 : F64.eq ((3 : F64) * F64.abs (F64.remainder x qd)) qd = true
    · rw [if_pos h3] at h; cases h
    · rw [if_neg h3] at h; cases h
  have hcore : sincosCore k (F64.remainder x qd) = (F64.copysign sqrtHalf (F64.remainder x qd * degreeD), sqrtHalf) := by
    unfold sincosCore; simp only [hb, if_true]
  have hs := sqrtHalf_eq
  have hcs : F64.copysign sqrtHalf (F64.remainder x qd * degreeD) = F64.fin (F64.remainder x qd * degreeD).signbit 6369051672525773 (-53) := by
    rw [hs]; rfl
  rw [tandM_eq]
  unfold sincosdM
  rw [hcore, hcs, hs]
  generalize (F64.remainder x qd * degreeD).signbit = sg
  have hmem : F64.remquoN x qd % 4 ∈ [(0:ℤ), 1, 2, 3] := by
    have : F64.remquoN x qd % 4 = 0 ∨ F64.remquoN x qd % 4 = 1 ∨ F64.remquoN x qd % 4 = 2 ∨ F64.remquoN x qd % 4 = 3 := by omega
    simp only [List.mem_cons, List.mem_nil_iff, or_false]
    exact this
  obtain ⟨hnz, hv⟩ := tan45_closed sg _ hmem
  rw [← quadSwitch_mod] at hnz hv
  rw [sincosFinish_nz _ _ _ _ hnz]
  exact hv

theorem add_zero_same (z : F64) (h : F64.IsRep z) (hb : |z.val| ≤ (2:ℚ) ^ (1000:ℤ)) :
    F64.IsRep (z + 0) ∧ (z + 0).val = z.val ∧ (z.val ≠ 0 → (z + 0).signbit = z.signbit) := by
  obtain ⟨f, r, _⟩ := F64.add_rn z 0 h.1 rfl 1000 (by norm_num) (by norm_num) (by rw [F64.val_zero, add_zero]; exact hb)
  rw [F64.val_zero, add_zero] at r
  have hv : (z + 0).val = z.val := h.2.rn_eq r
  refine ⟨⟨f, by rw [hv]; exact h.2⟩, hv, fun hnz => ?_⟩
  rw [F64.signbit_eq _ f (by rwa [hv]), F64.signbit_eq _ h.1 hnz, hv]

theorem sixteenth_val : (F64.fin false 1 (-4)).val = 1 / 16 := by rw [F64.val_fin]; norm_num

theorem rep_sixteenth : Rep ((1:ℚ) / 16) := ⟨1, -4, by norm_num, by norm_num, by norm_num⟩

theorem grid57_sixteenth : OnGrid (-57) ((1:ℚ) / 16) := ⟨2 ^ 53, by norm_num⟩

/-- the first subtraction of `AngRound`, `w = 1/16 ⊖ y` -/
theorem sixteenth_sub_rn {y w : ℚ} (hy : Rep y) (hy0 : 0 ≤ y) (hlt : y < 1 / 16) (hw : RN (1 / 16 - y) w) :
    OnGrid (-57) w ∧ |w - (1 / 16 - y)| ≤ (2:ℚ) ^ (-58:ℤ) ∧ 0 < w ∧ w ≤ 1 / 16 := by
  have hwle : w ≤ 1 / 16 := hw.le_of_le_rep rep_sixteenth (by linarith)
  by_cases hbig : (1:ℚ) / 32 ≤ y
  · -- `y ≥ 1/32` is itself a multiple of `2^−57`, so the difference is representable and the subtraction is exact
    have hyg : OnGrid (-57) y := by
      simpa using hy.onGrid_of_ge (-4) (by rw [abs_of_nonneg hy0]; norm_num; linarith)
    have hvg : OnGrid (-57) (1 / 16 - y) := grid57_sixteenth.sub hyg
    have hvrep : Rep (1 / 16 - y) :=
      Rep.of_grid hvg (by norm_num) (by rw [abs_of_pos (by linarith)]; norm_num; linarith)
    rw [hvrep.rn_eq hw]
    exact ⟨hvg, by simp, by linarith, by linarith⟩
  · -- `1/32 < 1/16 − y ≤ 1/16`: `w ≥ 1/32` by monotonicity, and below `1/16` that binade is rounded to multiples of `2^−57`
    have hy32 : y < 1 / 32 := not_le.mp hbig
    have hge : (1:ℚ) / 32 ≤ w := hw.ge_of_ge_rep ⟨1, -5, by norm_num, by norm_num, by norm_num⟩ (by linarith)
    by_cases hy00 : y = 0
    · rw [hy00, sub_zero] at hw ⊢
      rw [rep_sixteenth.rn_eq hw]
      exact ⟨grid57_sixteenth, by simp, by norm_num, le_refl _⟩
    · have hypos : 0 < y := lt_of_le_of_ne hy0 (Ne.symm hy00)
      obtain ⟨hg, hc⟩ := hw.spec (by linarith : (1:ℚ) / 16 - y ≠ 0)
      rw [tq_of_binade (E := -4) (by rw [abs_of_pos (by linarith)]; norm_num; linarith)
        (by rw [abs_of_pos (by linarith)]; norm_num; linarith), show max (-4 - 53) (-1074 : ℤ) = -57 by norm_num] at hg hc
      rw [show (-57:ℤ) = -58 + 1 by norm_num, two_zpow_add_one] at hc
      exact ⟨hg, by linarith, by linarith, hwle⟩
end MathF
end GeoVerif
