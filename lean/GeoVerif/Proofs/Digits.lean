import GeoVerif.Model.GridCodes
/-!
`digitsW tbl b w n` is the big-endian width-`w` representation used by all grid-code encoders; `readNum` is the
corresponding decoder loop.  Core Lean only.
-/
namespace GeoVerif.Digits
open GeoVerif.Grid

def TableOK (tbl : List Char) (b : Nat) : Prop := ∀ k < b, lookup tbl (chr tbl k).toNat = some k

theorem readNumFrom_append (tbl : List Char) (b : Nat) (acc : Nat) (s t : List Nat) :
    readNumFrom tbl b acc (s ++ t) = (readNumFrom tbl b acc s).bind fun a => readNumFrom tbl b a t := by
  induction s generalizing acc with
  | nil => simp [readNumFrom]
  | cons c cs ih =>
    simp only [List.cons_append, readNumFrom]
    cases h : lookup tbl c with
    | none => simp
    | some d => simp [ih]

theorem toBytes_append (s t : List Char) : toBytes (s ++ t) = toBytes s ++ toBytes t := by
  simp [toBytes]

theorem readNumFrom_digitsW (tbl : List Char) (b : Nat) (hb : 0 < b) (ht : TableOK tbl b) (w n acc : Nat) :
    readNumFrom tbl b acc (toBytes (digitsW tbl b w n)) = some (acc * b ^ w + n % b ^ w) := by
  induction w generalizing n acc with
  | zero => simp [digitsW, toBytes, readNumFrom, Nat.mod_one]
  | succ w ih =>
    simp only [digitsW, toBytes_append, readNumFrom_append, ih]
    simp only [toBytes, List.map_cons, List.map_nil, Option.bind_some, readNumFrom]
    rw [ht (n % b) (Nat.mod_lt _ hb)]
    simp only [readNumFrom]
    congr 1
    -- b * (acc * b^w + (n / b) % b^w) + n % b = acc * b^(w+1) + n % b^(w+1)
    have h1 : n % b ^ (w + 1) = b * ((n / b) % b ^ w) + n % b := by
      rw [Nat.pow_succ, Nat.mul_comm (b ^ w) b, Nat.mod_mul]
      omega
    rw [h1, Nat.pow_succ]
    rw [Nat.mul_add, ← Nat.mul_assoc, Nat.mul_comm b acc, Nat.mul_assoc, Nat.mul_comm b (b ^ w), Nat.add_assoc]

theorem readNum_digitsW (tbl : List Char) (b : Nat) (hb : 0 < b) (ht : TableOK tbl b) (w n : Nat) :
    readNum tbl b (toBytes (digitsW tbl b w n)) = some (n % b ^ w) := by
  unfold readNum
  rw [readNumFrom_digitsW tbl b hb ht]
  simp

theorem digitsW_length (tbl : List Char) (b w n : Nat) : (digitsW tbl b w n).length = w := by
  induction w generalizing n with
  | zero => simp [digitsW]
  | succ w ih => simp [digitsW, ih]

theorem toBytes_digitsW_length (tbl : List Char) (b w n : Nat) : (toBytes (digitsW tbl b w n)).length = w := by
  rw [toBytes, List.length_map, digitsW_length]

/-- in the shape of a decoder that takes `w` bytes at offset `|h|` and `w` more at `|h| + w` -/
theorem readNum_groups (tbl : List Char) (b : Nat) (hb : 0 < b) (ht : TableOK tbl b) (h s : List Nat) (w m n : Nat)
    (hs : s = h ++ (toBytes (digitsW tbl b w m) ++ toBytes (digitsW tbl b w n))) :
    s.length = h.length + 2 * w ∧
    readNum tbl b ((s.drop h.length).take w) = some (m % b ^ w) ∧
    readNum tbl b ((s.drop (h.length + w)).take w) = some (n % b ^ w) := by
  have lm := toBytes_digitsW_length tbl b w m
  have ln := toBytes_digitsW_length tbl b w n
  subst hs
  refine ⟨by simp only [List.length_append, lm, ln]; omega, ?_, ?_⟩
  · rw [List.drop_left, List.take_left' lm, readNum_digitsW tbl b hb ht]
  · rw [← List.drop_drop, List.drop_left, List.drop_left' lm, List.take_of_length_le (Nat.le_of_eq ln),
      readNum_digitsW tbl b hb ht]

theorem digitsW_prefix (tbl : List Char) (b w n : Nat) : digitsW tbl b w (n / b) <+: digitsW tbl b (w + 1) n := by
  simp [digitsW, List.prefix_append]

theorem digitsW_mem (tbl : List Char) (b : Nat) (hb : 0 < b) (w n : Nat) :
    ∀ c ∈ digitsW tbl b w n, ∃ k < b, c = chr tbl k := by
  induction w generalizing n with
  | zero => simp [digitsW]
  | succ w ih =>
    intro c hc
    simp only [digitsW, List.mem_append, List.mem_singleton] at hc
    rcases hc with h | h
    · exact ih _ c h
    · exact ⟨n % b, Nat.mod_lt _ hb, h⟩

end GeoVerif.Digits
