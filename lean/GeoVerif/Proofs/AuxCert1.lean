import GeoVerif.Proofs.AuxRow
/-! Kernel-checked row certificates `rowCheck 1 a` for the series tables of `AuxLatitude.cpp` (`Gen/AuxSeries.lean`, extracted
from the source): the inner series is `C[β←a]`.  One module per inner latitude.  Numbering of the latitudes: 0 φ, 1 β, 2 θ, 3 μ, 4 χ, 5 ξ. -/
namespace GeoVerif.Proofs.AuxCert
open GeoVerif.Series.Aux

theorem row_1_0 : rowCheck 1 0 = true := by decide +kernel
theorem row_1_2 : rowCheck 1 2 = true := by decide +kernel
theorem row_1_3 : rowCheck 1 3 = true := by decide +kernel
theorem row_1_4 : rowCheck 1 4 = true := by decide +kernel
theorem row_1_5 : rowCheck 1 5 = true := by decide +kernel

end GeoVerif.Proofs.AuxCert
