import GeoVerif.Model.TM
import GeoVerif.Spec.RealInst
import Mathlib.Tactic.Ring
import Mathlib.Tactic.LinearCombination
/-!
# Lemmas for C06 (transverse Mercator): the sign algebra of the wrapper (`TM.forwardD` / `TM.reverseZ`, exact binary64), and the
complex Clenshaw theorem for `TM.kr`, the Krüger step of the series kernel (read at `ℝ`), over any commutative ring first.
-/
namespace GeoVerif.Proofs.TM
open GeoVerif GeoVerif.TM

theorem neg_neg_F64 (x : F64) : F64.neg (F64.neg x) = x := by cases x <;> simp [F64.neg]

/-- `|x|` as the wrapper forms it: multiply by the sign flag -/
def fabsS (x : F64) : F64 := mulSign (sgn x.signbit) x

theorem fabsS_eq_abs (x : F64) : fabsS x = F64.abs x := by
  cases x with
  | nan => rfl
  | inf s => cases s <;> rfl
  | fin s m e => cases s <;> rfl

theorem fabsS_neg (x : F64) : fabsS (F64.neg x) = fabsS x := by
  rw [fabsS_eq_abs, fabsS_eq_abs]; cases x <;> rfl

/-- `fabsS_neg` as it appears in the unfolded wrapper -/
theorem mulSign_sgn_neg (x : F64) : mulSign (sgn (F64.neg x).signbit) (F64.neg x) = mulSign (sgn x.signbit) x := fabsS_neg x

theorem fabsS_signbit (x : F64) : (fabsS x).signbit = false := by
  rw [fabsS_eq_abs]; cases x <;> rfl

theorem sgn_neg (x : F64) (h : x.isNaN = false) : sgn (F64.neg x).signbit = - sgn x.signbit := by
  cases x with
  | nan => simp [F64.isNaN] at h
  | inf s => cases s <;> simp [sgn, F64.neg, F64.signbit]
  | fin s m e => cases s <;> simp [sgn, F64.neg, F64.signbit]

theorem mulSign_neg (s : Int) (hs : s = 1 ∨ s = -1) (x : F64) : mulSign (-s) x = F64.neg (mulSign s x) := by
  rcases hs with rfl | rfl <;> simp [mulSign, neg_neg_F64]

theorem sgn_sign (b : Bool) : sgn b = 1 ∨ sgn b = -1 := by cases b <;> simp [sgn]

theorem sign_mul {a b : Int} (ha : a = 1 ∨ a = -1) (hb : b = 1 ∨ b = -1) : a * b = 1 ∨ a * b = -1 := by
  rcases ha with rfl | rfl <;> rcases hb with rfl | rfl <;> simp

theorem sinh_real (x : ℝ) : RealLike.sinh x = Real.sinh x := rfl
theorem atan2_real (y x : ℝ) : RealLike.atan2 y x = Complex.arg ⟨x, y⟩ := rfl
theorem arg_pos_real (x : ℝ) (hx : 0 ≤ x) : Complex.arg ⟨x, 0⟩ = 0 := Complex.arg_ofReal_of_nonneg hx
@[simp] theorem zero_real : (RealLike.ofNat 0 : ℝ) = 0 := Nat.cast_zero
@[simp] theorem one_real : (@OfNat.ofNat ℝ 1 RealLike.Lits.instLit) = 1 := Nat.cast_one
@[simp] theorem two_real : (@OfNat.ofNat ℝ 2 RealLike.Lits.instLit) = 2 := Nat.cast_ofNat
theorem ninety_real : (RealLike.ofNat 90 : ℝ) = 90 := Nat.cast_ofNat

noncomputable def toC (z : Cx ℝ) : ℂ := ⟨z.re, z.im⟩

theorem toC_mul (a b : Cx ℝ) : toC (Cx.mul a b) = toC a * toC b := by
  apply Complex.ext <;> simp [toC, Cx.mul]
theorem toC_sub (a b : Cx ℝ) : toC (Cx.sub a b) = toC a - toC b := by
  apply Complex.ext <;> simp [toC, Cx.sub]
theorem toC_add (a b : Cx ℝ) : toC (Cx.add a b) = toC a + toC b := by
  apply Complex.ext <;> simp [toC, Cx.add]
theorem toC_addR (a : Cx ℝ) (c : ℝ) : toC (Cx.addR a c) = toC a + (c : ℂ) := by
  apply Complex.ext <;> simp [toC, Cx.addR]
theorem toC_zero : toC (Cx.zero : Cx ℝ) = 0 := by
  apply Complex.ext <;> simp [toC, Cx.zero, ofNat_real]
@[simp] theorem toC_re (z : Cx ℝ) : (toC z).re = z.re := rfl
@[simp] theorem toC_im (z : Cx ℝ) : (toC z).im = z.im := rfl
theorem toC_norm (z : Cx ℝ) : ‖toC z‖ = Cx.abs z := Complex.norm_eq_sqrt_sq_add_sq _

/-- `TM.clenC` with the pair arithmetic replaced by a commutative ring -/
def clenR {R : Type} [CommRing R] (a : R) : List R → R × R
  | [] => (0, 0)
  | c :: cs => (a * (clenR a cs).1 - (clenR a cs).2 + c, (clenR a cs).1)

theorem clenC_toC (a : Cx ℝ) (cs : List ℝ) :
    toC (clenC a cs).1 = (clenR (toC a) (cs.map Complex.ofReal)).1 ∧ toC (clenC a cs).2 = (clenR (toC a) (cs.map Complex.ofReal)).2 := by
  induction cs with
  | nil => exact ⟨toC_zero, toC_zero⟩
  | cons c cs ih =>
    obtain ⟨h1, h2⟩ := ih
    exact ⟨by simp only [clenC, clenR, List.map_cons, toC_addR, toC_sub, toC_mul, h1, h2], h1⟩

/-- `Σ_j cs[j] · T(k+1+j)` -/
def wsum {R : Type} [CommRing R] (T : ℕ → R) : ℕ → List R → R
  | _, [] => 0
  | k, c :: cs => c * T (k + 1) + wsum T (k + 1) cs

theorem clenshaw_ring {R : Type} [CommRing R] (a : R) (T : ℕ → R) (hT : ∀ n, T (n + 2) = a * T (n + 1) - T n) (cs : List R) (k : ℕ) :
    wsum T k cs = (clenR a cs).1 * T (k + 1) - (clenR a cs).2 * T k := by
  induction cs generalizing k with
  | nil => simp [wsum, clenR]
  | cons c cs ih =>
    simp only [wsum, clenR]
    rw [ih (k + 1), hT k]
    ring

theorem sin_cos_rec (z : ℂ) (n : ℕ) :
    Complex.sin (2 * ((n + 2 : ℕ) : ℂ) * z) = 2 * Complex.cos (2 * z) * Complex.sin (2 * ((n + 1 : ℕ) : ℂ) * z) - Complex.sin (2 * (n : ℂ) * z) ∧
    Complex.cos (2 * ((n + 2 : ℕ) : ℂ) * z) = 2 * Complex.cos (2 * z) * Complex.cos (2 * ((n + 1 : ℕ) : ℂ) * z) - Complex.cos (2 * (n : ℂ) * z) := by
  have h1 : 2 * ((n + 2 : ℕ) : ℂ) * z = 2 * ((n + 1 : ℕ) : ℂ) * z + 2 * z := by push_cast; ring
  have h2 : 2 * (n : ℂ) * z = 2 * ((n + 1 : ℕ) : ℂ) * z - 2 * z := by push_cast; ring
  rw [h1, h2, Complex.sin_add, Complex.sin_sub, Complex.cos_add, Complex.cos_sub]
  constructor <;> ring

theorem csin_pair (ξ η : ℝ) : Complex.sin ⟨ξ, η⟩ = ⟨Real.sin ξ * Real.cosh η, Real.cos ξ * Real.sinh η⟩ := by
  rw [Complex.mk_eq_add_mul_I, Complex.sin_add_mul_I]
  apply Complex.ext <;> simp [← Complex.ofReal_cos, ← Complex.ofReal_sin, ← Complex.ofReal_cosh, ← Complex.ofReal_sinh]

theorem ccos_pair (ξ η : ℝ) : Complex.cos ⟨ξ, η⟩ = ⟨Real.cos ξ * Real.cosh η, -(Real.sin ξ * Real.sinh η)⟩ := by
  rw [Complex.mk_eq_add_mul_I, Complex.cos_add_mul_I]
  apply Complex.ext <;> simp [← Complex.ofReal_cos, ← Complex.ofReal_sin, ← Complex.ofReal_cosh, ← Complex.ofReal_sinh]

theorem ccosh_pair (ψ l : ℝ) : Complex.cosh ⟨ψ, l⟩ = ⟨Real.cosh ψ * Real.cos l, Real.sinh ψ * Real.sin l⟩ := by
  rw [Complex.mk_eq_add_mul_I, Complex.cosh_add, Complex.cosh_mul_I, Complex.sinh_mul_I]
  apply Complex.ext <;> simp [← Complex.ofReal_cos, ← Complex.ofReal_sin, ← Complex.ofReal_cosh, ← Complex.ofReal_sinh]

theorem csinh_pair (ψ l : ℝ) : Complex.sinh ⟨ψ, l⟩ = ⟨Real.sinh ψ * Real.cos l, Real.cosh ψ * Real.sin l⟩ := by
  rw [Complex.mk_eq_add_mul_I, Complex.sinh_add, Complex.cosh_mul_I, Complex.sinh_mul_I]
  apply Complex.ext <;> simp [← Complex.ofReal_cos, ← Complex.ofReal_sin, ← Complex.ofReal_cosh, ← Complex.ofReal_sinh]

theorem ofReal_mul_pair (a ξ η : ℝ) : (a : ℂ) * (⟨ξ, η⟩ : ℂ) = ⟨a * ξ, a * η⟩ := by
  apply Complex.ext <;> simp

theorem mk_div (a b D : ℝ) : (⟨a / D, b / D⟩ : ℂ) = (⟨a, b⟩ : ℂ) / (D : ℂ) := by
  apply Complex.ext
  · rw [Complex.div_ofReal_re]
  · rw [Complex.div_ofReal_im]

theorem cosh_real (x : ℝ) : TM.cosh x = Real.cosh x := by
  unfold TM.cosh
  rw [Real.cosh_eq]
  show (Real.exp x + Real.exp (-x)) / ((2 : ℕ) : ℝ) = _
  push_cast; ring

/-- `Σ_j cs[j] · sin(2 (k+1+j) ζ)` -/
noncomputable def sinSum (ζ : ℂ) : ℕ → List ℝ → ℂ
  | _, [] => 0
  | k, c :: cs => (c : ℂ) * Complex.sin (2 * ((k + 1 : ℕ) : ℂ) * ζ) + sinSum ζ (k + 1) cs

/-- `Σ_j 2 (k+1+j) · cs[j] · cos(2 (k+1+j) ζ)` -/
noncomputable def dcosSum (ζ : ℂ) : ℕ → List ℝ → ℂ
  | _, [] => 0
  | k, c :: cs => 2 * ((k + 1 : ℕ) : ℂ) * (c : ℂ) * Complex.cos (2 * ((k + 1 : ℕ) : ℂ) * ζ) + dcosSum ζ (k + 1) cs

theorem sinSum_wsum (ζ : ℂ) (k : ℕ) (cs : List ℝ) :
    sinSum ζ k cs = wsum (fun n => Complex.sin (2 * (n : ℂ) * ζ)) k (cs.map Complex.ofReal) := by
  induction cs generalizing k with
  | nil => rfl
  | cons c cs ih => simp only [sinSum, List.map_cons, wsum, ih]

theorem dcosSum_wsum (ζ : ℂ) (k : ℕ) (cs : List ℝ) :
    dcosSum ζ k cs = wsum (fun n => Complex.cos (2 * (n : ℂ) * ζ)) k ((dcoeffs (k + 1) cs).map Complex.ofReal) := by
  induction cs generalizing k with
  | nil => rfl
  | cons c cs ih =>
    simp only [dcosSum, dcoeffs, List.map_cons, wsum, ih]
    congr 1
    simp [ofNat_real]

/-- complex Clenshaw summation of the Krüger series (`Forward`: `cs = alp`, `Reverse`: `cs = −bet`): the paired real recurrences of the
    code return `ζ + Σ_j c_j sin 2jζ` and its derivative -/
theorem clenshaw_complex (cs : List ℝ) (ξ η : ℝ) :
    toC (kr cs ξ η).1 = (⟨ξ, η⟩ : ℂ) + sinSum ⟨ξ, η⟩ 0 cs ∧
    toC (kr cs ξ η).2 = 1 + dcosSum ⟨ξ, η⟩ 0 cs := by
  set ζ : ℂ := ⟨ξ, η⟩ with hζ
  have h2 : 2 * ζ = ⟨2 * ξ, 2 * η⟩ := ofReal_mul_pair 2 ξ η
  -- the three complex numbers the code forms from `sin 2ξ`, `cos 2ξ`, `sinh 2η`, `cosh 2η`
  have hs : toC (⟨Real.sin (2 * ξ) * Real.cosh (2 * η), Real.cos (2 * ξ) * Real.sinh (2 * η)⟩ : Cx ℝ) = Complex.sin (2 * ζ) := by
    rw [h2, csin_pair]; rfl
  have hc : toC (⟨Real.cos (2 * ξ) * Real.cosh (2 * η), -(Real.sin (2 * ξ) * Real.sinh (2 * η))⟩ : Cx ℝ) = Complex.cos (2 * ζ) := by
    rw [h2, ccos_pair]; rfl
  have hA : toC (⟨(2 : ℝ) * Real.cos (2 * ξ) * Real.cosh (2 * η), -((2 : ℝ) * Real.sin (2 * ξ) * Real.sinh (2 * η))⟩ : Cx ℝ) = 2 * Complex.cos (2 * ζ) := by
    rw [← hc]; apply Complex.ext <;> simp [toC] <;> ring
  have hz : toC (⟨ξ, η⟩ : Cx ℝ) = ζ := rfl
  have h10 : toC (⟨(1 : ℝ), (0 : ℝ)⟩ : Cx ℝ) = 1 := rfl
  -- Clenshaw's identity with `a = 2 cos 2ζ`, `T n = sin 2nζ` resp. `cos 2nζ`; the recurrences over `ℂ` are the paired real ones of the code
  constructor
  · rw [sinSum_wsum, clenshaw_ring _ _ (fun n => (sin_cos_rec ζ n).1) _ 0, ← hA, ← (clenC_toC _ cs).1]
    simp only [kr, lit_real, cos_real, sin_real, cosh_real, sinh_real, toC_add, toC_mul]
    push_cast
    rw [hs, hz]
    simp only [mul_one, mul_zero, zero_mul, Complex.sin_zero, sub_zero]
    ring
  · rw [dcosSum_wsum, clenshaw_ring _ _ (fun n => (sin_cos_rec ζ n).2) _ 0, ← hA, ← (clenC_toC _ (dcoeffs 1 cs)).1, ← (clenC_toC _ (dcoeffs 1 cs)).2]
    simp only [kr, lit_real, cos_real, sin_real, cosh_real, sinh_real, ofNat_real, toC_add, toC_sub, toC_mul]
    push_cast
    rw [hc, h10]
    simp only [mul_one, mul_zero, zero_mul, Complex.cos_zero]
    ring

end GeoVerif.Proofs.TM
