import GeoVerif.Proofs.F64Div
/-!
# The Geohash scale step `⌊x / (k·2^(−45))⌋ + 2^45`
-/
namespace GeoVerif
open Dy

namespace F64

def shift45 : F64 := .fin false 1 45

theorem shift45_val : shift45.val = (2:ℚ) ^ (45:ℕ) := by
  rw [shift45, val_fin]; simp

theorem hasVal_shift45 : HasVal shift45 ((2:ℚ) ^ (45:ℕ)) := ⟨rfl, shift45_val⟩

theorem hasVal_eps (k : ℕ) (hk : (k:ℤ) ≤ 2 ^ 53) :
    HasVal (F64.fin false k 0 / shift45) ((k:ℚ) / (2:ℚ) ^ (45:ℕ)) := by
  have hkq : (k:ℚ) ≤ 2 ^ 53 := by exact_mod_cast hk
  refine (hasVal_div_rn (hasVal_nat k) hasVal_shift45 (by positivity)).exact k (-45) (abs_le.mpr ⟨by omega, hk⟩)
    (by norm_num) (by rw [zpow_neg, div_eq_mul_inv]; norm_num) ?_
  rw [abs_of_nonneg (by positivity), div_le_iff₀ (by positivity)]
  have : (2:ℚ) ^ 53 ≤ 2 ^ 52 * 2 ^ (45:ℕ) := by norm_num
  linarith

theorem floor_add_shift {q : F64} {v : ℚ} (hq : HasVal q v) (hb : |v| ≤ 2 ^ 51) :
    Dy.floor (F64.floor q + shift45).toDy = Dy.floor (F64.floor q).toDy + 2 ^ 45 := by
  obtain ⟨f1, f2⟩ := Dy.floor_spec q.toDy
  rw [show q.toDy.val = v from hq.2] at f1 f2
  obtain ⟨hfl, hn⟩ := hasVal_floor hq _ f1 f2
  rw [hn]
  set c := Dy.floor q.toDy
  have hbb := abs_le.mp hb
  obtain ⟨c1, c2⟩ := floor_bounds f1 f2 (-(2 ^ 51)) (2 ^ 51 + 1)
  have c1' := c1 (by push_cast; exact hbb.1)
  have c2' := c2 (by push_cast; linarith)
  have hsum : HasVal (F64.floor q + shift45) ((c + 2 ^ 45 : ℤ) : ℚ) :=
    (hasVal_add_rn hfl hasVal_shift45).exact_int (c + 2 ^ 45) (abs_le.mpr ⟨by omega, by omega⟩) (by push_cast; rfl)
  apply Dy.floor_unique
  · show ((c + 2 ^ 45 : ℤ) : ℚ) ≤ (F64.floor q + shift45).val
    rw [hsum.2]
  · show (F64.floor q + shift45).val < ((c + 2 ^ 45 : ℤ) : ℚ) + 1
    rw [hsum.2]; linarith

/-- the exact cell `⌊x·2^45 / d⌋` as computed by `Geohash.scaleExact` -/
def flExact (x : Dy) (d : ℤ) : ℤ :=
  let y : Dy := ⟨x.m, x.e + 45⟩
  if y.e ≥ 0 then (Dy.shl y.m y.e) / d else y.m / (d * (2 : ℤ) ^ (-y.e).toNat)

theorem flExact_spec (x : Dy) (d : ℤ) (hd : 0 < d) :
    ((flExact x d : ℤ) : ℚ) ≤ x.val * (2:ℚ) ^ (45:ℕ) / d ∧ x.val * (2:ℚ) ^ (45:ℕ) / d < ((flExact x d : ℤ) : ℚ) + 1 := by
  unfold flExact
  simp only []
  have hv : x.val * (2:ℚ) ^ (45:ℕ) = (x.m:ℚ) * (2:ℚ) ^ (x.e + 45) := by
    unfold Dy.val; rw [two_zpow_split, ← zpow_natCast]; push_cast; ring
  by_cases h : x.e + 45 ≥ 0
  · rw [if_pos h]
    have := int_ediv_spec (Dy.shl x.m (x.e + 45)) d hd
    rw [shl_cast _ _ h] at this
    rw [hv]; exact this
  · rw [if_neg h]
    set k := (-(x.e + 45)).toNat with hk
    have hkp : (0:ℤ) < 2 ^ k := by positivity
    have := int_ediv_spec x.m (d * 2 ^ k) (Int.mul_pos hd hkp)
    have e : (x.m:ℚ) / ((d * 2 ^ k : ℤ) : ℚ) = (x.m:ℚ) * (2:ℚ) ^ (x.e + 45) / d := by
      rw [two_zpow_of_nonpos (show x.e + 45 ≤ 0 by omega), ← hk]; push_cast
      have hdq : (d:ℚ) ≠ 0 := by exact_mod_cast hd.ne'
      field_simp
    rw [e] at this
    rw [hv]; exact this

end F64
end GeoVerif
