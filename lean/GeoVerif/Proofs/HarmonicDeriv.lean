import GeoVerif.Proofs.Harmonic
import Mathlib.Analysis.SpecialFunctions.Trigonometric.Deriv
import Mathlib.Analysis.Calculus.Deriv.Pow
import Mathlib.Analysis.Calculus.Deriv.Inv
/-!
# Derivatives of the building blocks of the harmonic series (C19)

`∂/∂λ (C cos mλ + S sin mλ)`, `∂/∂r (a/r)^(n+1)`, `∂/∂θ P_nm(cos θ, sin θ)`: the formally differentiated objects used by the
gradient theorems (`dlegendre`, the factor `m·(S cos − C sin)`, the factor `−(n+1)q^(n+1)/r`) are the derivatives.
-/
namespace GeoVerif.Proofs.Harmonic
open GeoVerif GeoVerif.Harmonic

theorem cos_sin_comb_hasDerivAt (C S : ℝ) (m : ℕ) (lam : ℝ) :
    HasDerivAt (fun x => C * Real.cos (m * x) + S * Real.sin (m * x)) ((m : ℝ) * (S * Real.cos (m * lam) - C * Real.sin (m * lam))) lam := by
  have h1 : HasDerivAt (fun x : ℝ => (m : ℝ) * x) (m : ℝ) lam := by simpa using (hasDerivAt_id lam).const_mul (m : ℝ)
  exact ((h1.cos.const_mul C).fun_add (h1.sin.const_mul S)).congr_deriv (by ring)

theorem a_div_pow_hasDerivAt (a r : ℝ) (hr : r ≠ 0) (n : ℕ) :
    HasDerivAt (fun x => (a / x) ^ (n + 1)) (-((n + 1 : ℕ) : ℝ) * (a / r) ^ (n + 1) / r) r := by
  have h1 : HasDerivAt (fun x : ℝ => a / x) (-a / r ^ 2) r :=
    ((hasDerivAt_const r a).fun_div (hasDerivAt_id r) hr).congr_deriv (by simp)
  exact (h1.fun_pow (n + 1)).congr_deriv (by rw [Nat.add_sub_cancel, pow_succ (a / r) n]; push_cast; ring)

theorem sectoral_hasDerivAt (full : Bool) (m : ℕ) (th : ℝ) :
    HasDerivAt (fun x => sectoral full (Real.sin x) m) (dsectoral full (Real.cos th) (Real.sin th) m) th := by
  cases m with
  | zero => simpa [sectoral, dsectoral] using hasDerivAt_const th (1 : ℝ)
  | succ m =>
    induction m with
    | zero =>
      cases full
      · simpa [sectoral, dsectoral] using Real.hasDerivAt_sin th
      · simpa [sectoral, dsectoral] using (Real.hasDerivAt_sin th).const_mul (Real.sqrt 3)
    | succ m ih =>
      simp only [sectoral_step, dsectoral_step]
      exact (((Real.hasDerivAt_sin th).const_mul (stepFac full m)).fun_mul ih).congr_deriv (by ring)

theorem legendre_hasDerivAt (full : Bool) (m l : ℕ) (th : ℝ) :
    HasDerivAt (fun x => legendre full (Real.cos x) (Real.sin x) m l) (dlegendre full (Real.cos th) (Real.sin th) m l) th := by
  induction l using Nat.twoStepInduction with
  | zero => simpa [legendre, dlegendre] using sectoral_hasDerivAt full m th
  | one =>
    simp only [legendre, dlegendre]
    exact ((Real.hasDerivAt_cos th).const_mul (anm full (m + 1) m)).fun_mul (sectoral_hasDerivAt full m th)
  | more l ih0 ih1 =>
    simp only [legendre, dlegendre]
    exact (((Real.hasDerivAt_cos th).const_mul (anm full (m + l + 2) m)).fun_mul ih1).fun_sub (ih0.const_mul (bnm full (m + l + 2) m))

end GeoVerif.Proofs.Harmonic
