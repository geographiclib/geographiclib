import GeoVerif.Proofs.AuxRow
/-! Kernel-checked row certificates `rowCheck 4 a` for the series tables of `AuxLatitude.cpp` (`Gen/AuxSeries.lean`, extracted
from the source): the inner series is `C[χ←a]`.  One module per inner latitude.  Numbering of the latitudes: 0 φ, 1 β, 2 θ, 3 μ, 4 χ, 5 ξ. -/
namespace GeoVerif.Proofs.AuxCert
open GeoVerif.Series.Aux

theorem row_4_0 : rowCheck 4 0 = true := by decide +kernel
theorem row_4_1 : rowCheck 4 1 = true := by decide +kernel
theorem row_4_2 : rowCheck 4 2 = true := by decide +kernel
theorem row_4_3 : rowCheck 4 3 = true := by decide +kernel
theorem row_4_5 : rowCheck 4 5 = true := by decide +kernel

end GeoVerif.Proofs.AuxCert
