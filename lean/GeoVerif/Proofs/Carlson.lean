import GeoVerif.Model.Elliptic
import GeoVerif.Spec.RealInstX
import Mathlib.Tactic.Ring
import Mathlib.Tactic.FieldSimp
import Mathlib.Tactic.Linarith
import Mathlib.Tactic.Positivity
import Mathlib.Tactic.NormNum
/-!
# Carlson's duplication algorithms (`Model/Elliptic.lean` read at `ℝ`)

The duplication theorem itself (`R_F(x,y,z) = R_F((x+λ)/4, (y+λ)/4, (z+λ)/4)`) is an identity between integrals and is
not attempted; what is proved are the algebraic facts the algorithm relies on, about the *executed* definitions.
The exchanges of arguments (`Dup.swapXY`, …) are declared here into the namespace of the model's state records.
-/
namespace GeoVerif.Proofs.Carlson
open GeoVerif GeoVerif.Elliptic GeoVerif.RealLike GeoVerif.RealX Real

theorem ofDec_real (n k : ℕ) : (RealLike.ofDec n k : ℝ) = (n : ℝ) / 10 ^ k := rfl
@[simp] theorem max_real (x y : ℝ) : RealLike.max x y = Max.max x y := rfl
@[simp] theorem atan_real (x : ℝ) : RealLike.atan x = Real.arctan x := rfl
@[simp] theorem asinh_real (x : ℝ) : RealLike.asinh x = Real.arsinh x := rfl

theorem eighth_root {a : ℝ} (ha : 0 < a) : (√√√a) ^ 8 = a ∧ 0 < √√√a := by
  have h1 := Real.sq_sqrt ha.le
  have h2 := Real.sq_sqrt (Real.sqrt_nonneg a)
  have h3 := Real.sq_sqrt (Real.sqrt_nonneg √a)
  refine ⟨?_, Real.sqrt_pos.2 (Real.sqrt_pos.2 (Real.sqrt_pos.2 ha))⟩
  calc (√√√a) ^ 8 = (((√√√a) ^ 2) ^ 2) ^ 2 := by ring
    _ = a := by rw [h3, h2, h1]

theorem tolRF_pow : (tolRF : ℝ) ^ 8 = 3 / 100 * (1 / 2 ^ 52) ∧ (0 : ℝ) < tolRF := by
  have e : (tolRF : ℝ) = √√√(3 / 100 * (1 / 2 ^ 52)) := by
    unfold tolRF
    simp only [sqrt_real, lit_real, eps_real, ofDec_real]
    congr 3; norm_num
  rw [e]
  exact eighth_root (by positivity)

theorem tolRD_pow : (tolRD : ℝ) ^ 8 = 1 / 500 * (1 / 2 ^ 52) ∧ (0 : ℝ) < tolRD := by
  have e : (tolRD : ℝ) = √√√(1 / 500 * (1 / 2 ^ 52)) := by
    unfold tolRD
    simp only [sqrt_real, eps_real, ofDec_real]
    congr 3; norm_num
  rw [e]
  exact eighth_root (by positivity)

/-! `rfLoop`, `rdLoop` and `rjLoop` are one scheme: at most `n` trips of a step `f` while a test `t` holds. -/

section loop
variable {σ τ : Type}

def whileFuel (t : σ → Bool) (f : σ → σ) : ℕ → σ → σ
  | 0, s => s
  | n + 1, s => if t s then whileFuel t f n (f s) else s

variable {t : σ → Bool} {f : σ → σ}

theorem whileFuel_ind (I : ℕ → σ → Prop) (hf : ∀ k s, I k s → I (k + 1) (f s)) (n : ℕ) (s : σ) (h0 : I 0 s) :
    ∃ m ≤ n, I m (whileFuel t f n s) ∧ (t (whileFuel t f n s) = false ∨ m = n) := by
  induction n generalizing I s with
  | zero => exact ⟨0, le_rfl, h0, Or.inr rfl⟩
  | succ n ih =>
    simp only [whileFuel]
    split
    · obtain ⟨m, hm, hI, hex⟩ := ih (fun k => I (k + 1)) (fun k s h => hf _ _ h) (f s) (hf 0 s h0)
      exact ⟨m + 1, by omega, hI, hex.imp id (by omega)⟩
    · next h => exact ⟨0, by omega, h0, Or.inl (by simpa using h)⟩

theorem whileFuel_inv (I : σ → Prop) (hf : ∀ s, I s → I (f s)) (n : ℕ) (s : σ) (h0 : I s) : I (whileFuel t f n s) := by
  obtain ⟨_, _, h, _⟩ := whileFuel_ind (t := t) (fun _ => I) (fun _ => hf) n s h0
  exact h

theorem whileFuel_map {t' : τ → Bool} {f' : τ → τ} (g : σ → τ) (ht : ∀ s, t' (g s) = t s) (hf : ∀ s, f' (g s) = g (f s))
    (n : ℕ) (s : σ) : whileFuel t' f' n (g s) = g (whileFuel t f n s) := by
  induction n generalizing s with
  | zero => rfl
  | succ n ih => simp only [whileFuel, ht, hf, ih, apply_ite g]

end loop

theorem lam_swapXY (x y z : ℝ) : lam y x z = lam x y z := by unfold lam; ring
theorem lam_swapYZ (x y z : ℝ) : lam x z y = lam x y z := by unfold lam; ring

theorem lam_nonneg (x y z : ℝ) : 0 ≤ lam x y z := by
  unfold lam
  simp only [sqrt_real]
  positivity

theorem sqrt_add_sqrt_pos {x y : ℝ} (h : 0 < x + y) : 0 < √x + √y := by
  by_cases hx0 : 0 < x
  · exact add_pos_of_pos_of_nonneg (Real.sqrt_pos.2 hx0) (Real.sqrt_nonneg y)
  · exact add_pos_of_nonneg_of_pos (Real.sqrt_nonneg x) (Real.sqrt_pos.2 (by linarith))

theorem rfStep_real (s : Dup ℝ) :
    rfStep s = ⟨(s.An + lam s.x0 s.y0 s.z0) / 4, (s.x0 + lam s.x0 s.y0 s.z0) / 4, (s.y0 + lam s.x0 s.y0 s.z0) / 4,
      (s.z0 + lam s.x0 s.y0 s.z0) / 4, s.mul * 4⟩ := by
  unfold rfStep; simp only [lit_real]

theorem rfLoop_eq (Q : ℝ) (n : ℕ) (s : Dup ℝ) :
    rfLoop Q n s = whileFuel (fun s => leb (s.mul * RealLike.abs s.An) Q) rfStep n s := by
  induction n generalizing s with
  | zero => rfl
  | succ n ih => simp only [rfLoop, whileFuel, ih]

theorem rfLoop_spec (Q : ℝ) (n : ℕ) (s : Dup ℝ) :
    ∃ m ≤ n, ((rfLoop Q n s).mul * ((rfLoop Q n s).An - (rfLoop Q n s).x0) = s.mul * (s.An - s.x0) ∧
      (rfLoop Q n s).mul * ((rfLoop Q n s).An - (rfLoop Q n s).y0) = s.mul * (s.An - s.y0) ∧
      (rfLoop Q n s).mul * ((rfLoop Q n s).An - (rfLoop Q n s).z0) = s.mul * (s.An - s.z0) ∧
      (rfLoop Q n s).mul = s.mul * 4 ^ m) ∧
      (¬ ((rfLoop Q n s).mul * |(rfLoop Q n s).An| ≤ Q) ∨ m = n) := by
  rw [rfLoop_eq]
  obtain ⟨m, hm, hI, hex⟩ := whileFuel_ind (t := fun r : Dup ℝ => leb (r.mul * RealLike.abs r.An) Q) (f := rfStep)
    (fun k r => r.mul * (r.An - r.x0) = s.mul * (s.An - s.x0) ∧ r.mul * (r.An - r.y0) = s.mul * (s.An - s.y0) ∧
      r.mul * (r.An - r.z0) = s.mul * (s.An - s.z0) ∧ r.mul = s.mul * 4 ^ k)
    (fun k r ⟨i1, i2, i3, i4⟩ => by
      rw [rfStep_real]
      exact ⟨by rw [← i1]; ring, by rw [← i2]; ring, by rw [← i3]; ring, by simp only [i4]; ring⟩)
    n s ⟨rfl, rfl, rfl, by rw [pow_zero, mul_one]⟩
  exact ⟨m, hm, hI, hex.imp (fun h => by simpa using h) id⟩

theorem rfRun_eq (x y z : ℝ) : rfRun x y z = rfLoop (rfQ x y z) trips ⟨(x + y + z) / 3, x, y, z, 1⟩ := by
  unfold rfRun; simp only [lit_real]; push_cast; rfl

theorem le_max3 (a b c : ℝ) : a ≤ max3 a b c ∧ b ≤ max3 a b c ∧ c ≤ max3 a b c := by
  unfold max3; simp only [max_real]
  exact ⟨le_trans (le_max_left a b) (le_max_left _ c), le_trans (le_max_right a b) (le_max_left _ c), le_max_right _ c⟩

theorem max3_swapXY (a b c : ℝ) : max3 b a c = max3 a b c := by
  unfold max3; simp only [max_real]; rw [max_comm b a]

theorem max3_swapYZ (a b c : ℝ) : max3 a c b = max3 a b c := by
  unfold max3; simp only [max_real]; exact max_right_comm a c b

/-- leaving a duplication loop through its test `Q < mul·|A|`, `Q ≥ |d|/tol`, bounds the relative deviation `d/(mul·A)` -/
theorem exit_bound_aux {d Q tol m A : ℝ} (htol : 0 < tol) (hm : 0 < m) (hd : |d| / tol ≤ Q) (hQ : Q < m * |A|) :
    |d / (m * A)| < tol := by
  have hpos : 0 < m * |A| := lt_of_le_of_lt ((div_nonneg (abs_nonneg d) htol.le).trans hd) hQ
  have h1 : |d| ≤ Q * tol := (div_le_iff₀ htol).1 hd
  rw [abs_div, abs_mul, abs_of_pos hm, div_lt_iff₀ hpos]
  nlinarith

theorem rf_exit_bound (x y z : ℝ)
    (hexit : ¬ ((rfRun x y z).mul * |(rfRun x y z).An| ≤ rfQ x y z)) :
    let A0 := (x + y + z) / 3
    let s := rfRun x y z
    |(A0 - x) / (s.mul * s.An)| < tolRF ∧ |(A0 - y) / (s.mul * s.An)| < tolRF ∧ |(A0 - z) / (s.mul * s.An)| < tolRF := by
  intro A0 s
  obtain ⟨m, -, ⟨-, -, -, i4⟩, -⟩ := rfLoop_spec (rfQ x y z) trips ⟨A0, x, y, z, 1⟩
  rw [← rfRun_eq] at i4
  change s.mul = 1 * 4 ^ m at i4
  have hmul : 0 < s.mul := by rw [i4]; positivity
  have hQ : rfQ x y z < s.mul * |s.An| := not_le.1 hexit
  have hQe : rfQ x y z = max3 |A0 - x| |A0 - y| |A0 - z| / tolRF := by
    unfold rfQ; simp only [lit_real, abs_real]; push_cast; rfl
  have ht := tolRF_pow.2
  obtain ⟨m1, m2, m3⟩ := le_max3 |A0 - x| |A0 - y| |A0 - z|
  rw [hQe] at hQ
  exact ⟨exit_bound_aux ht hmul (div_le_div_of_nonneg_right m1 ht.le) hQ,
    exit_bound_aux ht hmul (div_le_div_of_nonneg_right m2 ht.le) hQ,
    exit_bound_aux ht hmul (div_le_div_of_nonneg_right m3 ht.le) hQ⟩

def _root_.GeoVerif.Elliptic.Dup.swapXY (s : Dup ℝ) : Dup ℝ := ⟨s.An, s.y0, s.x0, s.z0, s.mul⟩
def _root_.GeoVerif.Elliptic.Dup.swapYZ (s : Dup ℝ) : Dup ℝ := ⟨s.An, s.x0, s.z0, s.y0, s.mul⟩

theorem rfStep_swapXY (s : Dup ℝ) : rfStep s.swapXY = (rfStep s).swapXY := by
  unfold rfStep Dup.swapXY; simp only [lam_swapXY s.x0 s.y0 s.z0]
theorem rfStep_swapYZ (s : Dup ℝ) : rfStep s.swapYZ = (rfStep s).swapYZ := by
  unfold rfStep Dup.swapYZ; simp only [lam_swapYZ s.x0 s.y0 s.z0]

theorem rfLoop_swapXY (Q : ℝ) (n : ℕ) (s : Dup ℝ) : rfLoop Q n s.swapXY = (rfLoop Q n s).swapXY := by
  simp only [rfLoop_eq]; exact whileFuel_map Dup.swapXY (fun _ => rfl) rfStep_swapXY n s
theorem rfLoop_swapYZ (Q : ℝ) (n : ℕ) (s : Dup ℝ) : rfLoop Q n s.swapYZ = (rfLoop Q n s).swapYZ := by
  simp only [rfLoop_eq]; exact whileFuel_map Dup.swapYZ (fun _ => rfl) rfStep_swapYZ n s

theorem rfQ_swapXY (x y z : ℝ) : rfQ y x z = rfQ x y z := by
  unfold rfQ; simp only [lit_real]; push_cast
  rw [max3_swapXY, show y + x + z = x + y + z by ring]
theorem rfQ_swapYZ (x y z : ℝ) : rfQ x z y = rfQ x y z := by
  unfold rfQ; simp only [lit_real]; push_cast
  rw [max3_swapYZ, show x + z + y = x + y + z by ring]

theorem rfRun_swapXY (x y z : ℝ) : rfRun y x z = (rfRun x y z).swapXY := by
  rw [rfRun_eq, rfRun_eq, rfQ_swapXY, ← rfLoop_swapXY, show y + x + z = x + y + z by ring]; rfl
theorem rfRun_swapYZ (x y z : ℝ) : rfRun x z y = (rfRun x y z).swapYZ := by
  rw [rfRun_eq, rfRun_eq, rfQ_swapYZ, ← rfLoop_swapYZ, show x + z + y = x + y + z by ring]; rfl

theorem rdLoop_eq (Q : ℝ) (n : ℕ) (s : Dup ℝ) (sm : ℝ) :
    rdLoop Q n s sm =
      whileFuel (fun r : Dup ℝ × ℝ => leb (r.1.mul * RealLike.abs r.1.An) Q) (fun r => rdStep r.1 r.2) n (s, sm) := by
  induction n generalizing s sm with
  | zero => rfl
  | succ n ih => simp only [rdLoop, whileFuel, ih]

theorem rdStep_fst (s : Dup ℝ) (sm : ℝ) : (rdStep s sm).1 = rfStep s := rfl

theorem rdLoop_fst (Q : ℝ) (n : ℕ) (s : Dup ℝ) (sm : ℝ) : (rdLoop Q n s sm).1 = rfLoop Q n s := by
  rw [rdLoop_eq, rfLoop_eq]
  symm
  exact whileFuel_map (f := fun r : Dup ℝ × ℝ => rdStep r.1 r.2) Prod.fst (fun _ => rfl) (fun r => (rdStep_fst r.1 r.2).symm) n (s, sm)

theorem rdStep_swapXY (s : Dup ℝ) (sm : ℝ) : rdStep s.swapXY sm = ((rdStep s sm).1.swapXY, (rdStep s sm).2) := by
  unfold rdStep Dup.swapXY; simp only [lam_swapXY s.x0 s.y0 s.z0]

theorem rdLoop_swapXY (Q : ℝ) (n : ℕ) (s : Dup ℝ) (sm : ℝ) :
    rdLoop Q n s.swapXY sm = ((rdLoop Q n s sm).1.swapXY, (rdLoop Q n s sm).2) := by
  simp only [rdLoop_eq]
  exact whileFuel_map (fun r : Dup ℝ × ℝ => (r.1.swapXY, r.2)) (fun _ => rfl) (fun r => rdStep_swapXY r.1 r.2) n (s, sm)

theorem rdQ_swapXY (x y z : ℝ) : rdQ y x z = rdQ x y z := by
  unfold rdQ; simp only [lit_real]; push_cast
  rw [max3_swapXY, show y + x + 3 * z = x + y + 3 * z by ring]

theorem rdRun_eq (x y z : ℝ) :
    rdRun x y z = rdLoop (rdQ x y z) trips ⟨(x + y + 3 * z) / 5, x, y, z, 1⟩ 0 := by
  unfold rdRun; simp only [lit_real]; push_cast; rfl

theorem rdRun_swapXY (x y z : ℝ) : rdRun y x z = ((rdRun x y z).1.swapXY, (rdRun x y z).2) := by
  rw [rdRun_eq, rdRun_eq, rdQ_swapXY, ← rdLoop_swapXY, show y + x + 3 * z = x + y + 3 * z by ring]; rfl

theorem rdE_swapXY (X Y : ℝ) : rdE Y X = rdE X Y := by
  unfold rdE; simp only [lit_real]; push_cast
  refine Prod.ext ?_ (Prod.ext ?_ (Prod.ext ?_ ?_)) <;> simp only <;> ring

theorem rjLoop_eq (Q d : ℝ) (n : ℕ) (s : DupJ ℝ) :
    rjLoop Q d n s = whileFuel (fun s => leb (s.mul * RealLike.abs s.An) Q) (rjStep d) n s := by
  induction n generalizing s with
  | zero => rfl
  | succ n ih => simp only [rjLoop, whileFuel, ih]

def _root_.GeoVerif.Elliptic.DupJ.swapXY (s : DupJ ℝ) : DupJ ℝ := ⟨s.An, s.y0, s.x0, s.z0, s.p0, s.mul, s.mul3, s.s⟩
def _root_.GeoVerif.Elliptic.DupJ.swapYZ (s : DupJ ℝ) : DupJ ℝ := ⟨s.An, s.x0, s.z0, s.y0, s.p0, s.mul, s.mul3, s.s⟩

theorem rjStep_swapXY (d : ℝ) (s : DupJ ℝ) : rjStep d s.swapXY = (rjStep d s).swapXY := by
  unfold rjStep DupJ.swapXY
  simp only [lam_swapXY s.x0 s.y0 s.z0,
    mul_comm (RealLike.sqrt s.p0 + RealLike.sqrt s.y0) (RealLike.sqrt s.p0 + RealLike.sqrt s.x0)]
theorem rjStep_swapYZ (d : ℝ) (s : DupJ ℝ) : rjStep d s.swapYZ = (rjStep d s).swapYZ := by
  unfold rjStep DupJ.swapYZ
  simp only [lam_swapYZ s.x0 s.y0 s.z0,
    mul_right_comm _ (RealLike.sqrt s.p0 + RealLike.sqrt s.z0) (RealLike.sqrt s.p0 + RealLike.sqrt s.y0)]

theorem rjLoop_swapXY (Q d : ℝ) (n : ℕ) (s : DupJ ℝ) : rjLoop Q d n s.swapXY = (rjLoop Q d n s).swapXY := by
  simp only [rjLoop_eq]; exact whileFuel_map DupJ.swapXY (fun _ => rfl) (rjStep_swapXY d) n s
theorem rjLoop_swapYZ (Q d : ℝ) (n : ℕ) (s : DupJ ℝ) : rjLoop Q d n s.swapYZ = (rjLoop Q d n s).swapYZ := by
  simp only [rjLoop_eq]; exact whileFuel_map DupJ.swapYZ (fun _ => rfl) (rjStep_swapYZ d) n s

theorem rjQ_swapXY (x y z p : ℝ) : rjQ y x z p = rjQ x y z p := by
  unfold rjQ; simp only [lit_real, max_real, abs_real]; push_cast
  rw [show y + x + z + 2 * p = x + y + z + 2 * p by ring, max_comm |_ - y| |_ - x|]
theorem rjQ_swapYZ (x y z p : ℝ) : rjQ x z y p = rjQ x y z p := by
  unfold rjQ; simp only [lit_real, max_real, abs_real]; push_cast
  rw [show x + z + y + 2 * p = x + y + z + 2 * p by ring]
  congr 1
  simp only [max_assoc]; congr 1
  exact max_left_comm _ _ _

theorem rjRun_eq (x y z p : ℝ) :
    rjRun x y z p = rjLoop (rjQ x y z p) ((p - x) * (p - y) * (p - z)) trips
      ⟨(x + y + z + 2 * p) / 5, x, y, z, p, 1, 1, 0⟩ := by
  unfold rjRun; simp only [lit_real]; push_cast; rfl

theorem rjRun_swapXY (x y z p : ℝ) : rjRun y x z p = (rjRun x y z p).swapXY := by
  rw [rjRun_eq, rjRun_eq, rjQ_swapXY, ← rjLoop_swapXY, show y + x + z + 2 * p = x + y + z + 2 * p by ring,
    show (p - y) * (p - x) * (p - z) = (p - x) * (p - y) * (p - z) by ring]; rfl
theorem rjRun_swapYZ (x y z p : ℝ) : rjRun x z y p = (rjRun x y z p).swapYZ := by
  rw [rjRun_eq, rjRun_eq, rjQ_swapYZ, ← rjLoop_swapYZ, show x + z + y + 2 * p = x + y + z + 2 * p by ring,
    show (p - x) * (p - z) * (p - y) = (p - x) * (p - y) * (p - z) by ring]; rfl

theorem rjE_swapXY (X Y Z : ℝ) : rjE Y X Z = rjE X Y Z := by
  unfold rjE; simp only [lit_real]; push_cast
  refine Prod.ext ?_ (Prod.ext ?_ (Prod.ext ?_ ?_)) <;> simp only <;> ring
theorem rjE_swapYZ (X Y Z : ℝ) : rjE X Z Y = rjE X Y Z := by
  unfold rjE; simp only [lit_real]; push_cast
  refine Prod.ext ?_ (Prod.ext ?_ (Prod.ext ?_ ?_)) <;> simp only <;> ring

theorem rc_atan_eq (x y : ℝ) (hxy : x < y) : rc x y = arctan (√((y - x) / x)) / √(y - x) := by
  have h : ¬ y ≤ x := not_le.2 hxy
  unfold rc; simp [h]

theorem rc_asinh_eq (x y : ℝ) (hy : 0 < y) (hxy : y < x) : rc x y = arsinh (√((x - y) / y)) / √(x - y) := by
  have h : x ≠ y := hxy.ne'
  unfold rc; simp [h, hxy.le, hy, lit_real]

end GeoVerif.Proofs.Carlson
