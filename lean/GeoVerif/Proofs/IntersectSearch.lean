import GeoVerif.Proofs.IntersectComp
/-!
# `Intersect`: what the search loops guarantee for every kernel (lemmas for `Props/C17.lean`)
-/
namespace GeoVerif.IntersectSearch
open GeoVerif GeoVerif.IntersectFix

theorem basicLoop_spec (sph : XP ℝ → XP ℝ) (tol : ℝ) : ∀ (fuel : Nat) (q : XP ℝ) (n : Nat),
    (basicLoop sph tol fuel q n).2 ≤ n + fuel ∧ n ≤ (basicLoop sph tol fuel q n).2 ∧
    ((basicLoop sph tol fuel q n).2 < n + fuel →
      (basicLoop sph tol fuel q n).1.c ≠ 0 ∨
      ∃ q', (basicLoop sph tol fuel q n).1 = XP.add q' (sph q') ∧ dist0 (sph q') ≤ tol) := by
  intro fuel
  induction fuel with
  | zero => intro q n; exact ⟨Nat.le_refl n, Nat.le_refl n, fun h => absurd h (Nat.lt_irrefl n)⟩
  | succ k ih =>
    intro q n
    simp only [basicLoop]
    by_cases hstop : ((XP.add q (sph q)).c != 0 || !RealLike.ltb tol (dist0 (sph q))) = true
    · rw [if_pos hstop]
      refine ⟨Nat.succ_le_succ (Nat.le_add_right n k), Nat.le_succ n, fun _ => ?_⟩
      simp only [Bool.or_eq_true, bne_iff_ne, ne_eq, Bool.not_eq_true', ltb_real, decide_eq_false_iff_not, not_lt] at hstop
      rcases hstop with h | h
      · exact Or.inl h
      · exact Or.inr ⟨q, rfl, h⟩
    · rw [if_neg hstop]
      obtain ⟨h1, h2, h3⟩ := ih (XP.add q (sph q)) (n + 1)
      refine ⟨by omega, by omega, ?_⟩
      intro hlt
      exact h3 (by omega)

theorem skipped_iff (pr : List (XP ℝ)) (thr : ℝ) (s : XP ℝ) : skipped pr thr s = true ↔ ∃ qy ∈ pr, dist qy s < thr := by
  simp only [skipped, List.any_eq_true, ltb_real, decide_eq_true_eq]

/-- what `Basic` contributes at start `s`, centred with respect to `p0` -/
noncomputable def ans (basic : XP ℝ → XP ℝ) (p0 s : XP ℝ) : XP ℝ := fixc p0 (basic s)

/-- loop invariant of `ClosestInt`: while `first` is set nothing was visited, afterwards there is a best point; it is the
    answer of a visited start, at least `t1` from `p0` (no early exit yet) and nearest among the answers so far up to `δ`; the
    pruners are answers of visited starts -/
structure CInv (C : Consts ℝ) (basic : XP ℝ → XP ℝ) (p0 : XP ℝ) (first : Bool) (pr : List (XP ℝ)) (o : Out ℝ) : Prop where
  first_nil : first = true → o.visited = []
  none_first : o.q = none → first = true
  isans : ∀ b, o.q = some b → ∃ s ∈ o.visited, b = ans basic p0 s
  far : ∀ b, o.q = some b → C.t1 ≤ dist b p0
  min : ∀ s ∈ o.visited, ∃ b, o.q = some b ∧ dist b p0 ≤ dist (ans basic p0 s) p0 + C.delta
  pruner : ∀ p ∈ pr, ∃ t ∈ o.visited, p = ans basic p0 t

structure CPost (C : Consts ℝ) (basic : XP ℝ → XP ℝ) (p0 : XP ℝ) (o' : Out ℝ) : Prop where
  isans : ∀ b, o'.q = some b → ∃ s ∈ o'.visited, b = ans basic p0 s
  min : ∀ s ∈ o'.visited, ∃ b, o'.q = some b ∧ dist b p0 ≤ dist (ans basic p0 s) p0 + C.delta

theorem closestLoop_visited (C : Consts ℝ) (basic : XP ℝ → XP ℝ) (p0 : XP ℝ) :
    ∀ (rest : List (XP ℝ)) (first : Bool) (pr : List (XP ℝ)) (o : Out ℝ),
      ∃ v, v.Sublist rest ∧ (closestLoop C basic p0 first rest pr o).visited = o.visited ++ v := by
  intro rest
  induction rest with
  | nil => intro first pr o; exact ⟨[], .slnil, (List.append_nil _).symm⟩
  | cons s rest ih =>
    intro first pr o
    have cont : ∀ (pr' : List (XP ℝ)) (o' : Out ℝ), o'.visited = o.visited ++ [s] →
        ∃ v, v.Sublist (s :: rest) ∧ (closestLoop C basic p0 false rest pr' o').visited = o.visited ++ v := by
      intro pr' o' hv
      obtain ⟨v, hs, e⟩ := ih false pr' o'
      exact ⟨s :: v, hs.cons_cons s, by rw [e, hv, List.append_assoc]; rfl⟩
    -- the claim holds of a conditional if it holds of both branches (`split` on the unfolded loop body is slow to check)
    have ite {P : Prop} [Decidable P] {a b : Out ℝ} (ha : ∃ v, v.Sublist (s :: rest) ∧ a.visited = o.visited ++ v)
        (hb : ∃ v, v.Sublist (s :: rest) ∧ b.visited = o.visited ++ v) :
        ∃ v, v.Sublist (s :: rest) ∧ (if P then a else b).visited = o.visited ++ v := by
      split
      · exact ha
      · exact hb
    obtain ⟨v, hs, e⟩ := ih false pr o
    rw [closestLoop]
    exact ite ⟨v, hs.cons s, e⟩ (ite (cont _ _ rfl) (ite ⟨[s], by simp, rfl⟩ (cont _ _ (by split <;> rfl))))

theorem closestLoop_visited_mono (C : Consts ℝ) (basic : XP ℝ → XP ℝ) (p0 : XP ℝ) (rest : List (XP ℝ)) (first : Bool)
    (pr : List (XP ℝ)) (o : Out ℝ) : ∀ t ∈ o.visited, t ∈ (closestLoop C basic p0 first rest pr o).visited := by
  intro t ht
  obtain ⟨v, -, e⟩ := closestLoop_visited C basic p0 rest first pr o
  rw [e]; exact List.mem_append_left _ ht

/-- One pass through the loop body at start `s`: either the loop goes on, in a state that satisfies the invariant again and in
    which `s` is visited or pruned by the answer of a visited start, or it is left with a point within `t1` of `p0`. -/
theorem closestLoop_cons {C : Consts ℝ} (hδ : 0 ≤ C.delta) {basic : XP ℝ → XP ℝ} {p0 : XP ℝ} {first : Bool} {pr : List (XP ℝ)}
    {o : Out ℝ} (h : CInv C basic p0 first pr o) (s : XP ℝ) (rest : List (XP ℝ)) :
    (∃ pr' o', closestLoop C basic p0 first (s :: rest) pr o = closestLoop C basic p0 false rest pr' o' ∧
        CInv C basic p0 false pr' o' ∧
        (s ∈ o'.visited ∨ ∃ t ∈ o'.visited, dist (ans basic p0 t) s < closestThr C)) ∨
    (CPost C basic p0 (closestLoop C basic p0 first (s :: rest) pr o) ∧
        ∃ b, (closestLoop C basic p0 first (s :: rest) pr o).q = some b ∧ dist b p0 < C.t1) := by
  simp only [closestLoop]
  by_cases hsk : skipped pr (closestThr C) s = true
  · rw [if_pos hsk]
    obtain ⟨p, hp, hlt⟩ := (skipped_iff _ _ _).mp hsk
    obtain ⟨t, ht, rfl⟩ := h.pruner p hp
    have hf : first = false := by
      cases first with
      | false => rfl
      | true => rw [h.first_nil rfl] at ht; cases ht
    subst hf
    exact Or.inl ⟨pr, o, rfl, h, Or.inr ⟨t, ht, hlt⟩⟩
  · rw [if_neg hsk]
    have hqa : fixc p0 (basic s) = ans basic p0 s := rfl
    generalize fixc p0 (basic s) = qx at hqa
    have old : ∀ t ∈ o.visited, t ∈ o.visited ++ [s] := fun t ht => List.mem_append_left _ ht
    -- the pruners are still answers of visited starts
    have prn : ∀ pr' : List (XP ℝ), (∀ p ∈ pr', p = qx ∨ p ∈ pr) → ∀ p ∈ pr', ∃ t ∈ o.visited ++ [s], p = ans basic p0 t := by
      intro pr' hpr' p hp
      rcases hpr' p hp with rfl | hp
      · exact ⟨s, by simp, hqa⟩
      · obtain ⟨t, ht, e⟩ := h.pruner p hp
        exact ⟨t, old t ht, e⟩
    -- `s` is visited and the best point `b` stays
    have keep : ∀ b, o.q = some b → dist b p0 ≤ dist qx p0 + C.delta → ∀ pr', (∀ p ∈ pr', p = qx ∨ p ∈ pr) →
        CInv C basic p0 false pr' { o with visited := o.visited ++ [s] } := by
      intro b hb hle pr' hpr'
      refine ⟨nofun, fun hn => by simp [hb] at hn, ?_, h.far, ?_, prn pr' hpr'⟩
      · intro b' hb'
        obtain ⟨t, ht, e⟩ := h.isans b' hb'
        exact ⟨t, old t ht, e⟩
      · intro t ht
        rcases List.mem_append.mp ht with ht | ht
        · exact h.min t ht
        · rw [List.mem_singleton.mp ht, ← hqa]; exact ⟨b, hb, hle⟩
    -- `s` is visited and its answer becomes the best point
    have new : (∀ t ∈ o.visited, dist qx p0 ≤ dist (ans basic p0 t) p0 + C.delta) → ∀ n,
        CPost C basic p0 { q := some qx, visited := o.visited ++ [s], nchange := n } := by
      intro hle n
      refine ⟨?_, ?_⟩
      · intro b hb
        simp only [Option.some.injEq] at hb
        exact ⟨s, by simp, by rw [← hb, hqa]⟩
      · intro t ht
        refine ⟨qx, rfl, ?_⟩
        rcases List.mem_append.mp ht with ht | ht
        · exact hle t ht
        · rw [List.mem_singleton.mp ht, ← hqa]; linarith
    by_cases heq : eqO C.delta o.q qx = true
    · -- the answer is in the class of the best point so far: ignored
      rw [if_pos heq]
      obtain ⟨b, hb, hbe⟩ : ∃ b, o.q = some b ∧ ceq C.delta b qx = true := by
        cases hq : o.q with
        | none => rw [hq] at heq; cases heq
        | some b => rw [hq] at heq; exact ⟨b, rfl, heq⟩
      rw [ceq_iff] at hbe
      have := dist_triangle b qx p0
      exact Or.inl ⟨pr, _, rfl, keep b hb (by linarith) pr (fun p hp => Or.inr hp), Or.inl (by simp)⟩
    · rw [if_neg heq]
      by_cases hbr : RealLike.ltb (dist qx p0) C.t1 = true
      · -- early exit
        rw [if_pos hbr]
        simp only [ltb_real, decide_eq_true_eq] at hbr
        refine Or.inr ⟨new (fun t ht => ?_) _, qx, rfl, hbr⟩
        obtain ⟨b, hb, hm⟩ := h.min t ht
        have := h.far b hb
        linarith
      · rw [if_neg hbr]
        simp only [ltb_real, decide_eq_true_eq, not_lt] at hbr
        by_cases hup : (first || ltO p0 qx o.q) = true
        · -- new best point
          rw [if_pos hup]
          have hle : ∀ t ∈ o.visited, dist qx p0 ≤ dist (ans basic p0 t) p0 + C.delta := by
            intro t ht
            obtain ⟨b, hb, hm⟩ := h.min t ht
            simp only [Bool.or_eq_true] at hup
            rcases hup with hf | hl
            · rw [h.first_nil hf] at ht; cases ht
            · rw [hb] at hl; simp only [ltO, ltb_real, decide_eq_true_eq] at hl; linarith
          obtain ⟨ia, mn⟩ := new hle (o.nchange + 1)
          refine Or.inl ⟨qx :: pr, _, rfl, ⟨nofun, nofun, ia, ?_, mn, prn _ (fun p hp => List.mem_cons.mp hp)⟩, Or.inl (by simp)⟩
          intro b hb; simp only [Option.some.injEq] at hb; rw [← hb]; exact hbr
        · -- not better than the best point so far
          rw [if_neg hup]
          simp only [Bool.or_eq_true, not_or, Bool.not_eq_true] at hup
          obtain ⟨hf, hl⟩ := hup
          obtain ⟨b, hb⟩ : ∃ b, o.q = some b := by
            cases hq : o.q with
            | none => have := h.none_first hq; rw [hf] at this; cases this
            | some b => exact ⟨b, rfl⟩
          rw [hb] at hl; simp only [ltO, ltb_real, decide_eq_false_iff_not, not_lt] at hl
          exact Or.inl ⟨qx :: pr, _, rfl, keep b hb (by linarith) _ (fun p hp => List.mem_cons.mp hp), Or.inl (by simp)⟩

theorem closestLoop_spec (C : Consts ℝ) (hδ : 0 ≤ C.delta) (basic : XP ℝ → XP ℝ) (p0 : XP ℝ) :
    ∀ (rest : List (XP ℝ)) (first : Bool) (pr : List (XP ℝ)) (o : Out ℝ), CInv C basic p0 first pr o →
      CPost C basic p0 (closestLoop C basic p0 first rest pr o) ∧
      ((first = false ∨ rest ≠ []) → (closestLoop C basic p0 first rest pr o).q ≠ none) ∧
      ∀ s ∈ rest, s ∈ (closestLoop C basic p0 first rest pr o).visited ∨
        (∃ t ∈ (closestLoop C basic p0 first rest pr o).visited, dist (ans basic p0 t) s < closestThr C) ∨
        (∃ b, (closestLoop C basic p0 first rest pr o).q = some b ∧ dist b p0 < C.t1) := by
  intro rest
  induction rest with
  | nil =>
    intro first pr o h
    refine ⟨⟨h.isans, h.min⟩, ?_, fun s hs => by cases hs⟩
    rintro (hf | hne) hq
    · have := h.none_first hq; rw [hf] at this; cases this
    · exact hne rfl
  | cons s rest ih =>
    intro first pr o h
    rcases closestLoop_cons hδ h s rest with ⟨pr', o', e, h', hs⟩ | ⟨hpost, b, hb, hlt⟩
    · rw [e]
      obtain ⟨post, hq, hcov⟩ := ih false pr' o' h'
      have up := closestLoop_visited_mono C basic p0 rest false pr' o'
      refine ⟨post, fun _ => hq (Or.inl rfl), fun s' hs' => ?_⟩
      rcases List.mem_cons.mp hs' with rfl | hs'
      · rcases hs with hs | ⟨t, ht, hlt⟩
        · exact Or.inl (up _ hs)
        · exact Or.inr (Or.inl ⟨t, up t ht, hlt⟩)
      · exact hcov s' hs'
    · exact ⟨hpost, fun _ => by simp [hb], fun s' _ => Or.inr (Or.inr ⟨b, hb, hlt⟩)⟩

theorem closestInt_inv (C : Consts ℝ) (basic : XP ℝ → XP ℝ) (p0 : XP ℝ) :
    CInv C basic p0 true [] { q := none, visited := [], nchange := 0 } :=
  ⟨fun _ => rfl, fun _ => rfl, nofun, nofun, nofun, nofun⟩

theorem closestInt_spec (C : Consts ℝ) (hδ : 0 ≤ C.delta) (basic : XP ℝ → XP ℝ) (p0 : XP ℝ) :
    CPost C basic p0 (closestInt C basic p0) ∧ (∀ s ∈ (closestInt C basic p0).visited, s ∈ closestStarts C p0) ∧
    (closestStarts C p0 ≠ [] → (closestInt C basic p0).q ≠ none) := by
  obtain ⟨post, hq, -⟩ := closestLoop_spec C hδ basic p0 (closestStarts C p0) true [] _ (closestInt_inv C basic p0)
  obtain ⟨v, hs, hv⟩ := closestLoop_visited C basic p0 (closestStarts C p0) true [] { q := none, visited := [], nchange := 0 }
  refine ⟨post, fun s hs' => hs.subset ?_, fun hne => hq (Or.inr hne)⟩
  rw [closestInt, hv] at hs'; exact hs'

theorem closestInt_cover (C : Consts ℝ) (hδ : 0 ≤ C.delta) (basic : XP ℝ → XP ℝ) (p0 : XP ℝ) :
    ∀ s ∈ closestStarts C p0, s ∈ (closestInt C basic p0).visited ∨
      (∃ t ∈ (closestInt C basic p0).visited, dist (ans basic p0 t) s < closestThr C) ∨
      (∃ b, (closestInt C basic p0).q = some b ∧ dist b p0 < C.t1) :=
  (closestLoop_spec C hδ basic p0 _ true [] _ (closestInt_inv C basic p0)).2.2

theorem isNaN_real (v : ℝ) : isNaN v = false := by simp [isNaN]

theorem better_visited (o : NOut ℝ) (a : XP ℝ) : (better o a).visited = o.visited := by unfold better; split <;> rfl
theorem better_nan (o : NOut ℝ) (a : XP ℝ) : (better o a).nan = o.nan := by unfold better; split <;> rfl
theorem better_q (o : NOut ℝ) (a : XP ℝ) :
    dist0 (better o a).q ≤ dist0 o.q ∧ dist0 (better o a).q ≤ dist0 a ∧ ((better o a).q = o.q ∨ (better o a).q = a) := by
  unfold better
  by_cases h : RealLike.ltb (dist0 a) (dist0 o.q) = true
  · rw [if_pos h]; simp only [ltb_real, decide_eq_true_eq] at h; exact ⟨h.le, le_refl _, Or.inr rfl⟩
  · rw [if_neg h]; simp only [ltb_real, decide_eq_true_eq, not_lt] at h; exact ⟨le_refl _, h, Or.inl rfl⟩

theorem foldl_better (cs : List (XP ℝ)) : ∀ o : NOut ℝ,
    (cs.foldl better o).visited = o.visited ∧ (cs.foldl better o).nan = o.nan ∧
    dist0 (cs.foldl better o).q ≤ dist0 o.q ∧ (∀ a ∈ cs, dist0 (cs.foldl better o).q ≤ dist0 a) ∧
    ((cs.foldl better o).q = o.q ∨ (cs.foldl better o).q ∈ cs) := by
  induction cs with
  | nil => intro o; exact ⟨rfl, rfl, le_refl _, nofun, Or.inl rfl⟩
  | cons a cs ih =>
    intro o
    obtain ⟨hv, hn, hle, hmin, hsrc⟩ := ih (better o a)
    obtain ⟨b1, b2, b3⟩ := better_q o a
    rw [List.foldl_cons]
    refine ⟨by rw [hv, better_visited], by rw [hn, better_nan], hle.trans b1, ?_, ?_⟩
    · intro c hc
      rcases List.mem_cons.mp hc with rfl | hc
      · exact hle.trans b2
      · exact hmin c hc
    · rcases hsrc with e | hm
      · rw [e]; exact b3.imp id (fun e => by rw [e]; exact List.mem_cons_self)
      · exact Or.inr (List.mem_cons_of_mem _ hm)

noncomputable def prunersOf (C : Consts ℝ) (basic : XP ℝ → XP ℝ) (s : XP ℝ) : List (XP ℝ) :=
  nextPruners C (fixc (mk0 zero zero) (basic s)) (ceq C.delta (mk0 zero zero) (fixc (mk0 zero zero) (basic s)))

/-- one pass through the loop body; the NaN exit does not exist over `ℝ` -/
theorem nextLoop_cons (C : Consts ℝ) (basic : XP ℝ → XP ℝ) (conj : ℝ → ℝ) (s : XP ℝ) (rest pr : List (XP ℝ)) (o : NOut ℝ) :
    nextLoop C basic conj (s :: rest) pr o =
      if skipped pr (nextThr C) s then nextLoop C basic conj rest pr o
      else nextLoop C basic conj rest (prunersOf C basic s ++ pr)
        ((candsOf C basic conj s).foldl better { o with visited := o.visited ++ [s] }) := by
  rw [nextLoop]
  -- the two sides differ only in the branch of a start that is not skipped: by cases on the two flags tested there
  congr 1
  simp only [isNaN_real, Bool.false_eq_true, if_false, candsOf, prunersOf]
  generalize fixc (mk0 zero zero) (basic s) = qx
  cases h0 : (qx.c == 0 && ceq C.delta (mk0 zero zero) qx)
  · cases h1 : (qx.c != 0 && ceq C.delta (mk0 zero zero) qx) <;> rfl
  · simp only [Bool.and_eq_true, beq_iff_eq] at h0
    simp [nextPruners, h0.1, h0.2]

theorem nextLoop_visited (C : Consts ℝ) (basic : XP ℝ → XP ℝ) (conj : ℝ → ℝ) :
    ∀ (rest pr : List (XP ℝ)) (o : NOut ℝ), ∃ v, v.Sublist rest ∧ (nextLoop C basic conj rest pr o).visited = o.visited ++ v := by
  intro rest
  induction rest with
  | nil => intro pr o; exact ⟨[], .slnil, (List.append_nil _).symm⟩
  | cons s rest ih =>
    intro pr o
    rw [nextLoop_cons]
    split
    · obtain ⟨v, hs, e⟩ := ih pr o
      exact ⟨v, hs.cons s, e⟩
    · obtain ⟨v, hs, e⟩ := ih (prunersOf C basic s ++ pr) ((candsOf C basic conj s).foldl better { o with visited := o.visited ++ [s] })
      exact ⟨s :: v, hs.cons_cons s, by rw [e, (foldl_better _ _).1, List.append_assoc]; rfl⟩

theorem nextLoop_visited_mono (C : Consts ℝ) (basic : XP ℝ → XP ℝ) (conj : ℝ → ℝ) (rest pr : List (XP ℝ)) (o : NOut ℝ) :
    ∀ t ∈ o.visited, t ∈ (nextLoop C basic conj rest pr o).visited := by
  intro t ht
  obtain ⟨v, -, e⟩ := nextLoop_visited C basic conj rest pr o
  rw [e]; exact List.mem_append_left _ ht

/-- `q0` is the initial best point `(inf, 0)` -/
structure NInv (C : Consts ℝ) (basic : XP ℝ → XP ℝ) (conj : ℝ → ℝ) (q0 : XP ℝ) (o : NOut ℝ) : Prop where
  src : o.q = q0 ∨ ∃ s ∈ o.visited, o.q ∈ candsOf C basic conj s
  min : ∀ s ∈ o.visited, ∀ a ∈ candsOf C basic conj s, dist0 o.q ≤ dist0 a
  le0 : dist0 o.q ≤ dist0 q0
  nonan : o.nan = false

theorem NInv.visit {C : Consts ℝ} {basic : XP ℝ → XP ℝ} {conj : ℝ → ℝ} {q0 : XP ℝ} {o : NOut ℝ}
    (h : NInv C basic conj q0 o) (s : XP ℝ) :
    NInv C basic conj q0 ((candsOf C basic conj s).foldl better { o with visited := o.visited ++ [s] }) := by
  obtain ⟨hv, hn, hle, hmin, hsrc⟩ := foldl_better (candsOf C basic conj s) { o with visited := o.visited ++ [s] }
  refine ⟨?_, ?_, hle.trans h.le0, by rw [hn]; exact h.nonan⟩
  · rw [hv]
    rcases hsrc with e | hm
    · rw [e]
      rcases h.src with e0 | ⟨t, ht, e0⟩
      · exact Or.inl e0
      · exact Or.inr ⟨t, List.mem_append_left _ ht, e0⟩
    · exact Or.inr ⟨s, by simp, hm⟩
  · rw [hv]
    intro t ht a ha
    rcases List.mem_append.mp ht with ht | ht
    · exact hle.trans (h.min t ht a ha)
    · rw [List.mem_singleton.mp ht] at ha; exact hmin a ha

theorem nextLoop_spec (C : Consts ℝ) (basic : XP ℝ → XP ℝ) (conj : ℝ → ℝ) (q0 : XP ℝ) :
    ∀ (rest pr : List (XP ℝ)) (o : NOut ℝ), NInv C basic conj q0 o → NInv C basic conj q0 (nextLoop C basic conj rest pr o) := by
  intro rest
  induction rest with
  | nil => intro pr o h; exact h
  | cons s rest ih =>
    intro pr o h
    rw [nextLoop_cons]
    split
    · exact ih pr o h
    · exact ih _ _ (h.visit s)

theorem nextInt_spec (C : Consts ℝ) (basic : XP ℝ → XP ℝ) (conj : ℝ → ℝ) (big : ℝ) :
    NInv C basic conj (mk0 big zero) (nextInt C basic conj big) ∧
    (∀ s ∈ (nextInt C basic conj big).visited, s ∈ nextStarts C) := by
  refine ⟨nextLoop_spec C basic conj _ _ _ _ ⟨Or.inl rfl, nofun, le_refl _, rfl⟩, fun s hs => ?_⟩
  obtain ⟨v, hv, e⟩ := nextLoop_visited C basic conj (nextStarts C) [] { q := mk0 big zero, visited := [], nchange := 0, nan := false }
  rw [nextInt, e] at hs
  exact hv.subset hs

theorem cornerLoop_inv (C : Consts ℝ) (basic : XP ℝ → XP ℝ) (sx sy : ℝ) (q : XP ℝ) :
    ∀ (rest : List (XP ℝ)) (st : Int × Option (XP ℝ) × List (XP ℝ)),
      (∀ qx, st.2.1 = some qx → st.1 = segmentmode sx sy qx) →
      ∀ qx, (cornerLoop C basic sx sy q rest st).2.1 = some qx → (cornerLoop C basic sx sy q rest st).1 = segmentmode sx sy qx := by
  intro rest
  induction rest with
  | nil => intro st h; exact h
  | cons t rest ih =>
    intro st h
    obtain ⟨m, qo, vis⟩ := st
    simp only [cornerLoop]
    split
    · exact h
    · split
      · apply ih; intro qx hq; simp only [Option.some.injEq] at hq; subst hq; rfl
      · exact ih _ h

theorem segmentInt_segmode (C : Consts ℝ) (basic : XP ℝ → XP ℝ) (sx sy : ℝ) (o : SOut ℝ)
    (h : segmentInt C basic sx sy = some o) : o.segmode = segmentmode sx sy o.q := by
  unfold segmentInt at h
  simp only at h
  split at h
  · cases h
  · rename_i q0 _
    split at h
    · split at h
      · rename_i qx vis heq
        simp only [Option.some.injEq] at h; subst h
        have := cornerLoop_inv C basic sx sy (fixsegment sx sy q0) (corners sx sy) (1, none, []) (by intro qx hq; cases hq) qx (by rw [heq])
        rw [heq] at this
        exact this
      · simp only [Option.some.injEq] at h; subst h; rfl
    · simp only [Option.some.injEq] at h; subst h; rfl

def allInit : AState ℝ := { r := [], cs := [], c0 := 0, pr := [], visited := [], exhausted := false }

theorem allInt0_res (C : Consts ℝ) (basic : XP ℝ → XP ℝ) (conj2 : ℝ → ℝ → ℝ) (maxdist : ℝ) (p0 : XP ℝ) (m fuel : Nat) :
    (allInt0 C basic conj2 maxdist p0 m fuel).res = sortBy (rlt p0)
      ((allLoop C basic conj2 p0 (maxdist + C.delta) ((maxdist + C.delta) / m) fuel
        (allStarts p0 ((maxdist + C.delta) / m) m) allInit).r.filter fun q => decide (dist q p0 ≤ maxdist)) := by
  simp only [allInt0, ofNat_real, leb_real, allInit]

theorem conjLoop_mem {C : Consts ℝ} {conj2 : ℝ → ℝ → ℝ} {p0 q : XP ℝ} {c0 : Int} {s0 maxdistx : ℝ} {sgn : Int} :
    ∀ (fuel : Nat) (sa : ℝ) (acc : List (XP ℝ)), ∀ e ∈ (conjLoop C conj2 p0 q c0 s0 maxdistx sgn fuel sa acc).1,
      e ∈ acc ∨ ∃ sa', e = XP.add q (mk0 sa' (ofC c0 * sa')) := by
  intro fuel
  induction fuel with
  | zero => intro sa acc e he; simp only [conjLoop] at he; exact Or.inl he
  | succ k ih =>
    intro sa acc e he
    simp only [conjLoop] at he
    split at he
    · rcases ih _ _ e he with h | h
      · rcases List.mem_append.mp h with h | h
        · exact Or.inl h
        · simp only [List.mem_singleton] at h; exact Or.inr ⟨_, h⟩
      · exact Or.inr h
    · rcases List.mem_append.mp he with h | h
      · exact Or.inl h
      · simp only [List.mem_singleton] at h; exact Or.inr ⟨_, h⟩

structure AInv (δ : ℝ) (S : XP ℝ → Prop) (st : AState ℝ) : Prop where
  sorted : st.r.Pairwise (fun a b => clt δ a b = true)
  inS : ∀ e ∈ st.r, S e

theorem foldl_setInsert_inv {δ : ℝ} {S : XP ℝ → Prop}
    (htr : ∀ p q r, S p → S q → S r → clt δ p q = true → clt δ q r = true → clt δ p r = true) :
    ∀ (added r : List (XP ℝ)), (∀ e ∈ added, S e) → r.Pairwise (fun a b => clt δ a b = true) → (∀ e ∈ r, S e) →
      (added.foldl (setInsert (clt δ)) r).Pairwise (fun a b => clt δ a b = true) ∧ ∀ e ∈ added.foldl (setInsert (clt δ)) r, S e := by
  intro added
  induction added with
  | nil => intro r _ h1 h2; exact ⟨h1, h2⟩
  | cons a t ih =>
    intro r ha h1 h2
    simp only [List.foldl_cons]
    apply ih
    · exact fun e he => ha e (List.mem_cons_of_mem _ he)
    · exact setInsert_pairwise htr h2 (ha a (by simp)) h1
    · intro e he
      rcases mem_setInsert he with h | h
      · rw [h]; exact ha a (by simp)
      · exact h2 e h

theorem allLoop_inv (C : Consts ℝ) (basic : XP ℝ → XP ℝ) (conj2 : ℝ → ℝ → ℝ) (p0 : XP ℝ) (maxdistx d3 : ℝ) (fuel : Nat)
    (S : XP ℝ → Prop)
    (htr : ∀ p q r, S p → S q → S r → clt C.delta p q = true → clt C.delta q r = true → clt C.delta p r = true)
    (hb : ∀ s, S (basic s)) (hf : ∀ s, (basic s).c ≠ 0 → S (fixc p0 (basic s)))
    (hc : ∀ s sa, (basic s).c ≠ 0 → S (XP.add (fixc p0 (basic s)) (mk0 sa (ofC (basic s).c * sa)))) :
    ∀ (rest : List (XP ℝ)) (st : AState ℝ), AInv C.delta S st → AInv C.delta S (allLoop C basic conj2 p0 maxdistx d3 fuel rest st) := by
  intro rest
  induction rest with
  | nil => intro st h; exact h
  | cons s rest ih =>
    intro st h
    simp only [allLoop]
    split
    · exact ih st h
    · split
      · exact ih _ ⟨h.sorted, h.inS⟩
      · split
        · rename_i hcne
          have hcne' : (basic s).c ≠ 0 := by simpa using hcne
          apply ih
          refine And.elim AInv.mk (foldl_setInsert_inv htr _ _ ?_ (h.sorted.sublist List.filter_sublist)
            fun e he => h.inS e (List.mem_filter.mp he).1)
          intro e he
          simp only [List.mem_append, List.mem_singleton] at he
          rcases he with (he | he) | rfl
          · obtain ⟨sa, rfl⟩ := (conjLoop_mem _ _ _ e he).resolve_left List.not_mem_nil
            exact hc s sa hcne'
          · obtain ⟨sa, rfl⟩ := (conjLoop_mem _ _ _ e he).resolve_left List.not_mem_nil
            exact hc s sa hcne'
          · exact hf s hcne'
        · apply ih
          refine ⟨setInsert_pairwise htr h.inS (hb s) h.sorted, ?_⟩
          intro e he
          rcases mem_setInsert he with h' | h'
          · rw [h']; exact hb s
          · exact h.inS e h'

end GeoVerif.IntersectSearch
