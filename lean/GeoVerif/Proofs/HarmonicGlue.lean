import GeoVerif.Model.HarmonicGlue
import GeoVerif.Spec.RealInst
import Mathlib.Tactic.Ring
import Mathlib.Tactic.Linarith
import Mathlib.Tactic.FieldSimp
import Mathlib.Tactic.NormNum
import Mathlib.Topology.Order.OrderClosed
import Mathlib.Topology.Algebra.Field
import Mathlib.Topology.Instances.Real.Lemmas
import Mathlib.Tactic.Positivity
import Mathlib.Analysis.SpecialFunctions.Sqrt
import Mathlib.Analysis.SpecialFunctions.Trigonometric.ArctanDeriv
import Mathlib.Data.List.GetD
import Mathlib.Algebra.Group.Int.Even
/-!
# Lemmas on `Model/HarmonicGlue.lean` for C19

Epoch selection and continuity in time, `FieldComponents`, the normal zonal table, packed storage and `readcoeffs`, the
capability test of `GravityCircle`.  (Same namespace as `Proofs/Harmonic.lean`, which this file does not import.)
-/
namespace GeoVerif.Proofs.Harmonic
open GeoVerif GeoVerif.Harmonic

theorem epochSel_le (s : ℝ) (J : ℕ) : epochSel s J ≤ J := by
  induction J with
  | zero => simp [epochSel]
  | succ J ih => simp only [epochSel]; split_ifs <;> omega

theorem epochSel_of_ge (s : ℝ) (J : ℕ) (h : (J : ℝ) ≤ s) : epochSel s J = J := by
  cases J with
  | zero => rfl
  | succ J =>
    have h' : ((J : ℝ) + 1 ≤ s) := by push_cast at h; exact h
    simp [epochSel, ofNat_real, h']

theorem epochSel_of_lt_one (s : ℝ) (J : ℕ) (h : s < 1) : epochSel s J = 0 := by
  induction J with
  | zero => rfl
  | succ J ih =>
    have : ¬ ((J : ℝ) + 1 ≤ s) := by
      have : (0 : ℝ) ≤ J := Nat.cast_nonneg J
      linarith
    simp [epochSel, ofNat_real, this, ih]

/-- the affine function of the time used while epoch `j` is selected -/
noncomputable def epochBranch (B : ℕ → ℝ) (Bc t0 dt0 : ℝ) (nM j : ℕ) (t : ℝ) : ℝ :=
  (fieldCombine (B j) (B (j + 1)) Bc ((t - t0) - (j : ℝ) * dt0) dt0 (decide (j + 1 < nM))).1

/-- `fieldAt` (the epoch given by `k = ⌊(t − t₀)/Δ⌋`) is the same combination of two neighbouring models as `fieldOfTime` -/
theorem fieldAt_eq_combine (B : ℕ → ℝ) (Bc t t0 dt0 : ℝ) (k : Int) (nM : ℕ) :
    fieldAt B Bc t t0 dt0 k nM = fieldCombine (B (epochIndex k nM)) (B (epochIndex k nM + 1)) Bc (t - t0 - (epochIndex k nM : ℝ) * dt0) dt0
      (decide (epochIndex k nM + 1 < nM)) := by
  simp only [fieldAt, fieldCombine, decide_eq_true_eq, ofNat_real]

theorem epochBranch_continuous (B : ℕ → ℝ) (Bc t0 dt0 : ℝ) (nM j : ℕ) : Continuous (epochBranch B Bc t0 dt0 nM j) := by
  unfold epochBranch fieldCombine
  fun_prop

theorem fieldOfTime_branch (B : ℕ → ℝ) (Bc t t0 dt0 : ℝ) (nM : ℕ) :
    (fieldOfTime B Bc t t0 dt0 nM).1 = epochBranch B Bc t0 dt0 nM (epochSel ((t - t0) / dt0) (nM - 1)) t := by
  simp [fieldOfTime, epochSplit, epochBranch, ofNat_real]

theorem epochBranch_boundary (B : ℕ → ℝ) (Bc t0 dt0 : ℝ) (nM J : ℕ) (hJ : J + 1 < nM) (hd : dt0 ≠ 0) (t : ℝ) (ht : ((J + 1 : ℕ) : ℝ) = (t - t0) / dt0) :
    epochBranch B Bc t0 dt0 nM (J + 1) t = epochBranch B Bc t0 dt0 nM J t := by
  -- the time since the selected epoch is `0` on the upper branch and `Δ` on the lower one, which interpolates
  have ht' : t - t0 = ((J + 1 : ℕ) : ℝ) * dt0 := by rw [ht, div_mul_cancel₀ _ hd]
  have hJ' : ((J + 1 : ℕ) : ℝ) * dt0 - (J : ℝ) * dt0 = dt0 := by push_cast; ring
  unfold epochBranch fieldCombine
  simp only [hJ, decide_true, if_true, ht', hJ', sub_self, zero_mul, mul_div_cancel₀ _ hd]
  ring

theorem epochSel_branch_continuous (B : ℕ → ℝ) (Bc t0 dt0 : ℝ) (nM : ℕ) (hd : dt0 ≠ 0) (J : ℕ) (hJ : J + 1 ≤ nM) :
    Continuous fun t => epochBranch B Bc t0 dt0 nM (epochSel ((t - t0) / dt0) J) t := by
  induction J with
  | zero => simpa [epochSel] using epochBranch_continuous B Bc t0 dt0 nM 0
  | succ J ih =>
    have ih' := ih (by omega)
    simp only [epochSel, leb_real, ofNat_real, decide_eq_true_eq]
    have hs : Continuous fun t : ℝ => (t - t0) / dt0 := by fun_prop
    have key : Continuous fun t => if ((J + 1 : ℕ) : ℝ) ≤ (t - t0) / dt0 then epochBranch B Bc t0 dt0 nM (J + 1) t
        else epochBranch B Bc t0 dt0 nM (epochSel ((t - t0) / dt0) J) t := by
      apply Continuous.if_le (epochBranch_continuous B Bc t0 dt0 nM (J + 1)) ih' continuous_const hs
      intro t ht
      rw [epochBranch_boundary B Bc t0 dt0 nM J (by omega) hd t ht]
      -- at the boundary the lower selector picks `J`
      rw [epochSel_of_ge _ J (by rw [← ht]; push_cast; linarith)]
    refine key.congr ?_
    intro t
    split_ifs <;> rfl

theorem degree_real : (degree : ℝ) = Real.pi / 180 := by
  simp only [degree, lit_real]; push_cast; rfl

theorem degree_pos : (0 : ℝ) < degree := by rw [degree_real]; positivity

theorem atan2_of_pos (y x : ℝ) (hx : 0 < x) : (RealLike.atan2 y x : ℝ) = Real.arctan (y / x) := by
  change Complex.arg ⟨x, y⟩ = _
  have h1 : |Complex.arg ⟨x, y⟩| < Real.pi / 2 := Complex.abs_arg_lt_pi_div_two_iff.mpr (Or.inl hx)
  rw [abs_lt] at h1
  have h2 := Complex.tan_arg ⟨x, y⟩
  simp only at h2
  rw [← h2, Real.arctan_tan h1.1 h1.2]

theorem lin_hasDerivAt (x xt : ℝ) : HasDerivAt (fun s : ℝ => x + s * xt) xt 0 := by
  simpa using ((hasDerivAt_id (0 : ℝ)).mul_const xt).const_add x

theorem hypot_hasDerivAt {f g : ℝ → ℝ} {f' g' s : ℝ} (hf : HasDerivAt f f' s) (hg : HasDerivAt g g' s) (h : f s ^ 2 + g s ^ 2 ≠ 0) :
    HasDerivAt (fun s => Real.sqrt (f s ^ 2 + g s ^ 2)) ((f s * f' + g s * g') / Real.sqrt (f s ^ 2 + g s ^ 2)) s := by
  have h1 : HasDerivAt (fun s => f s ^ 2 + g s ^ 2) (2 * (f s * f' + g s * g')) s :=
    ((hf.fun_pow 2).fun_add (hg.fun_pow 2)).congr_deriv (by simp; ring)
  exact (h1.sqrt h).congr_deriv (mul_div_mul_left _ _ two_ne_zero)

theorem hypot_path_hasDerivAt (x y xt yt : ℝ) (h : x ^ 2 + y ^ 2 ≠ 0) :
    HasDerivAt (fun s : ℝ => Real.sqrt ((x + s * xt) ^ 2 + (y + s * yt) ^ 2)) ((x * xt + y * yt) / Real.sqrt (x ^ 2 + y ^ 2)) 0 := by
  simpa using hypot_hasDerivAt (lin_hasDerivAt x xt) (lin_hasDerivAt y yt) (by simpa using h)

theorem norm_mk (x y : ℝ) : ‖(⟨x, y⟩ : ℂ)‖ = Real.sqrt (x ^ 2 + y ^ 2) := by
  rw [Complex.norm_def, Complex.normSq_mk]; congr 1; ring

theorem mk_ne_zero (x y : ℝ) (h : x ^ 2 + y ^ 2 ≠ 0) : (⟨x, y⟩ : ℂ) ≠ 0 := by
  intro h0
  have h1 : ‖(⟨x, y⟩ : ℂ)‖ = 0 := by rw [h0]; simp
  rw [norm_mk, Real.sqrt_eq_zero (by positivity)] at h1
  exact h h1

theorem atan2deg_polar (x y : ℝ) (h : x ^ 2 + y ^ 2 ≠ 0) :
    Real.sqrt (x ^ 2 + y ^ 2) * Real.sin (atan2deg y x * degree) = y ∧ Real.sqrt (x ^ 2 + y ^ 2) * Real.cos (atan2deg y x * degree) = x := by
  have hρ : Real.sqrt (x ^ 2 + y ^ 2) ≠ 0 := by rw [Real.sqrt_ne_zero']; positivity
  have ha : atan2deg y x * degree = Complex.arg ⟨x, y⟩ := div_mul_cancel₀ _ degree_pos.ne'
  rw [ha, Complex.sin_arg, Complex.cos_arg (mk_ne_zero x y h), norm_mk]
  exact ⟨mul_div_cancel₀ _ hρ, mul_div_cancel₀ _ hρ⟩

theorem tan_atan2deg (x y : ℝ) (hx : x ≠ 0) : Real.tan (atan2deg y x * degree) = y / x := by
  obtain ⟨h1, h2⟩ := atan2deg_polar x y (by positivity)
  have hρ : Real.sqrt (x ^ 2 + y ^ 2) ≠ 0 := by rw [Real.sqrt_ne_zero']; positivity
  rw [Real.tan_eq_sin_div_cos, ← mul_div_mul_left _ _ hρ, h1, h2]

theorem atan2deg_of_pos (y x : ℝ) (hx : 0 < x) : atan2deg y x = Real.arctan (y / x) / degree := by
  rw [atan2deg, atan2_of_pos y x hx]

theorem arctan_div_hasDerivAt {y x : ℝ → ℝ} {y' x' s : ℝ} (hy : HasDerivAt y y' s) (hx : HasDerivAt x x' s) (h0 : x s ≠ 0) :
    HasDerivAt (fun s => Real.arctan (y s / x s) / degree) ((x s * y' - y s * x') / (x s ^ 2 + y s ^ 2) / degree) s := by
  refine (((hy.fun_div hx h0).arctan).div_const (degree : ℝ)).congr_deriv ?_
  have : x s ^ 2 + y s ^ 2 ≠ 0 := by positivity
  congr 1
  field_simp

/-- `MagneticModel::FieldComponents` for a field with a horizontal part (`H ≠ 0`, hence `F ≠ 0`): neither degenerate branch is taken -/
theorem fieldComponents_of_ne (Bx By Bz Bxt Byt Bzt : ℝ) {H F Ht : ℝ} (hH : H = Real.sqrt (Bx ^ 2 + By ^ 2)) (hF : F = Real.sqrt (H ^ 2 + Bz ^ 2))
    (hHt : Ht = (Bx * Bxt + By * Byt) / H) (h : Bx ^ 2 + By ^ 2 ≠ 0) :
    fieldComponents Bx By Bz Bxt Byt Bzt =
      ⟨H, F, atan2deg Bx By, atan2deg (-Bz) H, Ht, (H * Ht + Bz * Bzt) / F, (By * Bxt - Bx * Byt) / H ^ 2 / degree, (Bz * Ht - H * Bzt) / F ^ 2 / degree⟩ := by
  have h0 : Real.sqrt (Bx ^ 2 + By ^ 2) ≠ 0 := by rw [Real.sqrt_ne_zero']; positivity
  have hF0 : Real.sqrt (Real.sqrt (Bx ^ 2 + By ^ 2) ^ 2 + Bz ^ 2) ≠ 0 := by rw [Real.sqrt_ne_zero']; positivity
  subst hHt hF hH
  simp only [fieldComponents, hypot_real, eqb_real, ofNat_real, Nat.cast_zero, h0, hF0, decide_false, Bool.false_eq_true, if_false, sq_real]

/-- the normal zonal coefficient of degree `n = 2j` in the model's normalisation and units: `−(GMref/GMmodel)·(aref/amodel)^n·J_n/√(2n+1)` (fully normalised) or
    without the root (Schmidt); `mult = GMref/GMmodel`, `amult = (aref/amodel)²` -/
noncomputable def zonalCoef (full : Bool) (mult amult : ℝ) (Jn : ℕ → ℝ) (j : ℕ) : ℝ :=
  -(mult * amult ^ j * Jn (2 * j)) / (if full then Real.sqrt (2 * (2 * j : ℕ) + 1) else 1)

/-- the term the loop forms at degree `n = 2(j+1)`, where `mult = mult0·amult^j` -/
theorem zonalTerm_eq (full : Bool) (mult0 amult : ℝ) (Jn : ℕ → ℝ) (j : ℕ) :
    -(mult0 * amult ^ j * amult * Jn (2 * (j + 1))) / zonalNorm full (2 * (j + 1)) = zonalCoef full mult0 amult Jn (j + 1) := by
  simp only [zonalCoef, zonalNorm, sqrt_real, ofNat_real, pow_succ, mul_assoc]
  cases full <;> simp

/-- the loop appends `0, zonalCoef (j+1), 0, zonalCoef (j+2), …` and ends when the fuel is used up, beyond the model degree, or at a term that vanishes
    (over ℝ the exit test `r − s = r` is `s = 0`) -/
theorem zonalTail_shape (full : Bool) (amult : ℝ) (Jn cC : ℕ → ℝ) (nmx : ℕ) (mult0 : ℝ) : ∀ (fuel j : ℕ), ∃ k,
    zonalTail full amult Jn cC nmx fuel (2 * (j + 1)) (mult0 * amult ^ j) = ((List.range' (j + 1) k).flatMap fun i => [0, zonalCoef full mult0 amult Jn i]) ∧
    (fuel ≤ k ∨ nmx < 2 * (j + 1 + k) ∨ zonalCoef full mult0 amult Jn (j + 1 + k) = 0) := by
  intro fuel
  induction fuel with
  | zero => exact fun j => ⟨0, rfl, Or.inl le_rfl⟩
  | succ fuel ih =>
    intro j
    simp only [zonalTail, zonalTerm_eq, ofNat_real, Nat.cast_zero]
    by_cases h1 : 2 * (j + 1) > nmx
    · exact ⟨0, by rw [if_pos h1]; rfl, Or.inr (Or.inl h1)⟩
    · rw [if_neg h1]
      by_cases h2 : RealLike.eqb (cC (2 * (j + 1)) - zonalCoef full mult0 amult Jn (j + 1)) (cC (2 * (j + 1))) = true
      · refine ⟨0, by rw [if_pos h2]; rfl, Or.inr (Or.inr ?_)⟩
        rw [eqb_real, decide_eq_true_eq] at h2
        linarith
      · obtain ⟨k, hk, hor⟩ := ih (j + 1)
        rw [pow_succ, ← mul_assoc] at hk
        refine ⟨k + 1, by rw [if_neg h2, List.range'_succ, List.flatMap_cons, ← hk]; rfl, ?_⟩
        rw [show j + 1 + (k + 1) = j + 1 + 1 + k by omega]
        exact hor.imp Nat.succ_le_succ id

theorem two_index (N n m : Int) : 2 * index N n m = 2 * m * N - m * (m - 1) + 2 * n := by
  have : m * (m - 1) / 2 * 2 = m * (m - 1) := Int.ediv_mul_cancel (even_iff_two_dvd.mp (Int.even_mul_pred_self m))
  unfold index
  linarith

theorem two_csize (N M : Int) : 2 * csize N M = (M + 1) * (2 * N - M + 2) := by
  have h : (2 : Int) ∣ (M + 1) * (2 * N - M + 2) := by
    have e : (M + 1) * (2 * N - M + 2) = 2 * ((M + 1) * (N + 1)) - M * (M + 1) := by ring
    rw [e]
    exact Int.dvd_sub (Dvd.intro _ rfl) (even_iff_two_dvd.mp (Int.even_mul_succ_self M))
  unfold csize
  have := Int.ediv_mul_cancel h
  omega

theorem index_col (N n m : Int) : index N n m = index N m m + (n - m) := by
  unfold index; ring

theorem index_next_col (N m : Int) : index N (m + 1) (m + 1) = index N m m + (N + 1 - m) := by
  have h1 := two_index N (m + 1) (m + 1)
  have h2 := two_index N m m
  have : 2 * index N (m + 1) (m + 1) = 2 * (index N m m + (N + 1 - m)) := by rw [h1, mul_add 2 (index N m m), h2]; ring
  omega

theorem csize_eq_index (N M : Int) : csize N M = index N (M + 1) (M + 1) := by
  have h1 := two_index N (M + 1) (M + 1)
  have h2 := two_csize N M
  have : 2 * csize N M = 2 * index N (M + 1) (M + 1) := by rw [h1, h2]; ring
  omega

theorem csize_succ (N M : Int) : csize N (M + 1) = csize N M + (N - M) := by
  rw [csize_eq_index, csize_eq_index, index_next_col]; ring

/-- `b = N + 1`: before the end of the storage -/
theorem index_lt_of_col_lt (N : Int) {a b na nb : Int} (hab : a < b) (hb : b ≤ N + 1) (hna : na ≤ N) (hnb : b ≤ nb) :
    index N na a < index N nb b := by
  have h1 := two_index N na a
  have h2 := two_index N nb b
  -- twice the difference is at least `2(N − b)(d − 1) + d² + d` with `d = b − a ≥ 1`
  have := mul_nonneg (sub_nonneg.mpr hb) (by omega : (0 : Int) ≤ b - a - 1)
  have := mul_nonneg (by omega : (0 : Int) ≤ b - a) (by omega : (0 : Int) ≤ b - a - 1)
  linarith

/-- start of block `m` in a concatenation of blocks -/
def off {β : Type} (f : ℕ → List β) : ℕ → ℕ
  | 0 => 0
  | m + 1 => off f m + (f m).length

theorem length_flatMap_range {β : Type} (f : ℕ → List β) (a : ℕ) : ((List.range a).flatMap f).length = off f a := by
  induction a with
  | zero => simp [off]
  | succ a ih => rw [List.range_succ, List.flatMap_append]; simp [ih, off]

theorem off_mono {β : Type} (f : ℕ → List β) : Monotone (off f) := monotone_nat_of_le_succ fun _ => Nat.le_add_right _ _

theorem getD_flatMap_range {β : Type} (f : ℕ → List β) (d : β) (a m l : ℕ) (hm : m < a) (hl : l < (f m).length) :
    ((List.range a).flatMap f).getD (off f m + l) d = (f m).getD l d := by
  induction a with
  | zero => omega
  | succ a ih =>
    rw [List.range_succ, List.flatMap_append]
    rcases Nat.lt_or_ge m a with h1 | h1
    · have hlt : off f m + l < ((List.range a).flatMap f).length := by
        rw [length_flatMap_range]
        have := off_mono f (show m + 1 ≤ a by omega)
        simp only [off] at this; omega
      rw [List.getD_append _ _ _ _ hlt]
      exact ih h1
    · have : m = a := by omega
      subst this
      have hge : ((List.range m).flatMap f).length ≤ off f m + l := by rw [length_flatMap_range]; omega
      rw [List.getD_append_right _ _ _ _ hge, length_flatMap_range]
      simp

theorem flatMap_pairs (f : ℕ → ℝ) (d : ℝ) (k s : ℕ) :
    ((List.range' s k).flatMap fun i => [0, f i]).length = 2 * k ∧
    ∀ i, i < k → ((List.range' s k).flatMap fun i => [0, f i]).getD (2 * i) d = 0 ∧
      ((List.range' s k).flatMap fun i => [0, f i]).getD (2 * i + 1) d = f (s + i) := by
  have ho : ∀ m, off (fun i => [0, f (s + i)]) m = 2 * m := fun m => by
    induction m with
    | zero => rfl
    | succ m ih => rw [off, ih]; rfl
  rw [List.range'_eq_map_range, List.flatMap_map]
  refine ⟨by rw [length_flatMap_range, ho], fun i hi => ⟨?_, ?_⟩⟩
  · exact ho i ▸ getD_flatMap_range (fun i => [0, f (s + i)]) d k i 0 hi Nat.two_pos
  · exact ho i ▸ getD_flatMap_range (fun i => [0, f (s + i)]) d k i 1 hi Nat.one_lt_two

theorem getD_map_range {β : Type} (g : ℕ → β) (d : β) {k l : ℕ} (h : l < k) : ((List.range k).map g).getD l d = g l := by
  rw [List.getD_eq_getElem?_getD, List.getElem?_map, List.getElem?_range h]
  rfl

/-- column `m` of what `readcoeffs` stores into `C`: the *entries* are positions in the file block, packed for the file's degree
    `N0`; their *offsets* in the stored vector (`off_colC`) are those of the packing for the degree `N` read.  That the two
    fit is `readcoeffs_selects_C` -/
def colC (N0 : Int) (N : ℕ) (m : ℕ) : List Int := (List.range ((N : Int) + 1 - (m : Int)).toNat).map fun (l : ℕ) => index N0 ((m : Int) + l) m

theorem readSelC_eq (N0 : Int) (N M : ℕ) : readSelC N0 N M = (List.range (M + 1)).flatMap (colC N0 N) := by
  unfold readSelC colC
  have : ((M : Int) + 1).toNat = M + 1 := by omega
  rw [this]

theorem colC_length (N0 : Int) (N m : ℕ) : (colC N0 N m).length = N + 1 - m := by
  simp only [colC, List.length_map, List.length_range]; omega

/-- `N`, not `N0`: the stored vector is packed for the degree read -/
theorem off_colC (N0 : Int) (N m : ℕ) (h : m ≤ N + 1) : (off (colC N0 N) m : Int) = index N m m := by
  induction m with
  | zero => simp [off, index]
  | succ m ih =>
    have := ih (by omega)
    have := index_next_col N m
    simp only [off, colC_length]
    push_cast
    omega

/-- column `j + 1` of what `readcoeffs` stores into `S` -/
def colS (N0 : Int) (N : ℕ) (j : ℕ) : List Int := (List.range ((N : Int) - (j : Int)).toNat).map fun (l : ℕ) => index N0 ((j : Int) + 1 + l) ((j : Int) + 1) - (N0 + 1)

theorem readSelS_eq (N0 : Int) (N M : ℕ) : readSelS N0 N M = (List.range M).flatMap (colS N0 N) := by
  unfold readSelS colS
  simp

theorem colS_length (N0 : Int) (N j : ℕ) : (colS N0 N j).length = N - j := by
  simp only [colS, List.length_map, List.length_range]; omega

theorem off_colS (N0 : Int) (N j : ℕ) (h : j ≤ N) : (off (colS N0 N) j : Int) = index N (j + 1) (j + 1) - (N + 1) := by
  induction j with
  | zero => simp [off, index]
  | succ j ih =>
    have := ih (by omega)
    have := index_next_col N ((j : Int) + 1)
    simp only [off, colS_length]
    push_cast
    omega

/-- enabling is monotone in the mask, for any table: `X = caps & X = (caps & caps') & X = caps' & (caps & X) = caps' & X` -/
theorem gcEnabled_mono (T : CapTable) {caps caps' : ℕ} (h : caps &&& caps' = caps) (m : GcMember) (hm : gcEnabled T caps m = true) :
    gcEnabled T caps' m = true := by
  simp only [gcEnabled, beq_iff_eq] at hm ⊢
  rw [← hm, ← Nat.and_assoc, Nat.and_comm caps' caps, h]

instance : Fintype GcMember := ⟨{.gravity, .w, .v, .disturbance, .tGrad, .t, .sphericalAnomaly, .geoidHeight}, fun x => by cases x <;> decide⟩

end GeoVerif.Proofs.Harmonic
