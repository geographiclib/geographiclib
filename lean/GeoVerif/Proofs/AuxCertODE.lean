import GeoVerif.Proofs.AuxRow
/-! Kernel-checked certificates for the differential equations that pin the conformal and the authalic latitude
(`checkChiODE`, `checkXiODE` of `Series/AuxSeries.lean`), on the tables of `Gen/AuxSeries.lean`.
`cos A` and `sin A` are first written over the one list of powers of `A` (`Trig.powSeries_fold`), so that the kernel forms
the powers once. -/
namespace GeoVerif.Proofs.AuxCert
open GeoVerif.Series GeoVerif.Series.Aux

theorem chi_ode : checkChiODE = true := by
  unfold checkChiODE cosShift Trig.cosOf Trig.sinOf Trig.powSeries
  simp only [Trig.powSeries_fold]
  decide +kernel

theorem xi_ode : checkXiODE = true := by
  unfold checkXiODE cosShift Trig.cosOf Trig.sinOf Trig.powSeries
  simp only [Trig.powSeries_fold]
  decide +kernel

end GeoVerif.Proofs.AuxCert
