import GeoVerif.Model.ErrCover
import Mathlib.Data.List.SplitBy
/-! Lemmas about the one-pass pairing of the API inventory with the coverage list (`ErrCover.assign`), for arbitrary lists. -/
namespace GeoVerif.Proofs.ErrCover
open GeoVerif GeoVerif.ErrCover GeoVerif.ApiInventory

theorem takeCovers_eq (key : Key) (cov : List Cover) :
    takeCovers key cov = ((cov.takeWhile (·.api == key)).map (·.how), cov.dropWhile (·.api == key)) := by
  induction cov with
  | nil => rfl
  | cons c rest ih =>
    unfold takeCovers
    by_cases h : (c.api == key) = true
    · simp only [h, if_true, ih, List.takeWhile_cons_of_pos, List.dropWhile_cons_of_pos, List.map_cons]
    · simp only [h, if_false, List.takeWhile_cons_of_neg, List.dropWhile_cons_of_neg, List.map_nil, not_false_eq_true,
        Bool.false_eq_true]

/-- no cover is left over: a key that is not in the inventory, or out of order, makes the pairing fail -/
theorem assign_spec : ∀ (api : List Fn) (cov : List Cover) (a : List (Fn × List By)), assign api cov = some a →
    a.map (·.1) = api ∧
    (∀ p ∈ a, ∀ b ∈ p.2, ∃ c ∈ cov, (c.api == p.1.key) = true ∧ c.how = b) ∧
    (∀ c ∈ cov, ∃ p ∈ a, (c.api == p.1.key) = true ∧ c.how ∈ p.2)
  | [], [], a, h => by simp [assign] at h; subst h; simp
  | [], _ :: _, a, h => by simp [assign] at h
  | f :: fs, cov, a, h => by
    simp only [assign, takeCovers_eq, Option.map_eq_some_iff] at h
    obtain ⟨a', h1, rfl⟩ := h
    obtain ⟨ih1, ih2, ih3⟩ := assign_spec fs _ a' h1
    have hpre : ∀ c ∈ cov.takeWhile (·.api == f.key), (c.api == f.key) = true :=
      List.all_eq_true.mp List.all_takeWhile
    refine ⟨by simp [ih1], fun p hp b hb => ?_, fun c hc => ?_⟩
    · rcases List.mem_cons.mp hp with rfl | hp
      · obtain ⟨c, hc, rfl⟩ := List.mem_map.mp hb
        exact ⟨c, (List.takeWhile_sublist _).subset hc, hpre c hc, rfl⟩
      · obtain ⟨c, hc, h2⟩ := ih2 p hp b hb
        exact ⟨c, (List.dropWhile_sublist _).subset hc, h2⟩
    · rw [← List.takeWhile_append_dropWhile (p := (·.api == f.key)) (l := cov)] at hc
      rcases List.mem_append.mp hc with hc | hc
      · exact ⟨_, List.mem_cons_self, hpre c hc, List.mem_map.mpr ⟨c, hc, rfl⟩⟩
      · obtain ⟨p, hp, h2⟩ := ih3 c hc
        exact ⟨p, List.mem_cons_of_mem _ hp, h2⟩

/-- `g`: the group of overloads of one function that `p` stands in -/
theorem checkAssigned_mem (a : List (Fn × List By)) (h : checkAssigned a = true) (p : Fn × List By) (hp : p ∈ a) :
    (p.1.hasIn = true → p.2 ≠ []) ∧ ∃ g, ∀ b ∈ p.2, coverOK g p.1 b = true := by
  obtain ⟨g, hg, hpg⟩ := List.mem_flatten.mp (List.flatten_splitBy sameFn a ▸ hp)
  have h1 := List.all_eq_true.mp h g hg
  have h2 := List.all_eq_true.mp h1 p hpg
  simp only [Bool.and_eq_true, Bool.or_eq_true, Bool.not_eq_true', List.all_eq_true] at h2
  refine ⟨fun hin => ?_, g, h2.2⟩
  rcases h2.1 with h3 | h3
  · rw [hin] at h3; cases h3
  · intro hnil; rw [hnil] at h3; simp at h3

/--
What an accepted API-coverage check means, for arbitrary lists:
1. every function of the inventory that has a floating-point / text / vector / stream input is the subject of a cover of the list;
2. every cover of the list is about a function of the inventory (nothing stale);
3. every `.table` cover names an existing row of the dependence table whose arities fit the extracted signature: the row sweeps
   all real arguments of the function (`off + nReal ≤ nin`) and observes at least as many outputs as the function has.
-/
theorem checkCoverage_sound (api : List Fn) (cov : List Cover) (h : checkCoverage api cov = true) :
    (∀ f ∈ api, f.hasIn = true → ∃ c ∈ cov, (c.api == f.key) = true) ∧
    (∀ c ∈ cov, ∃ f ∈ api, (c.api == f.key) = true) ∧
    (∀ c ∈ cov, ∀ e off, c.how = .table e off → ∃ f ∈ api, (c.api == f.key) = true ∧
      ∃ ent, ErrContract.findKey e = some ent ∧ off + f.nReal ≤ ent.nin ∧ f.nOut ≤ ent.nout) := by
  unfold checkCoverage at h
  cases ha : assign api cov with
  | none => rw [ha] at h; cases h
  | some a =>
    rw [ha] at h
    simp only at h
    obtain ⟨hfst, hsound, hexh⟩ := assign_spec api cov a ha
    have hapi : ∀ p ∈ a, p.1 ∈ api := fun p hp => hfst ▸ List.mem_map.mpr ⟨p, hp, rfl⟩
    refine ⟨fun f hf hin => ?_, fun c hc => ?_, fun c hc e off hhow => ?_⟩
    · rw [← hfst] at hf
      obtain ⟨p, hp, rfl⟩ := List.mem_map.mp hf
      obtain ⟨hne, _⟩ := checkAssigned_mem a h p hp
      obtain ⟨b, hb⟩ := List.exists_mem_of_ne_nil _ (hne hin)
      obtain ⟨c, hc, hk, _⟩ := hsound p hp b hb
      exact ⟨c, hc, hk⟩
    · obtain ⟨p, hp, hk, _⟩ := hexh c hc
      exact ⟨p.1, hapi p hp, hk⟩
    · obtain ⟨p, hp, hk, hmem⟩ := hexh c hc
      obtain ⟨_, g, hall⟩ := checkAssigned_mem a h p hp
      have hb := hall c.how hmem
      rw [hhow] at hb
      simp only [coverOK, directOK] at hb
      refine ⟨p.1, hapi p hp, hk, ?_⟩
      cases hf : ErrContract.findKey e with
      | none => rw [hf] at hb; cases hb
      | some ent =>
        rw [hf] at hb
        simp only [Bool.and_eq_true, decide_eq_true_eq] at hb
        exact ⟨ent, rfl, hb.1, hb.2⟩

end GeoVerif.Proofs.ErrCover
