import GeoVerif.Proofs.F64Div
import GeoVerif.Model.MathF
import Mathlib.Data.Int.Log
import Mathlib.Data.Rat.Floor
/-!
Knuth's TwoSum for binary64 round-to-nearest-even (gradual underflow, no overflow).  Over `ℚ`, with `Rep` the binary64
values: the six operations of `Math::sum` recover the rounding error exactly for *all* representable `u`, `v`
(`twoSum_abstract`).  In `namespace F64`: the same for the executable `MathF.sum` (`twoSum_exact`), and `remainder` of
representable operands.
-/
namespace GeoVerif
open Dy

/-- binary64 values of any magnitude: overflow is handled at the `F64` level -/
def Rep (x : ℚ) : Prop := ∃ g s : ℤ, |g| < 2 ^ 53 ∧ -1074 ≤ s ∧ x = (g:ℚ) * (2:ℚ) ^ s

def OnGrid (c : ℤ) (x : ℚ) : Prop := ∃ j : ℤ, x = (j:ℚ) * (2:ℚ) ^ c

abbrev RN (z r : ℚ) : Prop := IsRN 53 (-1074) z r

theorem abs_mul_zpow_le_iff {j c : ℤ} (n : ℕ) : |(j:ℚ) * (2:ℚ) ^ c| ≤ (2:ℚ) ^ (c + n) ↔ |j| ≤ 2 ^ n := by
  rw [abs_mul, abs_of_pos (two_zpow_pos c), add_comm, two_zpow_split, mul_le_mul_iff_of_pos_right (two_zpow_pos c),
    zpow_natCast, ← Int.cast_abs]
  norm_cast
theorem abs_mul_zpow_lt_iff {j c : ℤ} (n : ℕ) : |(j:ℚ) * (2:ℚ) ^ c| < (2:ℚ) ^ (c + n) ↔ |j| < 2 ^ n := by
  rw [abs_mul, abs_of_pos (two_zpow_pos c), add_comm, two_zpow_split, mul_lt_mul_iff_of_pos_right (two_zpow_pos c),
    zpow_natCast, ← Int.cast_abs]
  norm_cast

namespace OnGrid
theorem zero (c : ℤ) : OnGrid c 0 := ⟨0, by simp⟩
theorem neg {c : ℤ} {x : ℚ} (h : OnGrid c x) : OnGrid c (-x) := by
  obtain ⟨j, rfl⟩ := h; exact ⟨-j, by push_cast; ring⟩
theorem add {c : ℤ} {x y : ℚ} (hx : OnGrid c x) (hy : OnGrid c y) : OnGrid c (x + y) := by
  obtain ⟨j, rfl⟩ := hx; obtain ⟨k, rfl⟩ := hy; exact ⟨j + k, by push_cast; ring⟩
theorem sub {c : ℤ} {x y : ℚ} (hx : OnGrid c x) (hy : OnGrid c y) : OnGrid c (x - y) := by
  obtain ⟨j, rfl⟩ := hx; obtain ⟨k, rfl⟩ := hy; exact ⟨j - k, by push_cast; ring⟩
theorem coarsen {c c' : ℤ} {x : ℚ} (h : OnGrid c x) (hc : c' ≤ c) : OnGrid c' x := by
  obtain ⟨j, rfl⟩ := h
  exact ⟨_, grid_coarsen j hc⟩
theorem int_mul {c : ℤ} {x : ℚ} (h : OnGrid c x) (n : ℤ) : OnGrid c ((n:ℚ) * x) := by
  obtain ⟨j, rfl⟩ := h; exact ⟨n * j, by push_cast; ring⟩
theorem abs_ge {c : ℤ} {x : ℚ} (h : OnGrid c x) (hx : x ≠ 0) : (2:ℚ) ^ c ≤ |x| := by
  obtain ⟨j, rfl⟩ := h
  have hp := two_zpow_pos c
  have hj : j ≠ 0 := by rintro rfl; simp at hx
  have : (1:ℚ) ≤ |(j:ℚ)| := by
    have : (1:ℤ) ≤ |j| := Int.one_le_abs hj
    exact_mod_cast this
  rw [abs_mul, abs_of_pos hp]
  nlinarith
end OnGrid

namespace Rep
theorem zero : Rep 0 := ⟨0, 0, by norm_num, by norm_num, by simp⟩
theorem neg {x : ℚ} (h : Rep x) : Rep (-x) := by
  obtain ⟨g, s, hg, hs, rfl⟩ := h
  exact ⟨-g, s, by rwa [abs_neg], hs, by push_cast; ring⟩
theorem neg_iff {x : ℚ} : Rep (-x) ↔ Rep x := ⟨fun h => by simpa using h.neg, neg⟩
theorem onGridMin {x : ℚ} (h : Rep x) : OnGrid (-1074) x := by
  obtain ⟨g, s, _, hs, rfl⟩ := h
  exact OnGrid.coarsen (⟨g, rfl⟩ : OnGrid s _) hs
theorem rn {x : ℚ} (h : Rep x) : RN x x := by
  obtain ⟨g, s, hg, hs, rfl⟩ := h
  exact IsRN.self_of_fits (by norm_num) g s hg.le hs
theorem rn_eq {x r : ℚ} (h : Rep x) (hr : RN x r) : r = x := IsRN.unique (by norm_num) hr h.rn
theorem of_grid {c : ℤ} {x : ℚ} (hg : OnGrid c x) (hc : -1074 ≤ c) (hx : |x| ≤ (2:ℚ) ^ (c + 53)) : Rep x := by
  obtain ⟨j, rfl⟩ := hg
  have hj' : |j| ≤ 2 ^ 53 := (abs_mul_zpow_le_iff 53).mp hx
  by_cases hlt : |j| < 2 ^ 53
  · exact ⟨j, c, hlt, hc, rfl⟩
  · have he : |j| = 2 ^ 53 := by omega
    -- j = ±2^53 = ±2^52·2
    rcases abs_cases j with ⟨e1, _⟩ | ⟨e1, _⟩
    · refine ⟨2 ^ 52, c + 1, by norm_num, by omega, ?_⟩
      rw [← e1, he, two_zpow_split]; norm_num; ring
    · refine ⟨-(2 ^ 52), c + 1, by norm_num, by omega, ?_⟩
      have : j = -(2 ^ 53) := by omega
      rw [this, two_zpow_split]; norm_num; ring
end Rep

noncomputable def bin (z : ℚ) : ℤ := Int.log 2 |z| + 1
/-- exponent of the rounding grid of `z` -/
noncomputable def tq (z : ℚ) : ℤ := max (bin z - 53) (-1074)

theorem bin_spec {z : ℚ} (hz : z ≠ 0) : (2:ℚ) ^ (bin z - 1) ≤ |z| ∧ |z| < (2:ℚ) ^ bin z := by
  unfold bin
  have hp : 0 < |z| := abs_pos.mpr hz
  constructor
  · have := Int.zpow_log_le_self (b := 2) (by norm_num) hp
    simpa using this
  · have := Int.lt_zpow_succ_log_self (b := 2) (by norm_num) |z|
    simpa using this

theorem bin_unique {z : ℚ} {E : ℤ} (h1 : (2:ℚ) ^ (E - 1) ≤ |z|) (h2 : |z| < (2:ℚ) ^ E) : bin z = E := by
  have hz : z ≠ 0 := by
    rintro rfl; simp at h1; exact absurd h1 (not_le.mpr (two_zpow_pos _))
  obtain ⟨b1, b2⟩ := bin_spec hz
  have a := IsRN.binade_le h1 b2
  have b := IsRN.binade_le b1 h2
  omega

theorem tq_of_binade {z : ℚ} {E : ℤ} (h1 : (2:ℚ) ^ (E - 1) ≤ |z|) (h2 : |z| < (2:ℚ) ^ E) :
    tq z = max (E - 53) (-1074) := by unfold tq; rw [bin_unique h1 h2]

theorem bin_neg (z : ℚ) : bin (-z) = bin z := by unfold bin; rw [abs_neg]
theorem tq_neg (z : ℚ) : tq (-z) = tq z := by unfold tq; rw [bin_neg]
theorem tq_ge (z : ℚ) : -1074 ≤ tq z := le_max_right _ _

theorem bin_mono {x y : ℚ} (hx : x ≠ 0) (h : |x| ≤ |y|) : bin x ≤ bin y := by
  have hy : y ≠ 0 := by
    rintro rfl; simp at h; exact hx h
  exact IsRN.binade_le (bin_spec hx).1 (lt_of_le_of_lt h (bin_spec hy).2)

theorem tq_mono {x y : ℚ} (hx : x ≠ 0) (h : |x| ≤ |y|) : tq x ≤ tq y := by
  have := bin_mono hx h; unfold tq; omega

theorem abs_lt_tq {z : ℚ} (hz : z ≠ 0) : |z| < (2:ℚ) ^ (tq z + 53) :=
  lt_of_lt_of_le (bin_spec hz).2 (two_zpow_le (by unfold tq; omega))

theorem RN.eq_zero {r : ℚ} (h : RN 0 r) : r = 0 := h.zero rfl

theorem RN.spec {z r : ℚ} (h : RN z r) (hz : z ≠ 0) :
    OnGrid (tq z) r ∧ 2 * |r - z| ≤ (2:ℚ) ^ tq z := by
  obtain ⟨E, k, h1, h2, h3, h4, _⟩ := h.nz hz
  rw [tq_of_binade h1 h2]
  exact ⟨⟨k, h3⟩, h4⟩

theorem OnGrid.eq_of_close {c : ℤ} {x y : ℚ} (hx : OnGrid c x) (hy : OnGrid c y) (h : |x - y| < (2:ℚ) ^ c) : x = y := by
  by_contra hne
  have := (hx.sub hy).abs_ge (sub_ne_zero.mpr hne)
  linarith

theorem RN.rep {z r : ℚ} (h : RN z r) : Rep r := by
  obtain ⟨k, t, rfl, hk, ht⟩ := h.fits
  exact Rep.of_grid ⟨k, rfl⟩ ht ((abs_mul_zpow_le_iff 53).mpr hk)

theorem Rep.onGrid_of_ge {x : ℚ} (h : Rep x) (E : ℤ) (hE : (2:ℚ) ^ (E - 1) ≤ |x|) : OnGrid (max (E - 53) (-1074)) x := by
  obtain ⟨g, s, hg, hs, rfl⟩ := h
  refine OnGrid.coarsen ⟨g, rfl⟩ ?_
  have := two_zpow_lt_iff.mp (lt_of_le_of_lt hE ((abs_mul_zpow_lt_iff 53).mpr hg))
  omega

theorem Rep.onGrid_tq {x : ℚ} (h : Rep x) (hx : x ≠ 0) : OnGrid (tq x) x :=
  h.onGrid_of_ge (bin x) (bin_spec hx).1

theorem Rep.onGrid_tq_of_le {x y : ℚ} (h : Rep x) (hy : y ≠ 0) (hle : |y| ≤ |x|) : OnGrid (tq y) x := by
  have hx : x ≠ 0 := by rintro rfl; simp at hle; exact hy hle
  exact (h.onGrid_tq hx).coarsen (tq_mono hy hle)

/-- with `t = tq z` and `E` the binade of `z`: `|f| > 2^(E−1) − 2^(t−1)`, so `f` is a multiple `j·2^(t−1)` with
`|j| > 2^53 − 1`, hence `|f| ≥ 2^(E−1)` and `f` is a multiple of `2^t` itself -/
theorem Rep.onGrid_tq_of_close {z f : ℚ} (hf : Rep f) (hz : z ≠ 0) (hclose : 2 * |f - z| < (2:ℚ) ^ tq z) :
    OnGrid (tq z) f := by
  by_cases ht : tq z = -1074
  · rw [ht]; exact hf.onGridMin
  · have htE : tq z = bin z - 53 := by unfold tq at ht ⊢; omega
    have hb := (bin_spec hz).1
    have e1 : (2:ℚ) ^ (bin z - 1) = (2:ℚ) ^ (53:ℕ) * (2:ℚ) ^ (tq z - 1) := by
      rw [← zpow_natCast, ← two_zpow_split]; congr 1; rw [htE]; push_cast; ring
    have e2 : (2:ℚ) ^ tq z = 2 * (2:ℚ) ^ (tq z - 1) := by
      have := two_zpow_split 1 (tq z - 1)
      rw [show 1 + (tq z - 1) = tq z by ring] at this; rw [this]; norm_num
    have hp1 := two_zpow_pos (tq z - 1)
    have hfabs : |z| - |f - z| ≤ |f| := by
      have := abs_sub_abs_le_abs_sub z (z - f)
      rw [show z - (z - f) = f by ring, abs_sub_comm z f] at this; linarith
    have hlow : ((2:ℚ) ^ (53:ℕ) - 1) * (2:ℚ) ^ (tq z - 1) < |f| := by
      rw [e2] at hclose; rw [e1] at hb; nlinarith
    have hg1 : OnGrid (tq z - 1) f := by
      have h2 : (2:ℚ) ^ (bin z - 1 - 1) ≤ |f| := by
        have : (2:ℚ) ^ (bin z - 1 - 1) = (2:ℚ) ^ (52:ℕ) * (2:ℚ) ^ (tq z - 1) := by
          rw [← zpow_natCast, ← two_zpow_split]; congr 1; rw [htE]; push_cast; ring
        rw [this]
        have : (2:ℚ) ^ (52:ℕ) ≤ (2:ℚ) ^ (53:ℕ) - 1 := by norm_num
        nlinarith
      have := hf.onGrid_of_ge (bin z - 1) h2
      have hm : max (bin z - 1 - 53) (-1074) = tq z - 1 := by
        have := tq_ge z; omega
      rwa [hm] at this
    obtain ⟨j, hj⟩ := hg1
    have hjabs : ((2:ℚ) ^ (53:ℕ) - 1) < |(j:ℚ)| := by
      rw [hj, abs_mul, abs_of_pos hp1] at hlow
      exact lt_of_mul_lt_mul_right hlow hp1.le
    have hj2 : (2:ℤ) ^ 53 ≤ |j| := by
      rw [← Int.cast_abs] at hjabs
      have e : (2:ℚ) ^ (53:ℕ) - 1 = ((2 ^ 53 - 1 : ℤ) : ℚ) := by norm_num
      rw [e] at hjabs
      have : (2 ^ 53 - 1 : ℤ) < |j| := by exact_mod_cast hjabs
      omega
    have hfge : (2:ℚ) ^ (bin z - 1) ≤ |f| := by
      rw [e1, hj, abs_mul, abs_of_pos hp1]
      apply mul_le_mul_of_nonneg_right _ hp1.le
      rw [← Int.cast_abs]
      have e : (2:ℚ) ^ (53:ℕ) = ((2 ^ 53 : ℤ) : ℚ) := by norm_num
      rw [e]; exact_mod_cast hj2
    have := hf.onGrid_of_ge (bin z) hfge
    have hm : max (bin z - 53) (-1074) = tq z := rfl
    rwa [hm] at this

/-- a representable `f` closer to `z` than `r` would be on the grid of `z` less than a step from `r`, hence equal to it -/
theorem RN.nearest {z r f : ℚ} (h : RN z r) (hf : Rep f) : |r - z| ≤ |f - z| := by
  by_cases hz : z = 0
  · rw [hz] at h; rw [h.eq_zero, hz]; simp
  obtain ⟨hg, hh⟩ := h.spec hz
  by_cases hclose : 2 * |f - z| < (2:ℚ) ^ tq z
  · have : f = r := by
      apply (hf.onGrid_tq_of_close hz hclose).eq_of_close hg
      have := abs_sub_le f z r
      have h2 : |z - r| = |r - z| := abs_sub_comm z r
      have hp := two_zpow_pos (tq z)
      linarith
    rw [this]
  · have hp := two_zpow_pos (tq z)
    linarith [not_lt.mp hclose]

theorem err_rep {u v s : ℚ} (hu : Rep u) (hv : Rep v) (hs : RN (u + v) s) : Rep (u + v - s) := by
  by_cases hu0 : u = 0
  · subst hu0; rw [zero_add] at hs ⊢; rw [hv.rn_eq hs]; simpa using Rep.zero
  by_cases hv0 : v = 0
  · subst hv0; rw [add_zero] at hs ⊢; rw [hu.rn_eq hs]; simpa using Rep.zero
  by_cases hz : u + v = 0
  · rw [hz] at hs ⊢; rw [hs.eq_zero]; simpa using Rep.zero
  obtain ⟨hsg, _⟩ := hs.spec hz
  -- a = the finer of the two grids; the coarser operand is also on it
  have key : ∀ a b : ℚ, Rep a → Rep b → a ≠ 0 → |a| ≤ |b| → ∀ s', RN (a + b) s' → a + b ≠ 0 → Rep (a + b - s') := by
    intro a b ha hb ha0 hab s' hs' hz'
    obtain ⟨hsg', _⟩ := hs'.spec hz'
    have hga : OnGrid (tq a) a := ha.onGrid_tq ha0
    have hgb : OnGrid (tq a) b := hb.onGrid_tq_of_le ha0 hab
    by_cases hc : tq (a + b) ≤ tq a
    · -- the sum is on its own grid, hence exact
      have : Rep (a + b) := Rep.of_grid ((hga.add hgb).coarsen hc) (tq_ge _) (le_of_lt (abs_lt_tq hz'))
      rw [this.rn_eq hs']; simpa using Rep.zero
    · have hgs : OnGrid (tq a) s' := hsg'.coarsen (by omega)
      refine Rep.of_grid ((hga.add hgb).sub hgs) (tq_ge _) ?_
      have hn := hs'.nearest hb
      rw [show b - (a + b) = -a by ring, abs_neg, abs_sub_comm] at hn
      exact le_trans hn (le_of_lt (abs_lt_tq ha0))
  rcases le_total |u| |v| with h | h
  · exact key u v hu hv hu0 h s hs hz
  · have := key v u hv hu hv0 h s (by rwa [add_comm]) (by rwa [add_comm])
    rwa [add_comm] at this

theorem RN.le_of_le_rep {z r f : ℚ} (h : RN z r) (hf : Rep f) (hle : z ≤ f) : r ≤ f :=
  IsRN.mono (by norm_num) h hf.rn hle
theorem RN.ge_of_ge_rep {z r f : ℚ} (h : RN z r) (hf : Rep f) (hle : f ≤ z) : f ≤ r :=
  IsRN.mono (by norm_num) hf.rn h hle

theorem Rep.two_mul {x : ℚ} (h : Rep x) : Rep (2 * x) := by
  obtain ⟨g, s, hg, hs, rfl⟩ := h
  exact ⟨g, s + 1, hg, by omega, by rw [two_zpow_split]; norm_num; ring⟩

theorem Rep.half {x : ℚ} (h : Rep x) (hx : (2:ℚ) ^ (-1074 + 53 : ℤ) ≤ |x|) : Rep (x / 2) := by
  obtain ⟨g, s, hg, hs, rfl⟩ := h
  have hs1 : -1074 < s := by
    have := two_zpow_lt_iff.mp (lt_of_le_of_lt hx ((abs_mul_zpow_lt_iff 53).mpr hg))
    omega
  refine ⟨g, s - 1, hg, by omega, ?_⟩
  have := two_zpow_add_one (s - 1)
  rw [sub_add_cancel] at this
  rw [this]; ring

/-- the Fast2Sum step -/
theorem fts_rep {x y r : ℚ} (hx : Rep x) (hy : Rep y) (hxy : |y| ≤ |x|) (hr : RN (x + y) r) : Rep (r - x) := by
  have pos : ∀ x y r : ℚ, Rep x → Rep y → |y| ≤ |x| → RN (x + y) r → 0 < x → Rep (r - x) := by
    intro x y r hx hy hxy hr hxpos
    have hx0 : x ≠ 0 := hxpos.ne'
    rw [abs_of_pos hxpos] at hxy
    have hyb := abs_le.mp hxy
    by_cases hex : Rep (x + y)
    · rw [hex.rn_eq hr]; simpa using hy
    have hz : x + y ≠ 0 := fun e => hex (by rw [e]; exact Rep.zero)
    have hy0 : y ≠ 0 := fun e => hex (by rw [e, add_zero]; exact hx)
    have hgx : OnGrid (tq y) x := hx.onGrid_tq_of_le hy0 (by rw [abs_of_pos hxpos]; exact hxy)
    have hgy : OnGrid (tq y) y := hy.onGrid_tq hy0
    -- y > −x/2, otherwise the sum is exact (Sterbenz)
    have hyhalf : -(x / 2) < y := by
      by_contra hc
      have hc' : y ≤ -(x / 2) := not_lt.mp hc
      apply hex
      refine Rep.of_grid (hgx.add hgy) (tq_ge _) ?_
      have : |x + y| ≤ |y| := by
        rw [abs_of_nonneg (by linarith), abs_of_nonpos (by linarith)]; linarith
      exact le_trans this (le_of_lt (abs_lt_tq hy0))
    have hrrep := hr.rep
    have hr2 : r ≤ 2 * x := hr.le_of_le_rep hx.two_mul (by linarith)
    by_cases hrx : x ≤ r
    · -- r ≥ x: grid of x, |r − x| ≤ x
      have hr0 : r ≠ 0 := by linarith
      have hgr : OnGrid (tq x) r := hrrep.onGrid_tq_of_le hx0 (by rw [abs_of_pos hxpos, abs_of_pos (by linarith)]; exact hrx)
      refine Rep.of_grid (hgr.sub (hx.onGrid_tq hx0)) (tq_ge _) ?_
      rw [abs_of_nonneg (by linarith)]
      have := abs_lt_tq hx0; rw [abs_of_pos hxpos] at this; linarith
    · have hrx' : r < x := not_le.mp hrx
      have hr0' : 0 ≤ r := IsRN.nonneg hr (by linarith)
      by_cases hsmall : x < (2:ℚ) ^ (-1074 + 53 : ℤ)
      · -- everything on the minimal grid
        refine Rep.of_grid (hrrep.onGridMin.sub hx.onGridMin) (le_refl _) ?_
        rw [abs_of_nonpos (by linarith)]; linarith
      · have hxh : Rep (x / 2) := hx.half (by rw [abs_of_pos hxpos]; exact not_lt.mp hsmall)
        have hrh : x / 2 ≤ r := hr.ge_of_ge_rep hxh (by linarith)
        have hrpos : 0 < r := by linarith
        have hr0 : r ≠ 0 := hrpos.ne'
        have hgxr : OnGrid (tq r) x := hx.onGrid_tq_of_le hr0 (by rw [abs_of_pos hxpos, abs_of_pos hrpos]; linarith)
        refine Rep.of_grid ((hrrep.onGrid_tq hr0).sub hgxr) (tq_ge _) ?_
        rw [abs_of_nonpos (by linarith)]
        have := abs_lt_tq hr0; rw [abs_of_pos hrpos] at this; linarith
  rcases lt_trichotomy x 0 with hneg | h0 | hpos
  · have := pos (-x) (-y) (-r) hx.neg hy.neg (by rwa [abs_neg, abs_neg]) (by
      have := hr.neg; rwa [neg_add] at this) (by linarith)
    have e : -r - -x = -(r - x) := by ring
    rw [e] at this; exact Rep.neg_iff.mp this
  · subst h0
    have : y = 0 := by simpa using hxy
    subst this
    rw [add_zero] at hr; rw [hr.eq_zero]; simpa using Rep.zero
  · exact pos x y r hx hy hxy hr hpos

/-- the six correctly rounded operations of `Math::sum`: `s = u⊕v`, `u' = s⊖v`, `v'' = s⊖u'`, `du = u'⊖u`, `dv = v''⊖v`,
`w = du⊕dv`; its `t = −w` is the rounding error of `s` -/
theorem twoSum_abstract {u v s u' v'' du dv w : ℚ} (hu : Rep u) (hv : Rep v)
    (h1 : RN (u + v) s) (h2 : RN (s - v) u') (h3 : RN (s - u') v'') (h4 : RN (u' - u) du) (h5 : RN (v'' - v) dv)
    (h6 : RN (du + dv) w) :
    w = s - (u + v) ∧ du + dv = s - (u + v) ∧ Rep (u + v - s) ∧
    v'' = s - u' ∧ du = u' - u ∧ dv = v'' - v := by
  have hs := h1.rep
  have hδ : Rep (u + v - s) := err_rep hu hv h1
  have hδ' : Rep (-(u + v - s)) := hδ.neg
  by_cases hex : Rep (s - v)
  · -- the first subtraction is exact
    have e2 : u' = s - v := hex.rn_eq h2
    have e3 : v'' = v := by
      have : s - u' = v := by rw [e2]; ring
      rw [this] at h3; exact hv.rn_eq h3
    have e5 : dv = 0 := by
      rw [e3, sub_self] at h5; exact h5.eq_zero
    have e4 : du = -(u + v - s) := by
      have : u' - u = -(u + v - s) := by rw [e2]; ring
      rw [this] at h4; exact hδ'.rn_eq h4
    have e6 : w = -(u + v - s) := by
      rw [e4, e5, add_zero] at h6; exact hδ'.rn_eq h6
    refine ⟨by rw [e6]; ring, by rw [e4, e5]; ring, hδ, by rw [e3, e2]; ring, by rw [e4, e2]; ring, by rw [e5, e3]; ring⟩
  · -- otherwise |v| < |u| and the sum is inexact
    have hvu : |v| < |u| := by
      by_contra hc
      exact hex (fts_rep hv hu (not_lt.mp hc) (by rwa [add_comm] at h1))
    have hne : ¬ Rep (u + v) := by
      intro hr
      apply hex
      rw [hr.rn_eq h1]; simpa using hu
    have hv0 : v ≠ 0 := fun e => hne (by rw [e, add_zero]; exact hu)
    -- |u + v| ≥ |v| (else Sterbenz makes the sum exact)
    have hge : |v| ≤ |u + v| := by
      by_contra hc
      apply hne
      have hgu : OnGrid (tq v) u := hu.onGrid_tq_of_le hv0 (le_of_lt hvu)
      exact Rep.of_grid (hgu.add (hv.onGrid_tq hv0)) (tq_ge _)
        (le_trans (le_of_lt (not_le.mp hc)) (le_of_lt (abs_lt_tq hv0)))
    -- hence |s| ≥ |v|
    have hsv : |v| ≤ |s| := by
      have hvabs : Rep |v| := by
        rcases abs_cases v with ⟨e, _⟩ | ⟨e, _⟩ <;> rw [e]
        · exact hv
        · exact hv.neg
      rcases le_abs'.mp hge with hneg | hpos
      · have := h1.le_of_le_rep hvabs.neg hneg
        have h0 := abs_nonneg v
        have e : |s| = -s := abs_of_nonpos (by linarith)
        rw [e]; linarith
      · have := h1.ge_of_ge_rep hvabs hpos
        exact le_trans this (le_abs_self s)
    -- (i) s − u' is representable (Fast2Sum on s ⊖ v)
    have hi : Rep (s - u') := by
      have := fts_rep hs hv.neg (by rwa [abs_neg]) (by rwa [← sub_eq_add_neg])
      have e : s - u' = -(u' - s) := by ring
      rw [e]; exact this.neg
    -- (ii) u' − u is representable (Fast2Sum on u ⊖ δ, the same real number as s − v)
    have hii : Rep (u' - u) := by
      have hδu : |-(u + v - s)| ≤ |u| := by
        have := h1.nearest hv
        rw [show v - (u + v) = -u by ring, abs_neg] at this
        rw [abs_neg, abs_sub_comm]; exact this
      exact fts_rep hu hδ' hδu (by
        have : u + -(u + v - s) = s - v := by ring
        rwa [this])
    have e3 : v'' = s - u' := hi.rn_eq h3
    have e4 : du = u' - u := hii.rn_eq h4
    -- v'' − v = (s − v) − u' is the error of the second operation
    have hv2 : Rep (v'' - v) := by
      have := err_rep hs hv.neg (by rwa [← sub_eq_add_neg])
      have e : v'' - v = s + -v - u' := by rw [e3]; ring
      rw [e]; exact this
    have e5 : dv = v'' - v := hv2.rn_eq h5
    have esum : du + dv = -(u + v - s) := by rw [e4, e5, e3]; ring
    have e6 : w = -(u + v - s) := by
      rw [esum] at h6; exact hδ'.rn_eq h6
    exact ⟨by rw [e6]; ring, by rw [esum]; ring, hδ, e3, e4, e5⟩

theorem rep_two_zpow (k : ℤ) (hk : -1074 ≤ k) : Rep ((2:ℚ) ^ k) := ⟨1, k, by norm_num, hk, by simp⟩

theorem RN.abs_le_zpow {z r : ℚ} (h : RN z r) (k : ℤ) (hk : -1074 ≤ k) (hz : |z| ≤ (2:ℚ) ^ k) : |r| ≤ (2:ℚ) ^ k := by
  have hb := abs_le.mp hz
  rw [abs_le]
  constructor
  · have := h.ge_of_ge_rep (rep_two_zpow k hk).neg hb.1; exact this
  · exact h.le_of_le_rep (rep_two_zpow k hk) hb.2

namespace F64

/-- a property of the *value*: the model's `fin s m e` is not normalised -/
def IsRep (a : F64) : Prop := a.isFinite = true ∧ Rep a.val

theorem rn_of_isRN {z : ℚ} {x : F64}
    (h : ∃ r : ℚ, RN z r ∧ (|r| < (2:ℚ) ^ (1024:ℤ) → x.isFinite = true ∧ x.val = r))
    (k : ℤ) (hk : -1074 ≤ k) (hk2 : k < 1024) (hz : |z| ≤ (2:ℚ) ^ k) :
    x.isFinite = true ∧ RN z x.val ∧ |x.val| ≤ (2:ℚ) ^ k := by
  obtain ⟨r, hr, hf⟩ := h
  have hle := RN.abs_le_zpow hr k hk hz
  obtain ⟨h1, h2⟩ := hf (lt_of_le_of_lt hle (Dy.two_zpow_lt_iff.mpr hk2))
  exact ⟨h1, h2 ▸ hr, h2 ▸ hle⟩

theorem add_rn (a b : F64) (ha : a.isFinite = true) (hb : b.isFinite = true) (k : ℤ) (hk : -1074 ≤ k) (hk2 : k < 1024)
    (hab : |a.val + b.val| ≤ (2:ℚ) ^ k) :
    (a + b).isFinite = true ∧ RN (a.val + b.val) (a + b).val ∧ |(a + b).val| ≤ (2:ℚ) ^ k :=
  rn_of_isRN (add_isRN a b ha hb) k hk hk2 hab

theorem sub_rn (a b : F64) (ha : a.isFinite = true) (hb : b.isFinite = true) (k : ℤ) (hk : -1074 ≤ k) (hk2 : k < 1024)
    (hab : |a.val - b.val| ≤ (2:ℚ) ^ k) :
    (a - b).isFinite = true ∧ RN (a.val - b.val) (a - b).val ∧ |(a - b).val| ≤ (2:ℚ) ^ k :=
  rn_of_isRN (sub_isRN a b ha hb) k hk hk2 hab

theorem mul_rn (a b : F64) (ha : a.isFinite = true) (hb : b.isFinite = true) (k : ℤ) (hk : -1074 ≤ k) (hk2 : k < 1024)
    (hab : |a.val * b.val| ≤ (2:ℚ) ^ k) :
    (a * b).isFinite = true ∧ RN (a.val * b.val) (a * b).val ∧ |(a * b).val| ≤ (2:ℚ) ^ k :=
  rn_of_isRN (mul_isRN a b ha hb) k hk hk2 hab

theorem exact_of_isRN {z : ℚ} {x : F64}
    (h : ∃ r : ℚ, RN z r ∧ (|r| < (2:ℚ) ^ (1024:ℤ) → x.isFinite = true ∧ x.val = r))
    (hz : Rep z) (hlt : |z| < (2:ℚ) ^ (1024:ℤ)) : x.isFinite = true ∧ x.val = z := by
  obtain ⟨r, hrn, hf⟩ := h
  rw [← hz.rn_eq hrn] at hlt ⊢
  exact hf hlt

theorem add_exact (a b : F64) (ha : a.isFinite = true) (hb : b.isFinite = true) (hz : Rep (a.val + b.val))
    (hlt : |a.val + b.val| < (2:ℚ) ^ (1024:ℤ)) : (F64.add a b).isFinite = true ∧ (F64.add a b).val = a.val + b.val :=
  exact_of_isRN (add_isRN a b ha hb) hz hlt

theorem sub_exact (a b : F64) (ha : a.isFinite = true) (hb : b.isFinite = true) (hz : Rep (a.val - b.val))
    (hlt : |a.val - b.val| < (2:ℚ) ^ (1024:ℤ)) : (F64.sub a b).isFinite = true ∧ (F64.sub a b).val = a.val - b.val :=
  exact_of_isRN (sub_isRN a b ha hb) hz hlt

theorem mul_exact (a b : F64) (ha : a.isFinite = true) (hb : b.isFinite = true) (hz : Rep (a.val * b.val))
    (hlt : |a.val * b.val| < (2:ℚ) ^ (1024:ℤ)) : (F64.mul a b).isFinite = true ∧ (F64.mul a b).val = a.val * b.val :=
  exact_of_isRN (mul_isRN a b ha hb) hz hlt

theorem two_zpow_succ (k : ℤ) : (2:ℚ) ^ (k + 1) = 2 * (2:ℚ) ^ k := Dy.two_zpow_add_one k

theorem bound_add {x y : ℚ} {a b K : ℤ} (hx : |x| ≤ (2:ℚ) ^ a) (hy : |y| ≤ (2:ℚ) ^ b) (ha : a < K) (hb : b < K) :
    |x + y| ≤ (2:ℚ) ^ K := by
  have h1 := Dy.two_zpow_le (show a ≤ K - 1 by omega)
  have h2 := Dy.two_zpow_le (show b ≤ K - 1 by omega)
  have h3 : (2:ℚ) ^ K = 2 * (2:ℚ) ^ (K - 1) := by
    have := two_zpow_succ (K - 1); rwa [show K - 1 + 1 = K by ring] at this
  have := abs_add_le x y
  rw [h3]; linarith

theorem bound_sub {x y : ℚ} {a b K : ℤ} (hx : |x| ≤ (2:ℚ) ^ a) (hy : |y| ≤ (2:ℚ) ^ b) (ha : a < K) (hb : b < K) :
    |x - y| ≤ (2:ℚ) ^ K := by
  have := bound_add hx (show |-y| ≤ (2:ℚ) ^ b by rwa [abs_neg]) ha hb
  rwa [← sub_eq_add_neg] at this

theorem twoSum_exact (u v : F64) (hu : IsRep u) (hv : IsRep v)
    (hub : |u.val| ≤ (2:ℚ) ^ (1018:ℤ)) (hvb : |v.val| ≤ (2:ℚ) ^ (1018:ℤ)) :
    (MathF.sum u v).1 = u + v ∧
    (MathF.sum u v).1.isFinite = true ∧ (MathF.sum u v).2.isFinite = true ∧
    RN (u.val + v.val) (MathF.sum u v).1.val ∧ Rep (MathF.sum u v).2.val ∧
    (MathF.sum u v).1.val + (MathF.sum u v).2.val = u.val + v.val := by
  obtain ⟨fu, ru⟩ := hu
  obtain ⟨fv, rv⟩ := hv
  -- each of the six operations at most doubles the larger bound of its operands: from `2^1018` the chain reaches `2^1023 < 2^1024`
  obtain ⟨f1, r1, b1⟩ := add_rn u v fu fv 1019 (by norm_num) (by norm_num)
    (bound_add hub hvb (by norm_num) (by norm_num))
  obtain ⟨f2, r2, b2⟩ := sub_rn (u + v) v f1 fv 1020 (by norm_num) (by norm_num)
    (bound_sub b1 hvb (by norm_num) (by norm_num))
  obtain ⟨f3, r3, b3⟩ := sub_rn (u + v) (u + v - v) f1 f2 1021 (by norm_num) (by norm_num)
    (bound_sub b1 b2 (by norm_num) (by norm_num))
  obtain ⟨f4, r4, b4⟩ := sub_rn (u + v - v) u f2 fu 1021 (by norm_num) (by norm_num)
    (bound_sub b2 hub (by norm_num) (by norm_num))
  obtain ⟨f5, r5, b5⟩ := sub_rn (u + v - (u + v - v)) v f3 fv 1022 (by norm_num) (by norm_num)
    (bound_sub b3 hvb (by norm_num) (by norm_num))
  obtain ⟨f6, r6, b6⟩ := add_rn (u + v - v - u) (u + v - (u + v - v) - v) f4 f5 1023 (by norm_num) (by norm_num)
    (bound_add b4 b5 (by norm_num) (by norm_num))
  obtain ⟨hw, _, hδ, _, _, _⟩ := twoSum_abstract ru rv r1 r2 r3 r4 r5 r6
  -- t = 0 − w
  have f0 : (0 : F64).isFinite = true := rfl
  obtain ⟨f7, r7, _⟩ := sub_rn 0 ((u + v - v - u) + (u + v - (u + v - v) - v)) f0 f6 1023 (by norm_num) (by norm_num) (by
    rw [val_zero, zero_sub, abs_neg]; exact b6)
  rw [val_zero, zero_sub] at r7
  have e7 : ((0 : F64) - ((u + v - v - u) + (u + v - (u + v - v) - v))).val = u.val + v.val - (u + v).val := by
    rw [hw] at r7
    have : Rep (-((u + v).val - (u.val + v.val))) := by
      have e : -((u + v).val - (u.val + v.val)) = u.val + v.val - (u + v).val := by ring
      rw [e]; exact hδ
    rw [this.rn_eq r7]; ring
  have hsum : MathF.sum u v = (u + v, if F64.ne (u + v) 0 = true then (0 : F64) - ((u + v - v - u) + (u + v - (u + v - v) - v)) else u + v) := rfl
  rw [hsum]
  by_cases hne : F64.ne (u + v) 0 = true
  · simp only [hne, if_true]
    exact ⟨trivial, f1, f7, r1, by rw [e7]; exact hδ, by rw [e7]; ring⟩
  · have hne' : F64.ne (u + v) 0 = false := by simpa using hne
    simp only [hne', Bool.false_eq_true, if_false]
    have heq : F64.eq (u + v) 0 = true := by
      unfold F64.ne at hne'; simpa using hne'
    have hz : (u + v).val = 0 := by rw [(eq_fin_iff _ _ f1 f0).mp heq, val_zero]
    refine ⟨trivial, f1, f1, r1, by rw [hz]; exact Rep.zero, ?_⟩
    -- u + v rounds to 0, hence is 0
    rw [hz] at r1 hδ ⊢
    have hrep : Rep (u.val + v.val) := by simpa using hδ
    have := hrep.rn_eq r1
    linarith

theorem twoSum_low_le (u v : F64) (hu : IsRep u) (hv : IsRep v)
    (hub : |u.val| ≤ (2:ℚ) ^ (1018:ℤ)) (hvb : |v.val| ≤ (2:ℚ) ^ (1018:ℤ)) :
    |(MathF.sum u v).2.val| ≤ |u.val| ∧ |(MathF.sum u v).2.val| ≤ |v.val| := by
  obtain ⟨_, _, _, r1, _, hs⟩ := twoSum_exact u v hu hv hub hvb
  have e : (MathF.sum u v).2.val = -((MathF.sum u v).1.val - (u.val + v.val)) := by linarith
  rw [e, abs_neg]
  constructor
  · have := r1.nearest hv.2
    rwa [show v.val - (u.val + v.val) = -u.val by ring, abs_neg] at this
  · have := r1.nearest hu.2
    rwa [show u.val - (u.val + v.val) = -v.val by ring, abs_neg] at this

theorem isRep_zero : IsRep (0 : F64) := ⟨rfl, by rw [val_zero]; exact Rep.zero⟩

theorem IsRep.neg {a : F64} (h : IsRep a) : IsRep (F64.neg a) :=
  ⟨by rw [isFinite_neg]; exact h.1, by rw [val_neg]; exact h.2.neg⟩

theorem IsRep.abs {a : F64} (h : IsRep a) : IsRep (F64.abs a) := by
  refine ⟨by rw [isFinite_abs]; exact h.1, ?_⟩
  rw [val_abs]
  rcases abs_cases a.val with ⟨e1, _⟩ | ⟨e1, _⟩ <;> rw [e1]
  · exact h.2
  · exact h.2.neg

theorem remainder_isRep (x y : F64) (hx : IsRep x) (hy : IsRep y) (hy0 : y.val ≠ 0) :
    IsRep (remainder x y) ∧ (remainder x y).val = x.val - (remquoN x y : ℚ) * y.val ∧
    |(remainder x y).val| ≤ |x.val| ∧ 2 * |(remainder x y).val| ≤ |y.val| := by
  obtain ⟨sx, mx, ex, rfl⟩ := exists_fin_of_isFinite x hx.1
  obtain ⟨sy, my, ey, rfl⟩ := exists_fin_of_isFinite y hy.1
  obtain ⟨hfin, hval, hb, _⟩ := remainder_spec sx sy mx my ex ey (by rintro rfl; exact hy0 (val_fin_zero sy ey))
  set x := (F64.fin sx mx ex).val with hxdef
  set y := (F64.fin sy my ey).val with hydef
  set n := remquoN (F64.fin sx mx ex) (F64.fin sy my ey) with hn
  set r := (remainder (F64.fin sx mx ex) (F64.fin sy my ey)).val with hr
  -- `|y| > 2|x|` forces `n = 0`, i.e. `r = x`
  have hrx : |r| ≤ |x| := by
    by_cases hbig : |y| ≤ 2 * |x|
    · linarith
    · have hlt : 2 * |x| < |y| := not_le.mp hbig
      have hn0 : n = 0 := by
        have h1 : |(n:ℚ)| * |y| < 1 * |y| := by
          rw [← abs_mul, show (n:ℚ) * y = x - r by rw [hval]; ring]
          linarith [abs_sub x r]
        have h2 := lt_of_mul_lt_mul_right h1 (abs_nonneg y)
        rw [← Int.cast_abs] at h2
        have h3 : |n| < 1 := by exact_mod_cast h2
        exact abs_eq_zero.mp (le_antisymm (by omega) (abs_nonneg n))
      rw [hval, hn0]; simp
  refine ⟨⟨hfin, ?_⟩, hval, hrx, hb⟩
  show Rep r
  -- on the finer of the two grids, and bounded by the operand of that grid
  obtain ⟨gx, cx, hgx, hcx, hxe⟩ := hx.2
  obtain ⟨gy, cy, hgy, hcy, hye⟩ := hy.2
  have hxg : OnGrid cx x := ⟨gx, hxe⟩
  have hyg : OnGrid cy y := ⟨gy, hye⟩
  have hxb : |x| ≤ (2:ℚ) ^ (cx + 53) := by rw [hxdef, hxe]; exact ((abs_mul_zpow_lt_iff 53).mpr hgx).le
  have hyb : |y| ≤ (2:ℚ) ^ (cy + 53) := by rw [hydef, hye]; exact ((abs_mul_zpow_lt_iff 53).mpr hgy).le
  by_cases hc : cx ≤ cy
  · refine Rep.of_grid (c := cx) ?_ hcx (le_trans hrx hxb)
    rw [hval]; exact hxg.sub ((hyg.coarsen hc).int_mul n)
  · refine Rep.of_grid (c := cy) ?_ hcy (by linarith [abs_nonneg r])
    rw [hval]; exact (hxg.coarsen (by omega)).sub (hyg.int_mul n)

theorem remainder360_isRep (x : F64) (h : IsRep x) :
    IsRep (remainder x (F64.fin false 360 0)) ∧ |(remainder x (F64.fin false 360 0)).val| ≤ 180 := by
  have h360 : (F64.fin false 360 0).val = 360 := by exact_mod_cast val_nat 360
  obtain ⟨hr, _, _, hb⟩ := remainder_isRep x _ h ⟨rfl, 360, 0, by norm_num, by norm_num, by rw [h360]; norm_num⟩
    (by rw [h360]; norm_num)
  rw [h360, abs_of_pos (by norm_num : (0:ℚ) < 360)] at hb
  exact ⟨hr, by linarith⟩

theorem remainder360_rep (s : Bool) (m : ℕ) (e : ℤ) (h : IsRep (F64.fin s m e)) :
    IsRep (remainder (F64.fin s m e) (F64.fin false 360 0)) ∧
    |(remainder (F64.fin s m e) (F64.fin false 360 0)).val| ≤ 180 := remainder360_isRep _ h

end F64
end GeoVerif
