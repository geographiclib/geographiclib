import GeoVerif.Proofs.DMSEncode
import GeoVerif.Proofs.DMSPlain
/-!
# Closure of the formatter into the parser: `decode (encode x …)` is the numeric stage on the printed fields
-/
namespace GeoVerif.DMSProofs
open GeoVerif GeoVerif.DMS GeoVerif.Gen GeoVerif.Decimal

/-- digits, `.`, `d`, `'`, `"`, `:` -/
def BodyChar (c : Nat) : Prop := IsDigit c ∨ c = 46 ∨ c = 100 ∨ c = 39 ∨ c = 34 ∨ c = 58
def AllBody (s : Bytes) : Prop := ∀ c ∈ s, BodyChar c

theorem AllBody.nil : AllBody [] := by intro c hc; cases hc
theorem AllBody.append {a b : Bytes} (ha : AllBody a) (hb : AllBody b) : AllBody (a ++ b) := by
  intro c hc
  rcases List.mem_append.mp hc with h | h
  · exact ha c h
  · exact hb c h
theorem AllBody.cons {a : Nat} {b : Bytes} (ha : BodyChar a) (hb : AllBody b) : AllBody (a :: b) := by
  intro c hc
  rcases List.mem_cons.mp hc with h | h
  · subst h; exact ha
  · exact hb c h
theorem AllDigits.allBody {a : Bytes} (h : AllDigits a) : AllBody a := fun c hc => Or.inl (h c hc)

theorem fracPart_allBody (F : Bytes) (hF : AllDigits F) : AllBody (fracPart F) := by
  unfold fracPart
  split
  · exact AllBody.nil
  · exact AllBody.cons (by unfold BodyChar; omega) hF.allBody

theorem dmsText_allBody (t sep : Nat) (D M S F : Bytes) (hsep : sep = 0 ∨ sep = 58)
    (hD : AllDigits D) (hM : AllDigits M) (hS : AllDigits S) (hF : AllDigits F) : AllBody (dmsText t sep D M S F) := by
  have hfr := fracPart_allBody F hF
  have bd : BodyChar (if sep ≠ 0 then sep else 100) := by rcases hsep with rfl | rfl <;> simp [BodyChar]
  have bm : BodyChar (if sep ≠ 0 then sep else 39) := by rcases hsep with rfl | rfl <;> simp [BodyChar]
  have e1 : AllBody (if sep = 0 then [39] else []) := by
    split
    · exact AllBody.cons (by simp [BodyChar]) AllBody.nil
    · exact AllBody.nil
  have e2 : AllBody (if sep = 0 then [34] else []) := by
    split
    · exact AllBody.cons (by simp [BodyChar]) AllBody.nil
    · exact AllBody.nil
  unfold dmsText
  simp only []
  split
  · exact hD.allBody.append hfr
  · split
    · exact hD.allBody.append (AllBody.cons bd (hM.allBody.append (hfr.append e1)))
    · exact hD.allBody.append (AllBody.cons bd (hM.allBody.append (AllBody.cons bm (hS.allBody.append (hfr.append e2)))))

theorem count39_digits (ds : Bytes) (h : AllDigits ds) : ds.count 39 = 0 := by
  rw [List.count_eq_zero]
  intro hc
  have := h 39 hc
  unfold IsDigit at this; omega

theorem count39_fracPart (F : Bytes) (hF : AllDigits F) : (fracPart F).count 39 = 0 := by
  unfold fracPart
  split
  · rfl
  · rw [List.count_cons, count39_digits F hF]; rfl

theorem dmsText_count39 (t sep : Nat) (D M S F : Bytes) (hsep : sep = 0 ∨ sep = 58)
    (hD : AllDigits D) (hM : AllDigits M) (hS : AllDigits S) (hF : AllDigits F) : (dmsText t sep D M S F).count 39 ≤ 1 := by
  have cD := count39_digits D hD
  have cM := count39_digits M hM
  have cS := count39_digits S hS
  have cF := count39_fracPart F hF
  -- the only `'` is the minutes indicator: closing the text (trailing MINUTE) or between minutes and seconds
  unfold dmsText
  simp only []
  split
  · simp [List.count_append, cD, cF]
  · split
    · rcases hsep with rfl | rfl <;> simp [List.count_append, cD, cM, cF]
    · rcases hsep with rfl | rfl <;> simp [List.count_append, cD, cM, cS, cF]

theorem dmsText_head (t sep : Nat) (D M S F : Bytes) (nD : D ≠ []) : ∃ d0 rest, dmsText t sep D M S F = d0 :: rest := by
  cases D with
  | nil => exact absurd rfl nD
  | cons d0 D' =>
    refine ⟨d0, (dmsText t sep (d0 :: D') M S F).drop 1, ?_⟩
    unfold dmsText; simp only []; split
    · rfl
    · split <;> rfl

theorem bodyChar_facts (c : Nat) (h : BodyChar c) :
    (c < 128 ∧ c ≠ 42 ∧ c ≠ 96 ∧ isspace c = false) ∧ isSignRaw c = false ∧ isSign c = false ∧ isHemi c = false := by
  unfold BodyChar IsDigit at h
  refine ⟨⟨by omega, by omega, by omega, ?_⟩, ?_, ?_, ?_⟩
  · simp only [isspace, Bool.or_eq_false_iff, beq_eq_false_iff_ne, Bool.and_eq_false_iff, decide_eq_false_iff_not]; omega
  · rw [← Bool.not_eq_true, isSignRaw_iff]; omega
  · rw [← Bool.not_eq_true, isSign_iff]; omega
  · rw [← Bool.not_eq_true, isHemi_iff]; omega

/-- the sign and flag `Decode` reads back from the layout written for `(ind, neg)` -/
def readNeg (ind : Flag) (neg : Bool) : Bool := if ind = Flag.azi then false else neg
def readFlag (ind : Flag) : Flag := if ind = Flag.lat then Flag.lat else if ind = Flag.lon then Flag.lon else Flag.none

theorem layout_cases (ind : Flag) (neg : Bool) (hind : ind ≠ Flag.num) :
    (sgnText ind neg = [] ∧ hemiText ind neg = [] ∧ readNeg ind neg = false ∧ readFlag ind = Flag.none) ∨
    (sgnText ind neg = [45] ∧ hemiText ind neg = [] ∧ readNeg ind neg = true ∧ readFlag ind = Flag.none) ∨
    (∃ L, sgnText ind neg = [] ∧ hemiText ind neg = [L] ∧ isHemi L = true ∧ isSignRaw L = false ∧
      hemiNeg (lookup DMSC.hemispheres L) = readNeg ind neg ∧ hemiFlag (lookup DMSC.hemispheres L) = readFlag ind) := by
  -- unsigned: nothing or `-`; latitude: `S` / `N`; longitude: `W` / `E`; azimuth: nothing
  match ind, neg with
  | .none, false => exact Or.inl (by decide)
  | .none, true => exact Or.inr (Or.inl (by decide))
  | .lat, true => exact Or.inr (Or.inr ⟨83, by decide⟩)
  | .lat, false => exact Or.inr (Or.inr ⟨78, by decide⟩)
  | .lon, true => exact Or.inr (Or.inr ⟨87, by decide⟩)
  | .lon, false => exact Or.inr (Or.inr ⟨69, by decide⟩)
  | .azi, false => exact Or.inl (by decide)
  | .azi, true => exact Or.inl (by decide)
  | .num, _ => exact absurd rfl hind

theorem layout_chars (ind : Flag) (neg : Bool) :
    ∀ c ∈ sgnText ind neg ++ hemiText ind neg, (c < 128 ∧ c ≠ 42 ∧ c ≠ 96 ∧ isspace c = false) ∧ c ≠ 39 := by
  cases ind <;> cases neg <;> decide

theorem decode_layout (t sep : Nat) (D M S F : Bytes) (ind : Flag) (neg : Bool) (v : F64) (ht : t ≤ 2)
    (hsep : sep = 0 ∨ sep = 58) (hind : ind ≠ Flag.num)
    (hD : AllDigits D) (hM : AllDigits M) (hS : AllDigits S) (hF : AllDigits F) (nD : D ≠ []) (nM : M ≠ []) (nS : S ≠ [])
    (hv : evalSlots (readNeg ind neg) (slotsOf t D M S F) = .ok v) :
    decode (sgnText ind neg ++ dmsText t sep D M S F ++ hemiText ind neg) = .ok (F64.add F64.nzero v, readFlag ind) := by
  have hB := dmsText_allBody t sep D M S F hsep hD hM hS hF
  have h39 := dmsText_count39 t sep D M S F hsep hD hM hS hF
  have hcomps := grammar_text t sep D M S F ht hsep hD hM hS hF nD nM nS
  obtain ⟨d0, rest, hbody⟩ := dmsText_head t sep D M S F nD
  rw [hbody] at hB h39 hcomps ⊢
  have fB := fun c hc => bodyChar_facts c (hB c hc)
  have fL := layout_chars ind neg
  have hA : ∀ c ∈ sgnText ind neg ++ d0 :: rest ++ hemiText ind neg, c < 128 ∧ c ≠ 42 ∧ c ≠ 96 ∧ isspace c = false := by
    intro c hc
    rcases List.mem_append.mp hc with hc | hc
    · rcases List.mem_append.mp hc with hc | hc
      · exact (fL c (List.mem_append_left _ hc)).1
      · exact (fB c hc).1
    · exact (fL c (List.mem_append_right _ hc)).1
  have h39' : (sgnText ind neg ++ d0 :: rest ++ hemiText ind neg).count 39 ≤ 1 := by
    have h1 : (sgnText ind neg).count 39 = 0 := List.count_eq_zero.mpr fun h => (fL 39 (List.mem_append_left _ h)).2 rfl
    have h2 : (hemiText ind neg).count 39 = 0 := List.count_eq_zero.mpr fun h => (fL 39 (List.mem_append_right _ h)).2 rfl
    rw [List.count_append, List.count_append, h1, h2]
    omega
  have hraw : ∀ x ∈ d0 :: rest, isSignRaw x = false := fun x hx => (fB x hx).2.1
  have hlast : ∀ c ∈ (d0 :: rest).getLast?, isHemi c = false := fun c hc => (fB c (List.mem_of_getLast? hc)).2.2.2
  have f0 := fB d0 List.mem_cons_self
  rcases layout_cases ind neg hind with ⟨e1, e2, e3, e4⟩ | ⟨e1, e2, e3, e4⟩ | ⟨L, e1, e2, hL, hLraw, e3, e4⟩
  · rw [e1, e2, List.nil_append, List.append_nil] at hA h39' ⊢
    rw [e3] at hv
    rw [e4]
    exact decode_plain _ _ _ v hA h39' (FirstPiece.unsigned d0 rest f0.2.2.2 hraw)
      (strip_unsigned d0 rest f0.2.2.2 f0.2.2.1 hlast) hcomps hv
  · rw [e1, e2, List.append_nil] at hA h39' ⊢
    rw [e3] at hv
    rw [e4]
    exact decode_plain _ _ _ v hA h39' (FirstPiece.signed 45 (d0 :: rest) rfl hraw)
      (strip_leading_sign 45 (d0 :: rest) rfl (List.cons_ne_nil _ _) hlast) hcomps hv
  · rw [e1, e2, List.nil_append, List.cons_append] at hA h39' ⊢
    rw [← e3] at hv
    rw [← e4]
    refine decode_plain _ _ _ v hA h39' (FirstPiece.unsigned d0 (rest ++ [L]) f0.2.2.2 fun x hx => ?_)
      (strip_trailing_hemi d0 L rest f0.2.2.2 f0.2.2.1 hL) hcomps hv
    rcases List.mem_cons.mp hx with rfl | hx
    · exact f0.2.1
    · rcases List.mem_append.mp hx with hx | hx
      · exact hraw x (List.mem_cons_of_mem _ hx)
      · rw [List.mem_singleton.mp hx]; exact hLraw

end GeoVerif.DMSProofs
