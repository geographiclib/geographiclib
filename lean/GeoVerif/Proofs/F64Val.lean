import GeoVerif.Proofs.DyVal
/-! The value in `ℚ` of a binary64 and the operations exact on it (`remainder` / `remquo` involve no rounding). -/
namespace GeoVerif
open Dy

/-- written without `1/2`, so that for `z = X / Y` it is the integer statement `2·|X − n·Y| ≤ Y` multiplied out -/
def MathF.NearestEven (z : ℚ) (n : ℤ) : Prop := 2 * |z - n| ≤ 1 ∧ (2 * |z - n| = 1 → n % 2 = 0)

open MathF (NearestEven)

theorem MathF.NearestEven.unique {z : ℚ} {n1 n2 : ℤ} (h1 : NearestEven z n1) (h2 : NearestEven z n2) : n1 = n2 := by
  by_contra hne
  have hd : (1:ℤ) ≤ |n1 - n2| := Int.one_le_abs (sub_ne_zero.mpr hne)
  have hdq : (1:ℚ) ≤ |(n1:ℚ) - n2| := by
    have : ((1:ℤ):ℚ) ≤ ((|n1 - n2| : ℤ) : ℚ) := by exact_mod_cast hd
    rw [Int.cast_abs] at this; push_cast at this; exact this
  have htri : |(n1:ℚ) - n2| ≤ |z - n1| + |z - n2| := by
    have e : (n1:ℚ) - n2 = (z - n2) - (z - n1) := by ring
    rw [e]; have := abs_sub (z - n2) (z - n1); linarith
  have a1 : 2 * |z - n1| = 1 := by linarith [h1.1, h2.1]
  have a2 : 2 * |z - n2| = 1 := by linarith [h1.1, h2.1]
  have e1 := h1.2 a1
  have e2 := h2.2 a2
  have hle : |(n1:ℚ) - n2| ≤ 1 := by linarith
  have hle' : |n1 - n2| ≤ 1 := by
    have : ((|n1 - n2| : ℤ) : ℚ) ≤ ((1:ℤ):ℚ) := by rw [Int.cast_abs]; push_cast; exact hle
    exact_mod_cast this
  have h1' : |n1 - n2| = 1 := le_antisymm hle' hd
  rcases abs_cases (n1 - n2) with ⟨e, _⟩ | ⟨e, _⟩ <;> omega

theorem MathF.NearestEven.neg {z : ℚ} {n : ℤ} (h : NearestEven z n) : NearestEven (-z) (-n) := by
  have e : -z - ((-n : ℤ) : ℚ) = -(z - n) := by push_cast; ring
  constructor
  · rw [e, abs_neg]; exact h.1
  · intro h2; rw [e, abs_neg] at h2; have := h.2 h2; omega

theorem MathF.NearestEven.add_even {z : ℚ} {n : ℤ} (h : NearestEven z n) (j : ℤ) : NearestEven (z + 2 * j) (n + 2 * j) := by
  have e : z + 2 * j - ((n + 2 * j : ℤ) : ℚ) = z - n := by push_cast; ring
  constructor
  · rw [e]; exact h.1
  · intro h2; rw [e] at h2; have := h.2 h2; omega

namespace F64

/-- 0 for NaN/inf -/
def val (x : F64) : ℚ := x.toDy.val

theorem exists_fin_of_isFinite (a : F64) (h : a.isFinite = true) : ∃ s m e, a = F64.fin s m e := by
  cases a with
  | fin s m e => exact ⟨s, m, e, rfl⟩
  | _ => simp [isFinite] at h

theorem val_fin (s : Bool) (m : ℕ) (e : ℤ) : (F64.fin s m e).val = (if s then -(m:ℚ) else m) * (2:ℚ)^e := by
  unfold val toDy Dy.val; cases s <;> simp

theorem val_fin_zero (s : Bool) (e : ℤ) : (F64.fin s 0 e).val = 0 := by rw [val_fin]; simp

theorem val_zero : (0 : F64).val = 0 := val_fin_zero false 0

theorem val_nat (k : ℕ) : (F64.fin false k 0).val = k := by rw [val_fin]; simp

theorem ofNat_val (n : ℕ) : (F64.ofNat n).val = n := val_nat n

@[simp] theorem val_neg (a : F64) : (neg a).val = -a.val := by
  cases a with
  | fin s m e => show (F64.fin (!s) m e).val = _; rw [val_fin, val_fin]; cases s <;> simp
  | _ => simp [neg, val, toDy, Dy.val]

@[simp] theorem val_abs (a : F64) : (abs a).val = |a.val| := by
  cases a with
  | fin s m e =>
    show (F64.fin false m e).val = _
    have hm : |(m:ℚ)| = m := abs_of_nonneg (Nat.cast_nonneg m)
    rw [val_fin, val_fin, abs_mul, abs_of_pos (two_zpow_pos e)]
    cases s <;> simp [hm]
  | _ => simp [abs, val, toDy, Dy.val]

protected theorem neg_neg (x : F64) : neg (neg x) = x := by cases x <;> simp [neg]

theorem isFinite_neg (a : F64) : (neg a).isFinite = a.isFinite := by cases a <;> rfl
theorem isFinite_abs (a : F64) : (abs a).isFinite = a.isFinite := by cases a <;> rfl

theorem val_abs_fin (s : Bool) (m : ℕ) (e : ℤ) : (abs (F64.fin s m e)).val = |(F64.fin s m e).val| := val_abs _
theorem neg_fin_val (s : Bool) (m : ℕ) (e : ℤ) : (F64.neg (.fin s m e)).val = -(F64.fin s m e).val := val_neg _

theorem val_copysign (a b : F64) : (copysign a b).val = if b.signbit then -|a.val| else |a.val| := by
  cases a with
  | fin s m e =>
    show (F64.fin b.signbit m e).val = _
    rw [← val_abs, show abs (F64.fin s m e) = F64.fin false m e from rfl, val_fin, val_fin]
    cases b.signbit <;> simp
  | _ => simp [copysign, val, toDy, Dy.val]

theorem isFinite_copysign (a b : F64) : (copysign a b).isFinite = a.isFinite := by cases a <;> rfl
theorem signbit_copysign (a b : F64) (ha : a.isFinite = true) : (copysign a b).signbit = b.signbit := by
  obtain ⟨s, m, e, rfl⟩ := exists_fin_of_isFinite a ha
  rfl

theorem toDy_ofDy (d : Dy) : (ofDy d).toDy = d := by
  unfold ofDy toDy
  by_cases h : d.m < 0
  · simp only [h, decide_true, if_true]; congr; omega
  · simp only [h, decide_false]; congr; simp; omega

theorem val_ofDy (d : Dy) : (ofDy d).val = d.val := by unfold val; rw [toDy_ofDy]

theorem ofInt_fin (n : ℤ) : ofInt n = F64.fin (decide (n < 0)) n.natAbs 0 := rfl

theorem val_ofInt (n : ℤ) : (ofInt n).val = n := by rw [ofInt, val_ofDy]; simp [Dy.val]

theorem toDy_m_ne (s : Bool) (m : ℕ) (e : ℤ) (h : m ≠ 0) : (F64.fin s m e).toDy.m ≠ 0 := by
  unfold toDy; cases s <;> simp <;> omega

theorem isNaN_of_isFinite (a : F64) (h : a.isFinite = true) : a.isNaN = false := by
  obtain ⟨s, m, e, rfl⟩ := exists_fin_of_isFinite a h; rfl

theorem signbit_eq (a : F64) (ha : a.isFinite = true) (h : a.val ≠ 0) : a.signbit = decide (a.val < 0) := by
  obtain ⟨s, m, e, rfl⟩ := exists_fin_of_isFinite a ha
  have hm : (0:ℚ) < m := by
    rcases Nat.eq_zero_or_pos m with h0 | h0
    · rw [h0, val_fin_zero] at h; exact absurd rfl h
    · exact_mod_cast h0
  have hp := mul_pos hm (two_zpow_pos e)
  cases s
  · have : ¬ (F64.fin false m e).val < 0 := by rw [val_fin]; simpa using hp.le
    simp [signbit, this]
  · have : (F64.fin true m e).val < 0 := by rw [val_fin]; simpa using hp
    simp [signbit, this]

theorem eq_fin_iff (a b : F64) (ha : a.isFinite = true) (hb : b.isFinite = true) : F64.eq a b = true ↔ a.val = b.val := by
  obtain ⟨_, _, _, rfl⟩ := exists_fin_of_isFinite a ha
  obtain ⟨_, _, _, rfl⟩ := exists_fin_of_isFinite b hb
  exact Dy.eq_iff _ _

theorem lt_iff {a b : F64} (ha : a.isFinite = true) (hb : b.isFinite = true) : F64.lt a b = true ↔ a.val < b.val := by
  obtain ⟨_, _, _, rfl⟩ := exists_fin_of_isFinite a ha
  obtain ⟨_, _, _, rfl⟩ := exists_fin_of_isFinite b hb
  exact Dy.lt_iff _ _

theorem le_iff {a b : F64} (ha : a.isFinite = true) (hb : b.isFinite = true) : F64.le a b = true ↔ a.val ≤ b.val := by
  obtain ⟨_, _, _, rfl⟩ := exists_fin_of_isFinite a ha
  obtain ⟨_, _, _, rfl⟩ := exists_fin_of_isFinite b hb
  exact Dy.le_iff _ _

theorem ne_pzero_eq (a : F64) (ha : a.isFinite = true) : F64.ne a F64.pzero = decide (a.val ≠ 0) := by
  have h := eq_fin_iff a F64.pzero ha rfl
  rw [show F64.pzero.val = 0 from val_fin_zero _ _] at h
  rw [F64.ne, Bool.eq_iff_iff, Bool.not_eq_true', decide_eq_true_iff, ← Bool.not_eq_true]
  exact not_congr h

/-- the form in which `nearestEven` computes the `n` of C's `remquo` / `remainder` -/
theorem ratioInts_spec (dx dy : Dy) (hy : dy.m ≠ 0) :
    0 < (ratioInts dx dy).2 ∧ dx.val / dy.val = ((ratioInts dx dy).1 : ℚ) / (ratioInts dx dy).2 := by
  -- before the sign is moved: a common factor `c = 2^min(ex, ey)`
  have key : ∀ (p : ℤ × ℤ) (c : ℚ), c ≠ 0 → dx.val = p.1 * c → dy.val = p.2 * c →
      0 < (if p.2 < 0 then (-p.1, -p.2) else p).2 ∧
      dx.val / dy.val = ((if p.2 < 0 then (-p.1, -p.2) else p).1 : ℚ) / (if p.2 < 0 then (-p.1, -p.2) else p).2 := by
    intro p c hc hx hy'
    have hp2 : p.2 ≠ 0 := by
      rintro h0; rw [h0, Int.cast_zero, zero_mul] at hy'; exact hy ((Dy.m_zero_iff dy).mpr hy')
    rw [hx, hy', mul_div_mul_right _ _ hc]
    split
    · exact ⟨by dsimp only; omega, by push_cast; rw [neg_div_neg_eq]⟩
    · exact ⟨by omega, rfl⟩
  unfold ratioInts
  by_cases h : dx.e ≥ dy.e
  · simp only [h, if_true]
    exact key (Dy.shl dx.m (dx.e - dy.e), dy.m) _ (two_zpow_pos dy.e).ne' (Dy.shl_val _ h).symm rfl
  · simp only [h, if_false]
    exact key (dx.m, Dy.shl dy.m (dy.e - dx.e)) _ (two_zpow_pos dx.e).ne' rfl (Dy.shl_val _ (le_of_not_ge h)).symm

theorem nearestEven_spec (X Y : ℤ) (hY : 0 < Y) :
    2 * |X - nearestEven X Y * Y| ≤ Y ∧ (2 * |X - nearestEven X Y * Y| = Y → nearestEven X Y % 2 = 0) := by
  unfold nearestEven
  have h1 := Int.emod_nonneg X hY.ne'
  have h2 := Int.emod_lt_of_pos X hY
  have h3 : X - X / Y * Y = X % Y := by rw [Int.emod_def]; ring
  have h4 : X - (X / Y + 1) * Y = X % Y - Y := by rw [Int.emod_def]; ring
  simp only [h3]
  split_ifs with a b c
  · rw [h3, abs_of_nonneg h1]; omega
  · rw [h4, abs_of_neg (by omega)]; omega
  · rw [h3, abs_of_nonneg h1]; exact ⟨by omega, fun _ => c⟩
  · rw [h4, abs_of_neg (by omega)]; omega

theorem nearestEven_isNearest (X Y : ℤ) (hY : 0 < Y) : NearestEven ((X:ℚ) / Y) (nearestEven X Y) := by
  obtain ⟨hs, ht⟩ := nearestEven_spec X Y hY
  have hYq : (0:ℚ) < Y := by exact_mod_cast hY
  set n := nearestEven X Y
  have eabs : 2 * |(X:ℚ) / Y - n| = ((2 * |X - n * Y| : ℤ) : ℚ) / Y := by
    have e : (X:ℚ) / Y - n = ((X - n * Y : ℤ) : ℚ) / Y := by push_cast; field_simp
    rw [e, abs_div, abs_of_pos hYq]; push_cast; ring
  rw [NearestEven, eabs]
  constructor
  · rw [div_le_one hYq]; exact_mod_cast hs
  · intro h
    rw [div_eq_one_iff_eq hYq.ne'] at h
    exact ht (by exact_mod_cast h)

theorem remquoN_fin (sx sy : Bool) (mx my : ℕ) (ex ey : ℤ) (hy : my ≠ 0) :
    remquoN (F64.fin sx mx ex) (F64.fin sy my ey) =
      nearestEven (ratioInts (F64.fin sx mx ex).toDy (F64.fin sy my ey).toDy).1
        (ratioInts (F64.fin sx mx ex).toDy (F64.fin sy my ey).toDy).2 := by
  show (if (my == 0) = true then 0 else _) = _
  rw [if_neg (by simpa using hy)]

theorem remainder_fin (sx sy : Bool) (mx my : ℕ) (ex ey : ℤ) (hy : my ≠ 0) :
    remainder (F64.fin sx mx ex) (F64.fin sy my ey) =
      if (Dy.sub (F64.fin sx mx ex).toDy (Dy.mul (Dy.ofInt (remquoN (F64.fin sx mx ex) (F64.fin sy my ey)))
            (F64.fin sy my ey).toDy)).m = 0 then F64.fin sx 0 0
      else ofDy (Dy.sub (F64.fin sx mx ex).toDy (Dy.mul (Dy.ofInt (remquoN (F64.fin sx mx ex) (F64.fin sy my ey)))
            (F64.fin sy my ey).toDy)) := by
  rw [remquoN_fin sx sy mx my ex ey hy]
  show (if (my == 0) = true then F64.nan else _) = _
  rw [if_neg (by simpa using hy)]

theorem remquoN_nearest (sx sy : Bool) (mx my : ℕ) (ex ey : ℤ) (hy : my ≠ 0) :
    NearestEven ((F64.fin sx mx ex).val / (F64.fin sy my ey).val) (remquoN (F64.fin sx mx ex) (F64.fin sy my ey)) := by
  obtain ⟨hYpos, hdiv⟩ := ratioInts_spec (F64.fin sx mx ex).toDy (F64.fin sy my ey).toDy (toDy_m_ne sy my ey hy)
  rw [remquoN_fin sx sy mx my ex ey hy, val, val, hdiv]
  exact nearestEven_isNearest _ _ hYpos

theorem remainder_spec (sx sy : Bool) (mx my : ℕ) (ex ey : ℤ) (hy : my ≠ 0) :
    let x := F64.fin sx mx ex; let y := F64.fin sy my ey
    (remainder x y).isFinite = true ∧
    (remainder x y).val = x.val - (remquoN x y : ℚ) * y.val ∧
    2 * |(remainder x y).val| ≤ |y.val| ∧
    ((remainder x y).val = 0 → (remainder x y).signbit = sx) := by
  intro x y
  have hy0 : y.val ≠ 0 := fun h => toDy_m_ne sy my ey hy ((Dy.m_zero_iff _).mpr h)
  set n := remquoN x y with hn
  set res := Dy.sub x.toDy (Dy.mul (Dy.ofInt n) y.toDy) with hres
  have hresval : res.val = x.val - (n : ℚ) * y.val := by
    rw [hres, Dy.val_sub, Dy.val_mul, Dy.val_ofInt]; rfl
  have hbound : 2 * |x.val - (n : ℚ) * y.val| ≤ |y.val| := by
    have e : x.val - (n : ℚ) * y.val = (x.val / y.val - n) * y.val := by field_simp
    rw [e, abs_mul, ← mul_assoc]
    exact mul_le_of_le_one_left (abs_nonneg _) (remquoN_nearest sx sy mx my ex ey hy).1
  rw [remainder_fin sx sy mx my ex ey hy, ← hn, ← hres]
  by_cases h0 : res.m = 0
  · have hv0 : res.val = 0 := (Dy.m_zero_iff res).mp h0
    rw [if_pos h0, val_fin_zero, ← hresval, hv0]
    exact ⟨rfl, rfl, by simp, fun _ => rfl⟩
  · rw [if_neg h0, val_ofDy, hresval]
    exact ⟨rfl, rfl, hbound, fun hz => absurd ((Dy.m_zero_iff res).mpr (hresval.trans hz)) h0⟩

end F64

theorem roundTo_sign_nonneg (p : ℕ) (emin : ℤ) (x : Dy) (h : 0 ≤ x.m) : 0 ≤ (Dy.roundTo p emin x).m := by
  unfold Dy.roundTo
  dsimp only
  split
  · simp
  · split
    · exact h
    · split
      · omega
      · exact Int.natCast_nonneg _

end GeoVerif
