import GeoVerif.Proofs.AuxRow
/-! Kernel-checked row certificates `rowCheck 0 a` for the series tables of `AuxLatitude.cpp` (`Gen/AuxSeries.lean`, extracted
from the source): the inner series is `C[φ←a]`.  One module per inner latitude.  Numbering of the latitudes: 0 φ, 1 β, 2 θ, 3 μ, 4 χ, 5 ξ. -/
namespace GeoVerif.Proofs.AuxCert
open GeoVerif.Series.Aux

theorem row_0_1 : rowCheck 0 1 = true := by decide +kernel
theorem row_0_2 : rowCheck 0 2 = true := by decide +kernel
theorem row_0_3 : rowCheck 0 3 = true := by decide +kernel
theorem row_0_4 : rowCheck 0 4 = true := by decide +kernel
theorem row_0_5 : rowCheck 0 5 = true := by decide +kernel

end GeoVerif.Proofs.AuxCert
