import GeoVerif.Proofs.TM
import Mathlib.Analysis.SpecialFunctions.Trigonometric.Deriv
import Mathlib.Analysis.SpecialFunctions.Trigonometric.DerivHyp
import Mathlib.Analysis.SpecialFunctions.Trigonometric.Arctan
import Mathlib.Analysis.Calculus.Deriv.MeanValue
import Mathlib.Tactic.Positivity
/-!
# The series kernel of `TransverseMercator::Forward` / `Reverse` over `ℝ` / `ℂ` (for `Props/C06.lean`)

`TM.fwdKernel`, `TM.revKernel`, `TM.kr` — the functions the driver executes in binary64 against the implementation — read at `ℝ`:
the Krüger step with its complex derivative, the Gauss–Schreiber step, and both kernels written out in terms of them.
-/
namespace GeoVerif.Proofs.TMSeries
open GeoVerif GeoVerif.TM GeoVerif.Proofs.TM

theorem atan2_real' (y x : ℝ) : RealLike.atan2 y x = Complex.arg ⟨x, y⟩ := rfl
theorem asinh_real' (x : ℝ) : RealLike.asinh x = Real.arsinh x := rfl

/-- `F(ζ) = ζ + Σ_j c_j sin 2jζ` -/
noncomputable def krF (cs : List ℝ) (ζ : ℂ) : ℂ := ζ + sinSum ζ 0 cs
/-- `F'(ζ) = 1 + Σ_j 2j c_j cos 2jζ` -/
noncomputable def krF' (cs : List ℝ) (ζ : ℂ) : ℂ := 1 + dcosSum ζ 0 cs

theorem hasDerivAt_sinSum (cs : List ℝ) (k : ℕ) (ζ : ℂ) : HasDerivAt (fun z => sinSum z k cs) (dcosSum ζ k cs) ζ := by
  induction cs generalizing k with
  | nil => simpa [sinSum, dcosSum] using hasDerivAt_const ζ (0 : ℂ)
  | cons c cs ih =>
    simp only [sinSum, dcosSum]
    have h1 : HasDerivAt (fun z : ℂ => 2 * ((k + 1 : ℕ) : ℂ) * z) (2 * ((k + 1 : ℕ) : ℂ)) ζ := by
      simpa using (hasDerivAt_id ζ).const_mul (2 * ((k + 1 : ℕ) : ℂ))
    have h2 := (h1.csin).const_mul (c : ℂ)
    have h3 : HasDerivAt (fun z => (c : ℂ) * Complex.sin (2 * ((k + 1 : ℕ) : ℂ) * z) + sinSum z (k + 1) cs)
        ((c : ℂ) * (Complex.cos (2 * ((k + 1 : ℕ) : ℂ) * ζ) * (2 * ((k + 1 : ℕ) : ℂ))) + dcosSum ζ (k + 1) cs) ζ := h2.add (ih (k + 1))
    exact h3.congr_deriv (by ring)

theorem kr_value (cs : List ℝ) (ξ η : ℝ) : toC (kr cs ξ η).1 = krF cs ⟨ξ, η⟩ ∧ toC (kr cs ξ η).2 = krF' cs ⟨ξ, η⟩ :=
  clenshaw_complex cs ξ η

/-- `sinSum` on the real axis (the central meridian) -/
noncomputable def sinSeries (χ : ℝ) : ℕ → List ℝ → ℝ
  | _, [] => 0
  | k, c :: cs => c * Real.sin (2 * ((k + 1 : ℕ) : ℝ) * χ) + sinSeries χ (k + 1) cs
noncomputable def dcosSeries (χ : ℝ) : ℕ → List ℝ → ℝ
  | _, [] => 0
  | k, c :: cs => 2 * ((k + 1 : ℕ) : ℝ) * c * Real.cos (2 * ((k + 1 : ℕ) : ℝ) * χ) + dcosSeries χ (k + 1) cs

theorem sinSum_ofReal (χ : ℝ) (k : ℕ) (cs : List ℝ) : sinSum (χ : ℂ) k cs = (sinSeries χ k cs : ℂ) := by
  induction cs generalizing k with
  | nil => simp [sinSum, sinSeries]
  | cons c cs ih => simp only [sinSum, sinSeries, ih]; push_cast; ring

theorem dcosSum_ofReal (χ : ℝ) (k : ℕ) (cs : List ℝ) : dcosSum (χ : ℂ) k cs = (dcosSeries χ k cs : ℂ) := by
  induction cs generalizing k with
  | nil => simp [dcosSum, dcosSeries]
  | cons c cs ih => simp only [dcosSum, dcosSeries, ih]; push_cast; ring

/-- a bound for the size of the derivative series `Σ_j 2j c_j cos 2jζ` at `Im ζ = η` -/
noncomputable def absD (η : ℝ) : ℕ → List ℝ → ℝ
  | _, [] => 0
  | k, c :: cs => 2 * ((k + 1 : ℕ) : ℝ) * |c| * Real.cosh (2 * ((k + 1 : ℕ) : ℝ) * η) + absD η (k + 1) cs

theorem sinh_le_mul_cosh (x : ℝ) (hx : 0 ≤ x) : Real.sinh x ≤ x * Real.cosh x := by
  have hmono : MonotoneOn (fun t => t * Real.cosh t - Real.sinh t) (Set.Ici 0) := by
    apply monotoneOn_of_deriv_nonneg (convex_Ici 0)
    · fun_prop
    · fun_prop
    · intro t ht
      have ht' : 0 < t := by simpa using ht
      have hd : HasDerivAt (fun t => t * Real.cosh t - Real.sinh t) (1 * Real.cosh t + t * Real.sinh t - Real.cosh t) t :=
        ((hasDerivAt_id t).mul (Real.hasDerivAt_cosh t)).sub (Real.hasDerivAt_sinh t)
      rw [hd.deriv, show 1 * Real.cosh t + t * Real.sinh t - Real.cosh t = t * Real.sinh t by ring]
      exact mul_nonneg ht'.le ((Real.sinh_nonneg_iff).mpr ht'.le)
  have := hmono (Set.mem_Ici.mpr le_rfl) (Set.mem_Ici.mpr hx) hx
  simp at this
  linarith

theorem abs_sinh_le (x : ℝ) : |Real.sinh x| ≤ |x| * Real.cosh x := by
  rcases le_total 0 x with h | h
  · rw [abs_of_nonneg h, abs_of_nonneg ((Real.sinh_nonneg_iff).mpr h)]; exact sinh_le_mul_cosh x h
  · have h' : 0 ≤ -x := by linarith
    have := sinh_le_mul_cosh (-x) h'
    rw [Real.sinh_neg, Real.cosh_neg] at this
    rw [abs_of_nonpos h, abs_of_nonpos ((Real.sinh_nonpos_iff).mpr h)]
    linarith

theorem im_sin_two_mul (m : ℕ) (ξ η : ℝ) :
    (Complex.sin (2 * (m : ℂ) * ⟨ξ, η⟩)).im = Real.cos (2 * (m : ℝ) * ξ) * Real.sinh (2 * (m : ℝ) * η) := by
  have : 2 * (m : ℂ) * ⟨ξ, η⟩ = ⟨2 * (m : ℝ) * ξ, 2 * (m : ℝ) * η⟩ := by rw [← ofReal_mul_pair]; push_cast; rfl
  rw [this, csin_pair]

/-- term by term from `|cos| ≤ 1` and `|sinh x| ≤ |x| cosh x` -/
theorem abs_im_sinSum_le (cs : List ℝ) (k : ℕ) (ξ η : ℝ) : |(sinSum ⟨ξ, η⟩ k cs).im| ≤ |η| * absD η k cs := by
  induction cs generalizing k with
  | nil => simp [sinSum, absD]
  | cons c cs ih =>
    simp only [sinSum, absD, Complex.add_im, Complex.im_ofReal_mul, im_sin_two_mul]
    have hm : (0 : ℝ) ≤ 2 * ((k + 1 : ℕ) : ℝ) := by positivity
    set m : ℝ := 2 * ((k + 1 : ℕ) : ℝ)
    have hs : |Real.sinh (m * η)| ≤ m * |η| * Real.cosh (m * η) := by
      have := abs_sinh_le (m * η)
      rwa [abs_mul, abs_of_nonneg hm] at this
    have h1 : |c * (Real.cos (m * ξ) * Real.sinh (m * η))| ≤ |η| * (m * |c| * Real.cosh (m * η)) := by
      rw [abs_mul, abs_mul]
      calc |c| * (|Real.cos (m * ξ)| * |Real.sinh (m * η)|)
          ≤ |c| * (1 * (m * |η| * Real.cosh (m * η))) :=
            mul_le_mul_of_nonneg_left (mul_le_mul (Real.abs_cos_le_one _) hs (abs_nonneg _) zero_le_one) (abs_nonneg c)
        _ = |η| * (m * |c| * Real.cosh (m * η)) := by ring
    calc _ ≤ |c * (Real.cos (m * ξ) * Real.sinh (m * η))| + |(sinSum ⟨ξ, η⟩ (k + 1) cs).im| := abs_add_le _ _
      _ ≤ |η| * (m * |c| * Real.cosh (m * η)) + |η| * absD η (k + 1) cs := add_le_add h1 (ih (k + 1))
      _ = _ := by ring

theorem kr_im (cs : List ℝ) (ξ η : ℝ) : (kr cs ξ η).1.im = η + (sinSum ⟨ξ, η⟩ 0 cs).im :=
  congrArg Complex.im (clenshaw_complex cs ξ η).1

/-- the easting vanishes exactly on the central meridian, wherever the bound of the derivative series stays below 1 -/
theorem kr_im_zero_iff (cs : List ℝ) (ξ η : ℝ) (h : absD η 0 cs < 1) : (kr cs ξ η).1.im = 0 ↔ η = 0 := by
  rw [kr_im]
  constructor
  · intro h0
    by_contra hne
    have hb := abs_im_sinSum_le cs 0 ξ η
    rw [show (sinSum ⟨ξ, η⟩ 0 cs).im = -η by linarith, abs_neg] at hb
    nlinarith [abs_pos.mpr hne]
  · intro h0
    rw [h0, show (⟨ξ, 0⟩ : ℂ) = (ξ : ℂ) from rfl, sinSum_ofReal, Complex.ofReal_im, add_zero]


/-- `ξ' = atan2(τ', cos λ)` as coded -/
noncomputable def gsXi (τ' clam : ℝ) : ℝ := Complex.arg ⟨clam, τ'⟩
/-- `η' = asinh(sin λ / hypot(τ', cos λ))` as coded -/
noncomputable def gsEta (τ' slam clam : ℝ) : ℝ := Real.arsinh (slam / Real.sqrt (τ' ^ 2 + clam ^ 2))

/-- on the central meridian (`cos λ = 1`) `ξ'` is the conformal latitude -/
theorem arg_one_eq_arctan (t : ℝ) : Complex.arg ⟨1, t⟩ = Real.arctan t := by
  rw [Complex.arg_of_re_nonneg (by simp), Real.arctan_eq_arcsin, Complex.norm_eq_sqrt_sq_add_sq]
  simp

theorem norm_pair (x y : ℝ) : ‖(⟨x, y⟩ : ℂ)‖ = Real.sqrt (y ^ 2 + x ^ 2) := by
  rw [Complex.norm_eq_sqrt_sq_add_sq, add_comm]

/-- the spherical transverse Mercator relations for `(ξ', η')` as coded (Krüger (25); the comments of `Forward`) -/
theorem gs_relations (τ' slam clam : ℝ) (hsc : slam ^ 2 + clam ^ 2 = 1) (hh : 0 < τ' ^ 2 + clam ^ 2) :
    Real.cos (gsXi τ' clam) = clam / Real.sqrt (τ' ^ 2 + clam ^ 2) ∧
    Real.sin (gsXi τ' clam) = τ' / Real.sqrt (τ' ^ 2 + clam ^ 2) ∧
    Real.sinh (gsEta τ' slam clam) = slam / Real.sqrt (τ' ^ 2 + clam ^ 2) ∧
    Real.cosh (gsEta τ' slam clam) = Real.sqrt (1 + τ' ^ 2) / Real.sqrt (τ' ^ 2 + clam ^ 2) := by
  have hne : (⟨clam, τ'⟩ : ℂ) ≠ 0 := fun h0 => by
    rw [show clam = 0 from congrArg Complex.re h0, show τ' = 0 from congrArg Complex.im h0] at hh
    norm_num at hh
  refine ⟨?_, ?_, ?_, ?_⟩
  · rw [gsXi, Complex.cos_arg hne, norm_pair]
  · rw [gsXi, Complex.sin_arg, norm_pair]
  · rw [gsEta, Real.sinh_arsinh]
  · have : 1 + (slam / Real.sqrt (τ' ^ 2 + clam ^ 2)) ^ 2 = (1 + τ' ^ 2) / (τ' ^ 2 + clam ^ 2) := by
      rw [div_pow, Real.sq_sqrt hh.le, eq_div_iff hh.ne', add_mul, one_mul, div_mul_cancel₀ _ hh.ne']
      linear_combination hsc
    rw [gsEta, Real.cosh_arsinh, this, Real.sqrt_div (by positivity)]

/-- the complex number whose `atan2` and `hypot` `Forward` forms for the Gauss–Schreiber convergence and scale is `cosh(ψ + iλ)`,
    `sinh ψ = τ'` -/
theorem ccosh_w (τ' l : ℝ) : Complex.cosh ⟨Real.arsinh τ', l⟩ = ⟨Real.sqrt (1 + τ' ^ 2) * Real.cos l, τ' * Real.sin l⟩ := by
  rw [ccosh_pair, Real.cosh_arsinh, Real.sinh_arsinh]


noncomputable def taupOf (f sphi cphi : ℝ) : ℝ := taupf (sphi / cphi) (esOf f)
/-- `_alp[1..N]` / `−_bet[1..N]` as the constructor computes them from the extracted tables -/
noncomputable def alpOf (f : ℝ) : List ℝ := coeffs Gen.TMSeries.alpcoeff (nOf f)
noncomputable def nbetOf (f : ℝ) : List ℝ := (coeffs Gen.TMSeries.betcoeff (nOf f)).map fun b => -b
/-- Gauss–Schreiber convergence (degrees) as coded -/
noncomputable def gamma0 (τ' slam clam : ℝ) : ℝ := Complex.arg ⟨clam * Real.sqrt (1 ^ 2 + τ' ^ 2), slam * τ'⟩ * (deg : ℝ)
/-- Gauss–Schreiber scale as coded -/
noncomputable def k0GS (f sphi cphi τ' clam : ℝ) : ℝ :=
  Real.sqrt ((1 - e2Of f) + e2Of f * (cphi * cphi)) * Real.sqrt (1 ^ 2 + (sphi / cphi) ^ 2) / Real.sqrt (τ' ^ 2 + clam ^ 2)

/-- `Forward` in the first quadrant, not at the pole (the `false` argument) -/
theorem fwdKernel_eq (f lon sphi cphi slam clam : ℝ) :
    fwdKernel f false lon sphi cphi slam clam =
      let z := kr (alpOf f) (gsXi (taupOf f sphi cphi) clam) (gsEta (taupOf f sphi cphi) slam clam)
      ⟨z.1.re, z.1.im, gamma0 (taupOf f sphi cphi) slam clam - Complex.arg (toC z.2) * (deg : ℝ),
       k0GS f sphi cphi (taupOf f sphi cphi) clam * (b1 (nOf f) * ‖toC z.2‖)⟩ := by
  simp only [fwdKernel, Bool.false_eq_true, if_false, gamma0, k0GS, toC_norm, hypot_real, sqrt_real, one_real]
  rfl

/-- `Reverse` in the first quadrant; `h = 0` is the image of the pole -/
theorem revKernel_eq (f ξ η : ℝ) :
    revKernel f ξ η =
      let z := kr (nbetOf f) ξ η
      let γ := Complex.arg (toC z.2) * (deg : ℝ)
      let k := b1 (nOf f) / ‖toC z.2‖
      let s := Real.sinh z.1.im
      let c := max 0 (Real.cos z.1.re)
      let h := Real.sqrt (s ^ 2 + c ^ 2)
      if h = 0 then ⟨90, 0, γ, k * cOf f⟩ else
      let τ := tauf (Real.sin z.1.re / h) (esOf f)
      ⟨Complex.arg ⟨1, τ⟩ * (deg : ℝ), Complex.arg ⟨c, s⟩ * (deg : ℝ), γ + Complex.arg ⟨c, Real.sin z.1.re * (s / TM.cosh z.1.im)⟩ * (deg : ℝ),
       k * (Real.sqrt ((1 - e2Of f) + e2Of f / (1 + τ * τ)) * Real.sqrt (1 ^ 2 + τ ^ 2) * h)⟩ := by
  simp only [revKernel, toC_norm, eqb_real, decide_eq_true_eq, hypot_real, sqrt_real, zero_real, one_real, ninety_real]
  rfl

end GeoVerif.Proofs.TMSeries
