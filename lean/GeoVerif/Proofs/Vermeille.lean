import Mathlib.Tactic.Ring
import Mathlib.Tactic.LinearCombination
import Mathlib.Tactic.FieldSimp
import Mathlib.Tactic.Positivity
import Mathlib.Tactic.Linarith
import Mathlib.Analysis.SpecialFunctions.Pow.Real
import Mathlib.Analysis.SpecialFunctions.Trigonometric.Basic
import GeoVerif.Spec.RealInst
/-!
# Vermeille's closed-form geocentric → geodetic conversion: the algebra
(Ferrari's resolvent, Cardano's formula in both forms, the model's cube root)
-/
namespace GeoVerif.Vermeille

theorem cbrt_nonneg (x : ℝ) (hx : 0 ≤ x) : (RealLike.cbrt x : ℝ) = x ^ ((1:ℝ)/3) := by
  show (if 0 ≤ x then x ^ ((1 : ℝ) / 3) else -((-x) ^ ((1 : ℝ) / 3))) = _
  rw [if_pos hx]

theorem rpow_third_cube (x : ℝ) (hx : 0 ≤ x) : (x ^ ((1:ℝ)/3)) ^ 3 = x := by
  rw [← Real.rpow_natCast, ← Real.rpow_mul hx]; norm_num

theorem cube_rpow_third (x : ℝ) (hx : 0 ≤ x) : (x ^ 3) ^ ((1:ℝ)/3) = x := by
  rw [← Real.rpow_natCast, ← Real.rpow_mul hx]; norm_num

theorem cbrt_cube (r : ℝ) : (RealLike.cbrt (r ^ 3) : ℝ) = r := by
  show (if 0 ≤ r ^ 3 then (r ^ 3) ^ ((1 : ℝ) / 3) else -((-(r ^ 3)) ^ ((1 : ℝ) / 3))) = r
  by_cases hr : 0 ≤ r
  · rw [if_pos (pow_nonneg hr 3), cube_rpow_third r hr]
  · have hr' : r < 0 := not_le.mp hr
    have h3 : Odd 3 := ⟨1, rfl⟩
    rw [if_neg (not_le.mpr (h3.pow_neg hr')), ← h3.neg_pow, cube_rpow_third (-r) (neg_nonneg.mpr hr'.le), neg_neg]

/-- Cardano: `u = r + T + r²/T` with `T³ = S + r³ + D`, `D² = S(2r³ + S)` solves `u³ − 3r u² = 2S` -/
theorem vermeille_cubic (r S D T : ℝ) (hT : T ^ 3 = S + r ^ 3 + D) (hD : D ^ 2 = S * (2 * r ^ 3 + S)) (hT0 : T ≠ 0) :
    (r + (T + r ^ 2 / T)) ^ 3 - 3 * r * (r + (T + r ^ 2 / T)) ^ 2 = 2 * S := by
  field_simp
  linear_combination (T ^ 3 - (S + r ^ 3) + D) * hT + hD

/-- trigonometric form of the resolvent's root (three real roots, `r < 0`), by `cos 3x = 4cos³x − 3cos x` -/
theorem vermeille_cubic_trig (r S θ : ℝ) (hcos : Real.cos θ * r ^ 3 = S + r ^ 3) :
    (r + 2 * r * Real.cos (θ / 3)) ^ 3 - 3 * r * (r + 2 * r * Real.cos (θ / 3)) ^ 2 = 2 * S := by
  have h3 : Real.cos θ = 4 * Real.cos (θ / 3) ^ 3 - 3 * Real.cos (θ / 3) := by
    have := Real.cos_three_mul (θ / 3)
    rwa [show 3 * (θ / 3) = θ by ring] at this
  rw [h3] at hcos
  linear_combination 2 * hcos

theorem vermeille_k (uv w : ℝ) (huv : 0 < uv) :
    let k := uv / (Real.sqrt (uv + w ^ 2) + w)
    k ^ 2 + 2 * w * k = uv ∧ 0 < k := by
  intro k
  have hsq := Real.sq_sqrt (by positivity : 0 ≤ uv + w ^ 2)
  have habs : |w| < Real.sqrt (uv + w ^ 2) := by
    rw [Real.lt_sqrt (abs_nonneg w), sq_abs]; linarith
  have hden : 0 < Real.sqrt (uv + w ^ 2) + w := by
    have := neg_abs_le w; linarith
  have hk : k = Real.sqrt (uv + w ^ 2) - w := by
    show uv / (Real.sqrt (uv + w ^ 2) + w) = _
    rw [div_eq_iff hden.ne']; linear_combination -hsq
  exact ⟨by rw [hk]; linear_combination hsq, div_pos huv hden⟩

/-- the algebraic heart of Vermeille's method, Ferrari's resolvent of the quartic `k²(k + e²)² = p k² + q (k + e²)²`
(`e2` stands for `e²`, `h1` is the resolvent cubic with `6r = p + q − e⁴`) -/
theorem vermeille_quartic (p q e2 u v w k : ℝ)
    (h1 : u ^ 3 - 3 * ((p + q - e2 ^ 2) / 6) * u ^ 2 = e2 ^ 2 * p * q / 2)
    (h2 : v ^ 2 = u ^ 2 + e2 ^ 2 * q)
    (h4 : 2 * v * w = e2 * (u + v - q))
    (h3 : k ^ 2 + 2 * w * k = u + v) (hv : v ≠ 0) :
    k ^ 2 * (k + e2) ^ 2 - p * k ^ 2 - q * (k + e2) ^ 2 = 0 := by
  have key : v ^ 2 * (k ^ 2 * (k + e2) ^ 2 - p * k ^ 2 - q * (k + e2) ^ 2) = 0 := by
    linear_combination (v ^ 2 * (k ^ 2 + e2 * k - u - (2 * w - e2) * k + v)) * h3
      + (k ^ 2 * (2 * v * w - e2 * (u + v - q)) + 2 * e2 * (u - q) * k ^ 2 - 2 * v ^ 2 * k) * h4
      + (2 * k ^ 2) * h1 + (v ^ 2 - (e2 ^ 2 - 2 * u + (p + q - e2 ^ 2)) * k ^ 2) * h2
  rcases mul_eq_zero.mp key with h | h
  · exact absurd (pow_eq_zero_iff (by norm_num) |>.mp h) hv
  · exact h

end GeoVerif.Vermeille
