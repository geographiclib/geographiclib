import GeoVerif.Proofs.GeohashBits
/-!
# Geohash decoder: size of the accumulated integers for *every* accepted string
-/
namespace GeoVerif.GeohashDecode
open GeoVerif GeoVerif.Grid GeoVerif.Grid.Geohash GeoVerif.GeohashBits

/-- decoder state `(ulon, ulat, parity)` after `k` bits -/
def Inv (k : Nat) (st : Nat × Nat × Nat) : Prop := st.2.2 = k % 2 ∧ st.1 < 2 ^ ((k + 1) / 2) ∧ st.2.1 < 2 ^ (k / 2)

theorem step_inv {k : Nat} {st : Nat × Nat × Nat} (b : Bool) (h : Inv k st) : Inv (k + 1) (step st b) := by
  obtain ⟨x, y, j⟩ := st
  obtain ⟨hj, hx, hy⟩ := h
  simp only [] at hj hx hy
  have hb : (if b then 1 else 0) ≤ 1 := by cases b <;> simp
  unfold step
  rcases Nat.mod_two_eq_zero_or_one k with hk | hk
  · -- an even number of bits so far: the next one goes to `ulon`
    rw [if_pos (by simp only []; omega)]
    refine ⟨by simp only []; omega, ?_, ?_⟩
    · show 2 * x + _ < 2 ^ ((k + 1 + 1) / 2)
      rw [show (k + 1 + 1) / 2 = (k + 1) / 2 + 1 by omega, Nat.pow_succ]; omega
    · show y < 2 ^ ((k + 1) / 2)
      rw [show (k + 1) / 2 = k / 2 by omega]; exact hy
  · rw [if_neg (by simp only []; omega)]
    refine ⟨by simp only []; omega, ?_, ?_⟩
    · show x < 2 ^ ((k + 1 + 1) / 2)
      rw [show (k + 1 + 1) / 2 = (k + 1) / 2 by omega]; exact hx
    · show 2 * y + _ < 2 ^ ((k + 1) / 2)
      rw [show (k + 1) / 2 = k / 2 + 1 by omega, Nat.pow_succ]; omega

theorem foldl_step_inv (l : List Bool) {k : Nat} {st : Nat × Nat × Nat} (h : Inv k st) :
    Inv (k + l.length) (l.foldl step st) := by
  induction l generalizing k st with
  | nil => exact h
  | cons b bs ih =>
    rw [List.foldl_cons, List.length_cons, show k + (bs.length + 1) = k + 1 + bs.length by omega]
    exact ih (step_inv b h)

theorem go_step (c : Nat) (cs : List Nat) (x y j : Nat) (byte : Nat) (h : lookup uc c = some byte) :
    decodeInt.go (c :: cs) x y j =
      decodeInt.go cs ((bitsFrom byte 4 5).foldl step (x, y, j)).1 ((bitsFrom byte 4 5).foldl step (x, y, j)).2.1
        ((bitsFrom byte 4 5).foldl step (x, y, j)).2.2 := by
  conv => lhs; unfold decodeInt.go
  rw [h]
  rfl

theorem go_error (c : Nat) (cs : List Nat) (x y j : Nat) (h : lookup uc c = none) :
    decodeInt.go (c :: cs) x y j = .error "illegal character" := by
  conv => lhs; unfold decodeInt.go
  rw [h]

/-- every character contributes five bits, and the invariant holds bit by bit -/
theorem go_inv (cs : List Nat) (k x y j : Nat) (h : Inv k (x, y, j)) (r : Nat × Nat × Nat)
    (hgo : decodeInt.go cs x y j = .ok r) : Inv (k + 5 * cs.length) r := by
  induction cs generalizing k x y j with
  | nil =>
    unfold decodeInt.go at hgo
    injection hgo with hgo
    rw [← hgo]; exact h
  | cons c cs ih =>
    cases hl : lookup uc c with
    | none => rw [go_error c cs x y j hl] at hgo; cases hgo
    | some byte =>
      rw [go_step c cs x y j byte hl] at hgo
      have := ih (k + 5) _ _ _ (by simpa [bitsFrom_length] using foldl_step_inv (bitsFrom byte 4 5) h) hgo
      rw [List.length_cons, show k + 5 * (cs.length + 1) = k + 5 + 5 * cs.length by omega]
      exact this

theorem decodeInt_bounds (s : List Nat) (d : Dec) (h : decodeInt s = .ok d) :
    d.len = min 18 s.length ∧ d.ulon < 2 ^ ((5 * d.len + 1) / 2) ∧ d.ulat < 2 ^ (5 * d.len / 2) := by
  unfold decodeInt at h
  have hm : maxlen = 18 := rfl
  simp only [hm] at h
  cases hg : decodeInt.go (s.take (min 18 s.length)) 0 0 0 with
  | error e => rw [hg] at h; cases h
  | ok r =>
    obtain ⟨a, b, j'⟩ := r
    rw [hg] at h
    have hd : d = ⟨a, b, min 18 s.length⟩ := by
      injection h with h; exact h.symm
    subst hd
    have := go_inv (s.take (min 18 s.length)) 0 0 0 0 ⟨rfl, by decide, by decide⟩ _ hg
    have hlen : (s.take (min 18 s.length)).length = min 18 s.length := by
      rw [List.length_take]; omega
    rw [hlen, Nat.zero_add] at this
    exact ⟨rfl, this.2.1, this.2.2⟩

/-- the shifted integers that enter the floating expression of `Geohash::Reverse` are below `2^46` -/
theorem shifted_bounds (s : List Nat) (d : Dec) (h : decodeInt s = .ok d) (c : Nat) (hc : c ≤ 1) :
    (2 * d.ulon + c) <<< (5 * (18 - d.len) / 2) < 2 ^ 46 ∧
    (2 * d.ulat + c) <<< (5 * (18 - d.len) - 5 * (18 - d.len) / 2) < 2 ^ 46 := by
  obtain ⟨hl, h1, h2⟩ := decodeInt_bounds s d h
  have hl18 : d.len ≤ 18 := by omega
  rw [Nat.shiftLeft_eq, Nat.shiftLeft_eq]
  constructor
  · have e : (5 * d.len + 1) / 2 + 1 + 5 * (18 - d.len) / 2 = 46 := by omega
    have : 2 * d.ulon + c < 2 ^ ((5 * d.len + 1) / 2 + 1) := by rw [Nat.pow_succ]; omega
    calc (2 * d.ulon + c) * 2 ^ (5 * (18 - d.len) / 2)
        < 2 ^ ((5 * d.len + 1) / 2 + 1) * 2 ^ (5 * (18 - d.len) / 2) := Nat.mul_lt_mul_of_pos_right this (Nat.pos_of_ne_zero (by simp))
      _ = 2 ^ 46 := by rw [← Nat.pow_add, e]
  · have e : 5 * d.len / 2 + 1 + (5 * (18 - d.len) - 5 * (18 - d.len) / 2) = 46 := by omega
    have : 2 * d.ulat + c < 2 ^ (5 * d.len / 2 + 1) := by rw [Nat.pow_succ]; omega
    calc (2 * d.ulat + c) * 2 ^ (5 * (18 - d.len) - 5 * (18 - d.len) / 2)
        < 2 ^ (5 * d.len / 2 + 1) * 2 ^ (5 * (18 - d.len) - 5 * (18 - d.len) / 2) := Nat.mul_lt_mul_of_pos_right this (Nat.pos_of_ne_zero (by simp))
      _ = 2 ^ 46 := by rw [← Nat.pow_add, e]

end GeoVerif.GeohashDecode
