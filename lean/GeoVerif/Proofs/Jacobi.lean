import GeoVerif.Model.Elliptic
import GeoVerif.Spec.RealInstX
import Mathlib.Tactic.Ring
import Mathlib.Tactic.FieldSimp
import Mathlib.Tactic.Linarith
import Mathlib.Tactic.Positivity
import Mathlib.Tactic.NormNum
import Mathlib.Tactic.LinearCombination
/-!
# `sncndn`, the `(sn, cn, dn)` / angle interfaces and `Einv` of `Model/Elliptic.lean` read at `ℝ`

* Bulirsch's `sncndn`: the relation `dn²(c² + a²) = c² + b²` (`LandenInv`) between the scaled cotangent `c = a·cs` and `dn`
  that the descending Landen (Gauss) step preserves, and the AGM chains (`IsChain`, `outer`) along which it is carried.
* The frame `wrap` ("complete value when `cn = 0`; `2·complete − ·` in the second quadrant; sign of `sn`"): for a framed
  kernel the far-regime formula of the angle interfaces holds for every angle (`phiWith_wrap`), which is what makes
  `X(φ + π) = X(φ) + 2X()` hold across all the branches of the period handling.
-/
namespace GeoVerif.Proofs.Jacobi
open GeoVerif GeoVerif.Elliptic Real

@[simp] theorem pi_real : (RealLike.pi : ℝ) = π := rfl
theorem atan2_real (y x : ℝ) : RealLike.atan2 y x = Complex.arg ⟨x, y⟩ := rfl
theorem ofDec_real (n k : ℕ) : (RealLike.ofDec n k : ℝ) = (n : ℝ) / 10 ^ k := rfl

/-- the relation between the scaled cotangent `c`, `dn = d` and the AGM pair `(a, b²)` of the level they belong to -/
def LandenInv (a b2 c d : ℝ) : Prop := d ^ 2 * (c ^ 2 + a ^ 2) = c ^ 2 + b2

/-- `st` (innermost level first) is a piece of an AGM sequence whose next inner term is `(aN, bN2 = b_N²)`:
    for the head `(a, b)`: `aN = (a+b)/2`, `bN2 = b·a`; and so on outwards -/
def IsChain : List (ℝ × ℝ) → ℝ → ℝ → Prop
  | [], _, _ => True
  | (a, b) :: rest, aN, bN2 => aN = (a + b) / 2 ∧ bN2 = b * a ∧ 0 < a ∧ 0 < b ∧ IsChain rest a (b ^ 2)

/-- the AGM pair `(a, b²)` of the outermost level -/
def outer : List (ℝ × ℝ) → ℝ → ℝ → ℝ × ℝ
  | [], aN, bN2 => (aN, bN2)
  | (a, b) :: rest, _, _ => outer rest a (b ^ 2)

/-- the final normalisation of `sncndn`, `sn = 1/√(c² + 1)` -/
theorem sq_one_div_sqrt (c : ℝ) : (1 / √(c * c + 1)) ^ 2 = 1 / (c * c + 1) := by
  rw [div_pow, one_pow, Real.sq_sqrt (add_pos_of_nonneg_of_pos (mul_self_nonneg c) one_pos).le]

theorem ite_neg_lt {β : Type} {x : ℝ} (hx : x ≠ 0) (a b : β) : (if -x < 0 then a else b) = if x < 0 then b else a := by
  rcases lt_or_gt_of_ne hx with h | h
  · rw [if_neg (by linarith), if_pos h]
  · rw [if_pos (by linarith), if_neg (by linarith)]

theorem wrap_real (c G s t : ℝ) :
    wrap c G s t =
      (if s < 0 then -|if t < 0 then 2 * c - (if t = 0 then c else G) else (if t = 0 then c else G)|
       else |if t < 0 then 2 * c - (if t = 0 then c else G) else (if t = 0 then c else G)|) := by
  unfold wrap
  simp only [copysign_real, signNeg_real, eqb_real, lit_real]
  simp only [Nat.cast_zero, Nat.cast_ofNat, mul_self_eq_zero,
    Bool.not_eq_true', decide_eq_false_iff_not, decide_eq_true_eq, ite_not]

theorem delta_even (e : Par ℝ) (sn cn : ℝ) : delta e (-sn) cn = delta e sn cn ∧ delta e sn (-cn) = delta e sn cn := by
  unfold delta
  simp only [mul_neg, neg_mul, neg_neg, and_self]

theorem delta_neg_neg (e : Par ℝ) (sn cn : ℝ) : delta e (-sn) (-cn) = delta e sn cn := by
  rw [(delta_even e _ _).1, (delta_even e _ _).2]

theorem deltaWith_neg (X : ℝ → ℝ → ℝ → ℝ) (c sn cn dn : ℝ) (hcn : cn ≠ 0) :
    deltaWith X c (-sn) (-cn) dn = deltaWith X c sn cn dn := by
  unfold deltaWith
  simp only [signNeg_real, decide_eq_true_eq, ite_neg_lt hcn, neg_neg]

theorem phiWith_far (e : Par ℝ) (X : ℝ → ℝ → ℝ → ℝ) (c φ : ℝ) (h1 : π ≤ |φ|) :
    phiWith e X c φ = (deltaWith X c (sin φ) (cos φ) (delta e (sin φ) (cos φ)) + φ) * c / (π / 2) := by
  unfold phiWith
  simp only [ltb_real, abs_real, pi_real, sin_real, cos_real, decide_eq_true_eq, lit_real]
  rw [if_neg (not_lt.mpr h1)]

theorem phiWith_near (e : Par ℝ) (X : ℝ → ℝ → ℝ → ℝ) (c φ : ℝ) (h1 : |φ| < π) :
    phiWith e X c φ = X (sin φ) (cos φ) (delta e (sin φ) (cos φ)) := by
  unfold phiWith
  simp only [ltb_real, abs_real, pi_real, sin_real, cos_real, decide_eq_true_eq]
  rw [if_pos h1]

theorem atan2_sin_cos (ψ : ℝ) (h1 : -π < ψ) (h2 : ψ ≤ π) : RealLike.atan2 (sin ψ) (cos ψ) = ψ := by
  rw [atan2_real, Complex.mk_eq_add_mul_I, Complex.ofReal_cos, Complex.ofReal_sin]
  exact Complex.arg_cos_add_sin_mul_I ⟨h1, h2⟩

theorem atan2_one_zero : RealLike.atan2 (1 : ℝ) 0 = π / 2 := by
  have := atan2_sin_cos (π / 2) (by linarith [Real.pi_pos]) (by linarith [Real.pi_pos])
  rwa [Real.sin_pi_div_two, Real.cos_pi_div_two] at this

theorem atan2_neg_one_zero : RealLike.atan2 (-1 : ℝ) 0 = -(π / 2) := by
  have := atan2_sin_cos (-(π / 2)) (by linarith [Real.pi_pos]) (by linarith [Real.pi_pos])
  rwa [Real.sin_neg, Real.cos_neg, Real.sin_pi_div_two, Real.cos_pi_div_two] at this

theorem deltaWith_real (X : ℝ → ℝ → ℝ → ℝ) (c sn cn dn : ℝ) :
    deltaWith X c sn cn dn =
      if cn < 0 then X (-sn) (-cn) dn * (π / 2) / c - RealLike.atan2 (-sn) (-cn)
      else X sn cn dn * (π / 2) / c - RealLike.atan2 sn cn := by
  unfold deltaWith
  simp only [signNeg_real, decide_eq_true_eq, pi_real, lit_real]
  split <;> rfl

theorem wrap_half_turn (c G s t : ℝ) (hc : 0 < c) (h0 : 0 ≤ G) (h2 : G ≤ 2 * c) (hs : 0 < s) :
    wrap c G (-s) (-t) = wrap c G s t - 2 * c := by
  rw [wrap_real, wrap_real]
  have h1 : ¬ (s < 0) := by linarith
  have h3 : -s < 0 := by linarith
  rw [if_pos h3, if_neg h1]
  rcases lt_trichotomy t 0 with ht | ht | ht
  · have : ¬ (-t < 0) := by linarith
    have h5 : t ≠ 0 := ht.ne
    simp only [this, ht, h5, neg_eq_zero, if_true, if_false]
    rw [abs_of_nonneg h0, abs_of_nonneg (by linarith)]; ring
  · subst ht
    simp only [neg_zero, lt_self_iff_false, if_true, if_false]
    rw [abs_of_pos hc]; ring
  · have : ¬ (t < 0) := by linarith
    have h4 : -t < 0 := by linarith
    have h5 : t ≠ 0 := ht.ne'
    simp only [this, h4, h5, neg_eq_zero, if_true, if_false]
    rw [abs_of_nonneg h0, abs_of_nonneg (by linarith)]; ring

theorem deltaWith_wrap_zero (c : ℝ) (g : ℝ → ℝ → ℝ → ℝ) (hc : 0 < c) (s d : ℝ) (hs : s ^ 2 = 1) :
    deltaWith (fun sn cn dn => wrap c (g sn cn dn) sn cn) c s 0 d = 0 := by
  rw [deltaWith_real, if_neg (lt_irrefl _), wrap_real]
  have hc0 : c ≠ 0 := hc.ne'
  rcases mul_self_eq_one_iff.mp ((sq s).symm.trans hs) with rfl | rfl
  · rw [atan2_one_zero]
    simp only [lt_self_iff_false, if_true, if_false, not_lt.mpr zero_le_one]
    rw [abs_of_pos hc]; field_simp; ring
  · rw [atan2_neg_one_zero]
    have : (-1 : ℝ) < 0 := by norm_num
    simp only [lt_self_iff_false, if_true, if_false, this]
    rw [abs_of_pos hc]; field_simp; ring

/-- for a framed kernel (even in `sn`, `cn`, values in `[0, 2c]`, `c > 0`) the formula of the far regime holds for every
    `φ`: within `(−π, π)` the periodic part is `X(φ)·(π/2)/c − φ`, because a half turn back from the second or third
    quadrant changes the framed value by `∓2c` and `atan2` by `∓π` -/
theorem phiWith_wrap (e : Par ℝ) (c : ℝ) (g : ℝ → ℝ → ℝ → ℝ) (hc : 0 < c)
    (hs : ∀ s t d, g (-s) t d = g s t d) (ht : ∀ s t d, g s (-t) d = g s t d)
    (hg : ∀ s t d, 0 ≤ g s t d ∧ g s t d ≤ 2 * c) (φ : ℝ) :
    phiWith e (fun sn cn dn => wrap c (g sn cn dn) sn cn) c φ =
      (deltaWith (fun sn cn dn => wrap c (g sn cn dn) sn cn) c (sin φ) (cos φ) (delta e (sin φ) (cos φ)) + φ) * c /
        (π / 2) := by
  rcases le_or_gt π |φ| with h1 | h1
  · exact phiWith_far e _ c φ h1
  obtain ⟨h1a, h1b⟩ := abs_lt.mp h1
  have hpi := Real.pi_pos
  have hc0 : c ≠ 0 := hc.ne'
  have HT : ∀ s t d, 0 < s → wrap c (g (-s) (-t) d) (-s) (-t) = wrap c (g s t d) s t - 2 * c := by
    intro s t d hs0
    rw [hs, ht]
    exact wrap_half_turn c _ s t hc (hg s t d).1 (hg s t d).2 hs0
  rw [phiWith_near _ _ _ _ h1, deltaWith_real]
  split_ifs with hcos
  · rcases lt_trichotomy φ 0 with h0 | h0 | h0
    · have hat : RealLike.atan2 (-sin φ) (-cos φ) = φ + π := by
        rw [← Real.sin_add_pi, ← Real.cos_add_pi]; exact atan2_sin_cos _ (by linarith) (by linarith)
      have hw := HT (-sin φ) (-cos φ) (delta e (sin φ) (cos φ)) (by linarith [Real.sin_neg_of_neg_of_neg_pi_lt h0 h1a])
      rw [neg_neg, neg_neg] at hw
      rw [hat, hw]; field_simp; ring
    · rw [h0, Real.cos_zero] at hcos; linarith
    · have hat : RealLike.atan2 (-sin φ) (-cos φ) = φ - π := by
        rw [← Real.sin_sub_pi, ← Real.cos_sub_pi]; exact atan2_sin_cos _ (by linarith) (by linarith)
      rw [hat, HT _ _ _ (Real.sin_pos_of_pos_of_lt_pi h0 h1b)]; field_simp; ring
  · rw [atan2_sin_cos φ h1a h1b.le]; field_simp; ring

theorem einvReduce_real (e : Par ℝ) (x : ℝ) :
    einvReduce e x = ((⌊x / (2 * e.eEc) + 1 / 2⌋ : ℝ), x - 2 * e.eEc * (⌊x / (2 * e.eEc) + 1 / 2⌋ : ℝ)) := by
  unfold einvReduce
  simp only [floor_realx, lit_real, ofDec_real]
  norm_num

theorem deltaEinv_neg (e : Par ℝ) (stau ctau : ℝ) (hc : ctau ≠ 0) : deltaEinv e (-stau) (-ctau) = deltaEinv e stau ctau := by
  unfold deltaEinv
  simp only [signNeg_real, decide_eq_true_eq, ite_neg_lt hc, neg_neg]

end GeoVerif.Proofs.Jacobi
