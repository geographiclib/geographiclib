import GeoVerif.Proofs.Accum
import GeoVerif.Proofs.MathG
import Mathlib.Analysis.SpecialFunctions.Trigonometric.Basic
import Mathlib.Analysis.SpecialFunctions.Complex.Arg
/-!
# C16 — property theorems: angle arithmetic (`AngNormalize`, `AngDiff`, `AngRound`, `LatFix`), `Math::sum`, the
`Accumulator`, and the degree functions (`sincosd`, `tand`, `atan2d`)
-/
namespace GeoVerif.Props.C16
open GeoVerif GeoVerif.MathF Real

noncomputable def rad (x : ℝ) : ℝ := x * π / 180

/--
`sincosd` quadrant logic: if `x = 90·q + d`, then the switch on `q mod 4`
applied to the kernel values `(sin d°, cos d°)` returns `(sin x°, cos x°)`.
This is the term `quadSwitch` used (at type `F64`) by the executable model
that is compared with the implementation.
-/
theorem sincosd_quadrant (q : ℤ) (d : ℝ) :
    quadSwitch q (sin (rad d)) (cos (rad d)) = (sin (rad (90 * q + d)), cos (rad (90 * q + d))) := by
  have hq : q = 4 * (q / 4) + q % 4 := by omega
  have key : rad (90 * (q:ℝ) + d) = rad d + ((q % 4 : ℤ) : ℝ) * (π / 2) + ((q / 4 : ℤ) : ℝ) * (2 * π) := by
    unfold rad
    have : (q : ℝ) = 4 * ((q / 4 : ℤ) : ℝ) + ((q % 4 : ℤ) : ℝ) := by exact_mod_cast hq
    rw [this]; ring
  rw [key, Real.sin_add_int_mul_two_pi, Real.cos_add_int_mul_two_pi]
  unfold quadSwitch
  have h4 : q % 4 = 0 ∨ q % 4 = 1 ∨ q % 4 = 2 ∨ q % 4 = 3 := by omega
  rcases h4 with h | h | h | h
  · simp only [h]
    norm_num
  · simp only [h]
    norm_num
    rw [Real.sin_add_pi_div_two, Real.cos_add_pi_div_two]; exact ⟨rfl, rfl⟩
  · simp only [h]
    norm_num
    have : rad d + 2 * (π / 2) = rad d + π := by ring
    rw [this, Real.sin_add_pi, Real.cos_add_pi]; exact ⟨rfl, rfl⟩
  · simp only [h]
    norm_num
    have : rad d + 3 * (π / 2) = (rad d + π / 2) + π := by ring
    rw [this, Real.sin_add_pi, Real.cos_add_pi, Real.sin_add_pi_div_two, Real.cos_add_pi_div_two]
    simp

/-- non-vacuity: `q ≡ 1 (mod 4)` sends `(s, c)` to `(c, −s)` -/
example : quadSwitch (5 : ℤ) (1 : ℝ) 2 = (2, -1) := by
  unfold quadSwitch; norm_num

/-! `F64` is the model the driver executes against the implementation.  `remainder` (the `std::remainder` of `AngNormalize`,
`AngDiff` and the `remquo` reduction of `sincosd`) is modelled exactly; the constants 90/180/360 come from `Gen.MathC`,
re-extracted from `Math.hpp` on every run. -/
open Dy F64

theorem td_eq : td = F64.fin false 360 0 := rfl
theorem hd_eq : hd = F64.fin false 180 0 := rfl
theorem qd_eq : qd = F64.fin false 90 0 := rfl

/-- **Exact argument reduction**: `remainder(x, y)` is the finite number `x − n·y`, `n = remquo` the integer nearest
to `x/y`, with no rounding error; a zero result keeps the sign of `x`.  This is why `sincosd`, `AngNormalize`, … depend on
their argument only modulo 360. -/
theorem remainder_exact (sx sy : Bool) (mx my : ℕ) (ex ey : ℤ) (hy : my ≠ 0) :
    let x := F64.fin sx mx ex; let y := F64.fin sy my ey
    (remainder x y).isFinite = true ∧
    (remainder x y).val = x.val - (remquoN x y : ℚ) * y.val ∧
    2 * |(remainder x y).val| ≤ |y.val| ∧
    ((remainder x y).val = 0 → (remainder x y).signbit = sx) := F64.remainder_spec sx sy mx my ex ey hy

theorem remainder_td (x : F64) (hx : x.isFinite = true) :
    (remainder x td).isFinite = true ∧ (remainder x td).val = x.val - 360 * (remquoN x td : ℚ) ∧
    |(remainder x td).val| ≤ 180 ∧ ((remainder x td).val = 0 → (remainder x td).signbit = x.signbit) := by
  obtain ⟨s, m, e, rfl⟩ := F64.exists_fin_of_isFinite x hx
  obtain ⟨hf, hv, hb, hs⟩ := remainder_spec s false m 360 e 0 (by norm_num)
  rw [show (F64.fin false 360 0).val = 360 by exact_mod_cast F64.val_nat 360] at hv hb
  rw [abs_of_pos (by norm_num : (0:ℚ) < 360)] at hb
  exact ⟨hf, by rw [td_eq, hv]; ring, by rw [td_eq]; linarith, hs⟩

theorem copysign_halfturn (a b : F64) (h : a.val = 0 ∨ |a.val| = 180) :
    ∃ j : ℤ, (copysign a b).val = a.val + 360 * j := by
  rw [F64.val_copysign]
  rcases h with h0 | h180
  · exact ⟨0, by rw [h0]; simp⟩
  · rw [h180]
    rcases (abs_eq (by norm_num : (0:ℚ) ≤ 180)).mp h180 with e | e
    · rw [e]; split
      exacts [⟨-1, by norm_num⟩, ⟨0, by norm_num⟩]
    · rw [e]; split
      exacts [⟨0, by norm_num⟩, ⟨1, by norm_num⟩]

/-- **AngNormalize**: for every finite `x` the result is finite, congruent to `x` modulo 360 *exactly*, lies in
`[−180, 180]`, and a result of `0` or `±180` carries the sign of `x`. -/
theorem angNormalize_spec (sx : Bool) (mx : ℕ) (ex : ℤ) :
    let x := F64.fin sx mx ex
    (angNormalize x).isFinite = true ∧
    (∃ n : ℤ, (angNormalize x).val = x.val - 360 * n) ∧
    |(angNormalize x).val| ≤ 180 ∧
    ((angNormalize x).val = 0 ∨ |(angNormalize x).val| = 180 → (angNormalize x).signbit = sx) := by
  intro x
  obtain ⟨hfin, hval, hb, hsg⟩ := remainder_td x rfl
  have h180 : hd.val = 180 := by exact_mod_cast F64.val_nat 180
  unfold angNormalize
  set y := remainder x td with hy
  have hE : F64.eq (F64.abs y) hd = true ↔ |y.val| = 180 := by
    rw [F64.eq_fin_iff _ _ ((F64.isFinite_abs y).trans hfin) rfl, F64.val_abs, h180]
  by_cases hyv : |y.val| = 180
  · rw [if_pos (hE.mpr hyv)]
    -- the result is ±180 with the sign of `x`, and so is `y = x − 360 n`: they differ by 0 or ±360
    have hv : (copysign hd x).val = (copysign y x).val := by
      rw [F64.val_copysign, F64.val_copysign, h180, hyv, abs_of_pos (by norm_num : (0:ℚ) < 180)]
    obtain ⟨j, hj⟩ := copysign_halfturn y x (Or.inr hyv)
    refine ⟨rfl, ⟨remquoN x td - j, by rw [hv, hj, hval]; push_cast; ring⟩, ?_, fun _ => rfl⟩
    rw [hv, F64.val_copysign, hyv]; split <;> norm_num
  · rw [if_neg (mt hE.mp hyv)]
    exact ⟨hfin, ⟨remquoN x td, hval⟩, hb, fun h => h.elim hsg (fun h1 => absurd h1 hyv)⟩

/-- NaN and infinities are mapped to NaN by `AngNormalize` -/
theorem angNormalize_nonfinite (x : F64) (h : x.isFinite = false) : (angNormalize x).isNaN = true := by
  cases x with
  | nan => rfl
  | inf s => rfl
  | fin s m e => simp [isFinite] at h

/-- **LatFix**: the identity on `[−90, 90]` (and on NaN), NaN elsewhere -/
theorem latFix_spec (x : F64) :
    (latFix x = x ∨ (latFix x).isNaN = true) ∧
    (∀ s m e, x = F64.fin s m e → (|x.val| ≤ 90 ↔ latFix x = x)) := by
  constructor
  · unfold latFix; split <;> simp [isNaN]
  · intro s m e hx
    unfold latFix
    rw [hx]
    have hgt : F64.gt (F64.abs (F64.fin s m e)) qd = true ↔ 90 < |(F64.fin s m e).val| := by
      rw [← qd_val, ← F64.val_abs]; exact F64.lt_iff rfl rfl
    by_cases hg : F64.gt (F64.abs (F64.fin s m e)) qd = true
    · rw [if_pos hg]
      exact ⟨fun h => absurd (hgt.mp hg) (not_lt.mpr h), fun h => by cases h⟩
    · rw [if_neg hg]
      exact ⟨fun _ => rfl, fun _ => not_lt.mp (mt hgt.mpr hg)⟩

/-- **AngRound** is the identity on every finite `|x| ≥ 1/16` (bit for bit, sign included) -/
theorem angRound_big (s : Bool) (m : ℕ) (e : ℤ) (h : 1 / 16 ≤ |(F64.fin s m e).val|) :
    angRound (F64.fin s m e) = F64.fin s m e := by
  unfold angRound
  dsimp only
  have hw : F64.gt ((F64.fin false 1 (-4)) - F64.abs (F64.fin s m e)) 0 = false := by
    show F64.gt (F64.rnd (Dy.add (F64.fin false 1 (-4)).toDy (F64.neg (F64.abs (F64.fin s m e))).toDy) _) 0 = false
    apply rnd_nonpos_not_gt
    rw [Dy.val_add]
    show (F64.fin false 1 (-4)).val + (F64.neg (F64.abs (F64.fin s m e))).val ≤ 0
    rw [sixteenth_val, F64.val_neg, F64.val_abs]; linarith
  rw [hw]; rfl

/-- non-vacuity: ±540° normalise to ±180 (sign kept); −3/16 is in the identity range of AngRound -/
example : (angNormalize (F64.fin false 540 0)).toBits = (F64.fin false 180 0).toBits := by decide
example : (angNormalize (F64.fin true 540 0)).toBits = (F64.fin true 180 0).toBits := by decide
example : (1 : ℚ) / 16 ≤ |(F64.fin true 3 (-4)).val| := by rw [F64.val_fin]; norm_num

theorem angDiff_unfold (x y : F64) :
    angDiff x y =
      (let s1 := MathF.sum (remainder (F64.neg x) td) (remainder y td)
       let s2 := MathF.sum (remainder s1.1 td) s1.2
       (if F64.eq s2.1 0 || F64.eq (F64.abs s2.1) hd then
          copysign s2.1 (if F64.eq s2.2 0 then y - x else F64.neg s2.2) else s2.1, s2.2)) := by
  unfold angDiff; rfl

/--
**AngDiff under the TwoSum contract**: for all finite `x, y`, `d + e ≡ y − x (mod 360)` *exactly*, given that the two calls
of `Math::sum` inside `AngDiff` return a finite high word and satisfy `s + t = u + v` exactly: the reductions by `remainder`,
the second normalisation and the sign fix-up at `0`/`±180` lose nothing modulo 360.  `angDiff_exact` discharges the
contract (`sum_exact`) for representable arguments.
-/
theorem angDiff_exact_partial (sx sy : Bool) (mx my : ℕ) (ex ey : ℤ) :
    let x := F64.fin sx mx ex; let y := F64.fin sy my ey
    let s1 := MathF.sum (remainder (F64.neg x) td) (remainder y td)
    let s2 := MathF.sum (remainder s1.1 td) s1.2
    s1.1.isFinite = true → s2.1.isFinite = true →
    s1.1.val + s1.2.val = (remainder (F64.neg x) td).val + (remainder y td).val →
    s2.1.val + s2.2.val = (remainder s1.1 td).val + s1.2.val →
    ∃ n : ℤ, (angDiff x y).1.val + (angDiff x y).2.val = y.val - x.val - 360 * n := by
  intro x y s1 s2 hf1 hf2 H1 H2
  obtain ⟨-, hr1, -, -⟩ := remainder_td (F64.neg x) rfl
  obtain ⟨-, hr2, -, -⟩ := remainder_td y rfl
  obtain ⟨-, hr3, -, -⟩ := remainder_td s1.1 hf1
  rw [F64.val_neg] at hr1
  rw [hr1, hr2] at H1
  rw [hr3] at H2
  rw [angDiff_unfold]
  show ∃ n : ℤ, (if F64.eq s2.1 0 || F64.eq (F64.abs s2.1) hd then
          copysign s2.1 (if F64.eq s2.2 0 then y - x else F64.neg s2.2) else s2.1).val + s2.2.val = _
  -- the totals before the sign fix
  set N : ℤ := remquoN (F64.neg x) td + remquoN y td + remquoN s1.1 td with hN
  have base : s2.1.val + s2.2.val = y.val - x.val - 360 * (N : ℚ) := by
    rw [hN]; push_cast; linarith
  by_cases hc : (F64.eq s2.1 0 || F64.eq (F64.abs s2.1) hd) = true
  · rw [if_pos hc]
    -- the value is 0 or ±180, so `copysign` changes it by 0 or ±360
    have hv : s2.1.val = 0 ∨ |s2.1.val| = 180 := by
      rcases (Bool.or_eq_true _ _).mp hc with h | h
      · left; rw [(F64.eq_fin_iff s2.1 0 hf2 rfl).mp h, F64.val_zero]
      · right
        rw [← F64.val_abs, (F64.eq_fin_iff _ hd ((F64.isFinite_abs _).trans hf2) rfl).mp h]
        exact_mod_cast F64.val_nat 180
    obtain ⟨j, hj⟩ := copysign_halfturn s2.1 (if F64.eq s2.2 0 then y - x else F64.neg s2.2) hv
    exact ⟨N - j, by rw [hj]; push_cast; linarith⟩
  · rw [if_neg hc]
    exact ⟨_, base⟩

/-- non-vacuity of `angDiff_exact_partial`: for x = 10.5, y = 350.25 both TwoSum hypotheses hold -/
example :
    let x := F64.fin false 21 (-1); let y := F64.fin false 1401 (-2)
    let s1 := MathF.sum (remainder (F64.neg x) td) (remainder y td)
    let s2 := MathF.sum (remainder s1.1 td) s1.2
    s1.1.isFinite = true ∧ s2.1.isFinite = true ∧
    Dy.eq (Dy.add s1.1.toDy s1.2.toDy) (Dy.add (remainder (F64.neg x) td).toDy (remainder y td).toDy) = true ∧
    Dy.eq (Dy.add s2.1.toDy s2.2.toDy) (Dy.add (remainder s1.1 td).toDy s1.2.toDy) = true := by decide

/-- **`Math::sum` is error free** (property C16, last sentence, "the error-free sum"): Knuth's TwoSum for the executable
binary64 model, round-to-nearest-even with gradual underflow.  For all finite representable `u`, `v` with
`|u|, |v| ≤ 2^1018` (no overflow in any of the six operations) the first component is the floating-point sum `u + v`, the
second is finite and representable, and `s + t = u + v` **exactly**. -/
theorem sum_exact (u v : F64) (hu : F64.IsRep u) (hv : F64.IsRep v)
    (hub : |u.val| ≤ (2:ℚ) ^ (1018:ℤ)) (hvb : |v.val| ≤ (2:ℚ) ^ (1018:ℤ)) :
    (MathF.sum u v).1 = u + v ∧
    (MathF.sum u v).1.isFinite = true ∧ (MathF.sum u v).2.isFinite = true ∧
    IsRN 53 (-1074) (u.val + v.val) (MathF.sum u v).1.val ∧ Rep (MathF.sum u v).2.val ∧
    (MathF.sum u v).1.val + (MathF.sum u v).2.val = u.val + v.val :=
  F64.twoSum_exact u v hu hv hub hvb

theorem small_le (x : ℚ) (h : |x| ≤ 180) : |x| ≤ (2:ℚ) ^ (1018:ℤ) := by
  calc |x| ≤ 180 := h
    _ ≤ (2:ℚ) ^ (8:ℤ) := by norm_num
    _ ≤ (2:ℚ) ^ (1018:ℤ) := Dy.two_zpow_le (by norm_num)

/-- **AngDiff is exact modulo 360** — the full statement, no TwoSum hypothesis: for all finite representable `x`, `y`,
`d + e ≡ y − x (mod 360)` exactly, with `(d, e) = AngDiff(x, y)`. -/
theorem angDiff_exact (sx sy : Bool) (mx my : ℕ) (ex ey : ℤ)
    (hx : F64.IsRep (F64.fin sx mx ex)) (hy : F64.IsRep (F64.fin sy my ey)) :
    ∃ n : ℤ, (angDiff (F64.fin sx mx ex) (F64.fin sy my ey)).1.val + (angDiff (F64.fin sx mx ex) (F64.fin sy my ey)).2.val
      = (F64.fin sy my ey).val - (F64.fin sx mx ex).val - 360 * n := by
  obtain ⟨ru, bu⟩ := F64.remainder360_isRep _ hx.neg
  obtain ⟨rv, bv⟩ := F64.remainder360_isRep _ hy
  obtain ⟨_, f1, f1t, r1, rep1t, hs1⟩ := F64.twoSum_exact _ _ ru rv (small_le _ bu) (small_le _ bv)
  obtain ⟨_, lowv⟩ := F64.twoSum_low_le _ _ ru rv (small_le _ bu) (small_le _ bv)
  -- the second call: the high word is reduced again, the low word is no larger than the second operand
  obtain ⟨ru2, bu2⟩ := F64.remainder360_isRep _ ⟨f1, r1.rep⟩
  obtain ⟨_, f2, _, _, _, hs2⟩ := F64.twoSum_exact _ _ ru2 ⟨f1t, rep1t⟩ (small_le _ bu2) (small_le _ (lowv.trans bv))
  exact angDiff_exact_partial sx sy mx my ex ey f1 f2 hs1 hs2

/-- non-vacuity: 10.5 and 350.25 are finite representable values -/
example : F64.IsRep (F64.fin false 21 (-1)) ∧ F64.IsRep (F64.fin false 1401 (-2)) :=
  ⟨⟨rfl, 21, -1, by norm_num, by norm_num, by rw [F64.val_fin]; simp⟩,
   ⟨rfl, 1401, -2, by norm_num, by norm_num, by rw [F64.val_fin]; simp⟩⟩

section Accumulator
open GeoVerif.Accum

/-- **`Accumulator::Add`, one step** (all finite representable `_s`, `_t`, `y` of magnitude `≤ 2^1016`).
The two TwoSum steps are exact: with `(y₁, u) = sum(y, _t)` and `(s₁, t₁) = sum(y₁, _s)`,
`s₁ + t₁ + u = _s + _t + y` exactly.  The new pair is finite and representable, and
`_s' + _t' = _s + _t + y + ε` where `ε = 0` if `s₁ = 0` (then the result is `(u, 0)`) and otherwise `ε` is the single
rounding error of `_t' = t₁ ⊕ u`, `|ε| ≤ max(|t₁ + u|·2^(−53), 2^(−1075))` — the documented "1 ulp of the less
significant word". -/
theorem accum_add_step (a : Acc) (y : F64) (hs : F64.IsRep a.s) (ht : F64.IsRep a.t) (hy : F64.IsRep y)
    (bs : |a.s.val| ≤ (2:ℚ) ^ (1016:ℤ)) (bt : |a.t.val| ≤ (2:ℚ) ^ (1016:ℤ)) (by' : |y.val| ≤ (2:ℚ) ^ (1016:ℤ)) :
    let p := MathF.sum y a.t
    let q := MathF.sum p.1 a.s
    q.1.val + q.2.val + p.2.val = a.s.val + a.t.val + y.val ∧
    F64.IsRep (add a y).s ∧ F64.IsRep (add a y).t ∧
    (q.1.val = 0 → (add a y).s.val + (add a y).t.val = a.s.val + a.t.val + y.val) ∧
    |(add a y).s.val + (add a y).t.val - (a.s.val + a.t.val + y.val)|
      ≤ max (|q.2.val + p.2.val| * (2:ℚ) ^ (-(53:ℤ))) ((2:ℚ) ^ (-(1075:ℤ))) := by
  intro p q
  simp only [q, p]
  have le17 : ∀ {x : ℚ}, |x| ≤ (2:ℚ) ^ (1016:ℤ) → |x| ≤ (2:ℚ) ^ (1017:ℤ) := fun h => h.trans (Dy.two_zpow_le (by norm_num))
  obtain ⟨_, psum, _, qsum, _, r1, r2, h0, hn⟩ := add_step a y hs ht hy (le17 bs) (le17 bt) (le17 by')
  refine ⟨by linarith, r1, r2, fun hz => ?_, ?_⟩
  · obtain ⟨hq2, e1, e2⟩ := h0 hz
    rw [e1, e2]; linarith
  · by_cases hz : (MathF.sum (MathF.sum y a.t).1 a.s).1.val = 0
    · -- `s₁ = 0`: the result is `(u, 0)` and nothing is lost
      obtain ⟨hq2, e1, e2⟩ := h0 hz
      rw [e1, e2, show (MathF.sum y a.t).2.val + 0 - (a.s.val + a.t.val + y.val) = 0 by linarith, abs_zero]
      exact le_trans (Dy.two_zpow_pos _).le (le_max_right _ _)
    · -- otherwise the only rounding is that of `_t' = t₁ ⊕ u`
      obtain ⟨e1, tr⟩ := hn hz
      rw [e1, show (MathF.sum (MathF.sum y a.t).1 a.s).1.val + (add a y).t.val - (a.s.val + a.t.val + y.val)
        = (add a y).t.val - ((MathF.sum (MathF.sum y a.t).1 a.s).2.val + (MathF.sum y a.t).2.val) by linarith]
      exact_mod_cast tr.err

/-- non-vacuity: adding 1 to the accumulator (2^53, 0) keeps the exact total in the low word -/
example : (match add ⟨.fin false 1 53, 0⟩ (.fin false 1 0) with
    | ⟨s, t⟩ => F64.same s (.fin false 1 53) && F64.same t (.fin false 1 0)) = true := by decide +kernel

end Accumulator

/-! `Accum.step` / `Accum.run` (`Model/Accum.lean`) are the functions the driver executes against `Accumulator<double>` after every
operation of every sampled history. -/
section AccumulatorHistory
open GeoVerif.Accum

/-- **`remainder` renormalises** (seeded change C16F).  For every representable state `(_s, _t)` and every representable
non-zero modulus `y` (no overflow): straight after `remainder(y)`
* the reported value `operator()()` is the held sum `_s + _t` **rounded to working precision** (and `_t` is the exact rest),
* the held sum has changed by exactly `n·y`, `n = remquo(_s, y)` the integer nearest to `_s / y` — nothing is lost,
* the held sum lies in `[−|y|/2, |y|/2]` up to the old low word (observation O3 of DESIGN §12.5). -/
theorem remainder_renormalises (a : Acc) (y : F64) (hs : F64.IsRep a.s) (ht : F64.IsRep a.t) (hy : F64.IsRep y) (hy0 : y.val ≠ 0)
    (bs : |a.s.val| ≤ (2:ℚ) ^ (1017:ℤ)) (bt : |a.t.val| ≤ (2:ℚ) ^ (1017:ℤ)) :
    F64.IsRep (Accum.remainder a y).s ∧ F64.IsRep (Accum.remainder a y).t ∧
    RN ((Accum.remainder a y).s.val + (Accum.remainder a y).t.val) (report (Accum.remainder a y)).val ∧
    (Accum.remainder a y).s.val + (Accum.remainder a y).t.val = a.s.val + a.t.val - (F64.remquoN a.s y : ℚ) * y.val ∧
    |(Accum.remainder a y).s.val + (Accum.remainder a y).t.val| ≤ |y.val| / 2 + |a.t.val| := by
  obtain ⟨hrrep, hval, hrle, hrhalf⟩ := F64.remainder_isRep a.s y hs hy hy0
  obtain ⟨r1, r2, hsum, hrn⟩ := add_zero_renorm ⟨F64.remainder a.s y, a.t⟩ hrrep ht (hrle.trans bs) bt
  have hsum' : (Accum.remainder a y).s.val + (Accum.remainder a y).t.val = (F64.remainder a.s y).val + a.t.val := hsum
  refine ⟨r1, r2, ?_, by rw [hsum', hval]; ring, ?_⟩
  · show RN _ (Accum.add _ 0).s.val; rw [hsum']; exact hrn
  · rw [hsum']
    linarith [abs_add_le (F64.remainder a.s y).val a.t.val]

/-- one step of the state machine: representability is preserved and the held value follows the exact semantics of the
operation up to `addErr` (the rounding of `_t += u`, only for `+=` / `-=`) -/
theorem accum_step_spec (a : Acc) (op : Op) (v e : ℚ) (hs : F64.IsRep a.s) (ht : F64.IsRep a.t) (hr : InRange a) (hop : OpOk op)
    (hv : |hval a - v| ≤ e) :
    F64.IsRep (step a op).s ∧ F64.IsRep (step a op).t ∧
    |hval (step a op) - (trackStep a (v, e) op).1| ≤ (trackStep a (v, e) op).2 := by
  have hadd : ∀ y : F64, F64.IsRep y → |y.val| ≤ (2:ℚ) ^ (1016:ℤ) →
      F64.IsRep (add a y).s ∧ F64.IsRep (add a y).t ∧ |hval (add a y) - (hval a + y.val)| ≤ addErr a y := by
    intro y hy hyb
    obtain ⟨_, r1, r2, hex, herr⟩ := accum_add_step a y hs ht hy hr.1 hr.2 hyb
    refine ⟨r1, r2, ?_⟩
    unfold addErr
    dsimp only
    by_cases h0 : (MathF.sum (MathF.sum y a.t).1 a.s).1.val = 0
    · rw [if_pos h0]
      have := hex h0
      unfold hval; rw [this]; simp
    · rw [if_neg h0]; exact herr
  cases op with
  | set y =>
    refine ⟨hop.1, F64.isRep_zero, ?_⟩
    show |(y.val + (0 : F64).val) - y.val| ≤ 0
    rw [F64.val_zero]; simp
  | add y =>
    obtain ⟨r1, r2, h⟩ := hadd y hop.1 hop.2
    refine ⟨r1, r2, ?_⟩
    show |hval (add a y) - (v + y.val)| ≤ e + addErr a y
    have : hval (add a y) - (v + y.val) = (hval (add a y) - (hval a + y.val)) + (hval a - v) := by ring
    rw [this]
    exact le_trans (abs_add_le _ _) (by linarith)
  | sub y =>
    obtain ⟨hn, hnv⟩ : F64.IsRep (F64.neg y) ∧ (F64.neg y).val = -y.val := ⟨hop.1.neg, F64.val_neg y⟩
    obtain ⟨r1, r2, h⟩ := hadd (F64.neg y) hn (by rw [hnv, abs_neg]; exact hop.2)
    refine ⟨r1, r2, ?_⟩
    show |hval (add a (F64.neg y)) - (v - y.val)| ≤ e + addErr a (F64.neg y)
    rw [hnv] at h
    have : hval (add a (F64.neg y)) - (v - y.val) = (hval (add a (F64.neg y)) - (hval a + -y.val)) + (hval a - v) := by ring
    rw [this]
    exact le_trans (abs_add_le _ _) (by linarith)
  | neg =>
    refine ⟨hs.neg, ht.neg, ?_⟩
    show |((F64.neg a.s).val + (F64.neg a.t).val) - -v| ≤ e
    rw [F64.val_neg, F64.val_neg]
    have : -a.s.val + -a.t.val - -v = -(hval a - v) := by unfold hval; ring
    rw [this, abs_neg]; exact hv
  | rem y =>
    obtain ⟨r1, r2, _, hsum, _⟩ := remainder_renormalises a y hs ht hop.1 hop.2
      (le_trans hr.1 (Dy.two_zpow_le (by norm_num))) (le_trans hr.2 (Dy.two_zpow_le (by norm_num)))
    refine ⟨r1, r2, ?_⟩
    show |hval (Accum.remainder a y) - (v - (F64.remquoN a.s y : ℚ) * y.val)| ≤ e
    unfold hval at hv ⊢
    rw [hsum]
    have : a.s.val + a.t.val - (F64.remquoN a.s y : ℚ) * y.val - (v - (F64.remquoN a.s y : ℚ) * y.val) = a.s.val + a.t.val - v := by ring
    rw [this]; exact hv
  | nop => exact ⟨hs, ht, hv⟩
  | mulInt n => exact absurd hop (by simp [OpOk])
  | mulF y => exact absurd hop (by simp [OpOk])

/-- **The accumulator holds the sum** (property C16, last sentence, "the accumulator"), over *all* histories of `=`, `+=`, `-=`,
negation, `remainder` and the `const` members.  If no intermediate state overflows (`NoOverflow`), then after the whole
history both words are representable and the held value `_s + _t` differs from the exact rational value of the same history
(`track … .1`) by at most the sum of the single roundings `_t += u` of its `+=` / `-=` steps (`track … .2`; each is second
order, see `addErr_second_order`). -/
theorem accum_history (ops : List Op) : ∀ (a : Acc) (v e : ℚ), F64.IsRep a.s → F64.IsRep a.t → NoOverflow a ops → |hval a - v| ≤ e →
    F64.IsRep (run a ops).s ∧ F64.IsRep (run a ops).t ∧ |hval (run a ops) - (track a (v, e) ops).1| ≤ (track a (v, e) ops).2 := by
  induction ops with
  | nil => intro a v e hs ht _ hv; exact ⟨hs, ht, hv⟩
  | cons op ops ih =>
    intro a v e hs ht hno hv
    obtain ⟨hr, hop, hrest⟩ := hno
    obtain ⟨s1, t1, h1⟩ := accum_step_spec a op v e hs ht hr hop hv
    rw [run_cons]
    exact ih (step a op) (trackStep a (v, e) op).1 (trackStep a (v, e) op).2 s1 t1 hrest h1

/-- histories of `=`, negation, `remainder` and `const` members only: the held value is **exactly** the value of the history -/
theorem accum_history_exact (ops : List Op) (a : Acc) (hs : F64.IsRep a.s) (ht : F64.IsRep a.t) (hno : NoOverflow a ops)
    (h : ∀ op ∈ ops, noAdd op = true) : hval (run a ops) = (track a (hval a, 0) ops).1 := by
  obtain ⟨_, _, h1⟩ := accum_history ops a (hval a) 0 hs ht hno (by simp)
  have h2 := track_err_noAdd ops a (hval a) 0 (le_refl _) h
  have h3 : |hval (run a ops) - (track a (hval a, 0) ops).1| ≤ 0 := le_trans h1 h2
  have := abs_nonpos_iff.mp h3
  linarith

/-- **the error of one `Add` is second order**: `addErr ≤ 2^(−104)·(|_s| + |_t| + |y|) + 2^(−1075)` — "roughly twice working
precision" relative to the magnitudes that entered the step -/
theorem addErr_second_order (a : Acc) (y : F64) (hs : F64.IsRep a.s) (ht : F64.IsRep a.t) (hy : F64.IsRep y)
    (bs : |a.s.val| ≤ (2:ℚ) ^ (1016:ℤ)) (bt : |a.t.val| ≤ (2:ℚ) ^ (1016:ℤ)) (by' : |y.val| ≤ (2:ℚ) ^ (1016:ℤ)) :
    addErr a y ≤ (|a.s.val| + |a.t.val| + |y.val|) * (2:ℚ) ^ (-(104:ℤ)) + (2:ℚ) ^ (-(1075:ℤ)) := by
  have le17 : ∀ {x : ℚ}, |x| ≤ (2:ℚ) ^ (1016:ℤ) → |x| ≤ (2:ℚ) ^ (1017:ℤ) := fun h => h.trans (Dy.two_zpow_le (by norm_num))
  obtain ⟨pr1, psum, qr1, qsum, _⟩ := add_step a y hs ht hy (le17 bs) (le17 bt) (le17 by')
  obtain ⟨hP2, hP1⟩ := low_word_le pr1 psum
  obtain ⟨hQ2, -⟩ := low_word_le qr1 qsum
  unfold addErr
  dsimp only
  generalize (MathF.sum (MathF.sum y a.t).1 a.s).1.val = q1 at *
  generalize (MathF.sum (MathF.sum y a.t).1 a.s).2.val = q2 at *
  generalize (MathF.sum y a.t).1.val = p1 at *
  generalize (MathF.sum y a.t).2.val = p2 at *
  -- with `2^-53` and `2^-104` as numerals and `w = 2^-1075` a number, every step below is linear
  rw [show (2:ℚ) ^ (-(53:ℤ)) = 1 / 9007199254740992 by norm_num] at hP2 hQ2 ⊢
  rw [show (2:ℚ) ^ (-(104:ℤ)) = 1 / 20282409603651670423947251286016 by norm_num]
  have hw : (0:ℚ) < (2:ℚ) ^ (-(1075:ℤ)) := Dy.two_zpow_pos _
  generalize (2:ℚ) ^ (-(1075:ℤ)) = w at *
  have ny := abs_nonneg y.val
  have nt := abs_nonneg a.t.val
  have ns := abs_nonneg a.s.val
  split
  · linarith
  · exact max_le (by linarith [abs_add_le q2 p2]) (by linarith)

/-- non-vacuity: the history `= 1; += 3·2^-54; -= 1; negate; remainder(360); operator()()` from the default-constructed accumulator
satisfies every hypothesis of `accum_history`; it is the cancellation of observation O2 -/
example : NoOverflow (set 0) [.set (.fin false 1 0), .add (.fin false 3 (-54)), .sub (.fin false 1 0), .neg, .rem (.fin false 360 0), .nop] :=
  noOverflow_of_B _ _ (by decide +kernel)
example : F64.IsRep (set 0).s ∧ F64.IsRep (set 0).t := ⟨F64.isRep_zero, F64.isRep_zero⟩
/-- non-vacuity of `remainder_renormalises`: state (360·2^53, 100), modulus 360, the witness of seeded change C16F -/
example : F64.same (report (Accum.remainder ⟨.fin false 360 53, .fin false 100 0⟩ (.fin false 360 0))) (.fin false 100 0) = true := by
  decide +kernel
example : repB (.fin false 360 53) = true ∧ repB (.fin false 100 0) = true ∧ repB (.fin false 360 0) = true := by decide +kernel

/-- **`Accumulator::fastsum` is error free when `|u| ≥ |v|`** (Dekker's Fast2Sum for the binary64 model; the routine is private and
currently unused by the library, its documented precondition is exactly the hypothesis): `s = RN(u + v)` and `s + t = u + v`. -/
theorem fastsum_exact (u v : F64) (hu : F64.IsRep u) (hv : F64.IsRep v) (huv : |v.val| ≤ |u.val|)
    (hub : |u.val| ≤ (2:ℚ) ^ (1018:ℤ)) :
    (fastsum u v).1.isFinite = true ∧ (fastsum u v).2.isFinite = true ∧
    RN (u.val + v.val) (fastsum u v).1.val ∧ (fastsum u v).1.val + (fastsum u v).2.val = u.val + v.val := by
  have hvb : |v.val| ≤ (2:ℚ) ^ (1018:ℤ) := le_trans huv hub
  obtain ⟨f1, r1, b1⟩ := F64.add_rn u v hu.1 hv.1 1019 (by norm_num) (by norm_num)
    (F64.bound_add hub hvb (by norm_num) (by norm_num))
  obtain ⟨f2, r2, b2⟩ := F64.sub_rn (u + v) u f1 hu.1 1020 (by norm_num) (by norm_num)
    (F64.bound_sub b1 hub (by norm_num) (by norm_num))
  -- vp = s ⊖ u is exact (Fast2Sum step)
  have hvp : Rep ((u + v).val - u.val) := fts_rep hu.2 hv.2 huv r1
  have e2 : (u + v - u).val = (u + v).val - u.val := hvp.rn_eq r2
  obtain ⟨f3, r3, _⟩ := F64.sub_rn v (u + v - u) hv.1 f2 1021 (by norm_num) (by norm_num)
    (F64.bound_sub hvb b2 (by norm_num) (by norm_num))
  -- t = v ⊖ vp = (u + v) − s, the representable rounding error
  have herr : Rep (u.val + v.val - (u + v).val) := err_rep hu.2 hv.2 r1
  have e3 : (v - (u + v - u)).val = u.val + v.val - (u + v).val := by
    have : v.val - (u + v - u).val = u.val + v.val - (u + v).val := by rw [e2]; ring
    rw [this] at r3; exact herr.rn_eq r3
  refine ⟨f1, f3, r1, ?_⟩
  show (u + v).val + (v - (u + v - u)).val = _
  rw [e3]; ring

/-- non-vacuity: u = 2^53, v = 1 (the sum is inexact, the error word is 1) -/
example : (2:ℚ) ^ (53:ℤ) ≥ 1 ∧ F64.same (fastsum (.fin false 1 53) (.fin false 1 0)).1 (.fin false 1 53) = true ∧
    F64.same (fastsum (.fin false 1 53) (.fin false 1 0)).2 (.fin false 1 0) = true := by
  refine ⟨by norm_num, by decide +kernel, by decide +kernel⟩

end AccumulatorHistory

/-! The models of `Model/MathG.lean` are the code line by line around abstract libm kernels `k : Kern`; the driver executes them (with the harness's
independent wide-precision kernel values) against `Math::sincosd`, `sincosde`, `sind`, `cosd`, `tand`, `atand` on every sample. -/
section Trig

/-- **the special values are correctly rounded**: `sqrt(1/2)`, `sqrt(3)/2` of the model are within half an ulp (`2^−54`) of
√½ and √3/2 (stated in squared form over `ℚ`, so that no real square root enters), and `1/2` is exact -/
theorem special_values_correctly_rounded :
    (sqrtHalf.val - (2:ℚ) ^ (-54:ℤ)) ^ 2 < 1 / 2 ∧ 1 / 2 < (sqrtHalf.val + (2:ℚ) ^ (-54:ℤ)) ^ 2 ∧
    (sqrt3Half.val - (2:ℚ) ^ (-54:ℤ)) ^ 2 < 3 / 4 ∧ 3 / 4 < (sqrt3Half.val + (2:ℚ) ^ (-54:ℤ)) ^ 2 ∧
    half.val = 1 / 2 ∧ 0 < sqrtHalf.val ∧ 0 < sqrt3Half.val := by
  rw [sqrtHalf_val, sqrt3Half_val, half_val]
  norm_num

/-- **the special-value branches are taken exactly at ±45° and ±30°** (every representable reduced angle), and there the
model returns `(copysign(√½, r), √½)` resp. `(copysign(1/2, r), √3/2)` — the sign of the sine is the sign of the reduced
angle (seeded change C16E drops it at −30°); everywhere else the kernel values are used -/
theorem sincosCore_special (k : Kern) (s : Bool) (m : ℕ) (e : ℤ) (h : F64.IsRep (F64.fin s m e))
    (hb : |(F64.fin s m e).val| ≤ (2:ℚ) ^ (1000:ℤ)) :
    (sincosBranch (F64.fin s m e) = Branch.s45 ↔ |(F64.fin s m e).val| = 45) ∧
    (sincosBranch (F64.fin s m e) = Branch.s30 ↔ |(F64.fin s m e).val| = 30) ∧
    (|(F64.fin s m e).val| = 45 → sincosCore k (F64.fin s m e) = (copysign sqrtHalf (F64.fin s m e * degreeD), sqrtHalf)) ∧
    (|(F64.fin s m e).val| = 30 → sincosCore k (F64.fin s m e) = (copysign half (F64.fin s m e * degreeD), sqrt3Half)) ∧
    (|(F64.fin s m e).val| ≠ 45 → |(F64.fin s m e).val| ≠ 30 →
      sincosCore k (F64.fin s m e) = (k.sin (F64.fin s m e * degreeD), k.cos (F64.fin s m e * degreeD))) := by
  have h2 := eq_two_abs_iff _ h hb
  have h3 := eq_three_abs_iff _ h hb
  unfold sincosBranch sincosCore
  by_cases c2 : F64.eq ((2 : F64) * F64.abs (F64.fin s m e)) qd = true
  · have v45 := h2.mp c2
    have n30 : |(F64.fin s m e).val| ≠ 30 := by rw [v45]; norm_num
    rw [if_pos c2, if_pos c2]
    exact ⟨⟨fun _ => v45, fun _ => rfl⟩, ⟨nofun, fun h => absurd h n30⟩, fun _ => rfl,
      fun h => absurd h n30, fun h => absurd v45 h⟩
  · have n45 := mt h2.mpr c2
    rw [if_neg c2, if_neg c2]
    by_cases c3 : F64.eq ((3 : F64) * F64.abs (F64.fin s m e)) qd = true
    · have v30 := h3.mp c3
      rw [if_pos c3, if_pos c3]
      exact ⟨⟨nofun, fun h => absurd h n45⟩, ⟨fun _ => v30, fun _ => rfl⟩, fun h => absurd h n45,
        fun _ => rfl, fun _ h => absurd v30 h⟩
    · have n30 := mt h3.mpr c3
      rw [if_neg c3, if_neg c3]
      exact ⟨⟨nofun, fun h => absurd h n45⟩, ⟨nofun, fun h => absurd h n30⟩,
        fun h => absurd h n45, fun h => absurd h n30, fun _ _ => rfl⟩

/-- non-vacuity: −30 is representable and in range -/
example : F64.IsRep (F64.fin true 30 0) ∧ |(F64.fin true 30 0).val| ≤ (2:ℚ) ^ (1000:ℤ) ∧ |(F64.fin true 30 0).val| = 30 := by
  have hv : (F64.fin true 30 0).val = -30 := by rw [F64.val_fin]; norm_num
  refine ⟨GeoVerif.Accum.isRep_of_repB _ (by decide +kernel), ?_, ?_⟩
  · rw [hv]; norm_num
    calc (30:ℚ) ≤ (2:ℚ) ^ (5:ℤ) := by norm_num
      _ ≤ (2:ℚ) ^ (1000:ℤ) := Dy.two_zpow_le (by norm_num)
  · rw [hv]; norm_num

/-- **the reduction depends only on `x` modulo 360**: if `x' = x + 360·n` (as real numbers) then `remquo` returns the same reduced
angle and a quotient that differs by `4n`, so the quadrant switch (`quadSwitch_add4`) sees the same quadrant — ties at odd
multiples of 45° included (`remquo` rounds them to the even quotient, which a shift by `4n` preserves) -/
theorem sincosd_reduction_periodic (sx sx' : Bool) (mx mx' : ℕ) (ex ex' : ℤ) (n : ℤ)
    (h : (F64.fin sx' mx' ex').val = (F64.fin sx mx ex).val + 360 * n) :
    F64.remquoN (F64.fin sx' mx' ex') qd = F64.remquoN (F64.fin sx mx ex) qd + 4 * n ∧
    (F64.remainder (F64.fin sx' mx' ex') qd).val = (F64.remainder (F64.fin sx mx ex) qd).val ∧
    ∀ (α : Type) [Neg α] (s c : α), quadSwitch (F64.remquoN (F64.fin sx' mx' ex') qd) s c = quadSwitch (F64.remquoN (F64.fin sx mx ex) qd) s c := by
  have h90 : (F64.fin false 90 0).val = 90 := by rw [F64.val_fin]; simp
  obtain ⟨hq, hr⟩ := remquo_add_even sx sx' false mx mx' 90 ex ex' 0 (by norm_num) (2 * n) (by
    rw [h, h90]; push_cast; ring)
  have hq' : F64.remquoN (F64.fin sx' mx' ex') qd = F64.remquoN (F64.fin sx mx ex) qd + 4 * n := by
    rw [qd_eq, hq]; ring
  refine ⟨hq', by rw [qd_eq]; exact hr, fun α _ s c => ?_⟩
  rw [hq']; exact quadSwitch_add4 _ _ s c

/-- **the reduction is odd**: `remquo(−x, 90)` returns the negated reduced angle and the negated quotient, and the quadrant switch
turns `(−s, c)` with the negated quotient into `(−sin, cos)` — sine odd, cosine even, in every quadrant -/
theorem sincosd_reduction_odd (sx : Bool) (mx : ℕ) (ex : ℤ) :
    F64.remquoN (F64.neg (F64.fin sx mx ex)) qd = -F64.remquoN (F64.fin sx mx ex) qd ∧
    (F64.remainder (F64.neg (F64.fin sx mx ex)) qd).val = -(F64.remainder (F64.fin sx mx ex) qd).val ∧
    ∀ (s c : F64), quadSwitch (F64.remquoN (F64.neg (F64.fin sx mx ex)) qd) (-s) c
      = (-(quadSwitch (F64.remquoN (F64.fin sx mx ex) qd) s c).1, (quadSwitch (F64.remquoN (F64.fin sx mx ex) qd) s c).2) := by
  obtain ⟨hq, hr⟩ := remquo_neg sx false mx 90 ex 0 (by norm_num)
  have hq' : F64.remquoN (F64.neg (F64.fin sx mx ex)) qd = -F64.remquoN (F64.fin sx mx ex) qd := by rw [qd_eq]; exact hq
  refine ⟨hq', by rw [qd_eq]; exact hr, fun s c => ?_⟩
  rw [hq']
  exact quadSwitch_neg (fun a => by cases a <;> simp [Neg.neg, F64.neg]) _ s c

/--
**`sincosde(x, 0)` takes the same path as `sincosd(x)` (partial).**  For every finite `x` whose reduced angle
`d₀ = remquo(x, 90)` has `|d₀| ≥ 1/16`: the reduced angle of `sincosde` (`AngRound(d₀ + 0)`) is *structurally* `d₀ + 0`, a finite
number with the value and sign of `d₀`, it takes the same special-value branch, and the zero-sign source `x + 0` has the
value and sign of `x`.  Not proved: `sincosdeM k x 0 = sincosdM k x` as *terms* — `d₀ + 0` and `d₀` may be different
unnormalised representations `m·2^e` of the same number, so this needs kernels that respect value equality (true of libm)
and a congruence lemma through `sincosCore`.
-/
theorem sincosde_zero_correction_partial (sx : Bool) (mx : ℕ) (ex : ℤ) (hx : F64.IsRep (F64.fin sx mx ex))
    (hxb : |(F64.fin sx mx ex).val| ≤ (2:ℚ) ^ (1000:ℤ))
    (hd : 1 / 16 ≤ |(F64.remainder (F64.fin sx mx ex) qd).val|) :
    sincosdeArg (F64.fin sx mx ex) 0 = F64.remainder (F64.fin sx mx ex) qd + 0 ∧
    (sincosdeArg (F64.fin sx mx ex) 0).val = (F64.remainder (F64.fin sx mx ex) qd).val ∧
    (sincosdeArg (F64.fin sx mx ex) 0).signbit = (F64.remainder (F64.fin sx mx ex) qd).signbit ∧
    sincosBranch (sincosdeArg (F64.fin sx mx ex) 0) = sincosBranch (F64.remainder (F64.fin sx mx ex) qd) ∧
    (F64.fin sx mx ex + 0).val = (F64.fin sx mx ex).val ∧ (F64.fin sx mx ex + 0).signbit = (F64.fin sx mx ex).signbit := by
  obtain ⟨hrrep, -, hrle, -⟩ := F64.remainder_isRep _ qd hx ⟨rfl, by rw [qd_val]; exact rep90⟩ (by rw [qd_val]; norm_num)
  set d0 := F64.remainder (F64.fin sx mx ex) qd with hd0
  have hd' : 1 / 16 ≤ |d0.val| := hd
  have hd0b : |d0.val| ≤ (2:ℚ) ^ (1000:ℤ) := le_trans hrle hxb
  have hd0nz : d0.val ≠ 0 := by
    intro h0; rw [h0, abs_zero] at hd'; norm_num at hd'
  obtain ⟨zrep, zval, zsign⟩ := add_zero_same d0 hrrep hd0b
  obtain ⟨s1, m1, e1, h1⟩ := F64.exists_fin_of_isFinite (d0 + 0) zrep.1
  have hbig : 1 / 16 ≤ |(F64.fin s1 m1 e1).val| := by rw [← h1, zval]; exact hd'
  have harg : sincosdeArg (F64.fin sx mx ex) 0 = d0 + 0 := by
    show angRound (d0 + 0) = d0 + 0
    rw [h1]; exact angRound_big s1 m1 e1 hbig
  have hxnz : (F64.fin sx mx ex).val ≠ 0 := by
    intro h0; rw [h0, abs_zero] at hrle; linarith
  obtain ⟨_, xval, xsign⟩ := add_zero_same (F64.fin sx mx ex) hx hxb
  refine ⟨harg, by rw [harg]; exact zval, by rw [harg]; exact zsign hd0nz, ?_, xval, xsign hxnz⟩
  -- same branch: the branch depends on |value| only
  rw [harg]
  have i2 := (eq_two_abs_iff _ zrep (zval ▸ hd0b)).trans (zval ▸ (eq_two_abs_iff _ hrrep hd0b).symm)
  have i3 := (eq_three_abs_iff _ zrep (zval ▸ hd0b)).trans (zval ▸ (eq_three_abs_iff _ hrrep hd0b).symm)
  show sincosBranch (d0 + 0) = sincosBranch d0
  unfold sincosBranch
  rw [Bool.eq_iff_iff.mpr i2, Bool.eq_iff_iff.mpr i3]

/-- non-vacuity: x = 100 (reduced angle 10°) -/
example : F64.IsRep (F64.fin false 100 0) ∧ (1:ℚ) / 16 ≤ |(F64.remainder (F64.fin false 100 0) qd).val| := by
  refine ⟨GeoVerif.Accum.isRep_of_repB _ (by decide +kernel), ?_⟩
  have h : (F64.remainder (F64.fin false 100 0) qd).toDy.m = 10 ∧ (F64.remainder (F64.fin false 100 0) qd).toDy.e = 0 := by decide +kernel
  unfold F64.val Dy.val; rw [h.1, h.2]; norm_num

/-- **signed zeros** (the last two lines of `sincosd` / `sincosde`): a zero sine takes the sign of `z` (`x`, resp. `x + t`); a
representable cosine that is zero comes out as `+0` -/
theorem sincosFinish_signed_zeros (q : ℤ) (z s c : F64) :
    (F64.eq (quadSwitch q s c).1 0 = true → (sincosFinish q z (s, c)).1 = copysign (quadSwitch q s c).1 z) ∧
    (F64.eq (quadSwitch q s c).1 0 = false → (sincosFinish q z (s, c)).1 = (quadSwitch q s c).1) ∧
    (sincosFinish q z (s, c)).2 = (quadSwitch q s c).2 + 0 ∧
    (F64.IsRep (quadSwitch q s c).2 → (quadSwitch q s c).2.val = 0 → (sincosFinish q z (s, c)).2 = F64.fin false 0 0) := by
  unfold sincosFinish
  refine ⟨fun h => by simp [h], fun h => by simp [h], rfl, fun hr h0 => ?_⟩
  show (quadSwitch q s c).2 + 0 = _
  obtain ⟨s1, m1, e1, h1⟩ := F64.exists_fin_of_isFinite _ hr.1
  rw [h1] at h0 ⊢
  have hm : m1 = 0 := by
    rw [F64.val_fin] at h0
    have hp := Dy.two_zpow_pos e1
    rcases mul_eq_zero.mp h0 with h | h
    · cases s1 <;> simp at h <;> exact_mod_cast h
    · exact absurd h hp.ne'
  subst hm
  show F64.rnd (Dy.add (F64.fin s1 0 e1).toDy (0 : F64).toDy) (s1 && false) = _
  have hd : (Dy.add (F64.fin s1 0 e1).toDy (0 : F64).toDy).m = 0 := by
    have h00 : (0 : F64).toDy = ⟨0, 0⟩ := rfl
    have h01 : (F64.fin s1 0 e1).toDy = ⟨0, e1⟩ := by cases s1 <;> simp [F64.toDy]
    rw [h00, h01]
    unfold Dy.add
    by_cases hle : e1 ≤ 0 <;> simp [hle, Dy.shl]
  unfold F64.rnd
  have hr0 : Dy.round53 (Dy.add (F64.fin s1 0 e1).toDy (0 : F64).toDy) = ⟨0, 0⟩ := Dy.roundTo_zero 53 (-1074) _ hd
  simp [hr0, hd]

/-- **`atan2d` is exact on the axes** (model, every finite argument): with a kernel that returns the signed zero for
`atan2(±0, x' ≥ 0)` (C11 F.10.1.4), `atan2d(±0, x) = ±0` for `x ≥ +0`, `±180` for `x ≤ −0`; `atan2d(y, ±0) = ±90` for `y ≠ 0` -/
theorem atan2d_axes (k : Kern) (sy sx : Bool) (ey ex : ℤ) (mx my : ℕ) :
    (k.atan2 (F64.fin sy 0 ey) (F64.fin false mx ex) = F64.fin sy 0 0 →
      atan2dM k (F64.fin sy 0 ey) (F64.fin sx mx ex) = if sx then F64.fin sy 180 0 else F64.fin sy 0 0) ∧
    (my ≠ 0 → k.atan2 (F64.fin sx 0 ex) (F64.fin false my ey) = F64.fin sx 0 0 →
      atan2dM k (F64.fin sy my ey) (F64.fin sx 0 ex) = F64.fin sy 90 0) :=
  ⟨atan2dM_axis_y0 k sy sx ey mx ex, fun hmy hk => atan2dM_axis_x0 k sy sx ex my ey hmy hk⟩

/-- **`atand(±1) = ±45` exactly** when the kernel returns the correctly rounded `π/4` for `atan2(±1, 1)`: the division by the rounded
constant `degree` gives exactly 45 -/
theorem atand_one (k : Kern) (s : Bool) (hk : k.atan2 (F64.fin s 1 0) 1 = F64.copysign (piD / 4) (F64.fin s 1 0)) :
    (atandM k (F64.fin s 1 0)).val = if s then -45 else 45 := by
  rw [atandM_one k s hk]; exact val_45 s

/-- **`tand` at odd multiples of 45° is exactly ±1**: whenever the reduced angle takes the `2|d| = 90` branch, for every kernel,
every quadrant and every sign -/
theorem tand_special45 (k : Kern) (x : F64) (h : sincosBranch (F64.remainder x qd) = Branch.s45) :
    (tandM k x).val = 1 ∨ (tandM k x).val = -1 := by
  rcases tandM_s45 k x h with h1 | h1
  · left; rw [h1]; exact one52_val
  · right; rw [h1]
    show (F64.fin true 4503599627370496 (-52)).val = -1
    rw [F64.val_fin]; norm_num

/-- non-vacuity: 135° takes the 45° branch -/
example : sincosBranch (F64.remainder (F64.fin false 135 0) qd) = Branch.s45 := by decide +kernel

/-- **AngRound below 1/16** (every representable `|x| < 1/16`): the result is finite, keeps the sign bit of `x` (also for `±0`),
its magnitude `a` is a multiple of the documented gap `1/16 − nextafter(1/16, 0) = 2^−57`, lies in `[0, 1/16]`, and is within half a gap
(`2^−58`) of `|x|` — i.e. `AngRound` rounds `|x|` to the nearest multiple of `2^−57`.  Together with `angRound_big` this is the whole
function. -/
theorem angRound_small (s : Bool) (m : ℕ) (e : ℤ) (hx : F64.IsRep (F64.fin s m e)) (h : |(F64.fin s m e).val| < 1 / 16) :
    ∃ a : ℚ, 0 ≤ a ∧ a ≤ 1 / 16 ∧ OnGrid (-57) a ∧ |a - (|(F64.fin s m e).val|)| ≤ (2:ℚ) ^ (-58:ℤ) ∧
      (angRound (F64.fin s m e)).isFinite = true ∧ (angRound (F64.fin s m e)).signbit = s ∧
      (angRound (F64.fin s m e)).val = if s then -a else a := by
  set y := |(F64.fin s m e).val| with hy
  have hy0 : 0 ≤ y := abs_nonneg _
  have hyrep : Rep y := by have := hx.abs.2; rwa [F64.val_abs] at this
  have habsv : (F64.abs (F64.fin s m e)).val = y := F64.val_abs _
  -- `w = 1/16 ⊖ y`: a positive multiple of `2^-57` within `2^-58` of `1/16 − y`
  obtain ⟨wf, wr, _⟩ := F64.sub_rn (F64.fin false 1 (-4)) (F64.abs (F64.fin s m e)) rfl rfl 0 (by norm_num) (by norm_num) (by
    rw [sixteenth_val, habsv, abs_of_nonneg (by linarith), zpow_zero]; linarith)
  rw [sixteenth_val, habsv] at wr
  set w := (F64.fin false 1 (-4)) - F64.abs (F64.fin s m e) with hw
  obtain ⟨hwg, hwerr, hwpos, hwle⟩ := sixteenth_sub_rn hyrep hy0 h wr
  have hgt : F64.gt w 0 = true := (F64.lt_iff rfl wf).mpr (by rwa [F64.val_zero])
  -- `1/16 ⊖ w` is exact: the difference is again a multiple of `2^-57`, at most `1/16`
  obtain ⟨yf, yr, _⟩ := F64.sub_rn (F64.fin false 1 (-4)) w rfl wf 0 (by norm_num) (by norm_num) (by
    rw [sixteenth_val, abs_of_nonneg (by linarith), zpow_zero]; linarith)
  rw [sixteenth_val] at yr
  have hag : OnGrid (-57) ((1:ℚ) / 16 - w.val) := grid57_sixteenth.sub hwg
  have harep : Rep ((1:ℚ) / 16 - w.val) := Rep.of_grid hag (by norm_num) (by
    rw [abs_of_nonneg (by linarith)]; norm_num; linarith)
  have hyv : ((F64.fin false 1 (-4)) - w).val = 1 / 16 - w.val := harep.rn_eq yr
  have hres : angRound (F64.fin s m e) = copysign ((F64.fin false 1 (-4)) - w) (F64.fin s m e) := by
    unfold angRound
    dsimp only
    rw [← hw, hgt]; simp
  refine ⟨1 / 16 - w.val, by linarith, by linarith, hag, ?_, ?_, ?_, ?_⟩
  · rw [show (1:ℚ) / 16 - w.val - y = -(w.val - (1 / 16 - y)) by ring, abs_neg]; exact hwerr
  · rw [hres, F64.isFinite_copysign]; exact yf
  · rw [hres, F64.signbit_copysign _ _ yf]; rfl
  · rw [hres, F64.val_copysign, hyv, abs_of_nonneg (by linarith)]; rfl

/-- non-vacuity: 2^-10 is representable and below 1/16 -/
example : F64.IsRep (F64.fin false 1 (-10)) ∧ |(F64.fin false 1 (-10)).val| < 1 / 16 := by
  refine ⟨GeoVerif.Accum.isRep_of_repB _ (by decide +kernel), ?_⟩
  rw [F64.val_fin]; norm_num

/-- **AngRound is odd**, bit for bit, for every argument (NaN and infinities included) -/
theorem angRound_odd (z : F64) : angRound (F64.neg z) = F64.neg (angRound z) := by
  cases z with
  | nan => rfl
  | inf s => cases s <;> rfl
  | fin s m e =>
    unfold angRound
    dsimp only
    have ha : F64.abs (F64.neg (F64.fin s m e)) = F64.abs (F64.fin s m e) := rfl
    rw [ha]
    generalize (if F64.gt ((F64.fin false 1 (-4)) - F64.abs (F64.fin s m e)) 0 = true
      then (F64.fin false 1 (-4)) - ((F64.fin false 1 (-4)) - F64.abs (F64.fin s m e)) else F64.abs (F64.fin s m e)) = y
    cases y <;> rfl

/-- **AngNormalize is odd** (value and sign bit), for every finite argument: `AngNormalize(−x) = −AngNormalize(x)`, including the
sign rules at `0` and `±180` -/
theorem angNormalize_odd (sx : Bool) (mx : ℕ) (ex : ℤ) :
    (angNormalize (F64.neg (F64.fin sx mx ex))).val = -(angNormalize (F64.fin sx mx ex)).val ∧
    (angNormalize (F64.neg (F64.fin sx mx ex))).signbit = !(angNormalize (F64.fin sx mx ex)).signbit := by
  obtain ⟨_, hrv⟩ := remquo_neg sx false mx 360 ex 0 (by norm_num)
  obtain ⟨f1, _, _, z1⟩ := F64.remainder_spec (!sx) false mx 360 ex 0 (by norm_num)
  obtain ⟨f2, _, _, z2⟩ := F64.remainder_spec sx false mx 360 ex 0 (by norm_num)
  set y' := F64.remainder (F64.fin (!sx) mx ex) (F64.fin false 360 0) with hy'
  set y := F64.remainder (F64.fin sx mx ex) (F64.fin false 360 0) with hy
  have hn : angNormalize (F64.neg (F64.fin sx mx ex)) = if F64.eq (F64.abs y') hd = true then copysign hd (F64.fin (!sx) mx ex) else y' := rfl
  have hp : angNormalize (F64.fin sx mx ex) = if F64.eq (F64.abs y) hd = true then copysign hd (F64.fin sx mx ex) else y := rfl
  have hbr : F64.eq (F64.abs y') hd = F64.eq (F64.abs y) hd := by
    rw [Bool.eq_iff_iff, F64.eq_fin_iff _ _ ((F64.isFinite_abs _).trans f1) rfl,
      F64.eq_fin_iff _ _ ((F64.isFinite_abs _).trans f2) rfl, F64.val_abs, F64.val_abs, hrv, abs_neg]
  rw [hn, hp, hbr]
  by_cases hb : F64.eq (F64.abs y) hd = true
  · simp only [hb, if_true]
    have c1 : copysign hd (F64.fin (!sx) mx ex) = F64.fin (!sx) 180 0 := rfl
    have c2 : copysign hd (F64.fin sx mx ex) = F64.fin sx 180 0 := rfl
    rw [c1, c2]
    refine ⟨?_, rfl⟩
    rw [F64.val_fin, F64.val_fin]; cases sx <;> simp
  · have hb' : F64.eq (F64.abs y) hd = false := by simpa using hb
    simp only [hb', Bool.false_eq_true, if_false]
    refine ⟨hrv, ?_⟩
    by_cases h0 : y.val = 0
    · have h0' : y'.val = 0 := by rw [hrv, h0]; simp
      rw [z1 h0', z2 h0]
    · have h0' : y'.val ≠ 0 := by rw [hrv]; simpa using h0
      rw [F64.signbit_eq y' f1 h0', F64.signbit_eq y f2 h0, hrv]
      rcases lt_or_gt_of_ne h0 with hlt | hgt
      · simp [hlt, not_lt.mpr hlt.le]
      · simp [hgt, not_lt.mpr hgt.le]

end Trig

/-- the real-number reading of the operations used by the octant logic (angles in degrees), field by field the
counterpart of `f64Ops`.  `signbit` and `copysign` read the sign as `· < 0` and so cannot tell `−0` from `+0`: what the
code does on the axes is stated separately, on the binary64 model (`atan2d_axes`). -/
noncomputable def realOps : AngOps ℝ :=
  { abs := fun x => |x|, gt := fun a b => decide (a > b), signbit := fun x => decide (x < 0), neg := fun x => -x,
    add := fun a b => a + b, sub := fun a b => a - b,
    copysign := fun a b => if b < 0 then -|a| else |a|, hd := 180, qd := 90 }

noncomputable def argd (y x : ℝ) : ℝ := Complex.arg ⟨x, y⟩ * 180 / π

theorem arg_of_polar (r θ : ℝ) (hr : 0 < r) (h1 : -π < θ) (h2 : θ ≤ π) :
    Complex.arg ⟨r * cos θ, r * sin θ⟩ = θ := by
  have : (⟨r * cos θ, r * sin θ⟩ : ℂ) = (r : ℂ) * (Complex.cos θ + Complex.sin θ * Complex.I) := by
    apply Complex.ext <;> simp [Complex.cos_ofReal_re, Complex.sin_ofReal_re, Complex.cos_ofReal_im, Complex.sin_ofReal_im]
  rw [this]
  exact Complex.arg_mul_cos_add_sin_mul_I hr ⟨h1, h2⟩

theorem arg_small (x' y' : ℝ) (hx : 0 < x') :
    |Complex.arg ⟨x', y'⟩| < π / 2 := by
  rw [Complex.abs_arg_lt_pi_div_two_iff]; left; exact hx

/-- the argument of the image of a point `(x', y')` of the right half plane under the rotation (`σ = 1`) or reflection
(`σ = −1`) that takes the direction `φ` to `σ φ + c` -/
theorem arg_of_canon {x y x' y' : ℝ} (hx' : 0 < x') (σ c : ℝ) (hσ : σ = 1 ∨ σ = -1)
    (hx : x = x' * cos c - σ * y' * sin c) (hy : y = x' * sin c + σ * y' * cos c)
    (h1 : -π < σ * Complex.arg ⟨x', y'⟩ + c) (h2 : σ * Complex.arg ⟨x', y'⟩ + c ≤ π) :
    Complex.arg ⟨x, y⟩ = σ * Complex.arg ⟨x', y'⟩ + c := by
  have hne : (⟨x', y'⟩ : ℂ) ≠ 0 := fun h0 => hx'.ne' (congrArg Complex.re h0)
  have ex : x' = ‖(⟨x', y'⟩ : ℂ)‖ * cos (Complex.arg ⟨x', y'⟩) := by rw [Complex.cos_arg hne]; field_simp
  have ey : y' = ‖(⟨x', y'⟩ : ℂ)‖ * sin (Complex.arg ⟨x', y'⟩) := by rw [Complex.sin_arg]; field_simp
  set φ := Complex.arg ⟨x', y'⟩
  set r := ‖(⟨x', y'⟩ : ℂ)‖
  have hc : cos (σ * φ + c) = cos φ * cos c - σ * sin φ * sin c := by
    rcases hσ with rfl | rfl
    · rw [one_mul, cos_add]; ring
    · rw [neg_one_mul, cos_add, cos_neg, sin_neg]; ring
  have hs : sin (σ * φ + c) = cos φ * sin c + σ * sin φ * cos c := by
    rcases hσ with rfl | rfl
    · rw [one_mul, sin_add]; ring
    · rw [neg_one_mul, sin_add, cos_neg, sin_neg]; ring
  rw [← arg_of_polar r (σ * φ + c) (norm_pos_iff.mpr hne) h1 h2, hc, hs, hx, hy]
  congr 2
  · rw [ex, ey]; ring
  · rw [ex, ey]; ring

/-- **`atan2d` octant logic** (real-number reading of the executed definition): for every point other than the origin the
canonical problem has `x' > 0`, `|y'| ≤ x'`, and the offset/negation scheme applied to the angle of the canonical
problem returns the angle of `(x, y)` in degrees in `(−180, 180]`. -/
theorem atan2d_octant (x y : ℝ) (h : ¬ (x = 0 ∧ y = 0)) :
    0 < (atan2dCanonG realOps y x).2.1 ∧ |(atan2dCanonG realOps y x).1| ≤ (atan2dCanonG realOps y x).2.1 ∧
    atan2dWrapG realOps y x (argd (atan2dCanonG realOps y x).1 (atan2dCanonG realOps y x).2.1) = argd y x := by
  have hpi := Real.pi_pos
  -- in each case: the canonical problem `(y', x', q)`, its angle `φ ∈ (−π/2, π/2)`, and `arg (x, y)` in terms of `φ`
  by_cases hgt : |y| > |x|
  · by_cases hy : y < 0
    · -- q = 3 : x' = −y, y' = x, a rotation by −π/2
      have hc : atan2dCanonG realOps y x = (x, -y, 3) := by
        simp [atan2dCanonG, realOps, hgt, hy]
      have hx' : 0 < -y := by linarith
      have hφ := abs_lt.mp (arg_small (-y) x hx')
      have harg : Complex.arg ⟨x, y⟩ = 1 * Complex.arg ⟨-y, x⟩ + -(π / 2) :=
        arg_of_canon hx' 1 (-(π / 2)) (Or.inl rfl) (by rw [cos_neg, sin_neg, cos_pi_div_two, sin_pi_div_two]; ring)
          (by rw [cos_neg, sin_neg, cos_pi_div_two, sin_pi_div_two]; ring) (by linarith [hφ.1]) (by linarith [hφ.2])
      unfold atan2dWrapG
      rw [hc]
      refine ⟨hx', ?_, ?_⟩
      · show |x| ≤ -y; rw [abs_of_neg hy] at hgt; linarith
      · show -90 + argd x (-y) = argd y x
        unfold argd; rw [harg]; field_simp; ring
    · -- q = 2 : x' = y, y' = x, the reflection in the diagonal
      have hy0 : 0 < y := by
        rcases lt_trichotomy y 0 with h1 | h1 | h1
        · exact absurd h1 hy
        · rw [h1] at hgt; simp at hgt; exact absurd hgt (not_lt.mpr (abs_nonneg x))
        · exact h1
      have hc : atan2dCanonG realOps y x = (x, y, 2) := by
        simp [atan2dCanonG, realOps, hgt, hy]
      have hφ := abs_lt.mp (arg_small y x hy0)
      have harg : Complex.arg ⟨x, y⟩ = -1 * Complex.arg ⟨y, x⟩ + π / 2 :=
        arg_of_canon hy0 (-1) (π / 2) (Or.inr rfl) (by rw [cos_pi_div_two, sin_pi_div_two]; ring)
          (by rw [cos_pi_div_two, sin_pi_div_two]; ring) (by linarith [hφ.2]) (by linarith [hφ.1])
      unfold atan2dWrapG
      rw [hc]
      refine ⟨hy0, ?_, ?_⟩
      · show |x| ≤ y; rw [abs_of_pos hy0] at hgt; linarith
      · show 90 - argd x y = argd y x
        unfold argd; rw [harg]; field_simp; ring
  · have hle : |y| ≤ |x| := not_lt.mp hgt
    by_cases hx : x < 0
    · -- q = 1 : x' = −x, y' = y, the reflection in the `y` axis; the angle is `±π − φ` with the sign of `y`
      have hc : atan2dCanonG realOps y x = (y, -x, 1) := by
        simp [atan2dCanonG, realOps, hgt, hx]
      have hx' : 0 < -x := by linarith
      have hφ := abs_lt.mp (arg_small (-x) y hx')
      unfold atan2dWrapG
      rw [hc]
      refine ⟨hx', ?_, ?_⟩
      · show |y| ≤ -x; rw [abs_of_neg hx] at hle; exact hle
      · show (if y < 0 then -|(180:ℝ)| else |(180:ℝ)|) - argd y (-x) = argd y x
        rw [abs_of_pos (by norm_num : (0:ℝ) < 180)]
        by_cases hyn : y < 0
        · have hφneg : Complex.arg ⟨-x, y⟩ < 0 := Complex.arg_neg_iff.mpr hyn
          have harg : Complex.arg ⟨x, y⟩ = -1 * Complex.arg ⟨-x, y⟩ + -π :=
            arg_of_canon hx' (-1) (-π) (Or.inr rfl) (by rw [cos_neg, sin_neg, cos_pi, sin_pi]; ring)
              (by rw [cos_neg, sin_neg, cos_pi, sin_pi]; ring) (by linarith) (by linarith [hφ.1])
          rw [if_pos hyn]; unfold argd; rw [harg]; field_simp; ring
        · have hφnn : 0 ≤ Complex.arg ⟨-x, y⟩ := Complex.arg_nonneg_iff.mpr (not_lt.mp hyn)
          have harg : Complex.arg ⟨x, y⟩ = -1 * Complex.arg ⟨-x, y⟩ + π :=
            arg_of_canon hx' (-1) π (Or.inr rfl) (by rw [cos_pi, sin_pi]; ring)
              (by rw [cos_pi, sin_pi]; ring) (by linarith [hφ.2]) (by linarith)
          rw [if_neg hyn]; unfold argd; rw [harg]; field_simp; ring
    · -- q = 0
      have hx0 : 0 < x := by
        rcases lt_trichotomy x 0 with h1 | h1 | h1
        · exact absurd h1 hx
        · exfalso; apply h; refine ⟨h1, ?_⟩; rw [h1] at hle; simpa using hle
        · exact h1
      have hc : atan2dCanonG realOps y x = (y, x, 0) := by
        simp [atan2dCanonG, realOps, hgt, hx]
      unfold atan2dWrapG
      rw [hc]
      exact ⟨hx0, by show |y| ≤ x; rw [abs_of_pos hx0] at hle; exact hle, rfl⟩

/-- non-vacuity: the hypothesis is satisfiable (negative real axis, the `q = 1` case) -/
example : atan2dWrapG realOps 0 (-1) (argd (atan2dCanonG realOps 0 (-1)).1 (atan2dCanonG realOps 0 (-1)).2.1) = argd 0 (-1) :=
  (atan2d_octant (-1) 0 (by norm_num)).2.2

end GeoVerif.Props.C16
