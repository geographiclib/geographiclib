import GeoVerif.Series.GeodSeries
import GeoVerif.Series.GeodTrig
import GeoVerif.Model.Clenshaw
import GeoVerif.Spec.RealInst
import GeoVerif.Proofs.GeodLine
import GeoVerif.Proofs.GeodLineExact
import Mathlib.Tactic.LinearCombination
import Mathlib.Tactic.Positivity
import Mathlib.Tactic.NormNum
import Mathlib.Tactic.Ring
import Mathlib.Tactic.Linarith
import Mathlib.Tactic.FieldSimp
/-!
# C01 — direct geodesic problem

Certificates of the series tables of `Geodesic.cpp`, the Clenshaw theorem for `SinCosSeries`, and theorems about `LineInit` /
`GenPosition` of the series line and of the elliptic-integral line read over `ℝ`: unit vectors, Clairaut, distance for an arc,
longitude unrolling, output ranges.
-/
namespace GeoVerif.Props.C01
open GeoVerif GeoVerif.Series GeoVerif.Series.Geod GeoVerif.Clenshaw Real

/-- the layout consumes the tables exactly, and the order is the one the checks assume -/
theorem table_sizes : cSize = Gen.GeodSeries.C1f.length ∧ cSize = Gen.GeodSeries.C2f.length ∧ cSize = Gen.GeodSeries.C1pf.length ∧
    Gen.GeodSeries.A1m1f.length = N / 2 + 2 ∧ Gen.GeodSeries.A2m1f.length = N / 2 + 2 := by decide +kernel

/-- `(1 − ε)(1 + A1m1(ε)) = Σ_j b_j² ε^{2j}` (mod ε^{N+1}), `b_j = (−1)^j C(½, j)` -/
theorem a1_table : checkA1 = true := by decide +kernel

/-- `C1_l(ε) · Σ_j b_j² ε^{2j} = (1/l) Σ_j b_j b_{j+l} ε^{2j+l}` (mod ε^{N+1}) for l = 1 … N -/
theorem c1_table : ((List.range N).all fun i => checkC1 (i + 1)) = true := by decide +kernel

/-- `(1 + ε)(1 + A2m1(ε)) = (1 − ε²) Σ_j c_j² ε^{2j}` (mod ε^{N+1}), `c_j = (−1)^j C(−½, j)` -/
theorem a2_table : checkA2 = true := by decide +kernel

theorem c2_table : ((List.range N).all fun i => checkC2 (i + 1)) = true := by decide +kernel

/-! The reverted series C1′ (table `C1pf`): trigonometric polynomials in `φ = 2σ` with coefficients in `ℚ[ε]/ε^{N+1}`
(`Series/Trig.lean`: exact product-to-sum multiplication, no truncation of harmonics). -/

/-- the trigonometric-series CAS reproduces textbook identities (Pythagoras, Chebyshev `cos 3φ`, a product-to-sum case,
    the product rule, `sin(φ + ε)` and a first-order Taylor shift) -/
theorem trig_cas_selftest : trigSelfTest = true := by decide +kernel

/-- C1′ reverts C1 (Karney 2013, eq. 20–21).  With `τ = σ + B1(2σ)`, `B1(φ) = Σ_{l=1}^{N} C1_l sin lφ`, and
    `σ = τ + B1′(2τ)`, `B1′(φ) = Σ_{l=1}^{N} C1′_l sin lφ`, the composition is the identity modulo `ε^{N+1}`:
    `B1(φ) + Σ_{k=0}^{N} (2·B1(φ))^k/k! · (d/dφ)^k B1′(φ) = 0` in `(ℚ[ε]/ε^{N+1})[cos φ, sin φ]`
    (the Taylor series of `B1′(φ + 2 B1(φ))`; terms `k > N` vanish because `B1 = O(ε)`).
    The map `f(φ) ↦ f(φ + 2 B1(φ))` is an automorphism of that ring, so this relation determines every `C1′_l`
    modulo `ε^{N+1}` from the `C1_l`, which `c1_table` ties to the integrand of I1: a full certificate of the
    `C1pf` table (all its entries lie below `ε^{N+1}`). -/
theorem c1p_reverts_c1 : checkC1p = true := by decide +kernel

/-! I3 (tables `A3coeff`, `C3coeff`, bivariate in `n`, `ε`): `k2_form` and `i3_integrand_form` justify the form of the integrand that the checkers expand; nothing ties them to the checkers formally. -/

/-- `(1 − ε)²(1 + k² sin²σ) = 1 − 2ε cos 2σ + ε²` for `k² = 4ε/(1 − ε)²`: the `W²` of `w_series` is `(1 − ε)²` times the radicand -/
theorem k2_form (ε σ : ℝ) (hε : 1 - ε ≠ 0) :
    (1 - ε)^2 * (1 + 4 * ε / (1 - ε)^2 * sin σ ^ 2) = 1 - 2 * ε * cos (2 * σ) + ε^2 := by
  rw [cos_two_mul, cos_sq']
  field_simp
  ring

/-- the I3 integrand with `f = 2n/(1 + n)`, `w = √(1 + k² sin²σ)`, `W = (1 − ε) w`, in the form certified by `a3_table` and `a3_c3_relation` -/
theorem i3_integrand_form (n ε w : ℝ) (hn : 1 + n ≠ 0) (hε : 1 - ε ≠ 0) (hd : (1 + n) + (1 - n) * w ≠ 0) :
    (2 - 2 * n / (1 + n)) / (1 + (1 - 2 * n / (1 + n)) * w) =
      2 * (1 - ε) / ((1 + n) * (1 - ε) + (1 - n) * ((1 - ε) * w)) := by
  have h1 : 1 + (1 - 2 * n / (1 + n)) * w = ((1 + n) + (1 - n) * w) / (1 + n) := by field_simp; ring
  have h2 : (1 + n) * (1 - ε) + (1 - n) * ((1 - ε) * w) = (1 - ε) * ((1 + n) + (1 - n) * w) := by ring
  rw [h1, h2]
  field_simp
  ring

example : (1 + (1/10 : ℝ) ≠ 0) ∧ (1 - (1/10 : ℝ) ≠ 0) ∧ ((1 + (1/10 : ℝ)) + (1 - 1/10) * 1 ≠ 0) := by norm_num

/-- the layouts of `A3coeff`/`A3f` and `C3coeff`/`C3f` consume the tables exactly -/
theorem table_sizes3 : a3Size = Gen.GeodSeries.A3coeff.length ∧ c3Size = Gen.GeodSeries.C3coeff.length := by decide +kernel

/-- the four certificates of I3 (`w_series`, `a3_table`, `c3_table`, `a3_c3_relation`), decided in one evaluation: all of them refer to the
    series of `W` and three of them to the expansion of the integrand (`i3Denominator`, `i3Expansion`), which the kernel then computes once -/
theorem i3_certificates : (checkW (N + 1) && checkA3 && checkC3 && checkA3C3) = true := by decide +kernel

theorem i3_certificates_each : checkW (N + 1) = true ∧ checkA3 = true ∧ checkC3 = true ∧ checkA3C3 = true := by
  have h := i3_certificates
  simp only [Bool.and_eq_true] at h
  exact ⟨h.1.1.1, h.1.1.2, h.1.2, h.2⟩

/-- `W = (1 − ε)√(1 + k² sin²σ)`, `k² = 4ε/(1 − ε)²`, has the cosine series used below: `W² = 1 − 2ε cos 2σ + ε²`
    (mod `ε^{N+1}`) and `W = 1 + O(ε)` — this is a statement about binomial coefficients only (no table) -/
theorem w_series : checkW (N + 1) = true := i3_certificates_each.1

/-- A3 (Karney 2013, eq. 8, 23–24; `computeI3` of `maxima/geod.mac`).  With `f = 2n/(1 + n)` the integrand of I3 is
    `(2 − f)/(1 + (1 − f)√(1 + k² sin²σ)) = 2(1 − ε)/D`, `D = (1 + n)(1 − ε) + (1 − n) W` (`i3_integrand_form`, `k2_form`).
    It is expanded directly: `D = 2(1 + u)`, `u = O(n, ε)`, `2(1 − ε)/D = (1 − ε) Σ_{k<N} (−u)^k` as a trigonometric polynomial
    in `2σ` with coefficients in `ℚ[n, ε]` modulo total degree `N` — the truncation `jtaylor(·, n, eps, N−1)` of the generator.
    Certified: the polynomial `A3(n, ε)` of `A3coeff`/`A3f` **is** the mean value (constant Fourier coefficient) of that
    expansion.  Full certificate of the table (all its entries have total degree `≤ N − 1`). -/
theorem a3_table : checkA3 = true := i3_certificates_each.2.1

/-- C3 (Karney 2013, eq. 25).  `dI3/dσ = A3·(1 + Σ_{l=1}^{N−1} 2l·C3_l cos 2lσ)`.  Certified: for every `l = 1 … N−1`,
    `2l·A3·C3_l` (tables `A3coeff`, `C3coeff`, layout of `C3f`) equals the coefficient of `cos 2lσ` of the expansion of
    `a3_table`, modulo total degree `N`, and the expansion has no further harmonics.  Since `A3 = 1 + …` is a unit and is
    itself certified, this determines every `C3_l` modulo total degree `N`: full certificate of the table. -/
theorem c3_table : checkC3 = true := i3_certificates_each.2.2.1

/-- second, independent route to the same two tables (no series division): multiplying out the denominator,
    `A3·(1 + Σ_l 2l C3_l cos 2lσ) · ((1 + n)(1 − ε) + (1 − n) W) = 2(1 − ε)` modulo total degree `N`.
    The second factor has constant term 2, hence is a unit, so this relation alone also determines both tables. -/
theorem a3_c3_relation : checkA3C3 = true := i3_certificates_each.2.2.2

noncomputable def dsumSin (x : ℝ) : ℕ → List ℝ → ℝ
  | _, [] => 0
  | k, c :: cs => c * sin (2 * (k:ℝ) * x) + dsumSin x (k+1) cs

noncomputable def dsumCos (x : ℝ) : ℕ → List ℝ → ℝ
  | _, [] => 0
  | k, c :: cs => c * cos ((2 * (k:ℝ) + 1) * x) + dsumCos x (k+1) cs

theorem sin_rec (x : ℝ) (k : ℕ) :
    sin (2 * ((k+1:ℕ):ℝ) * x) = 2 * cos (2*x) * sin (2 * (k:ℝ) * x) - sin (2 * ((k:ℝ) - 1) * x) := by
  have h1 : 2 * ((k+1:ℕ):ℝ) * x = 2 * (k:ℝ) * x + 2 * x := by push_cast; ring
  have h2 : 2 * ((k:ℝ) - 1) * x = 2 * (k:ℝ) * x - 2 * x := by ring
  rw [h1, h2, sin_add, sin_sub]
  ring

theorem cos_rec (x : ℝ) (k : ℕ) :
    cos ((2 * ((k+1:ℕ):ℝ) + 1) * x) = 2 * cos (2*x) * cos ((2 * (k:ℝ) + 1) * x) - cos ((2 * (k:ℝ) - 1) * x) := by
  have h1 : (2 * ((k+1:ℕ):ℝ) + 1) * x = (2 * (k:ℝ) + 1) * x + 2 * x := by push_cast; ring
  have h2 : (2 * (k:ℝ) - 1) * x = (2 * (k:ℝ) + 1) * x - 2 * x := by ring
  rw [h1, h2, cos_add, cos_sub]
  ring

theorem clen_cons (ar : ℝ) (c : ℝ) (cs : List ℝ) : clen ar (c :: cs) = (ar * (clen ar cs).1 - (clen ar cs).2 + c, (clen ar cs).1) := rfl

theorem clenshaw_sin (x : ℝ) (cs : List ℝ) (k : ℕ) :
    dsumSin x k cs = (clen (2 * cos (2*x)) cs).1 * sin (2 * (k:ℝ) * x)
                 - (clen (2 * cos (2*x)) cs).2 * sin (2 * ((k:ℝ) - 1) * x) := by
  induction cs generalizing k with
  | nil => simp [dsumSin, clen, ofNat_real]
  | cons c cs ih =>
    rw [clen_cons]
    simp only [dsumSin]
    rw [ih (k+1), sin_rec x k]
    have : 2 * (((k+1:ℕ):ℝ) - 1) * x = 2 * (k:ℝ) * x := by push_cast; ring
    rw [this]; ring

theorem clenshaw_cos (x : ℝ) (cs : List ℝ) (k : ℕ) :
    dsumCos x k cs = (clen (2 * cos (2*x)) cs).1 * cos ((2 * (k:ℝ) + 1) * x)
                 - (clen (2 * cos (2*x)) cs).2 * cos ((2 * (k:ℝ) - 1) * x) := by
  induction cs generalizing k with
  | nil => simp [dsumCos, clen, ofNat_real]
  | cons c cs ih =>
    rw [clen_cons]
    simp only [dsumCos]
    rw [ih (k+1), cos_rec x k]
    have : (2 * ((k+1:ℕ):ℝ) - 1) * x = (2 * (k:ℝ) + 1) * x := by push_cast; ring
    rw [this]; ring

theorem sinCosSeries_ar (x : ℝ) : 2 * (cos x - sin x) * (cos x + sin x) = 2 * cos (2*x) := by
  rw [cos_two_mul, ← sin_sq_add_cos_sq x]; ring

/-- `SinCosSeries(true, sin x, cos x, c, n) = Σ_{i=1}^{n} c[i] sin(2 i x)` for every coefficient vector and every `x` -/
theorem sinCosSeries_sin (x : ℝ) (cs : List ℝ) :
    sinCosSeries true (sin x) (cos x) cs = dsumSin x 1 cs := by
  unfold sinCosSeries
  simp only [lit_real, if_true]
  push_cast
  rw [sinCosSeries_ar, clenshaw_sin x cs 1]
  have : sin (2 * (((1:ℕ):ℝ) - 1) * x) = 0 := by simp
  rw [this]
  simp [sin_two_mul]
  ring

/-- `SinCosSeries(false, sin x, cos x, c, n) = Σ_{i=0}^{n-1} c[i] cos((2i+1) x)` -/
theorem sinCosSeries_cos (x : ℝ) (cs : List ℝ) :
    sinCosSeries false (sin x) (cos x) cs = dsumCos x 0 cs := by
  unfold sinCosSeries
  simp only [lit_real]
  push_cast
  rw [sinCosSeries_ar, clenshaw_cos x cs 0]
  have h1 : cos ((2 * ((0:ℕ):ℝ) + 1) * x) = cos x := by simp
  have h2 : cos ((2 * ((0:ℕ):ℝ) - 1) * x) = cos x := by
    have : (2 * ((0:ℕ):ℝ) - 1) * x = -x := by push_cast; ring
    rw [this, cos_neg]
  rw [h1, h2]
  ring

/-! The series solver, `Model/GeodLine.lean` read over `ℝ`.  The same definitions are executed in binary64 by the driver against `Geodesic`, `GeodesicLine::LineInit` and
`GeodesicLine::GenPosition` (ops `geodconst`, `lineinit`, `genpos` of `Corr/C01.lean`). -/

section Solver
open GeoVerif.GeodLengths GeoVerif.GeodLine GeoVerif.Proofs.GeodLine

/-- the Horner evaluation of `A1m1f` is the truncated series certified by `a1_table` (which proves `onePlusT A1m1f` to be
    `Σ_j b_j² ε^{2j}` modulo `ε^{N+1}`).  The statement is generic in the table; the proof evaluates the order-6 table. -/
theorem a1m1f_is_table (ε : ℝ) (h : 1 - ε ≠ 0) :
    (1 - ε) * (1 + a1m1f ε) = evalQ (onePlusT Gen.GeodSeries.A1m1f) ε := by
  have hT : onePlusT Gen.GeodSeries.A1m1f = [1, 0, 1/4, 0, 1/64, 0, 1/256] := by decide +kernel
  rw [hT]
  unfold a1m1f
  simp only [lit_real, tA1, Gen.GeodSeries.A1m1f, nN, Gen.GeodSeries.order, List.map, ofRat_real, polyval, evalQ, sq_real]
  norm_num [List.take, List.getD, ofNat_real]
  field_simp
  ring

/-- likewise for `a2_table` -/
theorem a2m1f_is_table (ε : ℝ) (h : 1 + ε ≠ 0) :
    (1 + ε) * (1 + a2m1f ε) = evalQ (onePlusT Gen.GeodSeries.A2m1f) ε := by
  have hT : onePlusT Gen.GeodSeries.A2m1f = [1, 0, -3/4, 0, -7/64, 0, -11/256] := by decide +kernel
  rw [hT]
  unfold a2m1f
  simp only [lit_real, tA2, Gen.GeodSeries.A2m1f, nN, Gen.GeodSeries.order, List.map, ofRat_real, polyval, evalQ, sq_real]
  norm_num [List.take, List.getD, ofNat_real]
  field_simp
  ring

example : (1 : ℝ) - 1 / 100 ≠ 0 ∧ (1 : ℝ) + 1 / 100 ≠ 0 := by norm_num

/-- `LineInit` leaves `(ssig1, csig1)` on the unit circle — for every input, because `cbet1 ≥ tiny > 0` -/
theorem lineinit_sig1_norm (g : Geod ℝ) (lon1 sbet1r cbet1r salp1 calp1 : ℝ) (ht : 0 < g.tiny) :
    let L := (lineInit g lon1 sbet1r cbet1r salp1 calp1).1
    L.ssig1 ^ 2 + L.csig1 ^ 2 = 1 :=
  sig1_unit g.tiny (sbet1r * g.f1) cbet1r calp1 ht

example : (0 : ℝ) < (geodesic (6378137 : ℝ) (1 / 298) (1 / 10 ^ 154) (1 / 2 ^ 52)).tiny := by
  show (0 : ℝ) < 1 / 10 ^ 154
  positivity

/-- `salp0² + calp0² = 1` when the start is not a pole (`hp`: `tiny ≤` the normalised `cos β1`) -/
theorem lineinit_alp0_norm (g : Geod ℝ) (lon1 sbet1r cbet1r salp1 calp1 : ℝ)
    (hb : sbet1r * g.f1 ≠ 0 ∨ cbet1r ≠ 0) (ha : salp1 ^ 2 + calp1 ^ 2 = 1)
    (hp : g.tiny ≤ (norm2 (sbet1r * g.f1) cbet1r).2) :
    let L := (lineInit g lon1 sbet1r cbet1r salp1 calp1).1
    L.salp0 ^ 2 + L.calp0 ^ 2 = 1 :=
  alp0_unit g.tiny (sbet1r * g.f1) cbet1r salp1 calp1 hb ha hp

/-- non-vacuity: a start on the equator heading north-east on the unit sphere -/
example : ((0 : ℝ) * 1 ≠ 0 ∨ (1 : ℝ) ≠ 0) ∧ ((3 / 5 : ℝ) ^ 2 + (4 / 5) ^ 2 = 1) ∧ ((1 / 1000 : ℝ) ≤ (norm2 ((0 : ℝ) * 1) 1).2) := by
  refine ⟨Or.inr one_ne_zero, by norm_num, ?_⟩
  simp [norm2, hypot_real]
  norm_num

/-- `sig2 = sig1 + sig12` stays on the unit circle -/
theorem genpos_sig2_norm (L : Line ℝ) (arcmode : Bool) (s sk ck : ℝ) (un : Bool)
    (h1 : L.ssig1 ^ 2 + L.csig1 ^ 2 = 1) (hk : arcmode = true → sk ^ 2 + ck ^ 2 = 1)
    (hnd : NonDegenerate L arcmode s sk ck) :
    let P := genPosition L arcmode s sk ck un
    P.ssig2 ^ 2 + P.csig2 ^ 2 = 1 := by
  intro P
  obtain ⟨e1, e2, _⟩ := genpos_nd L arcmode s sk ck un hnd
  rw [e1, e2]
  exact sig2_unit h1 (arcOf_unit L arcmode s sk ck hk)

/-- Clairaut's relation at the returned point: with `sin α2 = salp2 / hypot(salp2, calp2)` (the normalisation
    `atan2d` performs implicitly), `sin α2 · cos β2 = sin α0 = sin α1 · cos β1` -/
theorem clairaut (L : Line ℝ) (arcmode : Bool) (s sk ck : ℝ) (un : Bool) (hnd : NonDegenerate L arcmode s sk ck) :
    let P := genPosition L arcmode s sk ck un
    P.salp2 / RealLike.hypot P.salp2 P.calp2 * P.cbet2 = L.salp0 := by
  intro P
  obtain ⟨_, _, h3, h4, h5, _⟩ := genpos_nd L arcmode s sk ck un hnd
  rw [h4, h5, h3]
  exact div_mul_cancel₀ _ hnd

/-- the returned `(sbet2, cbet2)` is a unit vector (so `lat2 = atan2d(sbet2, f1·cbet2)` is the geographic latitude of
    reduced latitude `β2`), given unit `(salp0, calp0)`, `(ssig1, csig1)` and arc -/
theorem genpos_bet2_norm (L : Line ℝ) (arcmode : Bool) (s sk ck : ℝ) (un : Bool) (hnd : NonDegenerate L arcmode s sk ck)
    (h0 : L.salp0 ^ 2 + L.calp0 ^ 2 = 1) (h1 : L.ssig1 ^ 2 + L.csig1 ^ 2 = 1) (hk : arcmode = true → sk ^ 2 + ck ^ 2 = 1) :
    let P := genPosition L arcmode s sk ck un
    P.sbet2 ^ 2 + P.cbet2 ^ 2 = 1 := by
  intro P
  obtain ⟨_, _, h3, _, _, h6⟩ := genpos_nd L arcmode s sk ck un hnd
  rw [h6, h3]
  exact bet2_unit h0 (sig2_unit h1 (arcOf_unit L arcmode s sk ck hk))

/-- non-vacuity: the equator of the unit sphere -/
example : NonDegenerate exLine true 90 1 0 ∧ exLine.salp0 ^ 2 + exLine.calp0 ^ 2 = 1 ∧ exLine.ssig1 ^ 2 + exLine.csig1 ^ 2 = 1 :=
  ⟨exLine_nd _ _ _ _, by simp [exLine], by simp [exLine]⟩

/-- distance for a given arc (Karney 2013 eq. 7, 15): in arc mode, with `σ12 = a12·degree`, `(ssig1, csig1) = (sin σ1, cos σ1)`,
    `B11 = Σ C1_l sin 2lσ1` (as `LineInit` computes it) and the kernel `sincosd(a12) = (sin σ12, cos σ12)`,
    `s12 = b·(I1(σ1 + σ12) − I1(σ1))`, `I1(σ) = (1 + A1m1)(σ + Σ_l C1_l sin 2lσ)`.  No hypothesis on the coefficients. -/
theorem genpos_arc_s12 (L : Line ℝ) (a12 σ1 : ℝ) (un : Bool)
    (h1 : L.ssig1 = sin σ1 ∧ L.csig1 = cos σ1) (hB : L.B11 = dsumSin σ1 1 L.C1a) :
    let σ12 := a12 * (degree : ℝ)
    (genPosition L true a12 (sin σ12) (cos σ12) un).s12 =
      L.b * ((1 + L.A1m1) * ((σ1 + σ12) + dsumSin (σ1 + σ12) 1 L.C1a) - (1 + L.A1m1) * (σ1 + dsumSin σ1 1 L.C1a)) := by
  intro σ12
  have hs : L.ssig1 * cos σ12 + L.csig1 * sin σ12 = sin (σ1 + σ12) := by rw [h1.1, h1.2, sin_add]
  have hc : L.csig1 * cos σ12 - L.ssig1 * sin σ12 = cos (σ1 + σ12) := by rw [h1.1, h1.2, cos_add]
  show L.b * ((_ + L.A1m1) * σ12 + (_ + L.A1m1) *
      (sinCosSeries true (L.ssig1 * cos σ12 + L.csig1 * sin σ12) (L.csig1 * cos σ12 - L.ssig1 * sin σ12) L.C1a - L.B11)) = _
  simp only [lit_real, Nat.cast_one]
  rw [hs, hc, sinCosSeries_sin, hB]
  ring

/-- in arc mode `GenPosition` reads `a12` only through `σ12 = a12·degree`, and that linearly: with the same `sincosd` values, `a12 + d`
    moves the distance by `b·A1·d·degree` and the longitude difference by `(E + A3c)·d` with `LONG_UNROLL`, `A3c·d` without, while
    `lat2`, `azi2` and `σ2` stay (`m12`, `M12`, `M21`, `S12` also read `σ12` and are not covered) -/
theorem genpos_arc_shift (L : Line ℝ) (a12 d sk ck : ℝ) (un : Bool) :
    let P := genPosition L true a12 sk ck un
    let Q := genPosition L true (a12 + d) sk ck un
    Q.lat2 = P.lat2 ∧ Q.azi2 = P.azi2 ∧ Q.ssig2 = P.ssig2 ∧ Q.csig2 = P.csig2 ∧
    Q.s12 - P.s12 = L.b * (1 + L.A1m1) * (d * (degree : ℝ)) ∧
    Q.lon12 - P.lon12 = ((if un = true then copysign 1 L.salp0 else 0) + L.A3c) * d := by
  intro P Q
  have hd := degree_ne
  have hσ : Q.sig12 = P.sig12 + d * degree := by show (a12 + d) * degree = a12 * degree + d * degree; ring
  refine ⟨rfl, rfl, rfl, rfl, ?_, ?_⟩
  · rw [(genPosition_arc (P := Q) rfl).2.2.2, (genPosition_arc (P := P) rfl).2.2.2, show Q.B12 = P.B12 from rfl, hσ]
    ring
  · rw [(genPosition_lon12 (P := Q) rfl).1, (genPosition_lon12 (P := P) rfl).1, genPosition_omg12 (P := Q) rfl, genPosition_omg12 (P := P) rfl,
      show Q.ssig2 = P.ssig2 from rfl, show Q.csig2 = P.csig2 from rfl, hσ]
    rw [← sub_div, div_eq_iff hd]
    cases un
    · simp only [Bool.false_eq_true, if_false]; ring
    · simp only [if_true]; ring

/-- one more circuit on the auxiliary sphere: the distance grows by `2π·b·A1` -/
theorem genpos_arc_circuit (L : Line ℝ) (a12 sk ck : ℝ) (un : Bool) :
    let P := genPosition L true a12 sk ck un
    let Q := genPosition L true (a12 + 360) sk ck un
    Q.lat2 = P.lat2 ∧ Q.azi2 = P.azi2 ∧ Q.ssig2 = P.ssig2 ∧ Q.csig2 = P.csig2 ∧
    Q.s12 - P.s12 = L.b * (1 + L.A1m1) * (360 * (degree : ℝ)) := by
  intro P Q
  obtain ⟨h1, h2, h3, h4, h5, _⟩ := genpos_arc_shift L a12 360 sk ck un
  exact ⟨h1, h2, h3, h4, h5⟩

/-- non-vacuity of `genpos_arc_s12`: `σ1 = 0` -/
example : (exLine.ssig1 = sin 0 ∧ exLine.csig1 = cos 0) ∧ exLine.B11 = dsumSin 0 1 exLine.C1a := by
  refine ⟨⟨by simp [exLine], by simp [exLine]⟩, ?_⟩
  have := sinCosSeries_sin 0 (c1f (0 : ℝ))
  simp only [sin_zero, cos_zero] at this
  exact this

end Solver

section SeriesUnroll
open GeoVerif.GeodLengths GeoVerif.GeodLine GeoVerif.Proofs.GeodLine GeoVerif.Proofs.GeodLineX

/-- the start longitude enters the result only as the term that is added at the end: for a line whose `lon1` is replaced by
    any `x` (reduced to `[−180, 180]` or not), the unrolled `lon2 − lon1` and every other output of `GenPosition` are the same.
    So `LONG_UNROLL` returns `lon1 + (unrolled λ12)` with the un-normalised `lon1` the line was given. -/
theorem genpos_lon1_translation (L : Line ℝ) (x : ℝ) (arcmode : Bool) (s sk ck : ℝ) (un : Bool) :
    let P := genPosition L arcmode s sk ck un
    let Q := genPosition { L with lon1 := x } arcmode s sk ck un
    Q.lon2u = x + P.lon12 ∧ P.lon2u = L.lon1 + P.lon12 ∧ Q.lon12 = P.lon12 ∧ Q.lat2 = P.lat2 ∧ Q.azi2 = P.azi2 ∧ Q.s12 = P.s12 ∧ Q.a12 = P.a12 ∧
    Q.m12 = P.m12 ∧ Q.M12 = P.M12 ∧ Q.M21 = P.M21 ∧ Q.S12 = P.S12 := by
  intro P Q
  -- unfolded, the two records read the same fields of `L` except in `lon2u`
  simp only [P, Q, genPosition, arcOf, and_self]

/-- each circuit of the auxiliary sphere adds the same longitude: in arc mode `a12 + 360` (same `sincosd` values) moves the
    unrolled `lon2` by exactly `360·(E + A3c)` degrees, `E = ±1` the sense (sign of `sin α0`) — a whole turn in the sense of the
    line, less the ellipsoidal correction `−f sin α0 A3` per turn — while the reduced longitude difference (no `LONG_UNROLL`)
    sees only the correction.  Together with `genpos_zero_arc` this is what "`lon2 − lon1` counts the number and sense of circuits" means
    for the formula as coded. -/
theorem genpos_arc_circuit_lon (L : Line ℝ) (a12 sk ck : ℝ) :
    let P := genPosition L true a12 sk ck true
    let Q := genPosition L true (a12 + 360) sk ck true
    let p := genPosition L true a12 sk ck false
    let q := genPosition L true (a12 + 360) sk ck false
    Q.lon2u - P.lon2u = 360 * (copysign 1 L.salp0 + L.A3c) ∧ q.lon12 - p.lon12 = 360 * L.A3c := by
  intro P Q p q
  have hu := (genpos_arc_shift L a12 360 sk ck true).2.2.2.2.2
  have hr := (genpos_arc_shift L a12 360 sk ck false).2.2.2.2.2
  simp only [if_true, Bool.false_eq_true, if_false, zero_add] at hu hr
  constructor
  · show (L.lon1 + Q.lon12) - (L.lon1 + P.lon12) = _
    linear_combination hu
  · linear_combination hr

/-- a zero-length arc does not move: with `(sk, ck) = (0, 1)`, on a line whose `B31` is the `C3` series at `σ1` and whose
    `(somg1, comg1)` is a positive multiple of `(sin α0 sin σ1, cos σ1)` (as `LineInit` leaves them: the common factor is the norm of
    `(sbet1, cbet1 calp1)`), away from the degenerate end point: the unrolled longitude is `lon1` -/
theorem genpos_zero_arc (L : Line ℝ) (hB : L.B31 = sinCosSeries true L.ssig1 L.csig1 L.C3a)
    (hω : ∃ r : ℝ, 0 < r ∧ L.somg1 = r * (L.salp0 * L.ssig1) ∧ L.comg1 = r * L.csig1)
    (hnd : RealLike.hypot L.salp0 (L.calp0 * L.csig1) ≠ 0) :
    (genPosition L true 0 0 1 true).lon2u = L.lon1 ∧ (genPosition L true 0 0 1 true).lon12 = 0 := by
  obtain ⟨r, hr, ho, hc⟩ := hω
  have hat : RealLike.atan2 (copysign 1 L.salp0 * L.somg1) L.comg1 = RealLike.atan2 (copysign 1 L.salp0 * (L.salp0 * L.ssig1)) L.csig1 :=
    atan2_pos_mul hr (by rw [ho]; ring) hc
  have key : (genPosition L true 0 0 1 true).lon12 = 0 := by
    simp only [genPosition, arcOf_arc, if_true, lit_real, Nat.cast_one, Nat.cast_zero, eqb_real, decide_eq_true_eq, mul_one, mul_zero,
      add_zero, sub_zero, zero_mul, hnd, if_false, hB, sub_self, zero_add, zero_div, hat]
  have h2 : (genPosition L true 0 0 1 true).lon2u = L.lon1 + (genPosition L true 0 0 1 true).lon12 := rfl
  exact ⟨by rw [h2, key, add_zero], key⟩

example : exLine.B31 = sinCosSeries true exLine.ssig1 exLine.csig1 exLine.C3a ∧
    (∃ r : ℝ, 0 < r ∧ exLine.somg1 = r * (exLine.salp0 * exLine.ssig1) ∧ exLine.comg1 = r * exLine.csig1) ∧
    RealLike.hypot exLine.salp0 (exLine.calp0 * exLine.csig1) ≠ 0 := by
  refine ⟨?_, ⟨1, one_pos, by simp [exLine], by simp [exLine]⟩, by simp [exLine, hypot_real]⟩
  simp [exLine, sinCosSeries, clen, ofNat_real]

/-- the unrolled longitude is the continuous branch (series line): with `LONG_UNROLL` the spherical longitude difference `ω12` as coded
    differs from `E·σ12` by less than half a turn for every σ12, of any number of circuits — the two wrapped differences cancel each other's jumps:
    `ω12 = E (σ12 + δ(σ2) − δ(σ1))`, `|δ| < π/2` (`atan2_scale_bound`).  Since `ω12 = 0` at `σ12 = 0` (`genpos_zero_arc`) and each circuit adds
    exactly one turn (`genpos_arc_circuit_lon`), `lon2 − lon1` counts the true number and sense (`E = sign sin α0`) of circuits.
    `hω`: `(somg1, comg1)` as `LineInit` leaves them. -/
theorem genpos_unroll_within_half_turn (L : Line ℝ) (arcmode : Bool) (s sk ck : ℝ)
    (h1 : L.ssig1 ^ 2 + L.csig1 ^ 2 = 1) (hk : arcmode = true → sk ^ 2 + ck ^ 2 = 1)
    (hnd : NonDegenerate L arcmode s sk ck) (hs0 : L.salp0 ≠ 0)
    (hω : ∃ r : ℝ, 0 < r ∧ L.somg1 = r * (L.salp0 * L.ssig1) ∧ L.comg1 = r * L.csig1) :
    let P := genPosition L arcmode s sk ck true
    |P.omg12 - copysign 1 L.salp0 * P.sig12| < Real.pi := by
  intro P
  have hu2 : P.ssig2 ^ 2 + P.csig2 ^ 2 = 1 := genpos_sig2_norm L arcmode s sk ck true h1 hk hnd
  obtain ⟨r, hr, ho, hc⟩ := hω
  set E : ℝ := copysign 1 L.salp0 with hE
  have hcpos : 0 < E * L.salp0 := copysign_mul_self_pos _ hs0
  have hom : P.omg12 = E * (P.sig12 - (RealLike.atan2 P.ssig2 P.csig2 - RealLike.atan2 L.ssig1 L.csig1)
      + (RealLike.atan2 (E * (L.salp0 * P.ssig2)) P.csig2 - RealLike.atan2 (E * L.somg1) L.comg1)) := by
    simp only [P, genPosition, if_true, lit_real, Nat.cast_one, hE]
  rw [hom, atan2_pos_mul hr (show E * L.somg1 = r * (E * L.salp0 * L.ssig1) by rw [ho]; ring) hc, ← mul_assoc]
  exact unroll_within_half_turn (copysign_abs_one _) hcpos hcpos h1 hu2

/-- non-vacuity: the equator of the unit sphere -/
example : exLine.ssig1 ^ 2 + exLine.csig1 ^ 2 = 1 ∧ NonDegenerate exLine true 90 1 0 ∧ exLine.salp0 ≠ 0 ∧
    (∃ r : ℝ, 0 < r ∧ exLine.somg1 = r * (exLine.salp0 * exLine.ssig1) ∧ exLine.comg1 = r * exLine.csig1) :=
  ⟨by simp [exLine], exLine_nd _ _ _ _, by simp [exLine], 1, one_pos, by simp [exLine], by simp [exLine]⟩

end SeriesUnroll

/-! The elliptic-integral line (`Model/GeodLineExact.lean`).  The same definitions are executed (running-error arithmetic) by the driver against `GeodesicExact`,
`GeodesicLineExact::LineInit` and `GeodesicLineExact::GenPosition` (ops `xgeodconst`, `xlineinit`, `xgenpos`), with the kernels
filled by the values of the implementation's `EllipticFunction`.  Here the kernels `K : Ell ℝ` are arbitrary. -/

section ExactLine
open GeoVerif.GeodLine GeoVerif.GeodLineX GeoVerif.Proofs.GeodLine GeoVerif.Proofs.GeodLineX

/-- as `lineinit_sig1_norm`, for every elliptic kernel -/
theorem xlineinit_sig1_norm (g : GeodX ℝ) (K : Ell ℝ) (lon1 sbet1r cbet1r salp1 calp1 : ℝ) (ht : 0 < g.tiny) :
    let L := (lineInitX g K lon1 sbet1r cbet1r salp1 calp1).1
    L.ssig1 ^ 2 + L.csig1 ^ 2 = 1 :=
  sig1_unit g.tiny (sbet1r * g.f1) cbet1r calp1 ht

example : (0 : ℝ) < (geodesicX (6378137 : ℝ) (1 / 298) (1 / 10 ^ 154) (1 / 2 ^ 52)).tiny := by
  show (0 : ℝ) < 1 / 10 ^ 154
  positivity

/-- as `lineinit_alp0_norm` -/
theorem xlineinit_alp0_norm (g : GeodX ℝ) (K : Ell ℝ) (lon1 sbet1r cbet1r salp1 calp1 : ℝ)
    (hb : sbet1r * g.f1 ≠ 0 ∨ cbet1r ≠ 0) (ha : salp1 ^ 2 + calp1 ^ 2 = 1)
    (hp : g.tiny ≤ (norm2 (sbet1r * g.f1) cbet1r).2) :
    let L := (lineInitX g K lon1 sbet1r cbet1r salp1 calp1).1
    L.salp0 ^ 2 + L.calp0 ^ 2 = 1 :=
  alp0_unit g.tiny (sbet1r * g.f1) cbet1r salp1 calp1 hb ha hp

example : ((0 : ℝ) * 1 ≠ 0 ∨ (1 : ℝ) ≠ 0) ∧ ((3 / 5 : ℝ) ^ 2 + (4 / 5) ^ 2 = 1) ∧ ((1 / 1000 : ℝ) ≤ (norm2 ((0 : ℝ) * 1) 1).2) := by
  refine ⟨Or.inr one_ne_zero, by norm_num, ?_⟩
  simp [norm2, hypot_real]
  norm_num

/-- the scaled distance of the start point as `LineInit` stores it: `(stau1, ctau1) = (sin(σ1 + E1), cos(σ1 + E1))`, `E1 = deltaE(σ1)` -/
theorem xlineinit_tau1 (g : GeodX ℝ) (K : Ell ℝ) (lon1 sbet1r cbet1r salp1 calp1 σ1 : ℝ) :
    let L := (lineInitX g K lon1 sbet1r cbet1r salp1 calp1).1
    L.ssig1 = sin σ1 → L.csig1 = cos σ1 → L.stau1 = sin (σ1 + L.E1) ∧ L.ctau1 = cos (σ1 + L.E1) := by
  intro L hs hc
  constructor
  · show L.ssig1 * RealLike.cos L.E1 + L.csig1 * RealLike.sin L.E1 = _
    rw [hs, hc, sin_add]; rfl
  · show L.csig1 * RealLike.cos L.E1 - L.ssig1 * RealLike.sin L.E1 = _
    rw [hs, hc, cos_add]; rfl

/-- as `genpos_sig2_norm` -/
theorem xgenpos_sig2_norm (L : LineX ℝ) (K : Ell ℝ) (arcmode : Bool) (s sk ck : ℝ) (un : Bool)
    (h1 : L.ssig1 ^ 2 + L.csig1 ^ 2 = 1) (hk : arcmode = true → sk ^ 2 + ck ^ 2 = 1)
    (hnd : NonDegenerateX L K arcmode s sk ck) :
    let P := genPositionX L K arcmode s sk ck un
    P.ssig2 ^ 2 + P.csig2 ^ 2 = 1 := by
  intro P
  obtain ⟨e1, e2, _⟩ := genposX_nd L K arcmode s sk ck un hnd
  rw [e1, e2]
  exact sig2_unit h1 (arcOfX_unit L K arcmode s sk ck hk)

/-- Clairaut's relation at the returned point of the exact line -/
theorem xclairaut (L : LineX ℝ) (K : Ell ℝ) (arcmode : Bool) (s sk ck : ℝ) (un : Bool) (hnd : NonDegenerateX L K arcmode s sk ck) :
    let P := genPositionX L K arcmode s sk ck un
    P.salp2 / RealLike.hypot P.salp2 P.calp2 * P.cbet2 = L.salp0 := by
  intro P
  obtain ⟨_, _, h3, h4, h5, _⟩ := genposX_nd L K arcmode s sk ck un hnd
  rw [h4, h5, h3]
  exact div_mul_cancel₀ _ hnd

/-- as `genpos_bet2_norm` -/
theorem xgenpos_bet2_norm (L : LineX ℝ) (K : Ell ℝ) (arcmode : Bool) (s sk ck : ℝ) (un : Bool) (hnd : NonDegenerateX L K arcmode s sk ck)
    (h0 : L.salp0 ^ 2 + L.calp0 ^ 2 = 1) (h1 : L.ssig1 ^ 2 + L.csig1 ^ 2 = 1) (hk : arcmode = true → sk ^ 2 + ck ^ 2 = 1) :
    let P := genPositionX L K arcmode s sk ck un
    P.sbet2 ^ 2 + P.cbet2 ^ 2 = 1 := by
  intro P
  obtain ⟨_, _, h3, _, _, h6⟩ := genposX_nd L K arcmode s sk ck un hnd
  rw [h6, h3]
  exact bet2_unit h0 (sig2_unit h1 (arcOfX_unit L K arcmode s sk ck hk))

example : NonDegenerateX exLineX exEll true 90 1 0 ∧ exLineX.salp0 ^ 2 + exLineX.calp0 ^ 2 = 1 ∧ exLineX.ssig1 ^ 2 + exLineX.csig1 ^ 2 = 1 :=
  ⟨exLineX_nd _ _ _ _, by simp [exLineX], by simp [exLineX]⟩

/-- distance for a given arc: in arc mode, with `σ12 = a12·degree`, `(ssig1, csig1) = (sin σ1, cos σ1)`, `E1 = deltaE(σ1)` (as `LineInit`
    computes it) and the kernel `sincosd(a12) = (sin σ12, cos σ12)`: `s12 = b·E0·(τ(σ1 + σ12) − τ(σ1))` with the scaled distance
    `τ(σ) = σ + deltaE(σ)` of the kernel — for the elliptic integral `E0·τ(σ) = E(σ)`, i.e. `s12 = b (E(σ2) − E(σ1))`.  Every kernel. -/
theorem xgenpos_arc_s12 (L : LineX ℝ) (K : Ell ℝ) (a12 σ1 : ℝ) (un : Bool)
    (h1 : L.ssig1 = sin σ1 ∧ L.csig1 = cos σ1) (hE1 : σ1 + L.E1 = tauOf L K σ1) :
    let σ12 := a12 * (degree : ℝ)
    (genPositionX L K true a12 (sin σ12) (cos σ12) un).s12 = L.b * (L.E0 * tauOf L K (σ1 + σ12) - L.E0 * tauOf L K σ1) := by
  intro σ12
  have hs : L.ssig1 * cos σ12 + L.csig1 * sin σ12 = sin (σ1 + σ12) := by rw [h1.1, h1.2, sin_add]
  have hc : L.csig1 * cos σ12 - L.ssig1 * sin σ12 = cos (σ1 + σ12) := by rw [h1.1, h1.2, cos_add]
  rw [genPositionX_arc]
  show L.b * (L.E0 * (a12 * degree) + L.E0 * (E2arc L K (sin σ12) (cos σ12) - L.E1)) = _
  unfold E2arc
  rw [hs, hc, ← hE1]
  unfold tauOf
  ring

/-- distance mode addresses the same point as arc mode when `Einv` inverts `E` (kernel contract `EinvInvertsE`).  Take any arc
    `a12`, let arc mode return `P`; then `GenPosition(distance = P.s12)` returns the same record: the same `σ12` (hence `a12`, with its
    whole number of circuits), latitude, longitudes (unrolled and reduced), azimuth, `m12`, `M12`, `M21`, `S12`.  Hypotheses on the
    line are those `LineInit` establishes (`xlineinit_tau1`). -/
theorem xgenpos_distance_inverts_arc (L : LineX ℝ) (K : Ell ℝ) (a12 σ1 : ℝ) (un : Bool)
    (h1 : L.ssig1 = sin σ1 ∧ L.csig1 = cos σ1)
    (hτ1 : L.stau1 = sin (σ1 + L.E1) ∧ L.ctau1 = cos (σ1 + L.E1))
    (hb : L.b ≠ 0) (hE0 : L.E0 ≠ 0) (hinv : EinvInvertsE L K) :
    let σ12 := a12 * (degree : ℝ)
    let P := genPositionX L K true a12 (sin σ12) (cos σ12) un
    genPositionX L K false P.s12 0 0 un = P := by
  intro σ12 P
  have hs : L.ssig1 * cos σ12 + L.csig1 * sin σ12 = sin (σ1 + σ12) := by rw [h1.1, h1.2, sin_add]
  have hc : L.csig1 * cos σ12 - L.ssig1 * sin σ12 = cos (σ1 + σ12) := by rw [h1.1, h1.2, cos_add]
  have hE2 : E2arc L K (sin σ12) (cos σ12) = tauOf L K (σ1 + σ12) - (σ1 + σ12) := by unfold E2arc tauOf; rw [hs, hc]; ring
  set E2v := E2arc L K (sin σ12) (cos σ12) with hE2v
  have hP1 : P = tailX L K un σ12 (sin σ12) (cos σ12) E2v (L.b * (L.E0 * σ12 + L.E0 * (E2v - L.E1))) a12 := genPositionX_arc L K a12 _ _ un
  have hPs : P.s12 = L.b * (L.E0 * σ12 + L.E0 * (E2v - L.E1)) := by rw [hP1]; rfl
  have htau : P.s12 / (L.b * L.E0) = σ12 + E2v - L.E1 := by rw [hPs]; field_simp; ring
  have hτ2 : σ1 + L.E1 + (σ12 + E2v - L.E1) = tauOf L K (σ1 + σ12) := by rw [hE2]; ring
  have hB : arcOfX L K false P.s12 0 0 = (σ12, sin σ12, cos σ12, E2v) := by
    unfold arcOfX
    simp only [Bool.false_eq_true, if_false, sin_real, cos_real]
    rw [htau, hτ1.1, hτ1.2, ← sin_add, ← cos_add, hτ2, hinv (σ1 + σ12)]
    have e1 : σ12 + E2v - L.E1 - (-(σ1 + σ12 - tauOf L K (σ1 + σ12)) - L.E1) = σ12 := by rw [hE2]; ring
    have e2 : -(σ1 + σ12 - tauOf L K (σ1 + σ12)) = E2v := by rw [hE2]; ring
    rw [e1, e2]
  show tailX L K un (arcOfX L K false P.s12 0 0).1 (arcOfX L K false P.s12 0 0).2.1 (arcOfX L K false P.s12 0 0).2.2.1 (arcOfX L K false P.s12 0 0).2.2.2 P.s12
    ((arcOfX L K false P.s12 0 0).1 / degree) = P
  rw [hB]
  show tailX L K un σ12 (sin σ12) (cos σ12) E2v P.s12 (σ12 / degree) = P
  rw [hPs, hP1]
  congr 1
  exact mul_div_cancel_right₀ a12 degree_ne

/-- non-vacuity of `xgenpos_arc_s12` / `xgenpos_distance_inverts_arc`: the sphere kernel on the equator -/
example : (exLineX.ssig1 = sin 0 ∧ exLineX.csig1 = cos 0) ∧ (0 + exLineX.E1 = tauOf exLineX exEll 0) ∧
    (exLineX.stau1 = sin (0 + exLineX.E1) ∧ exLineX.ctau1 = cos (0 + exLineX.E1)) ∧ exLineX.b ≠ 0 ∧ exLineX.E0 ≠ 0 ∧ EinvInvertsE exLineX exEll := by
  refine ⟨⟨by simp [exLineX], by simp [exLineX]⟩, by simp [exLineX, tauOf, exEll], ⟨by simp [exLineX], by simp [exLineX]⟩, by simp [exLineX], by simp [exLineX], exEll_inverts⟩

/-- in arc mode the exact line, too, reads `a12` only through `σ12 = a12·degree`, and that linearly: with the same `sincosd` values,
    `a12 + d` moves the distance by `b·E0·d·degree`, `χ12` by `E·d·degree` with `LONG_UNROLL` (not at all without), the longitude
    difference by `(E − (e²/f1) sin α0 H0)·d` resp. `−(e²/f1) sin α0 H0·d`, while `lat2`, `azi2` and `σ2` stay (`m12`, `M12`, `M21`,
    `S12` also read `σ12` and are not covered) -/
theorem xgenpos_arc_shift (L : LineX ℝ) (K : Ell ℝ) (a12 d sk ck : ℝ) (un : Bool) :
    let P := genPositionX L K true a12 sk ck un
    let Q := genPositionX L K true (a12 + d) sk ck un
    Q.lat2 = P.lat2 ∧ Q.azi2 = P.azi2 ∧ Q.ssig2 = P.ssig2 ∧ Q.csig2 = P.csig2 ∧
    Q.s12 - P.s12 = L.b * L.E0 * (d * (degree : ℝ)) ∧
    Q.chi12 - P.chi12 = (if un = true then copysign 1 L.salp0 else 0) * (d * (degree : ℝ)) ∧
    Q.lon12 - P.lon12 = ((if un = true then copysign 1 L.salp0 else 0) - L.e2 / L.f1 * L.salp0 * L.H0) * d := by
  intro P Q
  simp only [P, Q, genPositionX_arc, tailX, lit_real, Nat.cast_one]
  refine ⟨trivial, trivial, trivial, trivial, by ring, ?_, ?_⟩
  · cases un
    · simp only [Bool.false_eq_true, if_false, sub_self, zero_mul]
    · simp only [if_true]; ring
  · rw [← sub_div, div_eq_iff degree_ne]
    cases un
    · simp only [Bool.false_eq_true, if_false]; ring
    · simp only [if_true]; ring

/-- one more circuit on the auxiliary sphere (same `sincosd` values, `a12 + 360`): same latitude and azimuth, the distance grows by
    `2π·b·E0` (`= 4 b E(k)`), the unrolled longitude by exactly `360·(E − (e²/f1) sin α0 H0)` degrees, `E = ±1` the sense of the line;
    the reduced `chi12` (no `LONG_UNROLL`) is unchanged -/
theorem xgenpos_arc_circuit (L : LineX ℝ) (K : Ell ℝ) (a12 sk ck : ℝ) :
    let P := genPositionX L K true a12 sk ck true
    let Q := genPositionX L K true (a12 + 360) sk ck true
    let p := genPositionX L K true a12 sk ck false
    let q := genPositionX L K true (a12 + 360) sk ck false
    Q.lat2 = P.lat2 ∧ Q.azi2 = P.azi2 ∧ Q.ssig2 = P.ssig2 ∧ Q.csig2 = P.csig2 ∧
    Q.s12 - P.s12 = L.b * L.E0 * (360 * (degree : ℝ)) ∧
    Q.lon2u - P.lon2u = 360 * (copysign 1 L.salp0 - L.e2 / L.f1 * L.salp0 * L.H0) ∧
    q.chi12 = p.chi12 := by
  intro P Q p q
  obtain ⟨h1, h2, h3, h4, h5, _, h7⟩ := xgenpos_arc_shift L K a12 360 sk ck true
  obtain ⟨_, _, _, _, _, h6, _⟩ := xgenpos_arc_shift L K a12 360 sk ck false
  rw [if_pos rfl] at h7
  rw [if_neg Bool.false_ne_true, zero_mul] at h6
  refine ⟨h1, h2, h3, h4, h5, ?_, sub_eq_zero.mp h6⟩
  show (L.lon1 + Q.lon12) - (L.lon1 + P.lon12) = _
  linear_combination h7

/-- as `genpos_lon1_translation`, for the exact line -/
theorem xgenpos_lon1_translation (L : LineX ℝ) (K : Ell ℝ) (x : ℝ) (arcmode : Bool) (s sk ck : ℝ) (un : Bool) :
    let P := genPositionX L K arcmode s sk ck un
    let Q := genPositionX { L with lon1 := x } K arcmode s sk ck un
    Q.lon2u = x + P.lon12 ∧ P.lon2u = L.lon1 + P.lon12 ∧ Q.lon12 = P.lon12 ∧ Q.lat2 = P.lat2 ∧ Q.azi2 = P.azi2 ∧ Q.s12 = P.s12 ∧ Q.a12 = P.a12 ∧
    Q.m12 = P.m12 ∧ Q.M12 = P.M12 ∧ Q.M21 = P.M21 ∧ Q.S12 = P.S12 := by
  intro P Q
  simp only [P, Q, genPositionX, tailX, arcOfX, and_self]

/-- a zero-length arc does not move (exact line): with `(sk, ck) = (0, 1)`, on a line whose `H1` is `deltaH` at `σ1` (with `Δ(σ1)` as
    `EllipticFunction::Delta` computes it) and whose `(somg1, cchi1)` is a positive multiple of `(sin α0 sin σ1, f1 Δ(σ1) cos σ1)`, away
    from the degenerate end point -/
theorem xgenpos_zero_arc (L : LineX ℝ) (K : Ell ℝ) (hH : L.H1 = K.deltaH L.ssig1 L.csig1 (delta L.k2 L.kp2 L.ssig1 L.csig1))
    (hχ : ∃ r : ℝ, 0 < r ∧ L.somg1 = r * (L.salp0 * L.ssig1) ∧ L.cchi1 = r * (L.f1 * delta L.k2 L.kp2 L.ssig1 L.csig1 * L.csig1))
    (hnd : RealLike.hypot L.salp0 (L.calp0 * L.csig1) ≠ 0) :
    (genPositionX L K true 0 0 1 true).lon2u = L.lon1 ∧ (genPositionX L K true 0 0 1 true).lon12 = 0 := by
  obtain ⟨r, hr, ho, hc⟩ := hχ
  have hat : RealLike.atan2 (copysign 1 L.salp0 * L.somg1) L.cchi1 =
      RealLike.atan2 (copysign 1 L.salp0 * (L.salp0 * L.ssig1)) (L.f1 * delta L.k2 L.kp2 L.ssig1 L.csig1 * L.csig1) :=
    atan2_pos_mul hr (by rw [ho]; ring) hc
  have key : (genPositionX L K true 0 0 1 true).lon12 = 0 := by
    rw [genPositionX_arc]
    simp only [tailX, if_true, lit_real, Nat.cast_one, Nat.cast_zero, eqb_real, decide_eq_true_eq, mul_one, mul_zero,
      add_zero, sub_zero, zero_mul, hnd, if_false, ← hH, sub_self, zero_add, zero_div, hat]
  have h2 : (genPositionX L K true 0 0 1 true).lon2u = L.lon1 + (genPositionX L K true 0 0 1 true).lon12 := rfl
  exact ⟨by rw [h2, key, add_zero], key⟩

example : exLineX.H1 = exEll.deltaH exLineX.ssig1 exLineX.csig1 (delta exLineX.k2 exLineX.kp2 exLineX.ssig1 exLineX.csig1) ∧
    (∃ r : ℝ, 0 < r ∧ exLineX.somg1 = r * (exLineX.salp0 * exLineX.ssig1) ∧
      exLineX.cchi1 = r * (exLineX.f1 * delta exLineX.k2 exLineX.kp2 exLineX.ssig1 exLineX.csig1 * exLineX.csig1)) ∧
    RealLike.hypot exLineX.salp0 (exLineX.calp0 * exLineX.csig1) ≠ 0 := by
  refine ⟨by simp [exLineX, exEll], ⟨1, one_pos, by simp [exLineX], ?_⟩, by simp [exLineX, hypot_real]⟩
  show (1 : ℝ) = 1 * (1 * delta (0 : ℝ) 1 0 1 * 1)
  unfold delta
  simp only [ltb_real, lit_real]
  norm_num

/-- the unrolled longitude of the exact line is the continuous branch: `|χ12 − E σ12| < π` for every `σ12`, every kernel; here the second
    component of the `χ` direction carries the positive factor `f1·dn`, which `atan2` ignores up to the ratio of the components.
    Besides the hypotheses of the series twin: `0 < f1`, a positive `g1` in the start direction (`f1·Δ(σ1)` in `LineInit`), and
    `0 < dn2` at the end point (the premise behind the `let`). -/
theorem xgenpos_unroll_within_half_turn (L : LineX ℝ) (K : Ell ℝ) (arcmode : Bool) (s sk ck : ℝ)
    (h1 : L.ssig1 ^ 2 + L.csig1 ^ 2 = 1) (hk : arcmode = true → sk ^ 2 + ck ^ 2 = 1)
    (hnd : NonDegenerateX L K arcmode s sk ck) (hs0 : L.salp0 ≠ 0) (hf1 : 0 < L.f1)
    (hχ : ∃ r g1 : ℝ, 0 < r ∧ 0 < g1 ∧ L.somg1 = r * (L.salp0 * L.ssig1) ∧ L.cchi1 = r * (g1 * L.csig1)) :
    let P := genPositionX L K arcmode s sk ck true
    0 < P.dn2 → |P.chi12 - copysign 1 L.salp0 * P.sig12| < Real.pi := by
  intro P hdn
  have hu2 : P.ssig2 ^ 2 + P.csig2 ^ 2 = 1 := xgenpos_sig2_norm L K arcmode s sk ck true h1 hk hnd
  obtain ⟨r, g1, hr, hg1, ho, hc⟩ := hχ
  set E : ℝ := copysign 1 L.salp0 with hE
  have hcpos : 0 < E * L.salp0 := copysign_mul_self_pos _ hs0
  have hg2 : 0 < L.f1 * P.dn2 := mul_pos hf1 hdn
  have hom : P.chi12 = E * (P.sig12 - (RealLike.atan2 P.ssig2 P.csig2 - RealLike.atan2 L.ssig1 L.csig1)
      + (RealLike.atan2 (E * (L.salp0 * P.ssig2)) (L.f1 * P.dn2 * P.csig2) - RealLike.atan2 (E * L.somg1) L.cchi1)) := by
    simp only [P, genPositionX, tailX, if_true, lit_real, Nat.cast_one, hE]
  -- inside `atan2` the positive factors `r g1` and `f1 dn2` of the two `χ` directions drop out
  rw [hom, atan2_pos_mul (mul_pos hr hg1)
      (show E * L.somg1 = r * g1 * (E * L.salp0 / g1 * L.ssig1) by
        rw [ho, mul_assoc r g1, ← mul_assoc g1, mul_div_cancel₀ _ hg1.ne']; ring)
      (show L.cchi1 = r * g1 * L.csig1 by rw [hc]; ring),
    atan2_pos_mul hg2 (show E * (L.salp0 * P.ssig2) = L.f1 * P.dn2 * (E * L.salp0 / (L.f1 * P.dn2) * P.ssig2) by
      rw [← mul_assoc (L.f1 * P.dn2), mul_div_cancel₀ _ hg2.ne', mul_assoc]) rfl]
  exact unroll_within_half_turn (copysign_abs_one _) (div_pos hcpos hg1) (div_pos hcpos hg2) h1 hu2

/-- non-vacuity: the equator of the unit sphere, a quarter circuit -/
example : exLineX.ssig1 ^ 2 + exLineX.csig1 ^ 2 = 1 ∧ ((1 : ℝ) ^ 2 + 0 ^ 2 = 1) ∧ NonDegenerateX exLineX exEll true 90 1 0 ∧ exLineX.salp0 ≠ 0 ∧ 0 < exLineX.f1 ∧
    (∃ r g1 : ℝ, 0 < r ∧ 0 < g1 ∧ exLineX.somg1 = r * (exLineX.salp0 * exLineX.ssig1) ∧ exLineX.cchi1 = r * (g1 * exLineX.csig1)) :=
  ⟨by simp [exLineX], by norm_num, exLineX_nd _ _ _ _, by simp [exLineX], by simp [exLineX], 1, 1, one_pos, one_pos, by simp [exLineX], by simp [exLineX]⟩

end ExactLine

section Ranges
open GeoVerif.GeodLine GeoVerif.GeodLineX GeoVerif.Proofs.GeodLine GeoVerif.Proofs.GeodLineX

/-- `Math::atan2d` (model over ℝ) -/
theorem atan2d_range (y x : ℝ) : -180 ≤ (atan2d y x : ℝ) ∧ (atan2d y x : ℝ) ≤ 180 ∧ (0 ≤ x → -90 ≤ (atan2d y x : ℝ) ∧ (atan2d y x : ℝ) ≤ 90) := by
  unfold atan2d
  simp only [ltb_real, abs_real, signNeg_real, copysign_real, lit_real]
  push_cast
  -- in each of the four cases the argument of `atan2` has a non-negative second component: `atan2_deg_halfplane`
  by_cases hsw : |x| < |y|
  · by_cases hy : y < 0
    · obtain ⟨l, u, p, _⟩ := atan2_deg_halfplane x (-y) (by linarith)
      simp only [hsw, hy, decide_true, if_true]
      exact ⟨by linarith, by linarith, fun hx => ⟨by linarith [p hx], by linarith⟩⟩
    · obtain ⟨l, u, p, _⟩ := atan2_deg_halfplane x y (not_lt.mp hy)
      simp only [hsw, hy, decide_true, decide_false, if_true, if_false, Bool.false_eq_true]
      exact ⟨by linarith, by linarith, fun hx => ⟨by linarith, by linarith [p hx]⟩⟩
  · by_cases hx : x < 0
    · obtain ⟨l, u, p, n⟩ := atan2_deg_halfplane y (-x) (by linarith)
      simp only [hsw, hx, decide_true, decide_false, if_true, if_false, Bool.false_eq_true, abs_of_pos (by norm_num : (0 : ℝ) < 180)]
      refine ⟨?_, ?_, fun h => absurd hx (not_lt.mpr h)⟩ <;> split_ifs with hy
      · linarith [n hy]
      · linarith
      · linarith
      · linarith [p (not_lt.mp hy)]
    · obtain ⟨l, u, _, _⟩ := atan2_deg_halfplane y x (not_lt.mp hx)
      simp only [hsw, hx, decide_false, if_false, Bool.false_eq_true]
      exact ⟨by linarith, by linarith, fun _ => ⟨l, u⟩⟩

/-- ranges of the direct solution (series line): for every line record, mode, length and kernel values, `azi2 ∈ [−180, 180]`; and
    `lat2 ∈ [−90, 90]` when `f1 = 1 − f ≥ 0` and `tiny ≥ 0` (the second argument of `atan2d` is `f1·cos β2 ≥ 0`).  The returned longitude
    without `LONG_UNROLL` is `AngNormalize(AngNormalize(lon1) + AngNormalize(lon12))`, whose range is C16's `angNormalize_spec`. -/
theorem direct_ranges (L : Line ℝ) (arcmode : Bool) (s sk ck : ℝ) (un : Bool) :
    let P := genPosition L arcmode s sk ck un
    (-180 ≤ P.azi2 ∧ P.azi2 ≤ 180) ∧ (0 ≤ L.f1 → 0 ≤ L.tiny → -90 ≤ P.lat2 ∧ P.lat2 ≤ 90) :=
  ⟨⟨(atan2d_range _ _).1, (atan2d_range _ _).2.1⟩,
    fun hf ht => (atan2d_range _ _).2.2 (mul_nonneg hf (degen_if_nonneg ht _ _ _))⟩

/-- ranges of the direct solution (exact line), for every kernel -/
theorem xdirect_ranges (L : LineX ℝ) (K : Ell ℝ) (arcmode : Bool) (s sk ck : ℝ) (un : Bool) :
    let P := genPositionX L K arcmode s sk ck un
    (-180 ≤ P.azi2 ∧ P.azi2 ≤ 180) ∧ (0 ≤ L.f1 → 0 ≤ L.tiny → -90 ≤ P.lat2 ∧ P.lat2 ≤ 90) :=
  ⟨⟨(atan2d_range _ _).1, (atan2d_range _ _).2.1⟩,
    fun hf ht => (atan2d_range _ _).2.2 (mul_nonneg hf (degen_if_nonneg ht _ _ _))⟩

example : (0 : ℝ) ≤ exLine.f1 ∧ (0 : ℝ) ≤ exLine.tiny ∧ (0 : ℝ) ≤ exLineX.f1 ∧ (0 : ℝ) ≤ exLineX.tiny := by
  refine ⟨by simp [exLine], by simp [exLine], by simp [exLineX], by simp [exLineX]⟩

end Ranges

end GeoVerif.Props.C01
