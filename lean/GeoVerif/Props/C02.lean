import GeoVerif.Model.GeodInverse
import GeoVerif.Proofs.GeodInvSeries
import GeoVerif.Proofs.GeodInvFull
import GeoVerif.Spec.RealInst
import Mathlib.Tactic.Positivity
import Mathlib.Tactic.NormNum
/-!
# C02 — inverse problem

The sign bookkeeping of `GenInverse` over binary64 for every core solver, `Astroid`, and the whole function behind the
canonicalisation over a kernel-parametric model: the Newton/bisection loop (budget, exits, bracket invariants), output ranges,
the ordering guard on the reduced latitudes, closed forms of the equatorial and meridional answers, and the symmetry laws.
-/
namespace GeoVerif.Props.C02
open GeoVerif GeoVerif.GeodInverse

def Sign (s : Int) : Prop := s = 1 ∨ s = -1

theorem Sign.ite (c : Prop) [Decidable c] {a b : Int} (ha : Sign a) (hb : Sign b) : Sign (if c then a else b) := by
  split
  · exact ha
  · exact hb

theorem Sign.neg {a : Int} (h : Sign a) : Sign (-a) := by
  rcases h with rfl | rfl
  · exact .inr rfl
  · exact .inl rfl

theorem f64_neg_neg (x : F64) : F64.neg (F64.neg x) = x := by
  cases x <;> simp [F64.neg]

theorem mulSign_neg (s : Int) (hs : s = 1 ∨ s = -1) (x : F64) : mulSign (-s) x = F64.neg (mulSign s x) := by
  rcases hs with rfl | rfl
  · rfl
  · exact (f64_neg_neg x).symm

theorem mulSign_neg_mul {a b : Int} (ha : Sign a) (hb : Sign b) (x : F64) : mulSign (-a * b) x = F64.neg (mulSign (a * b) x) := by
  rw [Int.neg_mul, mulSign_neg _ (Proofs.GeodInvFull.flag_mul ha hb)]

theorem mulSign_mul_neg {a b : Int} (ha : Sign a) (hb : Sign b) (x : F64) : mulSign (a * -b) x = F64.neg (mulSign (a * b) x) := by
  rw [Int.mul_neg, mulSign_neg _ (Proofs.GeodInvFull.flag_mul ha hb)]

/-- exchange of the end points (swapp ↦ −swapp, everything else equal): `s12`, `m12`, `a12` unchanged; the
    azimuths are exchanged and reversed (`azi1' = azi2 ± 180`: both sine and cosine negated), `M12 ↔ M21`, `S12` negated -/
theorem uncanon_exchange (ls sw lt : Int) (hls : Sign ls) (hsw : Sign sw) (hlt : Sign lt) (c : Core) :
    let r := uncanon ls sw lt c
    let r' := uncanon ls (-sw) lt c
    r'.s12 = r.s12 ∧ r'.m12 = r.m12 ∧ r'.a12 = r.a12 ∧
    r'.salp1 = F64.neg r.salp2 ∧ r'.calp1 = F64.neg r.calp2 ∧ r'.salp2 = F64.neg r.salp1 ∧ r'.calp2 = F64.neg r.calp1 ∧
    r'.M12 = r.M21 ∧ r'.M21 = r.M12 ∧ r'.S12 = F64.neg r.S12 := by
  intro r r'
  have hS : r'.S12 = F64.neg r.S12 := by
    show mulSign (-sw * ls * lt) c.S12 = _
    rw [Int.neg_mul]; exact mulSign_neg_mul (Proofs.GeodInvFull.flag_mul hsw hls) hlt _
  -- the swap is decided by the sign of `swapp`; each azimuth component then carries `−swapp` times a flag
  rcases hsw with rfl | rfl
  · exact ⟨rfl, rfl, rfl, mulSign_neg_mul (.inl rfl) hls _, mulSign_neg_mul (.inl rfl) hlt _,
      mulSign_neg_mul (.inl rfl) hls _, mulSign_neg_mul (.inl rfl) hlt _, rfl, rfl, hS⟩
  · exact ⟨rfl, rfl, rfl, mulSign_neg_mul (.inr rfl) hls _, mulSign_neg_mul (.inr rfl) hlt _,
      mulSign_neg_mul (.inr rfl) hls _, mulSign_neg_mul (.inr rfl) hlt _, rfl, rfl, hS⟩

/-- reflection in the equator (latsign ↦ −latsign): cosines of the azimuths negated (`azi ↦ 180 − azi`), `S12` negated -/
theorem uncanon_equator (ls sw lt : Int) (hls : Sign ls) (hsw : Sign sw) (hlt : Sign lt) (c : Core) :
    let r := uncanon ls sw lt c
    let r' := uncanon ls sw (-lt) c
    r'.s12 = r.s12 ∧ r'.m12 = r.m12 ∧ r'.M12 = r.M12 ∧ r'.M21 = r.M21 ∧
    r'.salp1 = r.salp1 ∧ r'.calp1 = F64.neg r.calp1 ∧ r'.salp2 = r.salp2 ∧ r'.calp2 = F64.neg r.calp2 ∧ r'.S12 = F64.neg r.S12 :=
  ⟨rfl, rfl, rfl, rfl, rfl, mulSign_mul_neg hsw hlt _, rfl, mulSign_mul_neg hsw hlt _,
    mulSign_mul_neg (Proofs.GeodInvFull.flag_mul hsw hls) hlt _⟩

/-- reflection in a meridian (lonsign ↦ −lonsign): sines of the azimuths negated (`azi ↦ −azi`), `S12` negated -/
theorem uncanon_meridian (ls sw lt : Int) (hls : Sign ls) (hsw : Sign sw) (hlt : Sign lt) (c : Core) :
    let r := uncanon ls sw lt c
    let r' := uncanon (-ls) sw lt c
    r'.s12 = r.s12 ∧ r'.m12 = r.m12 ∧ r'.M12 = r.M12 ∧ r'.M21 = r.M21 ∧
    r'.salp1 = F64.neg r.salp1 ∧ r'.calp1 = r.calp1 ∧ r'.salp2 = F64.neg r.salp2 ∧ r'.calp2 = r.calp2 ∧ r'.S12 = F64.neg r.S12 := by
  refine ⟨rfl, rfl, rfl, rfl, mulSign_mul_neg hsw hls _, rfl, mulSign_mul_neg hsw hls _, rfl, ?_⟩
  show mulSign (sw * -ls * lt) c.S12 = _
  rw [Int.mul_neg]; exact mulSign_neg_mul (Proofs.GeodInvFull.flag_mul hsw hls) hlt _

/-- on a canonical input the wrapper is the identity (this is what lets the implementation supply its own core values) -/
theorem uncanon_identity (c : Core) : uncanon 1 1 1 c = c := by
  simp [uncanon, mulSign]

theorem canon_flags (lat1 lon1 lat2 lon2 : F64) :
    Sign (canon lat1 lon1 lat2 lon2).lonsign ∧ Sign (canon lat1 lon1 lat2 lon2).swapp ∧ Sign (canon lat1 lon1 lat2 lon2).latsign := by
  have one : Sign 1 := .inl rfl
  have mone : Sign (-1) := .inr rfl
  unfold canon
  dsimp only
  -- `lonsign` is `±1` negated when `swapp < 0`; `swapp` and `latsign` are `if … then ±1 else ∓1`
  exact ⟨.ite _ (.neg (.ite _ mone one)) (.ite _ mone one), .ite _ mone one, .ite _ one mone⟩

/-- multiplying by `latsign` sets the sign bit of the first latitude -/
theorem latsign_fix (x : F64) :
    (mulSign (if x.signbit = true then 1 else -1) x).isNaN = true ∨ (mulSign (if x.signbit = true then 1 else -1) x).signbit = true := by
  cases x with
  | nan => left; simp [mulSign, F64.signbit, F64.neg, F64.isNaN]
  | inf s => right; cases s <;> simp [mulSign, F64.signbit, F64.neg]
  | fin s m e => right; cases s <;> simp [mulSign, F64.signbit, F64.neg]

/-- multiplying by `lonsign` clears the sign bit of the longitude difference -/
theorem lonsign_fix (d : F64) :
    (mulSign (if d.signbit = true then -1 else 1) d).isNaN = true ∨ (mulSign (if d.signbit = true then -1 else 1) d).signbit = false := by
  cases d with
  | nan => left; simp [mulSign, F64.signbit, F64.isNaN]
  | inf s => right; cases s <;> simp [mulSign, F64.signbit, F64.neg]
  | fin s m e => right; cases s <;> simp [mulSign, F64.signbit, F64.neg]

/-- the core is only ever called with a non-positive (sign bit set) first latitude and a non-negative longitude difference -/
theorem canon_signs (lat1 lon1 lat2 lon2 : F64) :
    let k := canon lat1 lon1 lat2 lon2
    (k.lat1.isNaN = true ∨ k.lat1.signbit = true) ∧ (k.lon12.isNaN = true ∨ k.lon12.signbit = false) := by
  unfold canon
  exact ⟨latsign_fix _, lonsign_fix _⟩

/-- non-vacuity: a non-canonical input with non-trivial flags -/
example : ((canon (F64.ofInt 10) (F64.ofInt 20) (F64.ofInt 30) (F64.ofInt 5)).lonsign,
           (canon (F64.ofInt 10) (F64.ofInt 20) (F64.ofInt 30) (F64.ofInt 5)).swapp,
           (canon (F64.ofInt 10) (F64.ofInt 20) (F64.ofInt 30) (F64.ofInt 5)).latsign) = (1, -1, -1) := by decide +kernel

section Astroid
open GeoVerif.GeodInvSeries GeoVerif.Vermeille GeoVerif.Proofs.GeodInvSeries

/-- `Geodesic::Astroid` (starting guess of the inverse solver in the antipodal region) returns the positive root of its quartic
    (Cardano branch: `x, y ≠ 0` and a non-negative discriminant, i.e. on or outside the astroid `x^{2/3} + y^{2/3} = 1`) -/
theorem astroid_root (x y : ℝ) (hx : x ≠ 0) (hy : y ≠ 0)
    (hdisc : 0 ≤ x ^ 2 * y ^ 2 / 4 * (x ^ 2 * y ^ 2 / 4 + 2 * ((x ^ 2 + y ^ 2 - 1) / 6) ^ 3)) :
    let k := astroid x y
    0 < k ∧ k ^ 4 + 2 * k ^ 3 - (x ^ 2 + y ^ 2 - 1) * k ^ 2 - 2 * y ^ 2 * k - y ^ 2 = 0 := by
  intro k
  have hk : k = astroidK (y ^ 2) (astroidU (x ^ 2 * y ^ 2 / 4) ((x ^ 2 + y ^ 2 - 1) / 6)) := astroid_eq_astroidK x y hy
  rw [hk]
  exact astroidK_spec (x ^ 2) (y ^ 2) _ (by positivity) (astroidU_spec _ _ (by positivity) hdisc)

/-- non-vacuity: `(x, y) = (−1, 1)` lies outside the astroid -/
example : ((-1 : ℝ) ≠ 0) ∧ ((1 : ℝ) ≠ 0) ∧
    (0 : ℝ) ≤ (-1) ^ 2 * 1 ^ 2 / 4 * ((-1) ^ 2 * 1 ^ 2 / 4 + 2 * (((-1) ^ 2 + 1 ^ 2 - 1) / 6) ^ 3) := by norm_num

end Astroid

/-! The whole of `GenInverse` behind the canonicalisation (`Model/GeodInvFull.lean`).  The model is kernel-parametric: `Lengths`,
`InverseStart`, `Lambda12` and the area integral are a record `Kernels`.  What follows holds for every such record (hence for the series solver, whose kernels are Lean models, and for `GeodesicExact`, whose
kernel values the correspondence takes from the implementation), or under a stated contract on the kernels. -/

section Full
open GeoVerif.GeodLine GeoVerif.GeodInvSeries GeoVerif.GeodInvFull GeoVerif.Proofs.GeodInvFull

/-- iteration budget, in every number type (binary64 included): the loop of `GenInverse` evaluates the kernel at most `maxit2_ + 1`
    times (`numit = 0 … maxit2_`); the `numit == maxit2_` exit comes before the fuel of the model runs out. -/
theorem loop_budget {α : Type} [RealLike α] (p : Params α) (lam : α → α → Nat → LamOut α) (sb : α) (st : LoopSt α) :
    (loop p lam sb (p.maxit2 + 1) 0 st 0 []).numit ≤ p.maxit2 ∧
    (loop p lam sb (p.maxit2 + 1) 0 st 0 []).iterates.length = (loop p lam sb (p.maxit2 + 1) 0 st 0 []).numit + 1 ∧
    (loop p lam sb (p.maxit2 + 1) 0 st 0 []).iterates.length ≤ p.maxit2 + 1 := by
  have h1 := loop_numit_le p lam sb (p.maxit2 + 1) 0 st 0 [] (by omega) (by omega)
  have h2 := (loop_evals p lam sb (p.maxit2 + 1) 0 st 0 []).2
  simp only [List.length_nil, Nat.sub_zero, Nat.zero_add] at h2
  exact ⟨h1, h2, by omega⟩

/-- the budget of the library, `maxit2_ = maxit1_ + 2·digits + 20 = 146` for binary64 (fix fe4d9c6): at most 147
    evaluations of `Lambda12` per inverse problem -/
theorem loop_budget_binary64 {α : Type} [RealLike α] (g : Geod α) (eps0 : α) (lam : α → α → Nat → LamOut α) (sb : α) (st : LoopSt α) :
    budget 53 = 146 ∧
    (loop (paramsSeries g eps0 (budget 53)) lam sb (budget 53 + 1) 0 st 0 []).numit ≤ 146 ∧
    (loop (paramsSeries g eps0 (budget 53)) lam sb (budget 53 + 1) 0 st 0 []).iterates.length ≤ 147 := by
  have h := loop_budget (paramsSeries g eps0 (budget 53)) lam sb st
  exact ⟨rfl, h.1, h.2.2⟩

/-- the exits of the loop (the `break` after the call of `Lambda12` in `Geodesic.cpp`): `tripb`, or `|v|` below `tol0_` (`8 tol0_` after a
    Newton step with `|v| ≤ 16 tol0_`), or the budget, or equatorial end points at `alp1 = 90°` with `v > 0` (the test
    `sbet1 == 0 && calp1 == 0 && v > 0` of fix 8088996) -/
theorem loop_exits {α : Type} [RealLike α] (p : Params α) (sb : α) (numit : Nat) (st : LoopSt α) (v : α) (h : stopNow p sb numit st v = true) :
    st.tripb = true ∨
    RealLike.leb ((if st.tripn then (RealLike.ofNat 8 : α) else RealLike.ofNat 1) * p.tol0) (RealLike.abs v) = false ∨ numit = p.maxit2 ∨
    (RealLike.eqb sb (RealLike.ofNat 0) = true ∧ RealLike.eqb st.calp1 (RealLike.ofNat 0) = true ∧ RealLike.ltb (RealLike.ofNat 0) v = true) := by
  unfold stopNow at h
  simp only [Bool.or_eq_true, Bool.and_eq_true, Bool.not_eq_true', beq_iff_eq] at h
  rcases h with ((h | h) | h) | h
  · exact Or.inl h
  · exact Or.inr (Or.inl h)
  · exact Or.inr (Or.inr (Or.inl h))
  · exact Or.inr (Or.inr (Or.inr ⟨h.1.1, h.1.2, h.2⟩))

/-- the fuel parameter of the model is immaterial: more of it gives the same result -/
theorem loop_fuel_enough {α : Type} [RealLike α] (p : Params α) (lam : α → α → Nat → LamOut α) (sb : α) (st : LoopSt α) (extra : Nat) :
    loop p lam sb (p.maxit2 + 1 + extra) 0 st 0 [] = loop p lam sb (p.maxit2 + 1) 0 st 0 [] := by
  -- for a loop started anywhere with `numit + fuel = maxit2_ + 1`: the exit `numit == maxit2_` comes before the fuel runs out
  have gen : ∀ (fuel numit : Nat) (st : LoopSt α) (nb : Nat) (its : List (α × α)), numit + fuel = p.maxit2 + 1 → 0 < fuel →
      loop p lam sb (fuel + extra) numit st nb its = loop p lam sb fuel numit st nb its := by
    intro fuel numit st nb its h hf
    fun_induction loop p lam sb fuel numit st nb its with
    | case1 => omega
    | case2 fuel _ _ _ _ _ _ hstop =>
      rw [show fuel.succ + extra = (fuel + extra) + 1 by omega, loop]
      exact if_pos hstop
    | case3 fuel numit st _ _ _ _ hstop ih =>
      have hne : numit ≠ p.maxit2 := fun he => hstop (he ▸ stopNow_at_budget p sb st _)
      rw [show fuel.succ + extra = (fuel + extra) + 1 by omega, loop]
      exact (if_neg hstop).trans (ih (by omega) (by omega))
  exact gen _ _ _ _ _ (by omega) (by omega)

/-- the bracket update (`// Update bracketing values` in `Geodesic.cpp`): either nothing moves, or `v > 0` and the upper end becomes
    the current point, or `v < 0` and the lower end does -/
theorem bracket_update {α : Type} [RealLike α] (p : Params α) (numit : Nat) (st : LoopSt α) (v : α) :
    (updBracket p numit st v).salp1 = st.salp1 ∧ (updBracket p numit st v).calp1 = st.calp1 ∧
    (updBracket p numit st v).tripn = st.tripn ∧ (updBracket p numit st v).tripb = st.tripb ∧
    (((updBracket p numit st v).salp1a = st.salp1a ∧ (updBracket p numit st v).calp1a = st.calp1a ∧
      (updBracket p numit st v).salp1b = st.salp1b ∧ (updBracket p numit st v).calp1b = st.calp1b) ∨
     (RealLike.ltb (RealLike.ofNat 0) v = true ∧ (updBracket p numit st v).salp1b = st.salp1 ∧ (updBracket p numit st v).calp1b = st.calp1 ∧
      (updBracket p numit st v).salp1a = st.salp1a ∧ (updBracket p numit st v).calp1a = st.calp1a) ∨
     (RealLike.ltb v (RealLike.ofNat 0) = true ∧ (updBracket p numit st v).salp1a = st.salp1 ∧ (updBracket p numit st v).calp1a = st.calp1 ∧
      (updBracket p numit st v).salp1b = st.salp1b ∧ (updBracket p numit st v).calp1b = st.calp1b)) := by
  rcases updBracket_cases p numit st v with h | ⟨hv, h⟩ | ⟨hv, h⟩ <;> rw [h]
  · exact ⟨rfl, rfl, rfl, rfl, .inl ⟨rfl, rfl, rfl, rfl⟩⟩
  · exact ⟨rfl, rfl, rfl, rfl, .inr (.inl ⟨hv, rfl, rfl, rfl, rfl⟩)⟩
  · exact ⟨rfl, rfl, rfl, rfl, .inr (.inr ⟨hv, rfl, rfl, rfl, rfl⟩)⟩

/-- neither the Newton step nor the bisection touches the ends of the bracket -/
theorem pass_moves_bracket_by_update {α : Type} [RealLike α] (p : Params α) (numit : Nat) (st : LoopSt α) (v dv : α) :
    (step p numit st v dv).salp1a = (updBracket p numit st v).salp1a ∧ (step p numit st v dv).calp1a = (updBracket p numit st v).calp1a ∧
    (step p numit st v dv).salp1b = (updBracket p numit st v).salp1b ∧ (step p numit st v dv).calp1b = (updBracket p numit st v).calp1b :=
  step_ends p numit st v dv

/-- bracket invariant, any kernel: on exit from the loop each end of the bracket is either the initial one
    (`(tiny_, 1)` resp. `(tiny_, −1)`) or a point at which `Lambda12` was evaluated with the sign that puts the root on the other
    side (`< 0` at the lower end, `> 0` at the upper end) -/
theorem bracket_ends_observed {α : Type} [RealLike α] (p : Params α) (lam : α → α → Nat → LamOut α) (sb salp1 calp1 : α) :
    EndsObserved p lam (loop p lam sb (p.maxit2 + 1) 0 (initSt p.tiny salp1 calp1) 0 []).st :=
  loop_inv p lam sb (EndsObserved p lam) (fun n st h => step_ends_observed p lam n st _ h) _ _ _ _ _
    ⟨Or.inl ⟨rfl, rfl⟩, Or.inl ⟨rfl, rfl⟩⟩

/-- from `maxit1_` on every pass is a bisection -/
theorem after_maxit1_bisection {α : Type} [RealLike α] (p : Params α) (numit : Nat) (st : LoopSt α) (v dv : α) (h : p.maxit1 ≤ numit) :
    step p numit st v dv = bisect p (updBracket p numit st v) := by
  rcases step_cases p numit st v dv with hs | ⟨s, hs, _⟩
  · exact hs
  · exact absurd (newtonTry_eq_some p numit _ s v dv hs).1 (Nat.not_lt.mpr h)

/-- beyond `maxit1_` the end on the side of the sign of `v` is replaced by the current point without the cotangent comparison.  The
    second implication also assumes that `v > 0` is false: in a generic number type (NaN, no order axioms) `v < 0` does not exclude
    it, and the code tests `v > 0` first. -/
theorem after_maxit1_replace {α : Type} [RealLike α] (p : Params α) (numit : Nat) (st : LoopSt α) (v : α) (h : p.maxit1 < numit) :
    (RealLike.ltb (RealLike.ofNat 0) v = true →
      (updBracket p numit st v).salp1b = st.salp1 ∧ (updBracket p numit st v).calp1b = st.calp1) ∧
    (RealLike.ltb v (RealLike.ofNat 0) = true → RealLike.ltb (RealLike.ofNat 0) v = false →
      (updBracket p numit st v).salp1a = st.salp1 ∧ (updBracket p numit st v).calp1a = st.calp1) := by
  have hd : decide (p.maxit1 < numit) = true := decide_eq_true h
  unfold updBracket
  refine ⟨fun hv => ?_, fun hv hv' => ?_⟩
  · rw [if_pos (by rw [hd, Bool.true_or, Bool.and_true]; exact hv)]; exact ⟨rfl, rfl⟩
  · rw [if_neg (by intro hc; exact Bool.false_ne_true (hv'.symm.trans (Bool.and_eq_true_iff.mp hc).1)),
      if_pos (by rw [hd, Bool.true_or, Bool.and_true]; exact hv)]
    exact ⟨rfl, rfl⟩

/-- a Newton step is only taken while `numit < maxit1_` and the derivative is positive -/
theorem newton_step_guard {α : Type} [RealLike α] (p : Params α) (numit : Nat) (st s : LoopSt α) (v dv : α)
    (h : newtonTry p numit st v dv = some s) : numit < p.maxit1 ∧ RealLike.ltb (RealLike.ofNat 0) dv = true :=
  ⟨(newtonTry_eq_some p numit st s v dv h).1, (newtonTry_eq_some p numit st s v dv h).2.1⟩

/-- the iterates stay in `(0, π)`, for every kernel: `hs`, `hu` are what `InverseStart` returns -/
theorem iterates_in_open_interval (p : Params ℝ) (lam : ℝ → ℝ → Nat → LamOut ℝ) (sb salp1 calp1 : ℝ) (ht : 0 < p.tiny)
    (hs : 0 < salp1) (hu : salp1 ^ 2 + calp1 ^ 2 = 1) :
    Good (loop p lam sb (p.maxit2 + 1) 0 (initSt p.tiny salp1 calp1) 0 []).st :=
  loop_inv p lam sb Good (fun n st h => step_good p n st _ _ h) _ _ _ _ _ ⟨hs, hu, ht, ht⟩

/-- the loop is a bracketing method: if the kernel is positive only above a root and negative only below it (`ρ` is the
    cotangent of the root; `cot` decreases on `(0, π)`), and `ρ` lies between the cotangents of the initial ends, then it lies
    strictly between the cotangents of the ends on exit -/
theorem bracket_contains_root (p : Params ℝ) (lam : ℝ → ℝ → Nat → LamOut ℝ) (sb ρ salp1 calp1 : ℝ) (ht : 0 < p.tiny)
    (hs : 0 < salp1) (hu : salp1 ^ 2 + calp1 ^ 2 = 1) (hc : SignContract lam ρ) (h0 : -1 / p.tiny < ρ ∧ ρ < 1 / p.tiny) :
    Brackets ρ (loop p lam sb (p.maxit2 + 1) 0 (initSt p.tiny salp1 calp1) 0 []).st := by
  -- `Brackets` is preserved together with `Good`
  refine (loop_inv p lam sb (fun st => Good st ∧ Brackets ρ st)
    (fun n st h => ⟨step_good p n st _ _ h.1, step_brackets p lam ρ n st _ hc h.1 h.2⟩) _ _ _ _ _ ⟨⟨hs, hu, ht, ht⟩, ?_⟩).2
  show -(@OfNat.ofNat ℝ 1 RealLike.Lits.instLit) / p.tiny < ρ ∧ ρ < (@OfNat.ofNat ℝ 1 RealLike.Lits.instLit) / p.tiny
  rw [lit_one]; exact h0

/-- non-vacuity of the contract: the kernel `v = ρ − cot α₁` (increasing in `α₁`, root at `cot α₁ = ρ`) satisfies it -/
example (ρ : ℝ) : SignContract (fun s c _ => ⟨ρ - c / s, 0, 0, 0, 0, 0, 0, 0, 0, 0, 1⟩) ρ := by
  intro s c n _
  constructor <;> intro h <;> dsimp only at h <;> linarith

/-- up to `maxit1_` an end is only replaced by a point on its inner side -/
theorem bracket_ends_monotone (p : Params ℝ) (numit : Nat) (st : LoopSt ℝ) (v : ℝ) (h : numit ≤ p.maxit1) :
    (updBracket p numit st v).calp1a / (updBracket p numit st v).salp1a ≤ st.calp1a / st.salp1a ∧
    st.calp1b / st.salp1b ≤ (updBracket p numit st v).calp1b / (updBracket p numit st v).salp1b := by
  unfold updBracket
  have hd : decide (p.maxit1 < numit) = false := by simp; omega
  split
  · rename_i hc
    simp only [hd, Bool.false_or, Bool.and_eq_true, ltb_real, decide_eq_true_eq] at hc
    exact ⟨le_refl _, hc.2.le⟩
  · split
    · rename_i hc
      simp only [hd, Bool.false_or, Bool.and_eq_true, ltb_real, decide_eq_true_eq] at hc
      exact ⟨hc.2.le, le_refl _⟩
    · exact ⟨le_refl _, le_refl _⟩

/-- a bisection puts the new point strictly inside the bracket: its cotangent is the mediant of the ends' -/
theorem bisection_inside_bracket (p : Params ℝ) (st : LoopSt ℝ) (ha : 0 < st.salp1a) (hb : 0 < st.salp1b)
    (hab : st.calp1b / st.salp1b < st.calp1a / st.salp1a) :
    0 < (bisect p st).salp1 ∧ (bisect p st).salp1 ^ 2 + (bisect p st).calp1 ^ 2 = 1 ∧
    (bisect p st).calp1 / (bisect p st).salp1 = (st.calp1a + st.calp1b) / (st.salp1a + st.salp1b) ∧
    st.calp1b / st.salp1b < (bisect p st).calp1 / (bisect p st).salp1 ∧
    (bisect p st).calp1 / (bisect p st).salp1 < st.calp1a / st.salp1a :=
  ⟨(bisect_pos_unit p st ha hb).1, (bisect_pos_unit p st ha hb).2.1, (bisect_pos_unit p st ha hb).2.2,
   (bisect_between p st ha hb hab).1, (bisect_between p st ha hb hab).2⟩

/-- non-vacuity: ends with sines `1/2` and cotangents `−2 < 2` -/
example : (0 : ℝ) < 1 / 2 ∧ (-1 : ℝ) / (1 / 2) < 1 / (1 / 2) := by norm_num

/-- a bisection halves the bracket, in the angle: when the ends are the directions `α_a`, `α_b` (unit vectors
    `(sin α, cos α)`, less than a half turn apart) the new point is the direction `(α_a + α_b)/2` — so each of the two halves
    `[α_a, α]`, `[α, α_b]`, one of which is the next bracket, is half as wide -/
theorem bisection_halves_angle (p : Params ℝ) (st : LoopSt ℝ) (A B : ℝ) (h : |A - B| < Real.pi)
    (ha : st.salp1a = Real.sin A ∧ st.calp1a = Real.cos A) (hb : st.salp1b = Real.sin B ∧ st.calp1b = Real.cos B) :
    (bisect p st).salp1 = Real.sin ((A + B) / 2) ∧ (bisect p st).calp1 = Real.cos ((A + B) / 2) := by
  have e := bisect_point p st
  rw [ha.1, ha.2, hb.1, hb.2, bisect_angle A B h] at e
  exact e

example : |(1 : ℝ) - 2| < Real.pi := by
  have := Real.two_le_pi; rw [abs_lt]; constructor <;> linarith

/-- `0 ≤ a12 ≤ 180` for the whole function, every branch, every kernel whose arc lengths are in `[0, π]`, for `f < 1` and the
    `lon12 ≥ 0` the canonicalisation delivers.  On the equatorial branch the bound is that of the clamp `if (a12 > Math::hd) a12 = Math::hd`
    (fix 62054f0); without it `lon12 ≤ 180` and a non-negative `AngDiff` error term would be needed. -/
theorem a12_range (p : Params ℝ) (k : Kernels ℝ) (β : Beta ℝ) (c : Canon ℝ) (ls sw lt : Int) (hp : 0 < p.f1)
    (hl0 : 0 ≤ c.lon12) (hstart : k.start.sig12 ≤ Real.pi)
    (hlam : ∀ s c n, 0 ≤ (k.lam s c n).sig12 ∧ (k.lam s c n).sig12 ≤ Real.pi) :
    0 ≤ (genInverse p k β c ls sw lt).out.a12 ∧ (genInverse p k β c ls sw lt).out.a12 ≤ 180 := by
  show 0 ≤ (solve p k β c).1.a12 ∧ (solve p k β c).1.a12 ≤ 180
  have hc := solve_branch p k β c
  split at hc
  · rw [hc.2.2]; exact meridional_a12 p k β _ _
  · rw [hc.2]; exact equatorial_a12 p c hp hl0
  · rw [hc.2]
    show 0 ≤ k.start.sig12 / degree ∧ k.start.sig12 / degree ≤ 180
    have : 0 ≤ k.start.sig12 := by simpa [lit_zero] using hc.1
    exact a12_of_sig12 _ this hstart
  · rw [hc.2]
    obtain ⟨s, c', n, hlo⟩ := loop_lo p k.lam β.sbet1 (p.maxit2 + 1) 0 (initSt p.tiny k.start.salp1 k.start.calp1) 0 []
    show 0 ≤ (loop p k.lam β.sbet1 (p.maxit2 + 1) 0 (initSt p.tiny k.start.salp1 k.start.calp1) 0 []).lo.sig12 / degree ∧
         (loop p k.lam β.sbet1 (p.maxit2 + 1) 0 (initSt p.tiny k.start.salp1 k.start.calp1) 0 []).lo.sig12 / degree ≤ 180
    rw [hlo]
    exact a12_of_sig12 _ (hlam s c' n).1 (hlam s c' n).2

/-- `a12_range` for the series solver, with no hypothesis on kernels: its `Lambda12` and `InverseStart` satisfy the contract -/
theorem a12_range_series (a f tiny eps0 : ℝ) (maxit2 : Nat) (s1 c1 s2 c2 : ℝ) (c : Canon ℝ) (ls sw lt : Int) (hf : f < 1)
    (hl0 : 0 ≤ c.lon12) :
    0 ≤ (genInverseSeries (geodesic a f tiny eps0) eps0 maxit2 s1 c1 s2 c2 c ls sw lt).out.a12 ∧
    (genInverseSeries (geodesic a f tiny eps0) eps0 maxit2 s1 c1 s2 c2 c ls sw lt).out.a12 ≤ 180 := by
  unfold genInverseSeries
  apply a12_range
  · show 0 < (@OfNat.ofNat ℝ 1 RealLike.Lits.instLit) - f
    rw [lit_one]; linarith
  · exact hl0
  · exact inverseStart_sig12 _ _ _ _ _ _ _ _ _ _ _
  · intro s c' n; exact lambda12_sig12 _ _ _ _ _ _ _ _ _ _ _

example : (1 / 298 : ℝ) < 1 ∧ (0 : ℝ) ≤ 179 := by norm_num

/-- `s12 ≥ 0` on the short-line branch -/
theorem s12_nonneg_short (p : Params ℝ) (k : Kernels ℝ) (β : Beta ℝ) (c : Canon ℝ) (ls sw lt : Int)
    (hb : (genInverse p k β c ls sw lt).sol.branch = .short) (hpb : 0 ≤ p.b) (hd : 0 ≤ k.start.dnm) :
    0 ≤ (genInverse p k β c ls sw lt).out.s12 := by
  have hs := solve_short p k β c hb
  show 0 ≤ (restore ls sw lt (solve p k β c).1 _).s12
  rw [restore_s12, hs.2]
  exact shortLine_s12 p _ _ (by simpa [lit_zero] using hs.1) hpb hd

/-- `s12 ≥ 0` on the equatorial branch -/
theorem s12_nonneg_equatorial (p : Params ℝ) (k : Kernels ℝ) (β : Beta ℝ) (c : Canon ℝ) (ls sw lt : Int)
    (hb : (genInverse p k β c ls sw lt).sol.branch = .equatorial) (ha : 0 ≤ p.a) (hl : 0 ≤ c.lon12) :
    0 ≤ (genInverse p k β c ls sw lt).out.s12 := by
  have hs := solve_equatorial p k β c hb
  show 0 ≤ (restore ls sw lt (solve p k β c).1 _).s12
  rw [restore_s12, hs.2]
  exact equatorial_s12 p c ha hl

/-- the series `InverseStart` has `dnm ≥ 0` (hypothesis of `s12_nonneg_short`) -/
theorem series_dnm_nonneg (g : Geod ℝ) (eps0 sbet1 cbet1 dn1 sbet2 cbet2 dn2 lam12 slam12 clam12 : ℝ) :
    0 ≤ (inverseStart g eps0 sbet1 cbet1 dn1 sbet2 cbet2 dn2 lam12 slam12 clam12).dnm := by
  have hd : ∀ (c : Prop) [Decidable c] (x : ℝ), 0 ≤ (if c then RealLike.sqrt x else (@OfNat.ofNat ℝ 0 RealLike.Lits.instLit)) := by
    intro c _ x
    refine le_ite_of ?_ ?_
    · rw [sqrt_real]; exact Real.sqrt_nonneg x
    · rw [lit_zero]
  unfold inverseStart
  simp only [apply_ite StartOut.dnm, startFinish_dnm]
  -- the nesting follows the `if`-tree of `inverseStart`: every leaf is a `√·` or `0`
  refine le_ite_of (hd _ _) (le_ite_of (hd _ _) (le_ite_of (le_ite_of (hd _ _) (hd _ _)) (hd _ _)))

/-- after the guard `if (cbet1 < -sbet1) { if (cbet2 <= cbet1) … } else { if (fabs(sbet2) >= -sbet1) … }` of `GenInverse`
    (fix 48445e6) the reduced latitudes are ordered the way `Lambda12` needs, whatever round-off did to `sincosd` and `Math::norm`
    (for the canonical `sbet1 ≤ 0`) -/
theorem reduced_latitudes_ordered (p : Params ℝ) (s1 c1 s2 c2 : ℝ) (ht : 0 < p.tiny) (hs : (reduceLat p s1 c1 s2 c2).sbet1 ≤ 0) :
    0 < (reduceLat p s1 c1 s2 c2).cbet1 ∧ 0 < (reduceLat p s1 c1 s2 c2).cbet2 ∧
    ((reduceLat p s1 c1 s2 c2).cbet1 < -(reduceLat p s1 c1 s2 c2).sbet1 →
      (reduceLat p s1 c1 s2 c2).cbet1 ≤ (reduceLat p s1 c1 s2 c2).cbet2) ∧
    (¬ (reduceLat p s1 c1 s2 c2).cbet1 < -(reduceLat p s1 c1 s2 c2).sbet1 →
      |(reduceLat p s1 c1 s2 c2).sbet2| ≤ -(reduceLat p s1 c1 s2 c2).sbet1) := by
  have h1 := redOne_pos p.f1 p.tiny s1 c1 ht
  have h2 := redOne_pos p.f1 p.tiny s2 c2 ht
  have hs' : (redOne p.f1 p.tiny s1 c1).1 ≤ 0 := hs
  set b1 := redOne p.f1 p.tiny s1 c1 with hb1
  set b2 := redOne p.f1 p.tiny s2 c2 with hb2
  have e1 : (reduceLat p s1 c1 s2 c2).sbet1 = b1.1 := rfl
  have e2 : (reduceLat p s1 c1 s2 c2).cbet1 = b1.2 := rfl
  have e3 : (reduceLat p s1 c1 s2 c2).sbet2 =
      if (if RealLike.ltb b1.2 (-b1.1) then RealLike.leb b2.2 b1.2 else RealLike.leb (-b1.1) (RealLike.abs b2.1)) then copysign b1.1 b2.1
      else b2.1 := rfl
  have e4 : (reduceLat p s1 c1 s2 c2).cbet2 =
      if (if RealLike.ltb b1.2 (-b1.1) then RealLike.leb b2.2 b1.2 else RealLike.leb (-b1.1) (RealLike.abs b2.1)) then b1.2
      else b2.2 := rfl
  rw [e1, e2, e3, e4]
  simp only [ltb_real, leb_real, abs_real]
  by_cases hc : b1.2 < -b1.1
  · simp only [hc, decide_true, if_true, not_true, false_imp_iff, and_true, forall_true_left]
    by_cases hf : b2.2 ≤ b1.2
    · simp only [hf, decide_true, if_true]; exact ⟨h1, h1, le_refl _⟩
    · simp only [hf, decide_false, Bool.false_eq_true, if_false]; exact ⟨h1, h2, (not_le.mp hf).le⟩
  · simp only [hc, decide_false, Bool.false_eq_true, if_false, not_false_eq_true, forall_true_left, false_imp_iff, true_and]
    by_cases hf : -b1.1 ≤ |b2.1|
    · simp only [hf, decide_true, if_true]
      refine ⟨h1, h1, ?_⟩
      rw [copysign_abs, abs_of_nonpos hs']
    · simp only [hf, decide_false, Bool.false_eq_true, if_false]
      exact ⟨h1, h2, (not_le.mp hf).le⟩

/-- what `Lambda12` takes the square root of when it forms `calp2` (`calp2 = cbet2 != cbet1 || fabs(sbet2) != -sbet1 ? sqrt(…) / cbet2 : fabs(calp1)`) -/
theorem lambda12_calp2 (g : Geod ℝ) (sbet1 cbet1 dn1 sbet2 cbet2 dn2 salp1 calp1 slam120 clam120 : ℝ) :
    (lambda12 g sbet1 cbet1 dn1 sbet2 cbet2 dn2 salp1 calp1 slam120 clam120).calp2 =
      if !(RealLike.eqb cbet2 cbet1) || !(RealLike.eqb (RealLike.abs sbet2) (-sbet1)) then
        RealLike.sqrt (RealLike.sq ((if RealLike.eqb sbet1 (RealLike.ofNat 0) && RealLike.eqb calp1 (RealLike.ofNat 0) then -g.tiny else calp1) * cbet1) +
          (if RealLike.ltb cbet1 (-sbet1) then (cbet2 - cbet1) * (cbet1 + cbet2) else (sbet1 - sbet2) * (sbet1 + sbet2))) / cbet2
      else RealLike.abs (if RealLike.eqb sbet1 (RealLike.ofNat 0) && RealLike.eqb calp1 (RealLike.ofNat 0) then -g.tiny else calp1) := rfl

/-- no square root of a negative number in `Lambda12`: on the reduced latitudes that `GenInverse` forms, the
    radicand of `calp2` is non-negative for every trial azimuth -/
theorem lambda12_radicand_nonneg (p : Params ℝ) (s1 c1 s2 c2 calp1 : ℝ) (ht : 0 < p.tiny) (hs : (reduceLat p s1 c1 s2 c2).sbet1 ≤ 0) :
    0 ≤ RealLike.sq (calp1 * (reduceLat p s1 c1 s2 c2).cbet1) +
      (if RealLike.ltb (reduceLat p s1 c1 s2 c2).cbet1 (-(reduceLat p s1 c1 s2 c2).sbet1) then
         ((reduceLat p s1 c1 s2 c2).cbet2 - (reduceLat p s1 c1 s2 c2).cbet1) * ((reduceLat p s1 c1 s2 c2).cbet1 + (reduceLat p s1 c1 s2 c2).cbet2)
       else ((reduceLat p s1 c1 s2 c2).sbet1 - (reduceLat p s1 c1 s2 c2).sbet2) * ((reduceLat p s1 c1 s2 c2).sbet1 + (reduceLat p s1 c1 s2 c2).sbet2)) := by
  have h := reduced_latitudes_ordered p s1 c1 s2 c2 ht hs
  exact radicand_nonneg _ _ _ _ calp1 h.1 h.2.1 h.2.2.1 h.2.2.2

/-- non-vacuity: a southern point 1 (`sincosd` values `(−1/2, 1/2)`, any scale) has `sbet1 ≤ 0` -/
example : (reduceLat (⟨1, 0, 1, 0, 0, 0, 1, 1, 1 / 4, 1, 1, 20, 146, 1, false⟩ : Params ℝ) (-1 / 2) (1 / 2) (1 / 4) (1 / 2)).sbet1 ≤ 0 := by
  show (norm2 ((-1 / 2 : ℝ) * 1) (1 / 2)).1 ≤ 0
  rw [norm2_fst]
  apply div_nonpos_of_nonpos_of_nonneg (by norm_num) (Real.sqrt_nonneg _)

/-- the equatorial answer (`// Geodesic runs along equator` in `Geodesic.cpp`, followed by the area part and the sign restoration), for
    every kernel whose area integral vanishes on the equator; `a12 = lon12/f1` when the cut-off test holds exactly
    (`equatorial_a12_exact`) -/
theorem equatorial_closed_form (p : Params ℝ) (k : Kernels ℝ) (β : Beta ℝ) (c : Canon ℝ) (ls sw lt : Int)
    (hb : (genInverse p k β c ls sw lt).sol.branch = .equatorial)
    (h1 : β.sbet1 = 0) (h2 : β.sbet2 = 0) (hc1 : 0 < β.cbet1) (hc2 : 0 < β.cbet2) (harea : k.area 1 0 1 0 = 0) :
    (genInverse p k β c ls sw lt).out.s12 = p.a * (c.lon12 * degree) ∧
    (genInverse p k β c ls sw lt).out.m12 = p.b * Real.sin (c.lon12 * degree / p.f1) ∧
    (genInverse p k β c ls sw lt).out.M12 = Real.cos (c.lon12 * degree / p.f1) ∧
    (genInverse p k β c ls sw lt).out.M21 = Real.cos (c.lon12 * degree / p.f1) ∧
    (genInverse p k β c ls sw lt).out.a12 = min (c.lon12 / p.f1) 180 ∧
    (genInverse p k β c ls sw lt).out.S12 = 0 ∧
    (genInverse p k β c ls sw lt).out.calp1 = 0 ∧ (genInverse p k β c ls sw lt).out.calp2 = 0 ∧
    (genInverse p k β c ls sw lt).out.salp1 = (if sw * ls < 0 then -1 else 1) ∧
    (genInverse p k β c ls sw lt).out.salp2 = (if sw * ls < 0 then -1 else 1) := by
  have hs := (solve_equatorial p k β c hb).2
  have hS : areaS12 p k β (solve p k β c).1 ls sw lt = 0 := by
    rw [hs]; exact areaS12_equatorial p k β _ _ ls sw lt h1 h2 hc1 hc2 harea
  have hr := restore_equatorial p c.lon12 (lam12Of c) ls sw lt (areaS12 p k β (solve p k β c).1 ls sw lt)
  rw [← hs] at hr
  obtain ⟨rs, rm, rM12, rM21, ra, rc1, rc2, rs1, rs2⟩ := hr
  exact ⟨rs, rm, rM12, rM21, ra, hS, rc1, rc2, rs1, rs2⟩

/-- on the equatorial branch the clamp of fix 62054f0 is inactive when the cut-off test `lon12s ≥ f·180` holds exactly (`lon12 ≤ 180`,
    `AngDiff` error term `≥ 0`): `a12 = lon12/f1` -/
theorem equatorial_a12_exact (p : Params ℝ) (k : Kernels ℝ) (β : Beta ℝ) (c : Canon ℝ) (ls sw lt : Int)
    (hb : (genInverse p k β c ls sw lt).sol.branch = .equatorial) (hf1 : p.f1 = 1 - p.f) (hf : p.f < 1)
    (hl0 : 0 ≤ c.lon12) (hl1 : c.lon12 ≤ 180) (he : 0 ≤ c.lon12e) :
    (genInverse p k β c ls sw lt).out.a12 = c.lon12 / p.f1 := by
  have hs := solve_equatorial p k β c hb
  show (solve p k β c).1.a12 = _
  rw [hs.2]
  exact equatorial_a12_unclamped p β c hf1 hf hl1 he hs.1

/-- `a12 ≤ 180` on the equatorial branch in binary64: in every number type whose `<` is irreflexive at 180 —
    binary64 and ℝ — the equatorial answer never compares greater than 180, whatever the cut-off test and the division did; and a
    quotient that does not compare greater than 180 (a NaN included) is returned unchanged -/
theorem equatorial_a12_le_180 {α : Type} [RealLike α] (p : Params α) (k : Kernels α) (β : Beta α) (c : Canon α) (ls sw lt : Int)
    (hb : (genInverse p k β c ls sw lt).sol.branch = .equatorial)
    (hirr : RealLike.ltb (RealLike.ofNat 180 : α) (RealLike.ofNat 180) = false) :
    RealLike.ltb (RealLike.ofNat 180 : α) (genInverse p k β c ls sw lt).out.a12 = false ∧
    (RealLike.ltb (RealLike.ofNat 180 : α) (c.lon12 / p.f1) = false → (genInverse p k β c ls sw lt).out.a12 = c.lon12 / p.f1) := by
  have hs := solve_equatorial p k β c hb
  have e : (genInverse p k β c ls sw lt).out.a12 = clamp180 (c.lon12 / p.f1) := by
    show (solve p k β c).1.a12 = _
    rw [hs.2]; rfl
  rw [e]
  exact ⟨clamp180_le _ hirr, clamp180_passes _⟩

example : RealLike.ltb (RealLike.ofNat 180 : ℝ) (RealLike.ofNat 180) = false := by simp [ofNat_real]

/-- the series solver's area integral does vanish on the equator (hypothesis `harea` above) -/
theorem series_area_equatorial (g : Geod ℝ) (β : Beta ℝ) (h1 : β.sbet1 = 0) : areaSeries g β 1 0 1 0 = 0 := by
  unfold areaSeries
  have : RealLike.hypot (0 : ℝ) (1 * β.sbet1) = 0 := by rw [h1, hypot_real]; norm_num
  simp only [this, eqb_real]
  simp [lit_zero]

/-- the meridional answer: when the meridional branch answers, the end points are on a meridian (`lat1 = −90` or
    `sin λ12 = 0`), the candidate was accepted, the canonical azimuths are `(sin λ12, cos λ12)` at point 1 and due north at point 2,
    `σ12 = atan2(max(0, …), …)` is the difference of the arcs `tan σ1 = sbet1/(cos λ12 cbet1)`, `tan σ2 = sbet2/cbet2`, and the
    lengths are `b` × the `Lengths` kernel at these arcs, or `0` when the short-line guard fired -/
theorem meridional_closed_form (p : Params ℝ) (k : Kernels ℝ) (β : Beta ℝ) (c : Canon ℝ) (ls sw lt : Int)
    (hb : (genInverse p k β c ls sw lt).sol.branch = .meridional) :
    isMeridian c = true ∧ (meridional p k β c.slam12 c.clam12).accepted = true ∧
    (genInverse p k β c ls sw lt).sol.salp1 = c.slam12 ∧ (genInverse p k β c ls sw lt).sol.calp1 = c.clam12 ∧
    (genInverse p k β c ls sw lt).sol.salp2 = 0 ∧ (genInverse p k β c ls sw lt).sol.calp2 = 1 ∧
    (meridional p k β c.slam12 c.clam12).sig12c =
      RealLike.atan2 (max 0 (c.clam12 * β.cbet1 * β.sbet2 - β.sbet1 * β.cbet2)) (c.clam12 * β.cbet1 * β.cbet2 + β.sbet1 * β.sbet2) ∧
    (genInverse p k β c ls sw lt).out.s12 =
      (if (meridional p k β c.slam12 c.clam12).zeroed then 0
       else (k.lenMerid (meridional p k β c.slam12 c.clam12).sig12c β.sbet1 (c.clam12 * β.cbet1) β.sbet2 β.cbet2).s12b) * p.b ∧
    (genInverse p k β c ls sw lt).out.m12 =
      (if (meridional p k β c.slam12 c.clam12).zeroed then 0
       else (k.lenMerid (meridional p k β c.slam12 c.clam12).sig12c β.sbet1 (c.clam12 * β.cbet1) β.sbet2 β.cbet2).m12b) * p.b ∧
    (genInverse p k β c ls sw lt).out.a12 =
      (if (meridional p k β c.slam12 c.clam12).zeroed then 0 else (meridional p k β c.slam12 c.clam12).sig12c) / degree := by
  have hs := solve_meridional p k β c hb
  obtain ⟨fs1, fc1, fs2, fc2, fs12, fm12⟩ := meridional_fields p k β c.slam12 c.clam12
  have e : (genInverse p k β c ls sw lt).sol = (meridional p k β c.slam12 c.clam12).sol := hs.2.2
  refine ⟨hs.1, hs.2.1, ?_, ?_, ?_, ?_, meridional_sig12c_eq p k β _ _, ?_, ?_, ?_⟩
  · rw [e]; exact fs1
  · rw [e]; exact fc1
  · rw [e]; exact fs2
  · rw [e]; exact fc2
  · show (restore ls sw lt (solve p k β c).1 _).s12 = _
    rw [restore_s12, hs.2.2]; exact fs12
  · show (restore ls sw lt (solve p k β c).1 _).m12 = _
    rw [restore_m12, hs.2.2]; exact fm12
  · show (solve p k β c).1.a12 = _
    rw [hs.2.2]; exact meridional_a12_eq p k β _ _

/-- azimuths on the meridional branch: the azimuth at the point that was canonical point 2 is exactly `0` or `180`
    (`±180` cannot be told apart over ℝ) -/
theorem meridional_azimuth_far (p : Params ℝ) (k : Kernels ℝ) (β : Beta ℝ) (c : Canon ℝ) (ls sw lt : Int)
    (hb : (genInverse p k β c ls sw lt).sol.branch = .meridional) :
    (0 ≤ sw → (genInverse p k β c ls sw lt).out.salp2 = 0 ∧
      ((genInverse p k β c ls sw lt).azi2 = 0 ∨ (genInverse p k β c ls sw lt).azi2 = 180)) ∧
    (sw < 0 → (genInverse p k β c ls sw lt).out.salp1 = 0 ∧
      ((genInverse p k β c ls sw lt).azi1 = 0 ∨ (genInverse p k β c ls sw lt).azi1 = 180)) := by
  obtain ⟨_, _, _, _, h2, h3, _⟩ := meridional_closed_form p k β c ls sw lt hb
  rw [genInverse_sol] at h2 h3
  constructor
  · intro hsw
    have hn : ¬ sw < 0 := not_lt.mpr hsw
    exact restore_azi2_meridional ls sw lt _ _ (by rw [if_neg hn]; exact h2) (by rw [if_neg hn]; exact .inl h3)
  · intro hsw
    exact restore_azi1_meridional ls sw lt _ _ (by rw [if_pos hsw]; exact h2) (by rw [if_pos hsw]; exact .inl h3)

/-- when the points are on a common meridian proper (`sin λ12 = 0`, so `cos λ12 = ±1`: longitude difference 0 or 180) both
    azimuths are exactly `0` or `180` -/
theorem meridional_azimuths (p : Params ℝ) (k : Kernels ℝ) (β : Beta ℝ) (c : Canon ℝ) (ls sw lt : Int)
    (hb : (genInverse p k β c ls sw lt).sol.branch = .meridional) (hsl : c.slam12 = 0) (hcl : c.clam12 = 1 ∨ c.clam12 = -1) :
    ((genInverse p k β c ls sw lt).azi1 = 0 ∨ (genInverse p k β c ls sw lt).azi1 = 180) ∧
    ((genInverse p k β c ls sw lt).azi2 = 0 ∨ (genInverse p k β c ls sw lt).azi2 = 180) := by
  obtain ⟨_, _, hs1, hc1, _⟩ := meridional_closed_form p k β c ls sw lt hb
  rw [genInverse_sol] at hs1 hc1
  have h0 : (solve p k β c).1.salp1 = 0 := hs1.trans hsl
  have h1 : (solve p k β c).1.calp1 = 1 ∨ (solve p k β c).1.calp1 = -1 := by rw [hc1]; exact hcl
  have hfar := meridional_azimuth_far p k β c ls sw lt hb
  -- one end is the far point of `meridional_azimuth_far`; the other carries the canonical point 1's `(sin λ12, cos λ12) = (0, ±1)`
  by_cases hsw : sw < 0
  · exact ⟨(hfar.2 hsw).2,
      (restore_azi2_meridional ls sw lt _ _ (by rw [if_pos hsw]; exact h0) (by rw [if_pos hsw]; exact h1)).2⟩
  · exact ⟨(restore_azi1_meridional ls sw lt _ _ (by rw [if_neg hsw]; exact h0) (by rw [if_neg hsw]; exact h1)).2,
      (hfar.1 (not_lt.mp hsw)).2⟩

/-! The symmetry laws for the whole function.  `uncanon_exchange`, `uncanon_equator`, `uncanon_meridian` above are about the tail of `GenInverse` over binary64 for an arbitrary
core.  Here the core is the model of the rest of the function; over ℝ negation is exact, so the laws read as equalities. -/

/-- exchange of the end points (`swapp ↦ −swapp` on the same canonical problem), for every kernel -/
theorem full_exchange (p : Params ℝ) (k : Kernels ℝ) (β : Beta ℝ) (c : Canon ℝ) (ls sw lt : Int) (hls : Sign ls) (hsw : Sign sw)
    (hlt : Sign lt) :
    (genInverse p k β c ls (-sw) lt).out.s12 = (genInverse p k β c ls sw lt).out.s12 ∧
    (genInverse p k β c ls (-sw) lt).out.m12 = (genInverse p k β c ls sw lt).out.m12 ∧
    (genInverse p k β c ls (-sw) lt).out.a12 = (genInverse p k β c ls sw lt).out.a12 ∧
    (genInverse p k β c ls (-sw) lt).out.salp1 = -(genInverse p k β c ls sw lt).out.salp2 ∧
    (genInverse p k β c ls (-sw) lt).out.calp1 = -(genInverse p k β c ls sw lt).out.calp2 ∧
    (genInverse p k β c ls (-sw) lt).out.salp2 = -(genInverse p k β c ls sw lt).out.salp1 ∧
    (genInverse p k β c ls (-sw) lt).out.calp2 = -(genInverse p k β c ls sw lt).out.calp1 ∧
    (genInverse p k β c ls (-sw) lt).out.M12 = (genInverse p k β c ls sw lt).out.M21 ∧
    (genInverse p k β c ls (-sw) lt).out.M21 = (genInverse p k β c ls sw lt).out.M12 ∧
    (genInverse p k β c ls (-sw) lt).out.S12 = -(genInverse p k β c ls sw lt).out.S12  := by
  have hS : (genInverse p k β c ls (-sw) lt).out.S12 = -(genInverse p k β c ls sw lt).out.S12 := by
    show areaS12 p k β _ ls (-sw) lt = -areaS12 p k β _ ls sw lt
    rw [areaS12_eq, areaS12_eq, Int.neg_mul]; exact mulSign_neg_left (flag_mul hsw hls) hlt _
  rcases hsw with rfl | rfl
  · exact ⟨rfl, rfl, rfl, mulSign_neg_left (.inl rfl) hls _, mulSign_neg_left (.inl rfl) hlt _,
      mulSign_neg_left (.inl rfl) hls _, mulSign_neg_left (.inl rfl) hlt _, rfl, rfl, hS⟩
  · exact ⟨rfl, rfl, rfl, mulSign_neg_left (.inr rfl) hls _, mulSign_neg_left (.inr rfl) hlt _,
      mulSign_neg_left (.inr rfl) hls _, mulSign_neg_left (.inr rfl) hlt _, rfl, rfl, hS⟩

/-- reflection in the equator (`latsign ↦ −latsign`) -/
theorem full_equator (p : Params ℝ) (k : Kernels ℝ) (β : Beta ℝ) (c : Canon ℝ) (ls sw lt : Int) (hls : Sign ls) (hsw : Sign sw)
    (hlt : Sign lt) :
    (genInverse p k β c ls sw (-lt)).out.s12 = (genInverse p k β c ls sw lt).out.s12 ∧
    (genInverse p k β c ls sw (-lt)).out.m12 = (genInverse p k β c ls sw lt).out.m12 ∧
    (genInverse p k β c ls sw (-lt)).out.a12 = (genInverse p k β c ls sw lt).out.a12 ∧
    (genInverse p k β c ls sw (-lt)).out.M12 = (genInverse p k β c ls sw lt).out.M12 ∧
    (genInverse p k β c ls sw (-lt)).out.M21 = (genInverse p k β c ls sw lt).out.M21 ∧
    (genInverse p k β c ls sw (-lt)).out.salp1 = (genInverse p k β c ls sw lt).out.salp1 ∧
    (genInverse p k β c ls sw (-lt)).out.calp1 = -(genInverse p k β c ls sw lt).out.calp1 ∧
    (genInverse p k β c ls sw (-lt)).out.salp2 = (genInverse p k β c ls sw lt).out.salp2 ∧
    (genInverse p k β c ls sw (-lt)).out.calp2 = -(genInverse p k β c ls sw lt).out.calp2 ∧
    (genInverse p k β c ls sw (-lt)).out.S12 = -(genInverse p k β c ls sw lt).out.S12  := by
  refine ⟨rfl, rfl, rfl, rfl, rfl, rfl, mulSign_neg_right hsw hlt _, rfl, mulSign_neg_right hsw hlt _, ?_⟩
  show areaS12 p k β _ ls sw (-lt) = -areaS12 p k β _ ls sw lt
  rw [areaS12_eq, areaS12_eq]; exact mulSign_neg_right (flag_mul hsw hls) hlt _

/-- reflection in a meridian (`lonsign ↦ −lonsign`) -/
theorem full_meridian (p : Params ℝ) (k : Kernels ℝ) (β : Beta ℝ) (c : Canon ℝ) (ls sw lt : Int) (hls : Sign ls) (hsw : Sign sw)
    (hlt : Sign lt) :
    (genInverse p k β c (-ls) sw lt).out.s12 = (genInverse p k β c ls sw lt).out.s12 ∧
    (genInverse p k β c (-ls) sw lt).out.m12 = (genInverse p k β c ls sw lt).out.m12 ∧
    (genInverse p k β c (-ls) sw lt).out.a12 = (genInverse p k β c ls sw lt).out.a12 ∧
    (genInverse p k β c (-ls) sw lt).out.M12 = (genInverse p k β c ls sw lt).out.M12 ∧
    (genInverse p k β c (-ls) sw lt).out.M21 = (genInverse p k β c ls sw lt).out.M21 ∧
    (genInverse p k β c (-ls) sw lt).out.salp1 = -(genInverse p k β c ls sw lt).out.salp1 ∧
    (genInverse p k β c (-ls) sw lt).out.calp1 = (genInverse p k β c ls sw lt).out.calp1 ∧
    (genInverse p k β c (-ls) sw lt).out.salp2 = -(genInverse p k β c ls sw lt).out.salp2 ∧
    (genInverse p k β c (-ls) sw lt).out.calp2 = (genInverse p k β c ls sw lt).out.calp2 ∧
    (genInverse p k β c (-ls) sw lt).out.S12 = -(genInverse p k β c ls sw lt).out.S12  := by
  refine ⟨rfl, rfl, rfl, rfl, rfl, mulSign_neg_right hsw hls _, rfl, mulSign_neg_right hsw hls _, rfl, ?_⟩
  show areaS12 p k β _ (-ls) sw lt = -areaS12 p k β _ ls sw lt
  rw [areaS12_eq, areaS12_eq, Int.mul_neg]; exact mulSign_neg_left (flag_mul hsw hls) hlt _

/-- the same flags leave the branch, the iteration count and every canonical quantity alone: `solve` does not see them -/
theorem flags_do_not_reach_the_solver (p : Params ℝ) (k : Kernels ℝ) (β : Beta ℝ) (c : Canon ℝ) (ls sw lt ls' sw' lt' : Int) :
    (genInverse p k β c ls sw lt).sol = (genInverse p k β c ls' sw' lt').sol := rfl

/-- non-vacuity of `equatorial_closed_form`, `s12_nonneg_equatorial`: two equatorial points 90° apart on a sphere -/
example (k : Kernels ℝ) :
    (genInverse ⟨1, 0, 1, 0, 0, 0, 1, 1, 1, 1, 1, 20, 146, 1, false⟩ k ⟨0, 1, 0, 1, 1, 1⟩ ⟨0, 90, 0, 1, 0⟩ 1 1 1).sol.branch = .equatorial := by
  have h : (solve ⟨1, 0, 1, 0, 0, 0, 1, 1, 1, 1, 1, 20, 146, 1, false⟩ k ⟨0, 1, 0, 1, 1, 1⟩ ⟨0, 90, 0, 1, 0⟩).1 =
      equatorial ⟨1, 0, 1, 0, 0, 0, 1, 1, 1, 1, 1, 20, 146, 1, false⟩ 90 (lam12Of ⟨0, 90, 0, 1, 0⟩) := by
    unfold solve isMeridian equatorialTest
    have h1 : ¬ ((0 : ℝ) = -(@OfNat.ofNat ℝ 90 RealLike.Lits.instLit)) := by rw [lit_real]; norm_num
    have h2 : ¬ ((1 : ℝ) = (@OfNat.ofNat ℝ 0 RealLike.Lits.instLit)) := by rw [lit_zero]; norm_num
    simp [h1, lit_zero]
  show (solve _ k _ _).1.branch = _
  rw [h]; rfl

/-- non-vacuity of `meridional_closed_form`, `meridional_azimuths`: two points on the meridian `λ12 = 0` with a `Lengths` kernel that
    returns `m12 = 0` are answered by the meridional branch -/
example (st : StartOut ℝ) (lam : ℝ → ℝ → Nat → LamOut ℝ) (lf : LamOut ℝ → LenOut ℝ) (ar : ℝ → ℝ → ℝ → ℝ → ℝ) :
    (genInverse ⟨1, 0, 1, 0, 0, 0, 1, 1, 1, 1, 1, 20, 146, 1, false⟩ ⟨fun _ _ _ _ _ => ⟨0, 0, 1, 1⟩, st, lam, lf, ar⟩
      ⟨-1 / 2, 1 / 2, 0, 1, 1, 1⟩ ⟨-30, 0, 0, 0, 1⟩ 1 1 1).sol.branch = .meridional := by
  have h : (solve ⟨1, 0, 1, 0, 0, 0, 1, 1, 1, 1, 1, 20, 146, 1, false⟩ ⟨fun _ _ _ _ _ => ⟨0, 0, 1, 1⟩, st, lam, lf, ar⟩
      ⟨-1 / 2, 1 / 2, 0, 1, 1, 1⟩ ⟨-30, 0, 0, 0, 1⟩).1 =
      (meridional ⟨1, 0, 1, 0, 0, 0, 1, 1, 1, 1, 1, 20, 146, 1, false⟩ ⟨fun _ _ _ _ _ => ⟨0, 0, 1, 1⟩, st, lam, lf, ar⟩
        ⟨-1 / 2, 1 / 2, 0, 1, 1, 1⟩ 0 1).sol := by
    unfold solve isMeridian
    have hm : (RealLike.eqb (-30 : ℝ) (-(@OfNat.ofNat ℝ 90 RealLike.Lits.instLit)) ||
        RealLike.eqb (0 : ℝ) (@OfNat.ofNat ℝ 0 RealLike.Lits.instLit)) = true := by rw [lit_zero]; simp
    have ha : (meridional ⟨1, 0, 1, 0, 0, 0, 1, 1, 1, 1, 1, 20, 146, 1, false⟩ ⟨fun _ _ _ _ _ => ⟨0, 0, 1, 1⟩, st, lam, lf, ar⟩
        ⟨-1 / 2, 1 / 2, 0, 1, 1, 1⟩ (0 : ℝ) 1).accepted = true := by
      show (RealLike.ltb _ _ || RealLike.leb (@OfNat.ofNat ℝ 0 RealLike.Lits.instLit) (0 : ℝ)) = true
      rw [lit_zero]; simp
    simp only [hm, ↓reduceIte, ha]
  show (solve _ _ _ _).1.branch = _
  rw [h]; rfl

/-! The laws `uncanon_exchange`, `uncanon_equator`, `uncanon_meridian` hold over the exact binary64 model for every core; here they
are instantiated at the full series model executed in binary64 (the `sincosd` kernels by libm). -/

/-- the series solver of `Model/GeodInvFull.lean` on the canonical problem, in binary64, as a core of the wrapper of
    `Model/GeodInverse.lean`: `eps0 = 2⁻⁵²` and `tiny = √(2⁻¹⁰²²)` are `numeric_limits<double>::epsilon()` and `sqrt(min())`; the flags
    `1 1 1` make the inner sign restoration the identity, so that `uncanon` applies the flags of `k` once -/
def seriesCoreF64 (a f : Float) (k : GeodInverse.Canon) : Core :=
  let eps0 : Float := 2.220446049250313e-16
  let g := geodesic a f (Float.sqrt 2.2250738585072014e-308) eps0
  let sc (x : Float) : Float × Float := (Float.sin (x * (degree : Float)), Float.cos (x * (degree : Float)))
  let lon12 := k.lon12.toFloat
  let lon12e := k.lon12s.toFloat
  let sl := sc (lon12 + lon12e)
  let b1 := sc k.lat1.toFloat
  let b2 := sc k.lat2.toFloat
  let r := genInverseSeries g eps0 (budget 53) b1.1 b1.2 b2.1 b2.2 ⟨k.lat1.toFloat, lon12, lon12e, sl.1, sl.2⟩ 1 1 1
  let o := r.out
  ⟨F64.ofFloat o.s12, F64.ofFloat o.salp1, F64.ofFloat o.calp1, F64.ofFloat o.salp2, F64.ofFloat o.calp2, F64.ofFloat o.m12,
   F64.ofFloat o.M12, F64.ofFloat o.M21, F64.ofFloat o.S12, F64.ofFloat o.a12⟩

/-- exchange of the end points for the whole series solver in binary64 -/
theorem series_f64_exchange (a f : Float) (k : GeodInverse.Canon) (hls : Sign k.lonsign) (hsw : Sign k.swapp) (hlt : Sign k.latsign) :
    let r := uncanon k.lonsign k.swapp k.latsign (seriesCoreF64 a f k)
    let r' := uncanon k.lonsign (-k.swapp) k.latsign (seriesCoreF64 a f k)
    r'.s12 = r.s12 ∧ r'.m12 = r.m12 ∧ r'.a12 = r.a12 ∧
    r'.salp1 = F64.neg r.salp2 ∧ r'.calp1 = F64.neg r.calp2 ∧ r'.salp2 = F64.neg r.salp1 ∧ r'.calp2 = F64.neg r.calp1 ∧
    r'.M12 = r.M21 ∧ r'.M21 = r.M12 ∧ r'.S12 = F64.neg r.S12 :=
  uncanon_exchange k.lonsign k.swapp k.latsign hls hsw hlt (seriesCoreF64 a f k)

/-- reflection in the equator for the whole series solver in binary64 -/
theorem series_f64_equator (a f : Float) (k : GeodInverse.Canon) (hls : Sign k.lonsign) (hsw : Sign k.swapp) (hlt : Sign k.latsign) :
    let r := uncanon k.lonsign k.swapp k.latsign (seriesCoreF64 a f k)
    let r' := uncanon k.lonsign k.swapp (-k.latsign) (seriesCoreF64 a f k)
    r'.s12 = r.s12 ∧ r'.m12 = r.m12 ∧ r'.M12 = r.M12 ∧ r'.M21 = r.M21 ∧
    r'.salp1 = r.salp1 ∧ r'.calp1 = F64.neg r.calp1 ∧ r'.salp2 = r.salp2 ∧ r'.calp2 = F64.neg r.calp2 ∧ r'.S12 = F64.neg r.S12 :=
  uncanon_equator k.lonsign k.swapp k.latsign hls hsw hlt (seriesCoreF64 a f k)

/-- reflection in a meridian for the whole series solver in binary64 -/
theorem series_f64_meridian (a f : Float) (k : GeodInverse.Canon) (hls : Sign k.lonsign) (hsw : Sign k.swapp) (hlt : Sign k.latsign) :
    let r := uncanon k.lonsign k.swapp k.latsign (seriesCoreF64 a f k)
    let r' := uncanon (-k.lonsign) k.swapp k.latsign (seriesCoreF64 a f k)
    r'.s12 = r.s12 ∧ r'.m12 = r.m12 ∧ r'.M12 = r.M12 ∧ r'.M21 = r.M21 ∧
    r'.salp1 = F64.neg r.salp1 ∧ r'.calp1 = r.calp1 ∧ r'.salp2 = F64.neg r.salp2 ∧ r'.calp2 = r.calp2 ∧ r'.S12 = F64.neg r.S12 :=
  uncanon_meridian k.lonsign k.swapp k.latsign hls hsw hlt (seriesCoreF64 a f k)

end Full

end GeoVerif.Props.C02
