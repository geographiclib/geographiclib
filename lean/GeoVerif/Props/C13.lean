import GeoVerif.Model.UTMUPS
import GeoVerif.Model.MGRS
import GeoVerif.Model.GridCodes
import GeoVerif.Gen.ApiC13
import GeoVerif.Proofs.ErrContract
import GeoVerif.Proofs.ErrCover
/-!
# C13 — error contract: NaN propagates, bad input throws cleanly, nothing crashes

Theorems about the *same definitions the driver executes* (`Model/ErrContract.lean` and the `Except`-returning models of
C04 / C05 / C18).  What cannot be a theorem — absence of undefined behaviour, crashes and hangs in the C++ — is covered
only by the sanitizer-instrumented correspondence run and is labelled partial in the manifest.
A statement marked (Gen) is about a table of `Gen/*.lean`, extracted from the sources, and is proved by evaluation.
`Fnn` are the ids of `/verif/known_findings.json`, `C13A`–`C13H` the seeded changes of `/verif/seeded/`.
-/
namespace GeoVerif.Props.C13
open GeoVerif GeoVerif.ErrContract GeoVerif.Proofs.ErrContract GeoVerif.ErrCover GeoVerif.ApiInventory

/-! ## 1. the decision procedures of the sweep are sound for the contract -/

/-- The dependence table (394 entry points) is well formed: every row has one character per output, drawn from
`0 1 = x`, and the inputs listed as "NaN is rejected" exist. -/
theorem table_wellformed : table.all wellFormed = true := by decide +kernel

/-- the numeric code of every table key is the code of its name (so that look-ups by code are look-ups by name) -/
theorem table_keys_ok : (table.all fun e => e.key.ok) = true := by
  simp only [Key.ok, strCode_eq_foldl]
  decide +kernel

/-- no entry point is listed twice (the driver's lookup is unambiguous): the codes are pairwise distinct -/
theorem table_codes_distinct : (table.map (·.key.code)).Nodup :=
  -- the table is in the order of the names, that is of the left-aligned codes
  nodup_of_increasing leftAligned _ (by decide +kernel)
theorem table_names_distinct : (table.map (·.name)).Nodup := by
  have hk : ∀ e ∈ table, e.key.code = strCode e.name := fun e he => by
    simpa [Key.ok, Entry.name] using List.all_eq_true.mp table_keys_ok e he
  refine List.pairwise_map.mpr ((List.pairwise_map.mp table_codes_distinct).imp_of_mem fun ha hb hne hn => hne ?_)
  rw [hk _ ha, hk _ hb, hn]

theorem okOut_spec {q : Req} {isnan same : Bool} (h : okOut q isnan same = true) :
    (q = .nan → isnan = true) ∧ (q = .valid → isnan = false) ∧ (q = .same → isnan = false ∧ same = true) := by
  cases q <;> simp_all [okOut]

/--
If the driver accepts the report of a call whose argument `i` was NaN, then
* no exception was raised — unless `i` is one of the arguments whose NaN is documented to be rejected, in which case
  the only alternative is the library's exception with no output written — and
* when it returned, every output marked dependent on `i` is NaN, every output marked `0` is a valid number, and every output
  marked `=` (does not depend on `i` at all) is a valid number **bit-identical to the output of the NaN-free baseline call**.
-/
theorem nan_contract_sound (e : Entry) (i : Nat) (r : Report) (h : e.checkNaN i r = true) :
    (r.exc = .none ∨ (i ∈ e.nanErr ∧ r.exc = .lib ∧ ∀ w ∈ r.written, w = false)) ∧
    (r.exc = .none → ∀ o, o < e.nout →
      (e.req i o = .nan → r.isnan.getD o false = true) ∧ (e.req i o = .valid → r.isnan.getD o false = false) ∧
      (e.req i o = .same → r.isnan.getD o false = false ∧ r.same.getD o false = true)) := by
  unfold Entry.checkNaN at h
  split at h
  · rename_i hc
    have hi : i ∈ e.nanErr := by simpa using hc
    simp only [Bool.or_eq_true, Bool.and_eq_true, beq_iff_eq, List.all_eq_true, List.mem_range] at h
    rcases h with ⟨hx, hw⟩ | ⟨hx, ho⟩
    · refine ⟨Or.inr ⟨hi, hx, fun w hw' => by simpa using hw w hw'⟩, fun hn => ?_⟩
      rw [hx] at hn; cases hn
    · exact ⟨Or.inl hx, fun _ o ho' => okOut_spec (ho o ho')⟩
  · simp only [Bool.and_eq_true, beq_iff_eq, List.all_eq_true, List.mem_range] at h
    obtain ⟨⟨hx, _⟩, ho⟩ := h
    exact ⟨Or.inl hx, fun _ o ho' => okOut_spec (ho o ho')⟩

def okReport (n : Nat) (isnan same : List Bool) : Report := { exc := .none, written := List.replicate n true, isnan := isnan, same := same }

/-- non-vacuity: `Geodesic::Direct` with NaN `lon1`: only `lon2` (output 1) is NaN, every other output equals the baseline's,
nothing thrown: accepted; the same report with `azi2` (output 2) differing from the baseline is rejected (the row is `=1======`);
the F11 shape (a dependent output coming back finite) is rejected; the seeded change C13F (`GeoCoords(zone, northp, NaN, y)` returning
another northing, output 3) is rejected -/
example : (findKey (k% "GeodS.Direct")).map (fun e => e.checkNaN 1 (okReport 8 [false, true, false, false, false, false, false, false]
    [true, false, true, true, true, true, true, true])) = some true := by
  decide +kernel
example : (findKey (k% "GeodS.Direct")).map (fun e => e.checkNaN 1 (okReport 8 [false, true, false, false, false, false, false, false]
    [true, false, false, true, true, true, true, true])) = some false := by
  decide +kernel
example : (findKey (k% "LCC.Reverse")).map (fun e => e.checkNaN 2 (okReport 4 [false, true, false, false]
    [false, false, false, false])) = some false := by decide +kernel
example : (findKey (k% "GeoCoords.CtorUTMN")).map (fun e => e.checkNaN 0 (okReport 17 [true, true, true, false, true, true, false, false, true, false, false, true, true, false, true, true, false]
    [false, false, false, false, false, false, false, true, false, false, true, false, false, true, false, false, false])) = some false := by
  decide +kernel
/-- … and the report of the unchanged library (northing, hemisphere, zone and their alternates echo the arguments) is accepted -/
example : (findKey (k% "GeoCoords.CtorUTMN")).map (fun e => e.checkNaN 0 (okReport 17 [true, true, true, false, true, true, false, false, true, false, false, true, true, false, true, true, false]
    [false, false, false, true, false, false, true, true, false, true, true, false, false, true, false, false, true])) = some true := by
  decide +kernel

/--
A report accepted by `throwClean` is either a normal return, or the library's exception / an
allocation failure *with every output argument left exactly as it was*; never a foreign exception, never a hang.
-/
theorem throw_clean_sound (r : Report) (h : throwClean r = true) :
    r.exc = .none ∨ ((r.exc = .lib ∨ r.exc = .alloc) ∧ ∀ w ∈ r.written, w = false) := by
  unfold throwClean at h
  cases hx : r.exc <;> simp only [hx] at h <;> simp_all

/-- a function that is not documented to validate its arguments is accepted only if it did not throw at all -/
theorem ordinary_member_never_throws (e : Entry) (r : Report) (hv : e.validates = false) (h : e.checkOther r = true) :
    r.exc = .none := by
  unfold Entry.checkOther at h
  simp only [Bool.and_eq_true, Bool.or_eq_true, beq_iff_eq, hv] at h
  rcases h.2 with h | h
  · exact h
  · cases h

/-! ## 2. `throws_no_output`: an error of an `Except` model leaves the caller's (sentinel) outputs -/

/-- structural: whatever the entry point, an error result makes the harness-visible output record equal to the
sentinel record the caller pre-filled -/
theorem throws_no_output {ε α : Type} (sent : α) (r : Except ε α) (err : ε) (h : r = .error err) :
    visible sent r = sent := by subst h; rfl

theorem returns_output {ε α : Type} (sent : α) (r : Except ε α) (v : α) (h : r = .ok v) : visible sent r = v := by subst h; rfl

/-- instances for the modelled entry points (the models are total functions into `Except`, so this is all there is) -/
theorem utmups_forward_throws_no_output (lat lon : F64) (sz : Int) (mg : Bool) (kern : F64 × F64 × F64 × F64)
    (sent : UTMUPS.FwdOut) (err : String) (h : UTMUPS.forward lat lon sz mg kern = .error err) :
    visible sent (UTMUPS.forward lat lon sz mg kern) = sent := throws_no_output _ _ err h
theorem mgrs_forward_throws_no_output (zone : Int) (np : Bool) (x y lat : F64) (prec : Int) (sent : List Char) (err : String)
    (h : MGRS.forwardLat zone np x y lat prec = .error err) : visible sent (MGRS.forwardLat zone np x y lat prec) = sent :=
  throws_no_output _ _ err h
theorem mgrs_reverse_throws_no_output (s : List Nat) (cp : Bool) (sent : MGRS.Rev) (err : String)
    (h : MGRS.reverse s cp = .error err) : visible sent (MGRS.reverse s cp) = sent := throws_no_output _ _ err h
theorem decodezone_throws_no_output (s : List Nat) (sent : Int × Bool) (err : String)
    (h : UTMUPS.decodeZone s = .error err) : visible sent (UTMUPS.decodeZone s) = sent := throws_no_output _ _ err h

/-- non-vacuity: `UTMUPS::Forward(lat = 10, lon = 100, setzone = 31)` is an error of the model (the C13B witness) -/
example : (match UTMUPS.forward (F64.ofInt 10) (F64.ofInt 100) 31 false (0, 0, 0, 1) with | .error _ => true | .ok _ => false) = true := by
  decide +kernel

/-! ## 3. `nan_in_invalid_out`: NaN position ⇒ INVALID marker, INVALID ⇒ NaN back

(models of C04 / C05 / C18, imported; the constants come from `Gen/`) -/

/-- `Geohash::Forward`: NaN latitude, or NaN / infinite longitude (`AngNormalize` turns ±inf into NaN first, d0a70a5) with a legal latitude ⇒ "invalid" -/
theorem nan_in_invalid_out_geohash (lat lon : F64) (len : Int)
    (h : lat.isNaN = true ∨ (lon.isFinite = false ∧ F64.gt (F64.abs lat) MathF.qd = false)) :
    Grid.Geohash.forward lat lon len = .ok "invalid".toList := by
  obtain ⟨hg, hn⟩ := nan_lat_guard h
  simp [Grid.Geohash.forward, Grid.Geohash.scale, hg, hn, bind, Except.bind, pure, Except.pure]

theorem nan_in_invalid_out_gars (lat lon : F64) (p : Int)
    (h : lat.isNaN = true ∨ (lon.isFinite = false ∧ F64.gt (F64.abs lat) MathF.qd = false)) :
    Grid.GARS.forward lat lon p = .ok "INVALID".toList := by
  obtain ⟨hg, hn⟩ := nan_lat_guard h
  simp [Grid.GARS.forward, Grid.GARS.forwardWith, Grid.GARS.scale, Grid.GARS.scaleWith, hg, hn, bind, Except.bind, pure, Except.pure]

theorem nan_in_invalid_out_georef (lat lon : F64) (p : Int)
    (h : lat.isNaN = true ∨ (lon.isFinite = false ∧ F64.gt (F64.abs lat) MathF.qd = false)) :
    Grid.Georef.forward lat lon p = .ok "INVALID".toList := by
  obtain ⟨hg, hn⟩ := nan_lat_guard h
  simp [Grid.Georef.forward, Grid.Georef.forwardWith, Grid.Georef.scale, Grid.Georef.scaleWith, hg, hn, bind, Except.bind, pure,
    Except.pure]

/-- `OSGB::GridReference(x, y, prec, s)`: a NaN coordinate (the other one in range, legal precision) ⇒ "INVALID" -/
theorem nan_in_invalid_out_osgb (x y : F64) (prec : Int) (hc : Grid.OSGB.checkCoords x y = .ok ())
    (hp : 0 ≤ prec ∧ prec ≤ Gen.Grid.osgb_maxprec) (h : x.isNaN = true ∨ y.isNaN = true) :
    Grid.OSGB.gridReference x y prec = .ok "INVALID".toList := by
  unfold Grid.OSGB.gridReference
  have : (x.isNaN || y.isNaN) = true := by rcases h with h | h <;> simp [h]
  simp [hc, hp, this, bind, Except.bind]
  rfl
example : (match Grid.OSGB.gridReference .nan (F64.ofInt 300000) 4 with | .ok s => s == "INVALID".toList | .error _ => false) = true := by
  decide +kernel

/-- `MGRS::Forward(zone, northp, x, y, lat, prec, mgrs)`: INVALID zone or any NaN ⇒ "INVALID" (before any range check) -/
theorem nan_in_invalid_out_mgrs (zone : Int) (np : Bool) (x y lat : F64) (prec : Int)
    (h : zone = Gen.UTM.zINVALID ∨ x.isNaN = true ∨ y.isNaN = true ∨ lat.isNaN = true) :
    MGRS.forwardLat zone np x y lat prec = .ok "INVALID".toList := by
  unfold MGRS.forwardLat
  have : (decide (zone = Gen.UTM.zINVALID) || x.isNaN || y.isNaN || lat.isNaN) = true := by
    rcases h with h | h | h | h <;> simp [h]
  simp [this]
  rfl

/-- `UTMUPS::Forward` with a pseudo-zone request (STANDARD, MATCH, UTM, INVALID): NaN latitude, or NaN longitude with a legal
latitude ⇒ zone INVALID and NaN x, y, γ, k; no exception, whatever the projection kernel returns -/
theorem nan_in_invalid_out_utmups (lat lon : F64) (sz : Int) (mg : Bool) (kern : F64 × F64 × F64 × F64)
    (hz : Gen.UTM.zMINPSEUDOZONE ≤ sz ∧ sz < Gen.UTM.zMINZONE)
    (h : lat.isNaN = true ∨ (lon.isNaN = true ∧ F64.gt (F64.abs lat) MathF.qd = false)) :
    UTMUPS.forward lat lon sz mg kern = .ok ⟨Gen.UTM.zINVALID, !lat.signbit, .nan, .nan, .nan, .nan⟩ := by
  obtain ⟨hfin, hg⟩ : (lat.isFinite && lon.isFinite) = false ∧ F64.gt (F64.abs lat) MathF.qd = false := by
    rcases h with h | ⟨h, hg⟩
    · rw [isNaN_eq h]; exact ⟨rfl, lt_nan_right _⟩
    · rw [isNaN_eq h]; exact ⟨Bool.and_false _, hg⟩
  have hz1 : sz ≤ Gen.UTM.zMAXZONE := by have := hz.2; simp [Gen.UTM.zMINZONE, Gen.UTM.zMAXZONE] at *; omega
  unfold UTMUPS.forward UTMUPS.standardZone
  by_cases hi : sz = Gen.UTM.zINVALID
  · subst hi
    simp [hg, bind, Except.bind, pure, Except.pure,
      show ¬(Gen.UTM.zINVALID < Gen.UTM.zMINPSEUDOZONE ∨ Gen.UTM.zMAXZONE < Gen.UTM.zINVALID) by decide]
  · have : ¬ (sz ≥ Gen.UTM.zMINZONE) := by omega
    simp [hg, hz.1, hz1, hi, this, hfin, bind, Except.bind, pure, Except.pure]
/-- non-vacuity: STANDARD zone, NaN longitude at latitude 40 -/
example : (match UTMUPS.forward (F64.ofInt 40) .nan (-1) false (0, 0, 0, 1) with | .ok o => o.zone == Gen.UTM.zINVALID && o.x.isNaN | .error _ => false) = true := by
  decide +kernel

/-- INVALID ⇒ NaN back: a string starting with INV in any case (`[73, 78, 86]` = "INV"; for Geohash: `isInvalid`; for OSGB: IN)
decodes to NaN -/
theorem invalid_in_nan_out_gars (s : List Nat) (cp : Bool) (h : Grid.startsInv s [73, 78, 86] = true) :
    Grid.GARS.reverse s cp = .ok .nan := by
  unfold Grid.GARS.reverse
  simp [h]
  rfl
theorem invalid_in_nan_out_georef (s : List Nat) (cp : Bool) (h : Grid.startsInv s [73, 78, 86] = true) :
    Grid.Georef.reverse s cp = .ok .nan := by
  unfold Grid.Georef.reverse
  simp [h]
  rfl
theorem invalid_in_nan_out_geohash (s : List Nat) (cp : Bool) (h : Grid.Geohash.isInvalid s = true) :
    Grid.Geohash.reverse s cp = .ok .nan := by
  unfold Grid.Geohash.reverse
  simp [h]
  rfl
theorem invalid_in_nan_out_osgb (s : List Nat) (cp : Bool)
    (h : (s.length ≥ 2 && Grid.upper (s.getD 0 0) = 73 && Grid.upper (s.getD 1 0) = 78) = true) :
    Grid.OSGB.reverse s cp = .ok .nan := by
  unfold Grid.OSGB.reverse
  simp only [h]
  rfl
theorem invalid_in_nan_out_mgrs (s : List Nat) (cp : Bool) (h : (s.length ≥ 3 && (s.take 3).map Grid.upper == [73, 78, 86]) = true) :
    (match MGRS.reverse s cp with | .ok r => r.zone == Gen.UTM.zINVALID && r.x.isNaN && r.y.isNaN | .error _ => false) = true := by
  unfold MGRS.reverse MGRS.decodeInt
  simp only [h]
  rfl
/-- the markers the encoders emit satisfy the hypotheses of the Geohash, GARS / Georef and OSGB decoders above
(NaN → marker → NaN; the MGRS hypothesis is not among the conjuncts) -/
theorem markers_decode_to_nan :
    Grid.Geohash.isInvalid (Grid.toBytes "invalid".toList) = true ∧ Grid.startsInv (Grid.toBytes "INVALID".toList) [73, 78, 86] = true ∧
    ((Grid.toBytes "INVALID".toList).length ≥ 2 && Grid.upper ((Grid.toBytes "INVALID".toList).getD 0 0) = 73 &&
      Grid.upper ((Grid.toBytes "INVALID".toList).getD 1 0) = 78) = true := by decide +kernel

/-! ## 4. `ctor_domain`: the validation predicates accept exactly the documented domains -/

/-- `isfinite(x) && x > 0` -/
theorem pos_iff (x : F64) : pos x = true ↔ x.isFinite = true ∧ F64.lt 0 x = true := by simp [pos, F64.gt]

/-- Geodesic, GeodesicExact, AuxLatitude (hence Rhumb, Ellipsoid): finite positive `a` and finite positive `b = a(1 − f)` -/
theorem ctor_domain_ellipsoid (a f : F64) :
    abOK a f = true ↔ (a.isFinite = true ∧ F64.lt 0 a = true) ∧ ((a * (one - f)).isFinite = true ∧ F64.lt 0 (a * (one - f)) = true) := by
  simp [abOK, pos_iff]
/-- Geocentric and the projections: finite positive `a`, finite `f < 1` -/
theorem ctor_domain_af (a f : F64) :
    afOK a f = true ↔ (a.isFinite = true ∧ F64.lt 0 a = true) ∧ f.isFinite = true ∧ F64.lt f one = true := by
  simp [afOK, pos_iff]
/-- TransverseMercator (series) and PolarStereographic add a finite positive scale -/
theorem ctor_domain_afk (a f k : F64) :
    afkOK a f k = true ↔ afOK a f = true ∧ k.isFinite = true ∧ F64.lt 0 k = true := by
  simp [afkOK, pos_iff]
/-- the exact transverse Mercator additionally needs `f > 0`: its domain is contained in the series one
(`hf` also follows from `h`, by `ctor_nonfinite_rejected`) -/
theorem ctor_domain_tmexact_sub (a f k : F64) (h : tmExactOK a f k = true) (hf : f.isFinite = true) : afkOK a f k = true := by
  simp only [tmExactOK, Bool.and_eq_true] at h
  simp [afkOK, afOK, h.1.1.1, h.1.2, h.2, hf]

/-- **non-finite ellipsoid parameters are rejected**: an infinite or NaN equatorial radius or flattening is refused by every one of the
ellipsoid / projection validators (Geodesic, GeodesicExact, Rhumb, Ellipsoid, AuxLatitude, DAuxLatitude: `abOK`; Geocentric: `afOK`;
TransverseMercator, PolarStereographic, the conics: `afkOK`; TransverseMercatorExact: `tmExactOK`), whatever the other parameters -/
theorem ctor_nonfinite_rejected (a f : F64) (h : a.isFinite = false ∨ f.isFinite = false) :
    abOK a f = false ∧ afOK a f = false ∧ (∀ k, afkOK a f k = false ∧ tmExactOK a f k = false) := by
  have hab : abOK a f = false := by
    rcases h with h | h
    · simp [abOK, pos, h]
    · have : (one - f).isFinite = false := by
        cases f with
        | nan => rfl
        | inf s => rfl
        | fin s m e => simp [F64.isFinite] at h
      simp [abOK, pos, mul_nonfinite a _ this]
  have haf : afOK a f = false := by
    rcases h with h | h
    · simp [afOK, pos, h]
    · simp [afOK, h]
  refine ⟨hab, haf, fun k => ⟨by simp [afkOK, haf], ?_⟩⟩
  rcases h with h | h
  · simp [tmExactOK, pos, h]
  · cases f with
    | nan => simp [tmExactOK, F64.gt, F64.lt]
    | inf s =>
      have h1 : F64.lt (.inf false) one = false := by decide +kernel
      have h2 : F64.gt (.inf true) 0 = false := by decide +kernel
      cases s <;> simp [tmExactOK, h1, h2]
    | fin s m e => simp [F64.isFinite] at h
/-- in particular a NaN in any parameter is rejected by every one of these (NaN-transparent comparisons written as `!(x > 0)`) -/
theorem ctor_rejects_nan : (∀ f, abOK .nan f = false) ∧ (∀ a, abOK a .nan = false) ∧ (∀ f, afOK .nan f = false) ∧
    (∀ a, afOK a .nan = false) ∧ (∀ a f, afkOK a f .nan = false) ∧ (∀ a f, tmExactOK a f .nan = false) := by
  refine ⟨fun f => (ctor_nonfinite_rejected .nan f (.inl rfl)).1, fun a => (ctor_nonfinite_rejected a .nan (.inr rfl)).1,
    fun f => (ctor_nonfinite_rejected .nan f (.inl rfl)).2.1, fun a => (ctor_nonfinite_rejected a .nan (.inr rfl)).2.1,
    fun a f => ?_, fun a f => ?_⟩
  · simp [afkOK, pos, F64.isFinite]
  · simp [tmExactOK, pos, F64.isFinite]
/-- non-vacuity: the WGS84 parameters are accepted by all four, `f = 1` and `f = 2` are rejected by all four, `f = 0` and a prolate
`f = -1/150` are rejected by the exact transverse Mercator only -/
example : let a := F64.ofInt 6378137; let f := F64.ofDecimal 335 5; let k := F64.ofDecimal 9996 4
    (abOK a f && afOK a f && afkOK a f k && tmExactOK a f k) = true ∧
    (abOK a 1 || afOK a 1 || afkOK a 1 k || tmExactOK a 1 k) = false ∧ (abOK a 2 || afOK a 2 || afkOK a 2 k || tmExactOK a 2 k) = false ∧
    (abOK a 0 && afOK a 0 && afkOK a 0 k) = true ∧ tmExactOK a 0 k = false ∧ tmExactOK a (F64.neg (F64.div 1 (F64.ofInt 150))) k = false := by
  decide +kernel

/-- the one-parallel and two-parallel constructors of LambertConformalConic / AlbersEqualArea agree when the two
parallels coincide (the pole tests are then vacuous) … -/
theorem ctor_domain_lcc_1_2 (a f l k : F64) (hl : l.isNaN = false) : lcc1OK a f l k = lcc2OK a f l l k := by
  unfold lcc1OK lcc2OK
  simp [f64_eq_self l hl]
theorem ctor_domain_albers_1_2 (a f l k : F64) (hl : l.isNaN = false) : albers1OK a f l k = albers2OK a f l l k := by
  unfold albers1OK albers2OK
  simp [f64_eq_self l hl]
/-- … and a NaN parallel is rejected by both forms -/
theorem ctor_domain_conic_nan (a f k : F64) : lcc1OK a f .nan k = false ∧ lcc2OK a f .nan .nan k = false ∧
    albers1OK a f .nan k = false ∧ albers2OK a f .nan .nan k = false := by
  simp [lcc1OK, lcc2OK, albers1OK, albers2OK, latOK, F64.abs, F64.le]
/-- the sine/cosine form with coinciding parallels reduces to the test of one (sin, cos) pair -/
theorem ctor_domain_lcc_4_same (a f s c k : F64) (hs : s.isNaN = false) (hc : c.isNaN = false) :
    lcc4OK a f s c s c k = (afkOK a f k && sincosOK s c) := by
  unfold lcc4OK sincosOK
  simp [f64_eq_self s hs, f64_eq_self c hc]
  cases afkOK a f k <;> cases c.signbit <;> simp
/-- the three forms on concrete parameters: poles (F10) — (90, 30) and opposite poles are rejected by the degree and the
sine/cosine forms alike, a double pole is accepted, ordinary parallels are accepted -/
theorem ctor_domain_conic_poles :
    let a := F64.ofInt 6378137; let f := F64.ofDecimal 335 5; let q := F64.ofInt 90; let t := F64.ofInt 30; let z : F64 := 0
    let h : F64 := .fin false 1 (-1)
    lcc2OK a f q t 1 = false ∧ lcc4OK a f 1 z h h 1 = false ∧ lcc2OK a f q q 1 = true ∧ lcc4OK a f 1 z 1 z 1 = true ∧
    albers2OK a f q (F64.neg q) 1 = false ∧ albers4OK a f 1 z (F64.neg 1) z 1 = false ∧ albers2OK a f q t 1 = true ∧
    albers4OK a f 1 z h h 1 = true ∧ lcc2OK a f t (F64.ofInt 50) 1 = true := by decide +kernel

/-! ## 5. `nan_propagates`: binary64 primitives; C `fmin`/`fmax` do *not* propagate (F11) -/

theorem nan_propagates :
    (∀ y, F64.add .nan y = .nan) ∧ (∀ x, F64.add x .nan = .nan) ∧ (∀ x, F64.sub x .nan = .nan) ∧ (∀ y, F64.sub .nan y = .nan) ∧
    (∀ y, F64.mul .nan y = .nan) ∧ (∀ x, F64.mul x .nan = .nan) ∧ (∀ y, F64.div .nan y = .nan) ∧ (∀ x, F64.div x .nan = .nan) ∧
    F64.sqrt .nan = .nan ∧ F64.neg .nan = .nan ∧ F64.abs .nan = .nan ∧ (∀ x, F64.remainder x .nan = .nan) ∧
    (∀ y, F64.remainder .nan y = .nan) ∧ MathF.latFix .nan = .nan ∧ MathF.angNormalize .nan = .nan := by
  refine ⟨fun _ => rfl, fun x => by cases x <;> rfl, fun x => by cases x <;> rfl, fun _ => rfl, fun _ => rfl,
    fun x => by cases x <;> rfl, fun _ => rfl, fun x => by cases x <;> rfl, rfl, rfl, rfl, fun x => by cases x <;> rfl, fun _ => rfl, rfl, ?_⟩
  unfold MathF.angNormalize; rfl

/-- every comparison with a NaN is false — which is why the library writes its range tests as `!(x >= y)` -/
theorem nan_comparisons_false (x : F64) : F64.lt x .nan = false ∧ F64.lt .nan x = false ∧ F64.le x .nan = false ∧
    F64.le .nan x = false ∧ F64.eq x .nan = false ∧ F64.eq .nan x = false := by
  refine ⟨by cases x <;> rfl, rfl, by cases x <;> rfl, rfl, by cases x <;> rfl, rfl⟩

/-- C `fmin` / `fmax` return the *other* operand when one is NaN: a clamp written with them swallows a NaN (findings
F11, F49) … -/
theorem fmin_fmax_discard_nan (y : F64) (hy : y.isNaN = false) :
    F64.fmin .nan y = y ∧ F64.fmin y .nan = y ∧ F64.fmax .nan y = y ∧ F64.fmax y .nan = y := by
  refine ⟨rfl, ?_, rfl, ?_⟩ <;> cases y <;> simp_all [F64.fmin, F64.fmax, F64.isNaN]
/-- … whereas the NaN-preserving minimum / maximum keep it -/
theorem minNaN_maxNaN_keep_nan (x : F64) : minNaN .nan x = .nan ∧ minNaN x .nan = .nan ∧ maxNaN .nan x = .nan ∧ maxNaN x .nan = .nan := by
  refine ⟨rfl, by cases x <;> rfl, rfl, by cases x <;> rfl⟩
/-- and on non-NaN operands both agree (so the repair changes nothing else) -/
theorem minNaN_eq_fmin (x y : F64) (hx : x.isNaN = false) (hy : y.isNaN = false) : minNaN x y = F64.fmin x y ∧ maxNaN x y = F64.fmax x y := by
  simp [minNaN, maxNaN, F64.fmin, F64.fmax, hx, hy]

/-! ## 6. `nn_check_bounds`: what `NearestNeighbor::Node::Check` guarantees (tied to the code by the ops `c13_nncheck` / `c13_nnload` of `Corr/C13.lean`) -/

/--
A node accepted by the model of `Node::Check(numpoints, treesize, bucket)` has its own index in `[-1, numpoints)`, both
children in `[-1, treesize)` when it is an inner node, and — when it is a leaf node — every one of its `bucket` leaf slots in
`[-1, numpoints)`: **`leaves[l] < numpoints`**, so `Search` never subscripts `pts` out of range.
-/
theorem nn_check_bounds (n : Node) (np ts : Int) (b : Nat) (h : n.check np ts b = true) :
    (-1 ≤ n.index ∧ n.index < np) ∧
    (n.index ≥ 0 → (-1 ≤ n.child0 ∧ n.child0 < ts) ∧ (-1 ≤ n.child1 ∧ n.child1 < ts)) ∧
    (n.index < 0 → ∀ x ∈ n.leaves.take b, -1 ≤ x ∧ x < np) := by
  unfold Node.check at h
  simp only [Bool.and_eq_true, decide_eq_true_eq] at h
  obtain ⟨hi, hrest⟩ := h
  refine ⟨hi, fun hge => ?_, fun hlt => ?_⟩
  · simp only [hge, if_true, Bool.and_eq_true, decide_eq_true_eq] at hrest
    omega
  · have : ¬ n.index ≥ 0 := by omega
    simp only [this, if_false, Bool.and_eq_true] at hrest
    intro x hx
    rcases leavesOK_bounds np true 0 _ hrest.1 x hx with h | h
    · exact h
    · omega

/-- non-vacuity, and the seeded change C13A: with 3 points a leaf slot holding 3 is rejected, 2 is accepted -/
example : (Node.check ⟨-1, -1, -1, 0, 0, 0, 0, [0, 1, 3, -1, 0, 0, 0, 0, 0, 0]⟩ 3 1 4 = false) ∧
    (Node.check ⟨-1, -1, -1, 0, 0, 0, 0, [0, 1, 2, -1, 0, 0, 0, 0, 0, 0]⟩ 3 1 4 = true) := by decide +kernel

/-- every node of an accepted file passes `Node::Check` (with the leaf slots beyond `bucket` zeroed as `Load` does) -/
theorem nn_load_checks (bin : Bool) (np : Int) (b : Nat) : ∀ (i : Nat) (nodes : List Node), nodesOK bin np b i nodes = true →
    ∀ (j : Nat) (n : Node), nodes[j]? = some n → (n.loaded b).check np ((i + j : Nat) : Int) b = true
  | _, [], _ => by simp
  | i, m :: rest, h => by
    intro j n hj
    simp only [nodesOK, Bool.and_eq_true] at h
    cases j with
    | zero => simp at hj; subst hj; simpa using h.1.2
    | succ j =>
      have := nn_load_checks bin np b (i + 1) rest h.2 j n (by simpa using hj)
      have e : i + 1 + j = i + (j + 1) := by omega
      rw [e] at this; exact this

/--
A file accepted by the model of `Load` stores the children of every inner node strictly *before* the node itself
(node `j` is checked with `treesize := j`): the child relation is well founded, so `Search` terminates (finding F12).
-/
theorem nn_load_children_before_parent (bin : Bool) (np : Int) (b : Nat) : ∀ (i : Nat) (nodes : List Node), nodesOK bin np b i nodes = true →
    ∀ (j : Nat) (n : Node), nodes[j]? = some n → n.index ≥ 0 → n.child0 < (i + j : Nat) ∧ n.child1 < (i + j : Nat) := by
  intro i nodes h j n hj hge
  have := (nn_check_bounds (n.loaded b) np _ b (nn_load_checks bin np b i nodes h j n hj)).2.1 (by simpa [Node.loaded] using hge)
  exact ⟨by simpa [Node.loaded] using this.1.2, by simpa [Node.loaded] using this.2.2⟩

/-! ## 7. the contract covers the public API

`Gen/ApiC13.lean` is the inventory of every public constructor, member function and static function of every class of
`include/GeographicLib/*.hpp`, extracted from the clang AST by `tools/translate.d/C13.py`; `ErrCover.coverage` is the hand-written
list saying how the contract reaches each of them.  Adding a public function, an overload or a parameter to the library without
extending the contract breaks `api_covered`; removing one leaves a stale cover, which breaks it as well. -/

/-- the generated inventory is well formed: every key ends in `/<parameter codes>><return code>` of its own signature (checked on the
numeric codes), so the signature the obligations compute with is the one the key shows -/
theorem api_wellformed : (Gen.ApiC13.api.all Fn.wf) = true := by decide +kernel

/--
(Gen) The one-pass check of the inventory against the coverage list succeeds (meaning: `checkCoverage_sound`):
every public function with at least one floating-point / string / vector / stream input is the subject of a row of the dependence
table, of a constructor-domain predicate, of a parser stream, of a file-reader stream or of a vector-size domain — or forwards the same
inputs to an overload that is — or is excluded with a reason; no cover is stale; and the arities of the table rows fit the extracted
signatures.
-/
theorem api_covered : checkCoverage Gen.ApiC13.api coverage = true := by decide +kernel

/-- what the check means, for arbitrary lists (proved by induction over the pairing, `Proofs/ErrCover.lean`) -/
theorem checkCoverage_sound (api : List Fn) (cov : List Cover) (h : checkCoverage api cov = true) :
    (∀ f ∈ api, f.hasIn = true → ∃ c ∈ cov, (c.api == f.key) = true) ∧
    (∀ c ∈ cov, ∃ f ∈ api, (c.api == f.key) = true) ∧
    (∀ c ∈ cov, ∀ e off, c.how = .table e off → ∃ f ∈ api, (c.api == f.key) = true ∧
      ∃ ent, findKey e = some ent ∧ off + f.nReal ≤ ent.nin ∧ f.nOut ≤ ent.nout) :=
  Proofs.ErrCover.checkCoverage_sound api cov h

theorem api_covered_meaning :
    (∀ f ∈ Gen.ApiC13.api, f.hasIn = true → ∃ c ∈ coverage, (c.api == f.key) = true) ∧
    (∀ c ∈ coverage, ∃ f ∈ Gen.ApiC13.api, (c.api == f.key) = true) :=
  ⟨(checkCoverage_sound _ _ api_covered).1, (checkCoverage_sound _ _ api_covered).2.1⟩

/-- (Gen) cross-check of the hand-written table against the extracted signatures: the row a `.table e off` cover names exists,
takes the function's `nReal` real arguments from input `off` on, and has outputs for its reference outputs plus return value -/
theorem cover_arities : ∀ c ∈ coverage, ∀ e off, c.how = .table e off → ∃ f ∈ Gen.ApiC13.api, (c.api == f.key) = true ∧
    ∃ ent, findKey e = some ent ∧ off + f.nReal ≤ ent.nin ∧ f.nOut ≤ ent.nout :=
  (checkCoverage_sound _ _ api_covered).2.2

/-- every exclusion, forwarding and indirect cover carries its reason -/
theorem coverage_reasons_given : reasonsGiven = true := by decide +kernel

/--
(Gen) Every public constructor of the inventory either has no parameter, or has a domain predicate that is
executed against the implementation (`ctorOK` / `ctorBounds` class, vector-size form, accept / reject of a file reader or parser), or
takes only an already validated library object / a message string.
-/
theorem ctor_all_have_domain : checkCtors Gen.ApiC13.api coverage = true := by decide +kernel

/-- the class names of `ctorTable` are exactly those a dispatcher answers for, with that many parameters -/
theorem ctor_table_dispatches : (ctorTable.all fun c => ctorKnown c.1.s c.2) = true := by decide +kernel

/-- the constructors listed as accepting everything (`totalCtors`: the geodesic lines among them) do so in the model, whatever the
arguments -/
theorem total_ctors_total (c : Key × Nat) (hc : c ∈ totalCtors) (p : List F64) (hp : p.length = c.2) : ctorOK c.1.s p = some true := by
  unfold ctorOK
  have : (totalCtors.any fun d => d.1.s == c.1.s && d.2 == p.length) = true :=
    List.any_eq_true.mpr ⟨c, hc, by simp [hp]⟩
  simp [this]

/-- `GeoCoords`: a NaN coordinate is not a reason to reject (it gives the INVALID zone / NaN position), an out-of-range latitude is -/
theorem ctor_domain_geocoords :
    (∀ lon, geoCoordsLatLonOK .nan lon = true) ∧ (∀ z np y, geoCoordsUTMOK z np .nan y = true) ∧ (∀ z np x, geoCoordsUTMOK z np x .nan = true) ∧
    geoCoordsLatLonOK (F64.ofInt 91) 0 = false ∧ geoCoordsLatLonOK (F64.ofInt (-90)) 0 = true ∧
    geoCoordsUTMOK 32 true (F64.ofInt 500000) (F64.ofInt 4400000) = true ∧ geoCoordsUTMOK 61 true (F64.ofInt 500000) (F64.ofInt 4400000) = false := by
  refine ⟨fun _ => rfl, fun z np y => ?_, fun z np x => ?_, by decide +kernel, by decide +kernel, by decide +kernel, by decide +kernel⟩
  · simp [geoCoordsUTMOK, UTMUPS.reverseAccepts, F64.isNaN]
  · cases x <;> simp [geoCoordsUTMOK, UTMUPS.reverseAccepts, F64.isNaN]

/-- the two-sided bounds of the solver-defined domains never contradict each other on the parameters the harness uses, and they are not
vacuous: WGS84-like parameters must be accepted, a NaN anywhere must be rejected -/
theorem ctor_bounds_sane :
    let a := F64.ofInt 6378137; let gm := F64.ofInt 398600441800000; let om := F64.ofDecimal 7292115 11; let j2 := F64.ofDecimal 108263 8
    let f := F64.ofDecimal 335 5
    ctorBounds "NormalGravityJ2" [a, gm, om, j2] = some (false, true) ∧ ctorBounds "NormalGravityJ2" [a, gm, om, .nan] = some (true, false) ∧
    ctorBounds "NormalGravityJ2" [.nan, gm, om, j2] = some (true, false) ∧ ctorBounds "NormalGravityJ2" [a, gm, om, 1] = some (true, false) ∧
    ctorBounds "Intersect" [a, f] = some (false, true) ∧ ctorBounds "Intersect" [a, .nan] = some (true, false) ∧
    ctorBounds "Intersect" [a, F64.ofDecimal 9 1] = some (false, false) ∧
    ctorBounds "Intersect.All" [.inf false] = some (true, false) ∧ ctorBounds "Intersect.All" [.nan] = some (false, true) ∧
    ctorBounds "Intersect.All" [F64.ofInt 30000000] = some (false, true) ∧ ctorBounds "Intersect.All" [F64.ofInt 900000000000] = some (false, false) ∧
    ctorBounds "Intersect.All" [.inf true] = some (false, true) := by decide +kernel

/-! ## 8. vector-size domain of the spherical-harmonic constructors (seeded change C13E) -/

/-- for a legal triple `46339 ≥ N ≥ nmx ≥ mmx ≥ 0` the general constructor accepts exactly the vectors that reach the documented needs:
`C` must hold index(nmx, mmx) + 1 elements, `S` index(nmx, mmx) − N of them (the m = 0 column of `S` is not stored);
`hs`: `ssize` is the size of a vector -/
theorem sh_sizes_exact (s : ShSet) (h : s.N ≥ s.nmx ∧ s.nmx ≥ s.mmx ∧ s.mmx ≥ 0) (hN : s.N ≤ shMaxDegree) (hs : s.ssize ≥ 0) :
    s.generalOK = true ↔ s.csize ≥ s.needC ∧ s.ssize ≥ s.needS := by
  have hn : ¬ s.nmx < 0 := by omega
  unfold ShSet.generalOK ShSet.sizesOK ShSet.needC ShSet.needS
  generalize shIndex s.N s.nmx s.mmx = k
  simp only [hn, if_false, Bool.and_eq_true, Bool.or_eq_true, decide_eq_true_eq]
  constructor
  · rintro ⟨_, h1, h2⟩; omega
  · rintro ⟨h1, h2⟩; exact ⟨⟨Or.inl h, hN⟩, by omega, by omega⟩

/-- **one element short is rejected** — in `C`, and in `S` whenever `S` is needed at all (what the seeded change C13E broke: `<` turned
into `<=` in the test on `S`); the exact sizes are accepted -/
theorem sh_one_short_rejected (N nmx mmx : Int) (h : N ≥ nmx ∧ nmx ≥ mmx ∧ mmx ≥ 0) (hN : N ≤ shMaxDegree) :
    let s : ShSet := ⟨N, nmx, mmx, 0, 0⟩
    let e : ShSet := { s with csize := s.needC, ssize := s.needS }
    e.generalOK = true ∧ ({ e with csize := e.csize - 1 } : ShSet).generalOK = false ∧
      (s.needS > 0 → ({ e with ssize := e.ssize - 1 } : ShSet).generalOK = false) := by
  have hn : ¬ nmx < 0 := by omega
  simp only [ShSet.generalOK, ShSet.sizesOK, ShSet.needC, ShSet.needS, hn, if_false]
  generalize shIndex N nmx mmx = k
  refine ⟨?_, ?_, fun hpos => ?_⟩
  · simp only [Bool.and_eq_true, Bool.or_eq_true, decide_eq_true_eq]; exact ⟨⟨Or.inl h, hN⟩, by omega, by omega⟩
  · simp only [Bool.and_eq_false_iff, decide_eq_false_iff_not]; right; left; omega
  · simp only [Bool.and_eq_false_iff, decide_eq_false_iff_not]; right; right; omega

/-- **the degree is bounded and `N ≥ −1` is enforced** (finding F79; the tests of 3a5948e): whatever the vectors, both constructor forms
refuse `N > 46339` and `N < −1` -/
theorem sh_degree_domain (s : ShSet) (h : s.N > shMaxDegree ∨ s.N < -1) : s.generalOK = false ∧ s.fullOK = false := by
  unfold ShSet.generalOK ShSet.fullOK shMaxDegree at *
  constructor
  · simp only [Bool.and_eq_false_iff, Bool.or_eq_false_iff, decide_eq_false_iff_not]
    rcases h with h | h
    · left; right; omega
    · left; left; constructor <;> omega
  · simp only [Bool.and_eq_false_iff, decide_eq_false_iff_not]
    rcases h with h | h
    · left; right; omega
    · left; left; omega

/-- … and for every degree that is admitted the index arithmetic of the code stays inside a 32-bit `int`:
`0 ≤ index(n, m) < 2³¹` for `0 ≤ m ≤ n ≤ N ≤ 46339` (so the size tests of an accepted constructor were computed without overflow) -/
theorem sh_index_fits_int (N n m : Int) (h : N ≥ n ∧ n ≥ m ∧ m ≥ 0) (hN : N ≤ shMaxDegree) :
    0 ≤ shIndex N n m ∧ shIndex N n m < 2 ^ 31 := by
  unfold shIndex shMaxDegree at *
  obtain ⟨h1, h2, h3⟩ := h
  have hmm : 0 ≤ m * (m - 1) := by
    by_cases hm : m = 0
    · subst hm; simp
    · exact Int.mul_nonneg h3 (by omega)
  have hd0 : 0 ≤ Int.tdiv (m * (m - 1)) 2 := Int.tdiv_nonneg hmm (by decide)
  have hd1 : Int.tdiv (m * (m - 1)) 2 ≤ m * (m - 1) := by
    rw [Int.tdiv_eq_ediv_of_nonneg hmm]; omega
  have hmN : m * N ≤ 46339 * 46339 := by
    have : m * N ≤ 46339 * N := Int.mul_le_mul_of_nonneg_right (by omega) (by omega)
    have : 46339 * N ≤ 46339 * 46339 := Int.mul_le_mul_of_nonneg_left hN (by decide)
    omega
  have hmm2 : m * (m - 1) ≤ m * N := Int.mul_le_mul_of_nonneg_left (by omega) h3
  exact ⟨by omega, by omega⟩

/-- the needs are the `Csize` / `Ssize` of the header for the full layout up to degree 16 (table certificate):
`Csize(N, M) = (M + 1)(2N − M + 2)/2`, `Ssize(N, M) = Csize(N, M) − (N + 1)` -/
theorem sh_needs_are_header_sizes :
    ((List.range 17).all fun N => (List.range (N + 1)).all fun M =>
      let s : ShSet := ⟨N, N, M, 0, 0⟩
      decide (2 * s.needC = ((M : Int) + 1) * (2 * N - M + 2)) && decide (s.needS = s.needC - (N + 1))) = true := by decide +kernel

/-- the secondary coefficient sets of SphericalHarmonic1 / SphericalHarmonic2 may not exceed the primary one, and every set passes its own
test; e.g. `N1 = 3 > N = 2` is rejected by the full form, equal degrees are accepted -/
example : shCtorOK "sh1_3" [⟨2, 2, 2, 6, 3⟩, ⟨3, 3, 3, 10, 6⟩] = some false ∧ shCtorOK "sh1_3" [⟨2, 2, 2, 6, 3⟩, ⟨2, 2, 2, 6, 3⟩] = some true ∧
    shCtorOK "sh5" [⟨2, 2, 1, 5, 1⟩] = some false ∧ shCtorOK "sh5" [⟨2, 2, 1, 5, 2⟩] = some true ∧ shCtorOK "coeff5" [⟨3, 2, -1, 64, 64⟩] = some false ∧
    shCtorOK "sh3" [⟨65536, 65536, 65536, 36, 28⟩] = some false ∧ shCtorOK "coeff5" [⟨-2, -1, -1, 64, 64⟩] = some false ∧
    shCtorOK "coeff5" [⟨-1, -1, -1, 0, 0⟩] = some true := by
  decide +kernel

end GeoVerif.Props.C13
