import GeoVerif.Proofs.Effects
import GeoVerif.Gen.Effects
/-!
# C14 — shared immutable objects are safe to use from many threads

Property (properties.jsonl): any number of threads may concurrently call the const member functions of the same
solver / projection object, including the built-in singletons (first touched concurrently) and a thread-safe Geoid,
without data races, and each call returns exactly the value it returns when executed alone.  Documented
non-thread-safe state (ordinary Geoid cache, Intersect counters, NearestNeighbor statistics, growth of the harmonic
square-root table) is excluded.

First the theorems about interleavings (all programs, all interleavings, all initial states; the C++11 guarantee for
function-local statics is modelled as an atomic once-step and is itself in the trusted base), then the obligations on the
effect table extracted from the C++ sources (`Gen/Effects.lean`), proved by evaluation, which connect them to the code.
`Fnn` are the ids of `/verif/known_findings.json`, `C14A`–`C14F` the seeded changes of `/verif/seeded/`.
-/
namespace GeoVerif.Props.C14
open GeoVerif.Effects

variable {Loc Val Ret : Type} [DecidableEq Loc]

/-- **Non-interference.**  If every operation's write set is disjoint from the read and write sets of all operations
of the *other* threads, then every interleaving of the program is race-free, and in every interleaving each thread
obtains exactly the list of results it obtains when it runs alone from the same initial state. -/
theorem no_write_no_race (P : List (List (Op Loc Val Ret))) (hP : NonInterfering P) (σ₀ : State Loc Val)
    (tr : Trace Loc Val Ret) (h : Interleave P tr) :
    RaceFree tr ∧ ∀ i T, P[i]? = some T → resultsOf i (runTrace σ₀ tr).2 = (runThread σ₀ T).2 := by
  constructor
  · intro a ha b hb hab hc
    obtain ⟨Ta, hTa, hma⟩ := h.mem a ha
    obtain ⟨Tb, hTb, hmb⟩ := h.mem b hb
    obtain ⟨l, hl | hl⟩ := hc
    · exact hP a.1 b.1 hab Ta hTa Tb hTb a.2 hma b.2 hmb l hl.1 hl.2
    · exact hP b.1 a.1 (fun e => hab e.symm) Tb hTb Ta hTa b.2 hmb a.2 hma l hl.1 hl.2
  · induction h generalizing σ₀ with
    | @done P hall =>
      intro i T hT
      have : T = [] := hall T (List.mem_of_getElem? hT)
      subst this
      simp [runTrace, resultsOf, runThread]
    | @step P tr i o rest hi _ ih =>
      intro j T hT
      have hlt : i < P.length := (List.getElem?_eq_some_iff.mp hi).1
      have hP' := nonInterfering_set hP hi
      by_cases hji : j = i
      · subst hji
        rw [hi] at hT; cases hT
        have := ih hP' (o.step σ₀).1 j rest (List.getElem?_set_self hlt)
        simp only [runTrace, runThread, resultsOf_cons_same, this]
      · have hT' : (P.set i rest)[j]? = some T := by rw [List.getElem?_set_ne (fun h => hji h.symm)]; exact hT
        have h1 := ih hP' (o.step σ₀).1 j T hT'
        have h2 : (runThread (o.step σ₀).1 T).2 = (runThread σ₀ T).2 := by
          apply runThread_congr
          intro o' ho' l hl
          apply step_frame
          intro hw
          exact hP i j (fun e => hji e.symm) (o :: rest) hi T hT o (by simp) o' ho' l hw hl
        simp only [runTrace, resultsOf_cons_other (fun e => hji e.symm), h1, h2]

/-- **Read-only operations.**  If no operation of the program writes a shared location (what `effects_disjoint`
establishes for the const/static functions of the library), then in every interleaving every call returns exactly
the value it returns when executed alone from the initial state. -/
theorem readonly_returns_solo_value (P : List (List (Op Loc Val Ret))) (hw : ∀ T ∈ P, ∀ o ∈ T, o.writes = [])
    (σ₀ : State Loc Val) (tr : Trace Loc Val Ret) (h : Interleave P tr) :
    RaceFree tr ∧ ∀ i T, P[i]? = some T → resultsOf i (runTrace σ₀ tr).2 = T.map (fun o => (o.step σ₀).2) := by
  have hP : NonInterfering P := by
    intro i j _ Ti hTi Tj _ a ha b _ l hl
    have := hw Ti (List.mem_of_getElem? hTi) a ha
    simp [this] at hl
  obtain ⟨h1, h2⟩ := no_write_no_race P hP σ₀ tr h
  refine ⟨h1, fun i T hT => ?_⟩
  rw [h2 i T hT, runThread_readonly T (hw T (List.mem_of_getElem? hT))]

/-! ### non-vacuity: a program with thread-private writes, and one of its interleavings -/
section Example
private def inc0 : Op Nat Nat Nat := { name := "inc0", reads := [0, 2], writes := [0], f := fun v => (fun _ => (v 0).getD 0 + 1, (v 0).getD 0 + (v 2).getD 0) }
private def rd2 : Op Nat Nat Nat := { name := "rd2", reads := [2], writes := [], f := fun v => (fun _ => 0, (v 2).getD 0) }
private def prog : List (List (Op Nat Nat Nat)) := [[inc0, inc0], [rd2, rd2]]
private def sched : Trace Nat Nat Nat := [(1, rd2), (0, inc0), (1, rd2), (0, inc0)]

example : NonInterfering prog := by
  intro i j hij Ti hTi Tj hTj a ha b hb l hl
  match i, j with
  | 0, 0 => exact absurd rfl hij
  | 0, 1 =>
    simp [prog] at hTi hTj; subst hTi; subst hTj
    simp at ha hb
    rcases ha with rfl | rfl <;> rcases hb with rfl | rfl <;> simp_all [inc0, rd2, Op.footprint]
  | 1, 0 =>
    simp [prog] at hTi hTj; subst hTi; subst hTj
    simp at ha
    rcases ha with rfl | rfl <;> simp [rd2] at hl
  | 1, 1 => exact absurd rfl hij
  | 0, (n + 2) => simp [prog] at hTj
  | 1, (n + 2) => simp [prog] at hTj
  | (n + 2), _ => simp [prog] at hTi

example : Interleave prog sched :=
  .step 1 rd2 [rd2] rfl <| .step 0 inc0 [inc0] rfl <| .step 1 rd2 [] rfl <| .step 0 inc0 [] rfl <|
    .done (by intro T hT; simp [prog] at hT; rcases hT with rfl | rfl <;> rfl)

example : resultsOf 0 (runTrace (fun l => if l = 2 then 7 else 0) sched).2 = [7, 8]
    ∧ resultsOf 1 (runTrace (fun l => if l = 2 then 7 else 0) sched).2 = [7, 7]
    ∧ (runThread (fun l => if l = 2 then 7 else 0) [inc0, inc0]).2 = [7, 8] := by decide
end Example

/-- **Function-local statics are initialised once, before any read.**  Let `l` be a location that is written only by
its C++11 guarded initialiser (always yielding `v`) and that every thread reads only after passing through the
declaration (the accessor pattern `static const T x(...); return x;`).  Then in every interleaving of any number of
threads, starting with `l` uninitialised, `l` is written at most once, and every read of `l` sees the completed
initialisation and the value `v`. -/
theorem static_init_once (l : Loc) (v : Val) (tr : List (Nat × SStep Loc Val)) (s₀ : SState Loc Val)
    (h0 : s₀.inited l = false) (hg : GuardedReads l tr []) (ho : OnlyInit l v tr) :
    writesTo l (srun s₀ tr).2 ≤ 1 ∧
    ∀ e ∈ (srun s₀ tr).2, match e with
      | .saw _ x w ini => x = l → (ini = true ∧ w = v)
      | .wrote _ _ _ => True := by
  obtain ⟨c1, c2⟩ := srun_inv l v tr s₀ [] (by simp [h0]) (by simp) hg ho
  refine ⟨by simpa [h0] using c1, fun e he => ?_⟩
  -- the `match` of the statement is `goodEvent l v e`
  cases e <;> exact c2 _ he

/-- non-vacuity: three threads race to `Geodesic::WGS84()` (location 0, initial garbage 99, initialiser value 5) -/
example : GuardedReads (0 : Nat) ([(1, .once 0 5), (2, .once 0 5), (1, .read 0), (0, .once 0 5), (2, .read 0), (0, .read 0)] : List (Nat × SStep Nat Nat)) []
    ∧ OnlyInit (0 : Nat) (5 : Nat) ([(1, .once 0 5), (2, .once 0 5), (1, .read 0), (0, .once 0 5), (2, .read 0), (0, .read 0)] : List (Nat × SStep Nat Nat)) := by
  refine ⟨by simp [GuardedReads], ?_⟩
  intro p hp
  simp at hp
  rcases hp with rfl | rfl | rfl | rfl | rfl | rfl <;> simp [StepOK]

example : writesTo (0 : Nat) (srun ({ val := fun _ => 99, inited := fun _ => false } : SState Nat Nat)
    [(1, .once 0 5), (2, .once 0 5), (1, .read 0), (0, .once 0 5), (2, .read 0), (0, .read 0)]).2 = 1 := by decide

/-- **A prefilled fill-on-miss cache is never written.**  `lazyWrites filled k` is the dynamic write set of
`if (block k unfilled) fill(k)`; if every demanded block was filled at construction it is empty for every demand. -/
theorem prefilled_cache_never_written {α : Type} [DecidableEq α] (filled demanded : List α) (h : ∀ k ∈ demanded, k ∈ filled) :
    ∀ k ∈ demanded, lazyWrites filled k = [] := by
  intro k hk; simp [lazyWrites, h k hk]

section Table
open GeoVerif.Gen.Effects

/-- all ordered pairs (auxout, auxin) of distinct auxiliary latitudes: the coefficient blocks the series branch of
`AuxLatitude::Convert` / `DAuxLatitude::DConvert` can demand (`k = ind(auxout, auxin)`, `auxin ≠ auxout`, both in range) -/
def auxDemanded (n : Nat) : List (Nat × Nat) :=
  (List.range n).flatMap fun o => ((List.range n).filter (· ≠ o)).map fun i => (o, i)

/-- There are (at least) the two public constructors, and every constructor of `AuxLatitude` eagerly
fills every block that `Convert`/`DConvert` can demand: the guard `isnan(_c[…])` of the lazy fill is false from
construction on (the eager fill of 3af0ef0, finding F1; seeded change C14A narrows one loop and breaks this). -/
theorem auxlat_prefill_covers :
    2 ≤ auxFilled.length ∧ ∀ c ∈ auxFilled, ∀ k ∈ auxDemanded auxNumber, k ∈ c.2 := by decide +kernel

/-- with the previous theorem: no demanded block of any AuxLatitude object is ever written after construction -/
theorem auxlat_cache_never_written : ∀ c ∈ auxFilled, ∀ k ∈ auxDemanded auxNumber, lazyWrites c.2 k = [] :=
  fun c hc => prefilled_cache_never_written c.2 _ (auxlat_prefill_covers.2 c hc)

/-- Every FFT length reachable from `GeodesicExact` (the decoded entries of
`narr[]`, doubled as `DST` does) is 5-smooth (2^a 3^b 5^c). -/
theorem fft_sizes_smooth : fftSizes ≠ [] ∧ ∀ n ∈ fftSizes, fiveSmooth n = true := by decide +kernel

/-- the case labels `cases` of the radix switch in `kissfft::transform` cover every stage radix that kissfft's own
factorisation (model `kissRadices`, compared with the implementation by the `fftradix` ops) produces for the lengths `fftSizes` -/
def radicesCovered (cases : List Nat) : Bool := fftSizes.all fun n => (kissRadices n).all cases.contains

/-- With dedicated butterflies for 2, 3, 4, 5 the `default:` label of the switch — the only path to `kf_bfly_generic`, the only
writer of the mutable `_scratchbuf` — is unreachable from GeodesicExact. -/
theorem fft_generic_butterfly_unreachable : radicesCovered [2, 3, 4, 5] = true := by decide +kernel

/-- the certificates used by `effects_disjoint`: `prefilled` tests the statement of `auxlat_prefill_covers` -/
def certs : Certs where
  prefilled := if (2 ≤ auxFilled.length ∧ ∀ c ∈ auxFilled, ∀ k ∈ auxDemanded auxNumber, k ∈ c.2) then ["AuxLatitude::_c"] else []
  defaultUnreachable := fun cases => if radicesCovered cases then ["kissfft::_scratchbuf"] else []

/-- In the extracted table no const member function and no static member function of
the classes in the property's quantifier writes a shared location (mutable member, non-const static), transitively
within the library — except the exclusions of the property statement (ordinary Geoid cache, Intersect counters,
NearestNeighbor statistics, growth of the SphericalEngine square-root table), the AuxLatitude coefficient cache whose
fill-on-miss guard is certified false by `auxlat_prefill_covers`, and kissfft's scratch buffer whose only writer sits behind
the `default` label certified unreachable by `fft_generic_butterfly_unreachable`.  (Seeded change C14B adds a non-const
function-local static written by the const `DST::fft_transform`; it appears here as an offender.) -/
theorem effects_disjoint : offenders certs functions = [] := by decide +kernel

/-- the table is not empty and does contain the classes of the quantifier (non-vacuity of `effects_disjoint`) -/
theorem effects_table_nonvacuous :
    500 ≤ functions.length ∧
    (["Geodesic", "GeodesicExact", "GeodesicLine", "GeodesicLineExact", "Rhumb", "RhumbLine", "TransverseMercator", "TransverseMercatorExact",
      "PolarStereographic", "LambertConformalConic", "AlbersEqualArea", "Geocentric", "LocalCartesian", "Ellipsoid", "AuxLatitude", "EllipticFunction",
      "NormalGravity", "SphericalHarmonic", "GravityModel", "MagneticModel", "Geoid", "UTMUPS", "MGRS", "DMS", "Geohash", "GARS", "Georef", "OSGB", "DST", "kissfft"].all
      fun c => functions.any (·.cls == c)) = true ∧
    -- the lazy fill and the scratch buffer *are* seen by the extractor (they are discharged by certificates, not overlooked)
    (functions.any fun e => e.cls == "AuxLatitude" && e.writes.any (fun w => w.loc == "AuxLatitude::_c" && w.guards.contains .miss)) = true ∧
    (functions.any fun e => e.cls == "GeodesicExact" && e.writes.any (fun w => w.loc == "kissfft::_scratchbuf")) = true ∧
    (functions.any fun e => e.cls == "Geoid" && e.writes.any (fun w => w.loc == "Geoid::_ix")) = true := by decide +kernel

/-- Every variable of static storage duration in the library is `const` (so it is written only by its
own initialiser, see `static_init_once`) or is a documented exclusion (the square-root table). -/
theorem statics_const_or_excluded : (locations.filter (fun d => !staticOK d)).map (·.name) = [] := by decide +kernel

/-- Every `mutable` data member is a documented exclusion or one of the two certified caches. -/
theorem mutable_members_accounted :
    (locations.filter (fun d => !mutableOK ["AuxLatitude::_c", "kissfft::_scratchbuf"] d)).map (·.name) = [] := by decide +kernel

/-- The library contains no `const_cast` (so immutable members are not written by const functions). -/
theorem no_const_cast : constCasts = [] := rfl

/-- Thread-safe Geoid: every write to a `mutable` member by a const function of `Geoid` is executed only
when `_threadsafe` is false (`if (!_threadsafe) …`, or after `if (_threadsafe) throw …`), except accesses to the file
stream, which a thread-safe Geoid (whole raster cached by the constructor, file closed) does not reach — C20. -/
theorem geoid_threadsafe_guarded :
    ((functions.filter (fun e => e.cls == "Geoid")).flatMap fun e =>
      (e.writes.filter (fun w => !geoidWriteOK ["Geoid::_file"] w)).map fun w => (e.fn, w.loc)) = [] := by decide +kernel

/-! ### Extraction side: what the table is extracted *from*, and the facts the effect analysis itself relies on

The effect analysis treats (i) a `const` object as unwritable, (ii) an immutable member as unwritable by a const member function,
(iii) a function-local static as written only by its initialiser.  (i)–(iii) fail if there is a `const_cast`, a write through
a pointer / reference member (the pointee is not part of the const object), or a static that is not const.  The obligations
below pin these down over **every** header and source file of the library — including header-only templates that no source
file includes (`NearestNeighbor.hpp`, `SphericalHarmonic2.hpp`) and `kissfft.hh` — by analysing one additional translation unit
that includes every public header and instantiates the class templates, and by a clang-independent text scan. -/

/-- The keyword `mutable` was looked for textually (comments and literals removed) in every file under
`include/GeographicLib` and `src`; every declarator that follows it is one of the `mutable`-member locations of the extracted
table, in the same file (so the clang walk overlooked none, whatever header it sits in), and `mutable` is not used on a lambda. -/
theorem mutable_text_scan_accounted :
    80 ≤ scannedFiles ∧ 40 ≤ headersIncluded.length ∧ headersIncluded.contains "NearestNeighbor.hpp" = true ∧
    mutableTextScan ≠ [] ∧ (mutableTextScan.filter (fun fm => !scanAccounted locations fm)) = [] := by decide +kernel

/-- … and conversely every extracted `mutable` member is found by the text scan (the two extractions agree). -/
theorem mutable_members_match_text_scan :
    ((locations.filter (fun d => d.kind == .mutableMember)).filter
      (fun d => !(mutableTextScan.any fun fm => d.file == fm.1 && post ("::" ++ fm.2) d.name))).map (·.name) = [] := by decide +kernel

/-- No `const_cast` anywhere in the library's text (independent of the AST walk, cf. `no_const_cast`). -/
theorem no_const_cast_text : constCastTextScan = [] := rfl

/-- Function-local statics: the list is extracted from all translation units.  Every
function-local static is declared `const`/`constexpr`, has no non-const pointee, and is initialised where it is declared — by a
constant expression (`"constexpr"`, `"literal"`) or by the C++11 guarded dynamic initialisation (`"dynamic"`, see
`static_init_once`) — or is the documented exclusion (the square-root table).  A hand-rolled "initialised" flag (seeded C14D)
or a scratch buffer (seeded C14B) is a non-const static and appears here. -/
theorem local_statics_immutable :
    40 ≤ staticLocals.length ∧ (staticLocals.filter (fun s => !staticLocalOK s)).map (·.name) = [] := by decide +kernel

/-- No function of *any* kind — constructors, non-const member functions and free functions included, not
only the const/static functions of the table — writes a variable of static storage duration after its initialisation, directly or
through its callees (constructors of other classes followed), except the documented exclusion. -/
theorem statics_written_only_by_excluded :
    (staticWriters.flatMap fun fw => (fw.2.filter (fun l => !excluded l)).map fun l => (fw.1, l)) = [] := by decide +kernel

/-- No write through pointer members: inside const member functions there is no assignment, increment,
non-const member call or hand-over as non-const pointer whose target is reached by dereferencing a pointer / reference /
iterator / smart-pointer member of the object. -/
theorem no_write_through_pointer_members : ptrWrites = [] := rfl

/-- Every pointer-like data member points to `const` data, except the FFT plan shared by `DST` objects
(`shared_ptr<kissfft>`), all of whose uses in const functions are const calls by the previous obligation and whose only mutable
state is the scratch buffer certified unreachable by `fft_generic_butterfly_unreachable`. -/
theorem pointer_members_accounted :
    ptrMembers ≠ [] ∧ ((ptrMembers.filter fun p => !(p.pointeeConst || certifiedPtrMembers.contains p.name)).map (·.name)) = [] := by decide +kernel

/-- Construction while others use: every class whose constructors touch static state (transitively:
the harmonic classes through `SphericalEngine::RootTable`) is constructed and destroyed by the background threads of the `mtc`
suites while other threads evaluate a shared instance, and the static state they write is a documented exclusion (growth of the
square-root table: the suites establish the table with `RootTable` first, as SphericalEngine.hpp prescribes). -/
theorem ctor_static_state_covered :
    ctorStatics ≠ [] ∧ (ctorStatics.filter fun c => !(backgroundConstructed.contains c.1 && c.2.2.all excluded)).map (·.1) = [] := by decide +kernel

/-- Only the harmonic classes read the square-root table from their const functions: for every other class
the construction of models in another thread — which may grow the table — touches nothing its const functions use. -/
theorem sqrttable_readers_are_harmonic :
    ((functions.filter fun e => e.reads.contains "SphericalEngine::sqrttable()::sqrttable" && !harmonicClasses.contains e.cls).map (·.fn)) = [] := by decide +kernel

/-- non-vacuity: the header-only and excluded classes *are* in the table (their counters are seen, not overlooked) -/
theorem exclusions_are_seen :
    (functions.any fun e => e.cls == "NearestNeighbor" && e.isPublic && e.writes.any (fun w => w.loc == "NearestNeighbor::_mc")) = true ∧
    (functions.any fun e => e.cls == "Intersect" && e.isPublic && e.writes.any (fun w => w.loc == "Intersect::_cnt0")) = true ∧
    (functions.any fun e => e.cls == "PolygonAreaT") = true ∧ (functions.any fun e => e.cls == "SphericalHarmonic2") = true ∧
    (staticWriters.any fun fw => fw.1 == "SphericalEngine::RootTable") = true ∧
    (ptrMembers.any fun p => p.name == "RhumbLine::_rh" && p.pointeeConst) = true := by decide +kernel

/-- **The table and the theorem together.**  Take any program whose operations are const/static functions of the quantifier's
classes with the read sets of the table and as write sets the table's writes that are neither excluded nor certified
away.  Then every interleaving is race-free and every call returns the value it returns alone from the initial state. -/
theorem shared_const_calls_race_free {Val Ret : Type} (P : List (List (Op String Val Ret)))
    (hP : ∀ T ∈ P, ∀ o ∈ T, ∃ e ∈ functions, quantifierClasses.contains e.cls = true ∧ e.isPublic = true ∧ o.reads = e.reads ∧ o.writes = effWrites certs e)
    (σ₀ : State String Val) (tr : Trace String Val Ret) (h : Interleave P tr) :
    RaceFree tr ∧ ∀ i T, P[i]? = some T → resultsOf i (runTrace σ₀ tr).2 = T.map (fun o => (o.step σ₀).2) := by
  apply readonly_returns_solo_value P _ σ₀ tr h
  intro T hT o ho
  obtain ⟨e, he, hq, hpub, _, hw⟩ := hP T hT o ho
  have hoff := effects_disjoint
  simp only [offenders, List.map_eq_nil_iff, List.filter_eq_nil_iff] at hoff
  have hfn : fnOK certs e = true := by simpa using hoff e he
  simp only [fnOK, hq, hpub, Bool.and_self, Bool.not_true, Bool.false_or, List.all_eq_true] at hfn
  rw [hw, effWrites, List.map_eq_nil_iff, List.filter_eq_nil_iff]
  intro w hwm
  simp [hfn w hwm]

end Table

end GeoVerif.Props.C14
