import GeoVerif.Proofs.AuxCertODE
import GeoVerif.Proofs.AuxCompAll
import GeoVerif.Proofs.CarlsonGen
import GeoVerif.Proofs.Jacobi
import GeoVerif.Proofs.AuxExactP
/-!
# C15 — auxiliary latitudes, ellipsoid measures, elliptic functions

Part 1 (depends on `Gen/AuxSeries.lean`, the tables extracted from `AuxLatitude.cpp`): certificates for the 30 series
tables of `fillcoeff` and the two radius polynomials.  Latitudes are numbered as in `AuxLatitude::aux`
(0 φ, 1 β, 2 θ, 3 μ, 4 χ, 5 ξ; `aux_layout` checks the enum).  All series are polynomials in the third
flattening `n`, compared modulo `n^(L+1)`, `L = GEOGRAPHICLIB_AUXLATITUDE_ORDER`.

What the certificates establish together: the six tables among φ, β, θ equal their closed forms; μ←β equals the
binomial series of the meridian-arc integrand; χ←φ and ξ←φ satisfy the differential equations (with the initial
value built into a sine series) that define the conformal and authalic latitudes; every pair of opposite tables
reverts to the identity; every table is the composition of any two tables through a third latitude (`aux_compose`).  Since reversion and composition
of formal maps `x ↦ x + O(n)` are unique, all 30 tables are thereby pinned to the defining series, and a single
wrong coefficient anywhere in `coeffs[]` falsifies `aux_revert` for its pair.

Part 2: exact-real theorems about the formula models of `Model/AuxLat.lean` (the same definitions the driver runs in
binary64 against the implementation).  Part 3: `EllipticFunction` (`Model/Elliptic.lean`; the constants of the source are
`Gen/Carlson.lean`).  Part 4: `AuxAngle`, the exact methods of `AuxLatitude` and the measures of `Ellipsoid`
(`Model/AuxExact.lean`).
-/
namespace GeoVerif.Props.C15
open GeoVerif GeoVerif.Series GeoVerif.Series.Aux GeoVerif.AuxLat Real

/-! ## Part 1: table certificates -/

/-- `ptrs[]` and `coeffs[]` fit the loops of `fillcoeff` exactly (every block ends where the next starts, diagonal blocks
    are empty, the last offset is the table size) and the `aux` enum has the documented numbering -/
theorem aux_layout : layoutOK = true ∧ enumOK = true := by decide +kernel

/-- β←φ: `tan β = (1 − f) tan φ`, `1 − f = (1 − n)/(1 + n)` ⇒ `C_l = (−n)^l / l` -/
theorem beta_phi_table : checkBetaPhi = true := by decide +kernel
/-- φ←β: `C_l = n^l / l` -/
theorem phi_beta_table : checkPhiBeta = true := by decide +kernel
/-- θ←β (`tan θ = (1 − f) tan β`): `C_l = (−n)^l / l` -/
theorem theta_beta_table : checkThetaBeta = true := by decide +kernel
/-- β←θ: `C_l = n^l / l` -/
theorem beta_theta_table : checkBetaTheta = true := by decide +kernel
/-- θ←φ (`tan θ = (1 − f)² tan φ`): `C_l = (−m)^l / l` with `m = 2n/(1 + n²)` expanded in `n` -/
theorem theta_phi_table : checkThetaPhi = true := by decide +kernel
/-- φ←θ: `C_l = m^l / l`, `m = 2n/(1 + n²)` -/
theorem phi_theta_table : checkPhiTheta = true := by decide +kernel

/-- μ←β: `C_l(n) · Σ_j b_j² n^{2j} = (1/l) Σ_j b_j b_{j+l} n^{2j+l}`, `b_j = (−1)^j C(½, j)` — the Fourier coefficients of the
    integrated meridian-arc element `|1 − n e^{2iβ}|` over its mean (the C1 series of the geodesic problem at ε = n) -/
theorem mu_beta_table : ((List.range L).all fun i => checkMuBeta (i + 1)) = true := by decide +kernel

/-- `RectifyingRadius(false)`: the polynomial is `Σ_j b_j² n^{2j}` (mean value of the arc element; radius `(a+b)/2 ·` that) -/
theorem rect_radius_table : checkRectRadius = true := by decide +kernel
/-- `AuthalicRadiusSquared(false)`: coefficients `1, −1/3, 4(2j−5)!!/(2j+1)!!` -/
theorem auth_radius_table : checkAuthRadius = true := by decide +kernel

/-- χ = φ + Σ C[χ←φ]_l sin 2lφ satisfies `cos φ (1 − e² sin²φ) χ′ = (1 − e²) cos χ` modulo `n^(L+1)`
    (with χ(0) = 0 this is the definition `tan χ = sinh(asinh tan φ − e atanh(e sin φ))`) -/
theorem chi_ode : checkChiODE = true := Proofs.AuxCert.chi_ode
/-- ξ = φ + Σ C[ξ←φ]_l sin 2lφ satisfies `cos ξ · ξ′ · (1 − e² sin²φ)² · q(π/2) = 2(1 − e²) cos φ` modulo `n^(L+1)`, where
    `q(π/2) = 2P(n)/(1+n)` and `P` is the extracted `AuthalicRadiusSquared` polynomial (so `sin ξ = q(φ)/q(π/2)`) -/
theorem xi_ode : checkXiODE = true := Proofs.AuxCert.xi_ode

/-- for each of the 15 unordered pairs {a, b}: the series C[a←b] substituted into C[b←a] is the identity modulo `n^(L+1)` -/
theorem aux_revert :
    checkRevert 0 1 = true ∧ checkRevert 0 2 = true ∧ checkRevert 0 3 = true ∧ checkRevert 0 4 = true ∧ checkRevert 0 5 = true ∧
    checkRevert 1 2 = true ∧ checkRevert 1 3 = true ∧ checkRevert 1 4 = true ∧ checkRevert 1 5 = true ∧
    checkRevert 2 3 = true ∧ checkRevert 2 4 = true ∧ checkRevert 2 5 = true ∧
    checkRevert 3 4 = true ∧ checkRevert 3 5 = true ∧ checkRevert 4 5 = true := by
  have h (a b : Nat) (hab : a < b := by decide) (hb : b < 6 := by decide) := Proofs.AuxCert.revert_of_lt a b hab hb
  exact ⟨h 0 1, h 0 2, h 0 3, h 0 4, h 0 5, h 1 2, h 1 3, h 1 4, h 1 5, h 2 3, h 2 4, h 2 5, h 3 4, h 3 5, h 4 5⟩

/-- `aux_compose`: for every ordered triple `(c, b, a)` of distinct auxiliary latitudes, C[c←a] = C[c←b] ∘ C[b←a] modulo
    `n^(L+1)` — all 120 triples, kernel-checked in 30 rows that share the powers of the inner series C[b←a]
    (`Proofs/AuxRow.lean`, `Proofs/AuxCert0…5`; `Proofs/AuxLin.lean` proves that a row certificate implies `checkCompose`) -/
theorem aux_compose (c b a : Nat) (hc : c < 6) (hb : b < 6) (ha : a < 6) (h1 : c ≠ b) (h2 : b ≠ a) (h3 : a ≠ c) :
    checkCompose c b a = true :=
  Proofs.AuxCert.compose_of_distinct c b a hc hb ha h1 h2 h3

example : (3 : Nat) < 6 ∧ (1 : Nat) < 6 ∧ (0 : Nat) < 6 ∧ (3 : Nat) ≠ 1 ∧ (1 : Nat) ≠ 0 ∧ (0 : Nat) ≠ 3 := by decide

/-! ## Part 2: exact-real theorems about the formula models -/

section algebra
variable (a f : ℝ)

/-- the constructor's parameters: `e² = f(2−f)`, `1 − e² = (1−f)²`, `e′² = e²/(1−e²)`, `n = f/(2−f)`, `e² = 4n/(1+n)²`,
    `b = a(1−f)`, `(1−n)/(1+n) = 1−f`, `b² = a²(1−e²)`, `e″² = e²/(2−e²) = (a²−b²)/(a²+b²)` -/
theorem ellipsoid_algebra (hf : f < 1) :
    ctorE2 f = f * (2 - f) ∧ 1 - ctorE2 f = (1 - f) ^ 2 ∧
    ctorE12 f = ctorE2 f / (1 - ctorE2 f) ∧ ctorE12 f = flatteningToSecondEccentricitySq f ∧
    ctorN f = f / (2 - f) ∧ ctorE2 f = 4 * ctorN f / (1 + ctorN f) ^ 2 ∧
    (1 - ctorN f) / (1 + ctorN f) = 1 - f ∧
    ctorB a f = a * (1 - f) ∧ (ctorB a f) ^ 2 = a ^ 2 * (1 - ctorE2 f) ∧
    thirdEccentricitySq f = flatteningToThirdEccentricitySq f ∧
    secondFlattening f = flatteningToSecondFlattening f := by
  have h2 : (2 : ℝ) - f ≠ 0 := (sub_pos.mpr (hf.trans one_lt_two)).ne'
  have hn : (1 : ℝ) + f / (2 - f) = 2 / (2 - f) := by field_simp; ring
  simp only [ctorE12, flatteningToSecondEccentricitySq, ctorE2, ctorN, ctorB, thirdEccentricitySq, flatteningToThirdEccentricitySq,
    secondFlattening, flatteningToSecondFlattening, RealLike.sq, lit_real]
  push_cast
  refine ⟨trivial, by ring, rfl, by ring, trivial, ?_, ?_, rfl, by ring, by ring, trivial⟩
  · rw [hn]; field_simp; ring
  · rw [hn]; field_simp; ring

example : (1 / 298 : ℝ) < 1 := by norm_num

/-- `f ↦ f′ = f/(1−f)` and `f′ ↦ f′/(1+f′)` are mutually inverse (f < 1, f′ > −1) -/
theorem second_flattening_inverse (fp : ℝ) (hf : f < 1) (hfp : -1 < fp) :
    secondFlatteningToFlattening (flatteningToSecondFlattening f) = f ∧
    flatteningToSecondFlattening (secondFlatteningToFlattening fp) = fp := by
  have h1 : (1 : ℝ) - f ≠ 0 := (sub_pos.mpr hf).ne'
  have h2 : (1 : ℝ) + fp ≠ 0 := (neg_lt_iff_pos_add'.mp hfp).ne'
  unfold secondFlatteningToFlattening flatteningToSecondFlattening
  simp only [lit_real]; push_cast
  constructor
  · have : (1 : ℝ) + f / (1 - f) = 1 / (1 - f) := by field_simp; ring
    rw [this]; field_simp
  · have : (1 : ℝ) - fp / (1 + fp) = 1 / (1 + fp) := by field_simp; ring
    rw [this]; field_simp

/-- `f ↦ n = f/(2−f)` and `n ↦ 2n/(1+n)` are mutually inverse (f < 2, n > −1) -/
theorem third_flattening_inverse (n : ℝ) (hf : f < 2) (hn : -1 < n) :
    thirdFlatteningToFlattening (flatteningToThirdFlattening f) = f ∧
    flatteningToThirdFlattening (thirdFlatteningToFlattening n) = n := by
  have h1 : (2 : ℝ) - f ≠ 0 := (sub_pos.mpr hf).ne'
  have h2 : (1 : ℝ) + n ≠ 0 := (neg_lt_iff_pos_add'.mp hn).ne'
  unfold thirdFlatteningToFlattening flatteningToThirdFlattening
  simp only [lit_real]; push_cast
  constructor
  · have : (1 : ℝ) + f / (2 - f) = 2 / (2 - f) := by field_simp; ring
    rw [this]; field_simp
  · have : (2 : ℝ) - 2 * n / (1 + n) = 2 / (1 + n) := by field_simp; ring
    rw [this]; field_simp

/-- `EccentricitySqToFlattening ∘ FlatteningToEccentricitySq = id` for f < 1, and the other way round for e² ≤ 1 -/
theorem eccentricity_sq_inverse (e2 : ℝ) (hf : f < 1) (he : e2 ≤ 1) :
    eccentricitySqToFlattening (flatteningToEccentricitySq f) = f ∧
    flatteningToEccentricitySq (eccentricitySqToFlattening e2) = e2 := by
  unfold eccentricitySqToFlattening flatteningToEccentricitySq
  simp only [lit_real, sqrt_real]; push_cast
  constructor
  · have h : (1 : ℝ) - f * (2 - f) = (1 - f) ^ 2 := by ring
    rw [h, Real.sqrt_sq (sub_pos.mpr hf).le]
    have : (1 : ℝ) - f + 1 ≠ 0 := (add_pos (sub_pos.mpr hf) one_pos).ne'
    field_simp; ring
  · set s := Real.sqrt (1 - e2) with hs
    have hs0 : 0 ≤ s := Real.sqrt_nonneg _
    have hss : s * s = 1 - e2 := Real.mul_self_sqrt (sub_nonneg.mpr he)
    have h1 : s + 1 ≠ 0 := (add_pos_of_nonneg_of_pos hs0 one_pos).ne'
    have he2 : e2 = (1 - s) * (1 + s) := by linear_combination hss
    have : e2 / (s + 1) = 1 - s := by rw [he2]; field_simp; ring
    rw [this]; linear_combination (-1 : ℝ) * hss

/-- `SecondEccentricitySqToFlattening ∘ FlatteningToSecondEccentricitySq = id` for f < 1 -/
theorem second_eccentricity_sq_inverse (hf : f < 1) :
    secondEccentricitySqToFlattening (flatteningToSecondEccentricitySq f) = f := by
  unfold secondEccentricitySqToFlattening flatteningToSecondEccentricitySq RealLike.sq
  simp only [lit_real, sqrt_real]; push_cast
  have h1 : (0 : ℝ) < 1 - f := sub_pos.mpr hf
  have h : (1 : ℝ) + f * (2 - f) / ((1 - f) * (1 - f)) = (1 / (1 - f)) ^ 2 := by field_simp; ring
  rw [h, Real.sqrt_sq (one_div_pos.mpr h1).le]
  have h2 : (1 : ℝ) / (1 - f) + 1 + f * (2 - f) / ((1 - f) * (1 - f)) = (2 - f) / ((1 - f) * (1 - f)) := by field_simp; ring
  have h3 : (2 : ℝ) - f ≠ 0 := (sub_pos.mpr (hf.trans one_lt_two)).ne'
  rw [h2]; field_simp

/-- `ThirdEccentricitySqToFlattening ∘ FlatteningToThirdEccentricitySq = id` for f < 1 -/
theorem third_eccentricity_sq_inverse (hf : f < 1) :
    thirdEccentricitySqToFlattening (flatteningToThirdEccentricitySq f) = f := by
  unfold thirdEccentricitySqToFlattening flatteningToThirdEccentricitySq RealLike.sq
  simp only [lit_real, sqrt_real]; push_cast
  have h1 : (0 : ℝ) < 1 - f := sub_pos.mpr hf
  have hd : (0 : ℝ) < 1 + (1 - f) * (1 - f) := add_pos_of_pos_of_nonneg one_pos (mul_self_nonneg _)
  have h : ((1 : ℝ) - f * (2 - f) / (1 + (1 - f) * (1 - f))) * (1 + f * (2 - f) / (1 + (1 - f) * (1 - f)))
      = (2 * (1 - f) / (1 + (1 - f) * (1 - f))) ^ 2 := by field_simp; ring
  rw [h, Real.sqrt_sq (by positivity)]
  have h2 : (2 : ℝ) * (1 - f) / (1 + (1 - f) * (1 - f)) + 1 + f * (2 - f) / (1 + (1 - f) * (1 - f))
      = 2 * (2 - f) / (1 + (1 - f) * (1 - f)) := by field_simp; ring
  have h3 : (2 : ℝ) - f ≠ 0 := (sub_pos.mpr (hf.trans one_lt_two)).ne'
  rw [h2]; field_simp

example : (-1 / 100 : ℝ) < 1 ∧ (1 / 298 : ℝ) < 1 := by constructor <;> norm_num

/-- `FlatteningToSecondEccentricitySq ∘ SecondEccentricitySqToFlattening = id` for e′² > −1 -/
theorem second_eccentricity_sq_inverse_rev (ep2 : ℝ) (h : -1 < ep2) :
    flatteningToSecondEccentricitySq (secondEccentricitySqToFlattening ep2) = ep2 := by
  unfold secondEccentricitySqToFlattening flatteningToSecondEccentricitySq RealLike.sq
  simp only [lit_real, sqrt_real]; push_cast
  set s := √(1 + ep2) with hs
  have hs0 : 0 < s := Real.sqrt_pos.mpr (neg_lt_iff_pos_add'.mp h)
  have hss : s * s = 1 + ep2 := Real.mul_self_sqrt (neg_lt_iff_pos_add'.mp h).le
  have he : ep2 = s * s - 1 := eq_sub_of_add_eq' hss.symm
  have hden : s + 1 + ep2 = s * (s + 1) := by rw [he]; ring
  have hf : ep2 / (s + 1 + ep2) = 1 - 1 / s := by
    rw [hden, he]; field_simp; ring
  rw [hf]
  have h1 : (1 : ℝ) - (1 - 1 / s) = 1 / s := by ring
  rw [h1, he]; field_simp; ring

/-- `FlatteningToThirdEccentricitySq ∘ ThirdEccentricitySqToFlattening = id` for −1 < e″² < 1 -/
theorem third_eccentricity_sq_inverse_rev (t : ℝ) (h1 : -1 < t) (h2 : t < 1) :
    flatteningToThirdEccentricitySq (thirdEccentricitySqToFlattening t) = t := by
  unfold thirdEccentricitySqToFlattening flatteningToThirdEccentricitySq RealLike.sq
  simp only [lit_real, sqrt_real]; push_cast
  -- with `p = √(1 − t)`, `q = √(1 + t)`: `p² + q² = 2`, `q² − p² = 2t`, and the flattening is `1 − p/q`
  have hp : 0 < 1 - t := sub_pos.mpr h2
  have hq : 0 < 1 + t := neg_lt_iff_pos_add'.mp h1
  rw [Real.sqrt_mul hp.le]
  have hpp := Real.mul_self_sqrt hp.le
  have hqq := Real.mul_self_sqrt hq.le
  have hq0 := (Real.sqrt_pos.2 hq).ne'
  have hpq := (add_pos (Real.sqrt_pos.2 hp) (Real.sqrt_pos.2 hq)).ne'
  generalize √(1 - t) = p at hpp hpq ⊢
  generalize √(1 + t) = q at hqq hq0 hpq ⊢
  have hf : 2 * t / (p * q + 1 + t) = 1 - p / q := by
    rw [show p * q + 1 + t = q * (p + q) by linear_combination -hqq,
      show 2 * t = (q - p) * (p + q) by linear_combination hpp - hqq]
    field_simp
  have hden : 1 + (1 - (1 - p / q)) * (1 - (1 - p / q)) = 2 / (q * q) := by
    field_simp; linear_combination hpp + hqq
  rw [hf, hden]
  field_simp
  linear_combination hqq - hpp

/-- `Volume() = 4π a² b / 3` -/
theorem volume_closed_form : volume a f = 4 * π * a ^ 2 * (a * (1 - f)) / 3 := by
  unfold volume ctorB RealLike.sq
  simp only [lit_real]; push_cast
  show (4 * Real.pi) * (a * a) * (a * (1 - f)) / 3 = _
  ring

example : (-1 : ℝ) < 1 / 150 ∧ (-1 : ℝ) < -1 / 300 ∧ (-1 / 300 : ℝ) < 1 := by norm_num

end algebra

theorem clenshaw_odd (c : List ℝ) (sz cz : ℝ) : clenshawSin (-sz) cz c = - clenshawSin sz cz c := by
  unfold clenshawSin
  simp only [lit_real]; push_cast
  have hx : (2 : ℝ) * (cz - -sz) * (cz + -sz) = 2 * (cz - sz) * (cz + sz) := by ring
  rw [hx]; ring

theorem clenshaw_equator (c : List ℝ) (cz : ℝ) : clenshawSin 0 cz c = 0 := by
  unfold clenshawSin
  simp only [lit_real]
  push_cast
  ring

theorem clenshaw_pole (c : List ℝ) (sz : ℝ) : clenshawSin sz 0 c = 0 := by
  unfold clenshawSin
  simp only [lit_real]
  push_cast
  ring

/-- the model of the series branch of `AuxLatitude::Convert` is odd in the angle and fixes 0 and ±90° exactly, whatever the
    coefficients are -/
theorem convert_odd_fixes (c : List ℝ) (sz cz : ℝ) :
    convertWith c (-sz) cz = (-(convertWith c sz cz).1, (convertWith c sz cz).2) ∧
    convertWith c 0 cz = (0, cz) ∧ convertWith c sz 0 = (sz, 0) := by
  refine ⟨?_, ?_, ?_⟩
  · unfold convertWith
    rw [clenshaw_odd]
    unfold rotate
    simp only [sin_real, cos_real, eqb_real, ofNat_real, Real.sin_neg, Real.cos_neg, neg_div, neg_eq_zero, Nat.cast_zero]
    split
    · simp
    · simp; ring_nf
  · unfold convertWith
    rw [clenshaw_equator]
    unfold rotate
    simp [ofNat_real]
  · unfold convertWith
    rw [clenshaw_pole]
    unfold rotate
    simp [ofNat_real]

/-- the coefficient vector actually used is `fillcoeff`: instance of the above for the extracted tables -/
example (f cz : ℝ) : convertSeries f 0 3 0 cz = (0, cz) := (convert_odd_fixes _ 0 cz).2.1

/-! ## Part 3: `EllipticFunction` -/

section elliptic
open GeoVerif.Elliptic GeoVerif.Proofs.Carlson GeoVerif.Proofs.Jacobi

/-! ### the constants of the source (`Gen/Carlson.lean`) -/

/-- numerator table, denominator, multiplier of the accumulated sum and trip cap of `RF` in the source = those of the model -/
theorem carlson_rf_series_gen (E2 E3 : ℝ) :
    Proofs.CarlsonGen.evalMV Gen.Carlson.rfPoly [E2, E3] = Elliptic.rfTail E2 E3 ∧ Gen.Carlson.rfDen = 240240 ∧ Gen.Carlson.rfSumMul = 0 ∧
    Gen.Carlson.rfTrips = trips := by
  refine ⟨?_, by decide, by decide, by decide⟩
  unfold Elliptic.rfTail Proofs.CarlsonGen.evalMV
  simp only [Gen.Carlson.rfPoly, lit_real, List.map, List.zip, List.zipWith, List.prod_cons, List.prod_nil, List.sum_cons, List.sum_nil]
  push_cast; ring
theorem carlson_rd_series_gen (E2 E3 E4 E5 : ℝ) :
    Proofs.CarlsonGen.evalMV Gen.Carlson.rdPoly [E2, E3, E4, E5] = Elliptic.rjTail E2 E3 E4 E5 ∧ Gen.Carlson.rdDen = 4084080 ∧ Gen.Carlson.rdSumMul = 3 ∧
    Gen.Carlson.rdTrips = trips := by
  refine ⟨?_, by decide, by decide, by decide⟩
  unfold Elliptic.rjTail Proofs.CarlsonGen.evalMV
  simp only [Gen.Carlson.rdPoly, lit_real, List.map, List.zip, List.zipWith, List.prod_cons, List.prod_nil, List.sum_cons, List.sum_nil]
  push_cast; ring
theorem carlson_rj_series_gen (E2 E3 E4 E5 : ℝ) :
    Proofs.CarlsonGen.evalMV Gen.Carlson.rjPoly [E2, E3, E4, E5] = Elliptic.rjTail E2 E3 E4 E5 ∧ Gen.Carlson.rjDen = 4084080 ∧ Gen.Carlson.rjSumMul = 6 ∧
    Gen.Carlson.rjTrips = trips := by
  have e : Gen.Carlson.rjPoly = Gen.Carlson.rdPoly := by decide
  rw [e]
  exact ⟨(carlson_rd_series_gen E2 E3 E4 E5).1, by decide, by decide, by decide⟩
/-- the means `A0` of the source are `(x+y+z)/3`, `(x+y+3z)/5`, `(x+y+z+2p)/5` -/
theorem carlson_means_gen (x y z p : ℝ) :
    Proofs.CarlsonGen.evalLin Gen.Carlson.rfMean [x, y, z] = (x + y + z) / 3 ∧
    Proofs.CarlsonGen.evalLin Gen.Carlson.rdMean [x, y, z] = (x + y + 3 * z) / 5 ∧
    Proofs.CarlsonGen.evalLin Gen.Carlson.rjMean [x, y, z, p] = (x + y + z + 2 * p) / 5 := by
  refine ⟨?_, ?_, ?_⟩ <;>
  · unfold Proofs.CarlsonGen.evalLin
    simp only [Gen.Carlson.rfMean, Gen.Carlson.rdMean, Gen.Carlson.rjMean, List.map, List.zip, List.zipWith, List.sum_cons, List.sum_nil]
    push_cast; ring
/-- `E₂ … E₅` of the source, as polynomials in the independent deviations, are those of the model -/
theorem carlson_edefs_gen (X Y Z : ℝ) :
    (Gen.Carlson.rfEdefs.map fun p => Proofs.CarlsonGen.evalMVq p [X, Y]) = [X * Y - (-(X + Y)) * (-(X + Y)), X * Y * (-(X + Y))] ∧
    (Gen.Carlson.rdEdefs.map fun p => Proofs.CarlsonGen.evalMVq p [X, Y]) = [(rdE X Y).1, (rdE X Y).2.1, (rdE X Y).2.2.1, (rdE X Y).2.2.2] ∧
    (Gen.Carlson.rjEdefs.map fun p => Proofs.CarlsonGen.evalMVq p [X, Y, Z]) = [(rjE X Y Z).1, (rjE X Y Z).2.1, (rjE X Y Z).2.2.1, (rjE X Y Z).2.2.2] := by
  refine ⟨?_, ?_, ?_⟩
  · unfold Proofs.CarlsonGen.evalMVq
    simp only [Gen.Carlson.rfEdefs, List.map, List.zip, List.zipWith, List.prod_cons, List.prod_nil, List.sum_cons, List.sum_nil]
    push_cast
    simp only [List.cons.injEq, and_true]
    exact ⟨by ring, by ring⟩
  · unfold Proofs.CarlsonGen.evalMVq rdE
    simp only [Gen.Carlson.rdEdefs, lit_real, List.map, List.zip, List.zipWith, List.prod_cons, List.prod_nil, List.sum_cons, List.sum_nil]
    push_cast
    simp only [List.cons.injEq, and_true]
    exact ⟨by ring, by ring, by ring, by ring⟩
  · unfold Proofs.CarlsonGen.evalMVq rjE
    simp only [Gen.Carlson.rjEdefs, lit_real, List.map, List.zip, List.zipWith, List.prod_cons, List.prod_nil, List.sum_cons, List.sum_nil]
    push_cast
    simp only [List.cons.injEq, and_true]
    exact ⟨by ring, by ring, by ring, by ring⟩
/-- the last deviation of each form as a combination of the independent ones: `Z = −(X + Y)` in `RF`, `Z = −(X + Y)/3` in `RD`,
    `P = −(X + Y + Z)/2` in `RJ` -/
theorem carlson_deps_gen :
    Gen.Carlson.rfDep = [[-1, -1]] ∧ Gen.Carlson.rdDep = [[-1 / 3, -1 / 3]] ∧ Gen.Carlson.rjDep = [[-1 / 2, -1 / 2, -1 / 2]] := by
  refine ⟨by decide +kernel, by decide +kernel, by decide +kernel⟩
/-- every tolerance, trip cap and `num_` of the source is the one of the model -/
theorem carlson_tolerances_gen :
    (tolRF : ℝ) ^ Gen.Carlson.tolRFpow = (Gen.Carlson.tolRFcoef : ℝ) * RealX.eps ∧
    (tolRD : ℝ) ^ Gen.Carlson.tolRDpow = (Gen.Carlson.tolRDcoef : ℝ) * RealX.eps ∧
    (tolRD : ℝ) ^ Gen.Carlson.tolRJpow = (Gen.Carlson.tolRJcoef : ℝ) * RealX.eps ∧
    (tolRG0 : ℝ) = (Gen.Carlson.tolRF2fac : ℝ) * √((Gen.Carlson.tolRF2eps : ℝ) * RealX.eps) ∧
    (tolRG0 : ℝ) = (Gen.Carlson.tolRG2fac : ℝ) * √((Gen.Carlson.tolRG2eps : ℝ) * RealX.eps) ∧
    (tolJAC : ℝ) = (Gen.Carlson.tolJACSncndnfac : ℝ) * √((Gen.Carlson.tolJACSncndneps : ℝ) * RealX.eps) ∧
    (tolJAC : ℝ) = (Gen.Carlson.tolJACEinvfac : ℝ) * √((Gen.Carlson.tolJACEinveps : ℝ) * RealX.eps) ∧
    Gen.Carlson.tolJACamExp = 3 / 4 ∧ (tolJACam : ℝ) ^ 4 = RealX.eps ^ 3 ∧
    Gen.Carlson.rf2Trips = trips ∧ Gen.Carlson.rg2Trips = trips ∧ Gen.Carlson.num = num := Proofs.CarlsonGen.tolerances

/-- the Horner form in `RF` is DLMF 19.36.1 -/
theorem rf_tail (E2 E3 : ℝ) :
    Elliptic.rfTail E2 E3 = 240240 * (1 - E2 / 10 + E3 / 14 + E2 ^ 2 / 24 - 3 * E2 * E3 / 44 - 5 * E2 ^ 3 / 208 + 3 * E3 ^ 2 / 104 + E2 ^ 2 * E3 / 16) := by
  unfold Elliptic.rfTail; simp only [lit_real]; push_cast; ring

/-- the Horner form in `RD` and `RJ` is DLMF 19.36.2 -/
theorem rj_tail (E2 E3 E4 E5 : ℝ) :
    Elliptic.rjTail E2 E3 E4 E5 = 4084080 * (1 - 3 * E2 / 14 + E3 / 6 + 9 * E2 ^ 2 / 88 - 3 * E4 / 22 - 9 * E2 * E3 / 52 + 3 * E5 / 26
      - E2 ^ 3 / 16 + 3 * E3 ^ 2 / 40 + 3 * E2 * E4 / 20 + 45 * E2 ^ 2 * E3 / 272 - 9 * (E3 * E4 + E2 * E5) / 68) := by
  unfold Elliptic.rjTail; simp only [lit_real]; push_cast; ring

theorem carlson_tolRF : (tolRF : ℝ) ^ 8 = 3 / 100 * (1 / 2 ^ 52) ∧ (0 : ℝ) < tolRF :=
  tolRF_pow

theorem carlson_tolRD : (tolRD : ℝ) ^ 8 = 1 / 500 * (1 / 2 ^ 52) ∧ (0 : ℝ) < tolRD :=
  tolRD_pow

/-- `x + λ = (√x + √y)(√x + √z)` and cyclically: the duplicated arguments are positive unless two arguments vanish -/
theorem carlson_lam_factor (x y z : ℝ) (hx : 0 ≤ x) (hy : 0 ≤ y) (hz : 0 ≤ z) :
    x + lam x y z = (√x + √y) * (√x + √z) ∧ y + lam x y z = (√y + √z) * (√y + √x) ∧
    z + lam x y z = (√z + √x) * (√z + √y) := by
  have h1 := Real.mul_self_sqrt hx
  have h2 := Real.mul_self_sqrt hy
  have h3 := Real.mul_self_sqrt hz
  unfold lam; simp only [sqrt_real]
  exact ⟨by linear_combination (-1) * h1, by linear_combination (-1) * h2, by linear_combination (-1) * h3⟩

/-- a trip of `RF`: the deviations from `An` shrink by exactly 4, `mul` grows by 4 -/
theorem rf_step_deviation (s : Dup ℝ) :
    (rfStep s).An - (rfStep s).x0 = (s.An - s.x0) / 4 ∧ (rfStep s).An - (rfStep s).y0 = (s.An - s.y0) / 4 ∧
    (rfStep s).An - (rfStep s).z0 = (s.An - s.z0) / 4 ∧ (rfStep s).mul = s.mul * 4 := by
  rw [rfStep_real]
  exact ⟨by ring, by ring, by ring, rfl⟩

/-- a trip of `RF` keeps `An` the mean of the arguments -/
theorem rf_step_mean (s : Dup ℝ) (h : s.An = (s.x0 + s.y0 + s.z0) / 3) :
    (rfStep s).An = ((rfStep s).x0 + (rfStep s).y0 + (rfStep s).z0) / 3 := by
  rw [rfStep_real, h]; ring

/-- a trip of `RF` maps non-negative arguments, at most one of them zero, to positive ones -/
theorem rf_step_positive (s : Dup ℝ) (hx : 0 ≤ s.x0) (hy : 0 ≤ s.y0) (hz : 0 ≤ s.z0)
    (h2 : 0 < s.x0 + s.y0 ∧ 0 < s.y0 + s.z0 ∧ 0 < s.z0 + s.x0) :
    0 < (rfStep s).x0 ∧ 0 < (rfStep s).y0 ∧ 0 < (rfStep s).z0 := by
  obtain ⟨f1, f2, f3⟩ := carlson_lam_factor s.x0 s.y0 s.z0 hx hy hz
  have p1 := sqrt_add_sqrt_pos h2.1
  have p2 := sqrt_add_sqrt_pos h2.2.1
  have p3 := sqrt_add_sqrt_pos h2.2.2
  have q1 : 0 < √s.x0 + √s.z0 := by linarith
  have q2 : 0 < √s.y0 + √s.x0 := by linarith
  have q3 : 0 < √s.z0 + √s.y0 := by linarith
  rw [rfStep_real, f1, f2, f3]
  exact ⟨div_pos (mul_pos p1 q1) four_pos, div_pos (mul_pos p2 q2) four_pos, div_pos (mul_pos p3 q3) four_pos⟩

/-- the invariant of the loop, for every trip budget: after the loop `mul · (An − x0)` is what it was before -/
theorem rf_loop_invariant (Q : ℝ) (n : ℕ) (s : Dup ℝ) :
    (rfLoop Q n s).mul * ((rfLoop Q n s).An - (rfLoop Q n s).x0) = s.mul * (s.An - s.x0) ∧
    (rfLoop Q n s).mul * ((rfLoop Q n s).An - (rfLoop Q n s).y0) = s.mul * (s.An - s.y0) ∧
    (rfLoop Q n s).mul * ((rfLoop Q n s).An - (rfLoop Q n s).z0) = s.mul * (s.An - s.z0) ∧
    ∃ m : ℕ, m ≤ n ∧ (rfLoop Q n s).mul = s.mul * 4 ^ m := by
  obtain ⟨m, hm, ⟨i1, i2, i3, i4⟩, -⟩ := rfLoop_spec Q n s
  exact ⟨i1, i2, i3, m, hm, i4⟩

theorem rf_loop_mean (Q : ℝ) (n : ℕ) (s : Dup ℝ) (h : s.An = (s.x0 + s.y0 + s.z0) / 3) :
    (rfLoop Q n s).An = ((rfLoop Q n s).x0 + (rfLoop Q n s).y0 + (rfLoop Q n s).z0) / 3 := by
  rw [rfLoop_eq]
  exact whileFuel_inv (fun r => r.An = (r.x0 + r.y0 + r.z0) / 3) rf_step_mean n s h

theorem rf_loop_positive (Q : ℝ) (n : ℕ) (s : Dup ℝ) (hx : 0 ≤ s.x0) (hy : 0 ≤ s.y0) (hz : 0 ≤ s.z0)
    (h2 : 0 < s.x0 + s.y0 ∧ 0 < s.y0 + s.z0 ∧ 0 < s.z0 + s.x0) :
    0 ≤ (rfLoop Q n s).x0 ∧ 0 ≤ (rfLoop Q n s).y0 ∧ 0 ≤ (rfLoop Q n s).z0 ∧
    0 < (rfLoop Q n s).x0 + (rfLoop Q n s).y0 ∧ 0 < (rfLoop Q n s).y0 + (rfLoop Q n s).z0 ∧
    0 < (rfLoop Q n s).z0 + (rfLoop Q n s).x0 := by
  rw [rfLoop_eq]
  refine whileFuel_inv (fun r => 0 ≤ r.x0 ∧ 0 ≤ r.y0 ∧ 0 ≤ r.z0 ∧ 0 < r.x0 + r.y0 ∧ 0 < r.y0 + r.z0 ∧
    0 < r.z0 + r.x0) ?_ n s ⟨hx, hy, hz, h2⟩
  intro r ⟨hx, hy, hz, h2⟩
  obtain ⟨p1, p2, p3⟩ := rf_step_positive r hx hy hz h2
  exact ⟨p1.le, p2.le, p3.le, by linarith, by linarith, by linarith⟩

/-- the loop ends either because its test failed or because the trip budget is used up -/
theorem rf_loop_exit (Q : ℝ) (n : ℕ) (s : Dup ℝ) :
    ¬ ((rfLoop Q n s).mul * |(rfLoop Q n s).An| ≤ Q) ∨ (rfLoop Q n s).mul = s.mul * 4 ^ n := by
  obtain ⟨m, -, ⟨-, -, -, i4⟩, hex⟩ := rfLoop_spec Q n s
  exact hex.imp id (fun h : m = n => h ▸ i4)

/-- `X = (A0 − x)/(mul·An)` computed from the original arguments is the relative deviation `(An − x0)/An` of the current
    ones (for `RF`: `A0 = (x+y+z)/3`, `mul = 1` initially) -/
theorem rf_deviation_is_relative (x y z : ℝ) (hA : (rfRun x y z).An ≠ 0) :
    let A0 := (x + y + z) / 3
    let s := rfRun x y z
    (A0 - x) / (s.mul * s.An) = (s.An - s.x0) / s.An ∧ (A0 - y) / (s.mul * s.An) = (s.An - s.y0) / s.An ∧
    -((A0 - x) / (s.mul * s.An) + (A0 - y) / (s.mul * s.An)) = (s.An - s.z0) / s.An := by
  intro A0 s
  obtain ⟨i1, i2, i3, m, -, i4⟩ := rf_loop_invariant (rfQ x y z) trips ⟨A0, x, y, z, 1⟩
  rw [← rfRun_eq] at i1 i2 i3 i4
  simp only [one_mul] at i1 i2 i3 i4
  have hmul : s.mul ≠ 0 := by rw [i4]; positivity
  have hz : -((A0 - x) + (A0 - y)) = A0 - z := by simp only [A0]; ring
  refine ⟨?_, ?_, ?_⟩
  · rw [← i1]; exact mul_div_mul_left _ _ hmul
  · rw [← i2]; exact mul_div_mul_left _ _ hmul
  · rw [← add_div, ← neg_div, hz, ← i3]; exact mul_div_mul_left _ _ hmul

/-- if the loop of `RF` ended through its test (not through the trip cap), the three relative deviations are below
    `tolRF` -/
theorem rf_exit_bound (x y z : ℝ)
    (hexit : ¬ ((rfRun x y z).mul * |(rfRun x y z).An| ≤ rfQ x y z)) :
    let A0 := (x + y + z) / 3
    let s := rfRun x y z
    |(A0 - x) / (s.mul * s.An)| < tolRF ∧ |(A0 - y) / (s.mul * s.An)| < tolRF ∧ |(A0 - z) / (s.mul * s.An)| < tolRF :=
  Proofs.Carlson.rf_exit_bound x y z hexit

/-- the eighth-power form of `rf_exit_bound`: each relative deviation satisfies `|X|⁸ < 3ε/100` -/
theorem rf_exit_bound_pow8 (x y z : ℝ)
    (hexit : ¬ ((rfRun x y z).mul * |(rfRun x y z).An| ≤ rfQ x y z)) :
    let A0 := (x + y + z) / 3
    let s := rfRun x y z
    |(A0 - x) / (s.mul * s.An)| ^ 8 < 3 / 100 * (1 / 2 ^ 52) ∧ |(A0 - y) / (s.mul * s.An)| ^ 8 < 3 / 100 * (1 / 2 ^ 52) ∧
    |(A0 - z) / (s.mul * s.An)| ^ 8 < 3 / 100 * (1 / 2 ^ 52) := by
  intro A0 s
  obtain ⟨b1, b2, b3⟩ := Proofs.Carlson.rf_exit_bound x y z hexit
  rw [← tolRF_pow.1]
  exact ⟨pow_lt_pow_left₀ b1 (abs_nonneg _) (by norm_num), pow_lt_pow_left₀ b2 (abs_nonneg _) (by norm_num),
    pow_lt_pow_left₀ b3 (abs_nonneg _) (by norm_num)⟩

/-- the model of `RF(x, y, z)` is symmetric under every permutation of its arguments (the code is not syntactically
    symmetric: `Z` is formed as `−(X+Y)`) -/
theorem rf_symmetric (x y z : ℝ) : rf3 x y z = rf3 y x z ∧ rf3 x y z = rf3 x z y := by
  unfold rf3
  rw [rfRun_swapXY x y z, rfRun_swapYZ x y z]
  simp only [Dup.swapXY, Dup.swapYZ, lit_real]; push_cast
  rw [show y + x + z = x + y + z by ring, show x + z + y = x + y + z by ring]
  generalize (rfRun x y z).mul * (rfRun x y z).An = D
  have hZ : ((x + y + z) / 3 - z) / D = -(((x + y + z) / 3 - x) / D + ((x + y + z) / 3 - y) / D) := by ring
  rw [hZ]
  generalize ((x + y + z) / 3 - x) / D = X
  generalize ((x + y + z) / 3 - y) / D = Y
  constructor
  · rw [mul_comm Y X, add_comm Y X]
  · unfold Elliptic.rfTail; ring

theorem rd_step_deviation (s : Dup ℝ) (sm : ℝ) :
    (rdStep s sm).1.An - (rdStep s sm).1.x0 = (s.An - s.x0) / 4 ∧ (rdStep s sm).1.An - (rdStep s sm).1.y0 = (s.An - s.y0) / 4 ∧
    (rdStep s sm).1.An - (rdStep s sm).1.z0 = (s.An - s.z0) / 4 ∧ (rdStep s sm).1.mul = s.mul * 4 := by
  rw [rdStep_fst]
  exact rf_step_deviation s

/-- a trip of `RD` keeps `An` the weighted mean `(x + y + 3z)/5` -/
theorem rd_step_mean (s : Dup ℝ) (sm : ℝ) (h : s.An = (s.x0 + s.y0 + 3 * s.z0) / 5) :
    (rdStep s sm).1.An = ((rdStep s sm).1.x0 + (rdStep s sm).1.y0 + 3 * (rdStep s sm).1.z0) / 5 := by
  rw [rdStep_fst, rfStep_real, h]
  ring

theorem rd_loop_invariant (Q : ℝ) (n : ℕ) (s : Dup ℝ) (sm : ℝ) :
    let t := (rdLoop Q n s sm).1
    t.mul * (t.An - t.x0) = s.mul * (s.An - s.x0) ∧ t.mul * (t.An - t.y0) = s.mul * (s.An - s.y0) ∧
    t.mul * (t.An - t.z0) = s.mul * (s.An - s.z0) ∧ (s.An = (s.x0 + s.y0 + 3 * s.z0) / 5 → t.An = (t.x0 + t.y0 + 3 * t.z0) / 5) := by
  intro t
  obtain ⟨i1, i2, i3, -⟩ := rf_loop_invariant Q n s
  have e : t = rfLoop Q n s := rdLoop_fst Q n s sm
  rw [e]
  refine ⟨i1, i2, i3, fun h => ?_⟩
  rw [rfLoop_eq]
  exact whileFuel_inv (fun r => r.An = (r.x0 + r.y0 + 3 * r.z0) / 5) (fun r => rd_step_mean r 0) n s h

/-- the model of `RD(x, y, z)` is symmetric in its first two arguments -/
theorem rd_symmetric (x y z : ℝ) : rd x y z = rd y x z := by
  unfold rd
  rw [rdRun_swapXY x y z]
  simp only [Dup.swapXY, lit_real]; push_cast
  rw [show y + x + 3 * z = x + y + 3 * z by ring, rdE_swapXY (((x + y + 3 * z) / 5 - y) / _)]

/-- `E₂ … E₅` of `RD` are the elementary symmetric functions of the five deviations `X, Y, Z, Z, Z` (`Z = −(X+Y)/3`) -/
theorem rd_elementary_symmetric (X Y : ℝ) :
    let Z := -(X + Y) / 3
    rdE X Y = (X * Y + 3 * (X + Y) * Z + 3 * Z ^ 2,
               3 * X * Y * Z + 3 * (X + Y) * Z ^ 2 + Z ^ 3,
               3 * X * Y * Z ^ 2 + (X + Y) * Z ^ 3,
               X * Y * Z ^ 3) := by
  intro Z
  unfold rdE; simp only [lit_real]; push_cast
  refine Prod.ext ?_ (Prod.ext ?_ (Prod.ext ?_ ?_)) <;> simp only [Z] <;> ring

theorem rj_step_deviation (d : ℝ) (s : DupJ ℝ) :
    (rjStep d s).An - (rjStep d s).x0 = (s.An - s.x0) / 4 ∧ (rjStep d s).An - (rjStep d s).y0 = (s.An - s.y0) / 4 ∧
    (rjStep d s).An - (rjStep d s).z0 = (s.An - s.z0) / 4 ∧ (rjStep d s).An - (rjStep d s).p0 = (s.An - s.p0) / 4 ∧
    (rjStep d s).mul = s.mul * 4 ∧ (rjStep d s).mul3 = s.mul3 * 64 := by
  unfold rjStep; simp only [lit_real]; push_cast
  exact ⟨by ring, by ring, by ring, by ring, trivial, trivial⟩

/-- a trip of `RJ` keeps `An` the weighted mean `(x + y + z + 2p)/5` -/
theorem rj_step_mean (d : ℝ) (s : DupJ ℝ) (h : s.An = (s.x0 + s.y0 + s.z0 + 2 * s.p0) / 5) :
    (rjStep d s).An = ((rjStep d s).x0 + (rjStep d s).y0 + (rjStep d s).z0 + 2 * (rjStep d s).p0) / 5 := by
  unfold rjStep
  simp only [lit_real]
  push_cast
  rw [h]
  ring

theorem rj_loop_invariant (Q d : ℝ) (n : ℕ) (s : DupJ ℝ) :
    let t := rjLoop Q d n s
    t.mul * (t.An - t.x0) = s.mul * (s.An - s.x0) ∧ t.mul * (t.An - t.y0) = s.mul * (s.An - s.y0) ∧
    t.mul * (t.An - t.z0) = s.mul * (s.An - s.z0) ∧ t.mul * (t.An - t.p0) = s.mul * (s.An - s.p0) ∧
    (s.mul3 = s.mul ^ 3 → t.mul3 = t.mul ^ 3) ∧
    (s.An = (s.x0 + s.y0 + s.z0 + 2 * s.p0) / 5 → t.An = (t.x0 + t.y0 + t.z0 + 2 * t.p0) / 5) := by
  intro t
  simp only [t, rjLoop_eq]
  refine whileFuel_inv (fun r => r.mul * (r.An - r.x0) = s.mul * (s.An - s.x0) ∧
    r.mul * (r.An - r.y0) = s.mul * (s.An - s.y0) ∧ r.mul * (r.An - r.z0) = s.mul * (s.An - s.z0) ∧
    r.mul * (r.An - r.p0) = s.mul * (s.An - s.p0) ∧ (s.mul3 = s.mul ^ 3 → r.mul3 = r.mul ^ 3) ∧
    (s.An = (s.x0 + s.y0 + s.z0 + 2 * s.p0) / 5 → r.An = (r.x0 + r.y0 + r.z0 + 2 * r.p0) / 5)) ?_ n s
    ⟨rfl, rfl, rfl, rfl, id, id⟩
  intro r ⟨i1, i2, i3, i4, i5, i6⟩
  obtain ⟨d1, d2, d3, d4, d5, d6⟩ := rj_step_deviation d r
  refine ⟨?_, ?_, ?_, ?_, fun h => ?_, fun h => rj_step_mean d r (i6 h)⟩
  · rw [d1, d5, ← i1]; ring
  · rw [d2, d5, ← i2]; ring
  · rw [d3, d5, ← i3]; ring
  · rw [d4, d5, ← i4]; ring
  · rw [d5, d6, i5 h]; ring

/-- the model of `RJ(x, y, z, p)` is symmetric under every permutation of its first three arguments -/
theorem rj_symmetric (x y z p : ℝ) : rj x y z p = rj y x z p ∧ rj x y z p = rj x z y p := by
  constructor
  · unfold rj
    rw [rjRun_swapXY x y z p]
    simp only [DupJ.swapXY, lit_real]; push_cast
    rw [show y + x + z + 2 * p = x + y + z + 2 * p by ring,
      rjE_swapXY (((x + y + z + 2 * p) / 5 - x) / _) (((x + y + z + 2 * p) / 5 - y) / _)]
  · unfold rj
    rw [rjRun_swapYZ x y z p]
    simp only [DupJ.swapYZ, lit_real]; push_cast
    rw [show x + z + y + 2 * p = x + y + z + 2 * p by ring,
      rjE_swapYZ _ (((x + y + z + 2 * p) / 5 - y) / _) (((x + y + z + 2 * p) / 5 - z) / _)]

/-- `E₂ … E₅` of `RJ` are the elementary symmetric functions of the five deviations `X, Y, Z, P, P` (`P = −(X+Y+Z)/2`) -/
theorem rj_elementary_symmetric (X Y Z : ℝ) :
    let P := -(X + Y + Z) / 2
    rjE X Y Z = (X * Y + X * Z + Y * Z + 2 * (X + Y + Z) * P + P ^ 2,
                 X * Y * Z + 2 * (X * Y + X * Z + Y * Z) * P + (X + Y + Z) * P ^ 2,
                 2 * X * Y * Z * P + (X * Y + X * Z + Y * Z) * P ^ 2,
                 X * Y * Z * P ^ 2) := by
  intro P
  unfold rjE; simp only [lit_real]; push_cast
  refine Prod.ext ?_ (Prod.ext ?_ (Prod.ext ?_ ?_)) <;> simp only [P] <;> ring

/-- in `RJ` the quantity `d0 = (√p+√x)(√p+√y)(√p+√z)` of a trip satisfies `δₙ₊₁ = δₙ/64` for
    `δ = (p−x)(p−y)(p−z)` of the current arguments: this is why `e0 = δ/(mul3·d0²)` uses the *original* `δ` -/
theorem rj_step_delta (d : ℝ) (s : DupJ ℝ) :
    ((rjStep d s).p0 - (rjStep d s).x0) * ((rjStep d s).p0 - (rjStep d s).y0) * ((rjStep d s).p0 - (rjStep d s).z0) =
      (s.p0 - s.x0) * (s.p0 - s.y0) * (s.p0 - s.z0) / 64 := by
  unfold rjStep
  simp only [lit_real]
  push_cast
  ring

/-- after the permutation of `RG(x, y, z)` the third argument lies between the other two, and the arguments are the same
    up to order -/
theorem rg_median (x y z : ℝ) :
    let r := rgPerm x y z
    (r.1 - r.2.2) * (r.2.1 - r.2.2) ≤ 0 ∧
    ((r = (x, y, z)) ∨ (r = (z, y, x)) ∨ (r = (x, z, y))) := by
  intro r
  have hr : r = if 0 < (x - z) * (y - z) then (if (y - x) * (z - x) ≤ 0 then (z, y, x) else (x, z, y)) else (x, y, z) := by
    simp only [r]; unfold rgPerm
    simp only [ltb_real, leb_real, lit_real, decide_eq_true_eq]; push_cast; rfl
  rw [hr]
  split_ifs with h1 h2
  · refine ⟨?_, Or.inr (Or.inl rfl)⟩
    show (z - x) * (y - x) ≤ 0
    linarith
  · refine ⟨?_, Or.inr (Or.inr rfl)⟩
    show (x - y) * (z - y) ≤ 0
    -- the three products `(u − w)(v − w)` multiply to minus a square, so they cannot all be positive
    have key : (x - z) * (y - z) * ((y - x) * (z - x)) * ((x - y) * (z - y)) = -((x - y) * (y - z) * (z - x)) ^ 2 := by
      ring
    by_contra hneg
    have hpos := mul_pos (mul_pos h1 (not_le.1 h2)) (not_le.1 hneg)
    rw [key] at hpos
    exact absurd hpos (not_lt.mpr (neg_nonpos.mpr (sq_nonneg _)))
  · refine ⟨?_, Or.inl rfl⟩
    show (x - z) * (y - z) ≤ 0
    exact not_lt.1 h1

/-- the circular closed form (`0 < x < y`) satisfies the degenerate duplication theorem
    `R_C(x, y) = 2 R_C(x + λ, y + λ)`, `λ = y + 2√x√y` -/
theorem rc_duplication_circular (x y : ℝ) (hx : 0 < x) (hxy : x < y) :
    rc x y = 2 * rc (x + (y + 2 * √x * √y)) (y + (y + 2 * √x * √y)) := by
  obtain ⟨a, ha, rfl⟩ : ∃ a, 0 < a ∧ x = a ^ 2 := ⟨√x, sqrt_pos.2 hx, (sq_sqrt hx.le).symm⟩
  obtain ⟨b, hb, rfl⟩ : ∃ b, 0 < b ∧ y = b ^ 2 :=
    ⟨√y, sqrt_pos.2 (hx.trans hxy), (sq_sqrt (hx.trans hxy).le).symm⟩
  have hab0 : 0 < a + b := add_pos ha hb
  have hD : 0 < b ^ 2 - a ^ 2 := sub_pos.mpr hxy
  -- the duplicated arguments are `(a + b)²` and `(a + b)² + (b² − a²)`
  rw [sqrt_sq ha.le, sqrt_sq hb.le, show a ^ 2 + (b ^ 2 + 2 * a * b) = (a + b) ^ 2 by ring,
    show b ^ 2 + (b ^ 2 + 2 * a * b) = (a + b) ^ 2 + (b ^ 2 - a ^ 2) by ring,
    rc_atan_eq _ _ hxy, rc_atan_eq _ _ (lt_add_of_pos_right _ hD), add_sub_cancel_left,
    sqrt_div hD.le, sqrt_div hD.le, sqrt_sq ha.le, sqrt_sq hab0.le]
  have hr2 := sq_sqrt hD.le
  have hrpos := sqrt_pos.2 hD
  generalize √(b ^ 2 - a ^ 2) = r at hr2 hrpos
  -- `2 arctan u = arctan (2u/(1 − u²))` at `u = r/(a + b) < 1`, where `1 − u² = 2a/(a + b)`
  have ht : 2 * arctan (r / (a + b)) = arctan (r / a) := by
    have hlt : r / (a + b) < 1 := by
      rw [div_lt_one hab0]
      refine lt_of_pow_lt_pow_left₀ 2 hab0.le (sub_pos.mp ?_)
      rw [hr2, show (a + b) ^ 2 - (b ^ 2 - a ^ 2) = 2 * a * (a + b) by ring]
      exact mul_pos (mul_pos two_pos ha) hab0
    have e : 1 - (r / (a + b)) ^ 2 = 2 * a / (a + b) := by
      rw [div_pow, hr2]; field_simp; ring
    rw [two_mul_arctan (neg_one_lt_zero.trans (div_pos hrpos hab0)) hlt, e]
    congr 1; field_simp
  rw [← ht]; ring

/-- the hyperbolic closed form (`0 < y < x`) satisfies it too -/
theorem rc_duplication_hyperbolic (x y : ℝ) (hy : 0 < y) (hxy : y < x) :
    rc x y = 2 * rc (x + (y + 2 * √x * √y)) (y + (y + 2 * √x * √y)) := by
  obtain ⟨b, hb, rfl⟩ : ∃ b, 0 < b ∧ y = b ^ 2 := ⟨√y, sqrt_pos.2 hy, (sq_sqrt hy.le).symm⟩
  obtain ⟨a, ha, rfl⟩ : ∃ a, 0 < a ∧ x = a ^ 2 :=
    ⟨√x, sqrt_pos.2 (hy.trans hxy), (sq_sqrt (hy.trans hxy).le).symm⟩
  have hD : 0 < a ^ 2 - b ^ 2 := sub_pos.mpr hxy
  have hY : 0 < 2 * b * (a + b) := mul_pos (mul_pos two_pos hb) (add_pos ha hb)
  -- the duplicated arguments are `2b(a + b) + (a² − b²)` and `2b(a + b)`
  rw [sqrt_sq ha.le, sqrt_sq hb.le, show b ^ 2 + (b ^ 2 + 2 * a * b) = 2 * b * (a + b) by ring,
    show a ^ 2 + (b ^ 2 + 2 * a * b) = 2 * b * (a + b) + (a ^ 2 - b ^ 2) by ring,
    rc_asinh_eq _ _ hy hxy, rc_asinh_eq _ _ hY (lt_add_of_pos_right _ hD), add_sub_cancel_left]
  have hq : 0 ≤ (a ^ 2 - b ^ 2) / (2 * b * (a + b)) := (div_pos hD hY).le
  have key : arsinh (√((a ^ 2 - b ^ 2) / b ^ 2)) = 2 * arsinh (√((a ^ 2 - b ^ 2) / (2 * b * (a + b)))) := by
    apply sinh_injective
    rw [sinh_arsinh, sinh_two_mul, sinh_arsinh, cosh_arsinh, sq_sqrt hq,
      sqrt_eq_iff_mul_self_eq (div_pos hD hy).le (by positivity)]
    have e1 := mul_self_sqrt hq
    have e2 := mul_self_sqrt (add_nonneg zero_le_one hq)
    have e3 : 4 * ((a ^ 2 - b ^ 2) / (2 * b * (a + b))) * (1 + (a ^ 2 - b ^ 2) / (2 * b * (a + b))) =
        (a ^ 2 - b ^ 2) / b ^ 2 := by
      field_simp; ring
    rw [← e3]
    generalize (a ^ 2 - b ^ 2) / (2 * b * (a + b)) = q at e1 e2
    linear_combination (-4 * (√(1 + q) * √(1 + q))) * e1 - (4 * q) * e2
  rw [key]; ring

/-- and so does the value on the diagonal -/
theorem rc_duplication_diagonal (y : ℝ) (hy : 0 < y) : rc y y = 2 * rc (y + (y + 2 * √y * √y)) (y + (y + 2 * √y * √y)) := by
  have h1 : ∀ w : ℝ, rc w w = 1 / √w := by
    intro w; unfold rc; simp [lit_real]
  have h2 : y + (y + 2 * √y * √y) = (2 * √y) ^ 2 := by
    have := Real.mul_self_sqrt hy.le; linear_combination (-2) * this
  rw [h1, h1, h2, Real.sqrt_sq (by positivity)]
  have := Real.sqrt_pos.2 hy
  field_simp

/-- one descending Landen step (one pass through the body of `while (l--)`) preserves the relation -/
theorem landen_step (a b c d : ℝ) (ha : 0 < a) (hb : 0 < b)
    (h : LandenInv ((a + b) / 2) (b * a) c d) :
    let α := c / ((a + b) / 2)
    LandenInv a (b ^ 2) (c * d) ((b + α * c) / (a + α * c)) := by
  intro α
  unfold LandenInv at h ⊢
  have hm : 0 < (a + b) / 2 := by positivity
  set m := (a + b) / 2 with hmdef
  have hαc : α * c = c ^ 2 / m := by simp only [α]; ring
  rw [hαc]
  have hden : 0 < a + c ^ 2 / m := by positivity
  have e1 : (b + c ^ 2 / m) / (a + c ^ 2 / m) = (b * m + c ^ 2) / (a * m + c ^ 2) := by
    field_simp
  rw [e1]
  have hden2 : 0 < a * m + c ^ 2 := by positivity
  rw [div_pow, div_mul_eq_mul_div, div_eq_iff (by positivity)]
  have hab : a + b = 2 * m := by rw [hmdef]; ring
  clear_value m
  have hb' : b = 2 * m - a := eq_sub_of_add_eq' hab
  subst hb'
  linear_combination (2 * c ^ 2 * (2 * m - a - a) * m) * h

/-- the descending loop preserves the relation along an AGM chain of any depth -/
theorem landen_descent (st : List (ℝ × ℝ)) (aN bN2 c d : ℝ) (hch : IsChain st aN bN2) (haN : 0 < aN)
    (h : LandenInv aN bN2 c d) :
    LandenInv (outer st aN bN2).1 (outer st aN bN2).2 (landenDesc st (c / aN) c d).1 (landenDesc st (c / aN) c d).2 := by
  induction st generalizing aN bN2 c d with
  | nil => simpa [outer, landenDesc] using h
  | cons p rest ih =>
    obtain ⟨a, b⟩ := p
    obtain ⟨h1, h2, ha, hb, hrest⟩ := hch
    subst h1 h2
    have hs := landen_step a b c d ha hb h
    simp only at hs
    have := ih a (b ^ 2) (c * d) _ hrest ha hs
    simpa [outer, landenDesc] using this

/-- the ascending loop produces an AGM chain: on success the stack is a chain whose next inner term is
    `(c, b_L·a_L)` with `c = (a_L + b_L)/2`, its outermost level is the one the loop started from, and the exit test holds
    at the innermost level -/
theorem agm_ascent_chain (n : ℕ) (a mc : ℝ) (st st' : List (ℝ × ℝ)) (c : ℝ) (ha : 0 < a) (hmc : 0 < mc)
    (hst : IsChain st a mc) (h : agmAsc n a mc st = some (st', c)) :
    ∃ aL bL rest, st' = (aL, bL) :: rest ∧ c = (aL + bL) / 2 ∧ IsChain st' c (bL * aL) ∧ 0 < c ∧
      outer st' c (bL * aL) = outer st a mc ∧ |aL - bL| ≤ tolJAC * aL := by
  induction n generalizing a mc st with
  | zero => simp [agmAsc] at h
  | succ n ih =>
    have hs : 0 < √mc := Real.sqrt_pos.mpr hmc
    have hsq : √mc ^ 2 = mc := Real.sq_sqrt hmc.le
    simp only [agmAsc, sqrt_real, abs_real, ltb_real, lit_real, Bool.not_eq_true', decide_eq_false_iff_not,
      not_lt] at h
    split at h
    · rename_i hexit
      simp only [Option.some.injEq, Prod.mk.injEq] at h
      obtain ⟨h1, h2⟩ := h
      subst h1 h2
      refine ⟨a, √mc, st, rfl, by push_cast; ring, ?_, by push_cast; positivity, ?_, hexit⟩
      · refine ⟨by push_cast; ring, rfl, ha, hs, ?_⟩
        rw [hsq]; exact hst
      · simp only [outer]; rw [hsq]
    · have hch : IsChain ((a, √mc) :: st) ((a + √mc) / ((2 : ℕ) : ℝ)) (√mc * a) := by
        refine ⟨by push_cast; ring, rfl, ha, hs, ?_⟩
        rw [hsq]; exact hst
      obtain ⟨aL, bL, rest, e1, e2, e3, e4, e5, e6⟩ := ih _ _ _ (by push_cast; positivity) (by positivity) hch h
      refine ⟨aL, bL, rest, e1, e2, e3, e4, ?_, e6⟩
      rw [e5]; simp only [outer]; rw [hsq]

/-- `sn² + cn² = 1` for every parameter and argument -/
theorem sncndn_unit_circle (e : Par ℝ) (x sn cn dn : ℝ) (h : sncndn e x = some (sn, cn, dn)) : sn ^ 2 + cn ^ 2 = 1 := by
  unfold sncndn at h
  simp only [eqb_real, Bool.not_eq_true', decide_eq_false_iff_not, sin_real, cos_real, sqrt_real, lit_real,
    tanh_realx, cosh_realx, signNeg_real, decide_eq_true_eq] at h
  split at h
  · split at h
    · simp at h
    · rename_i st c hasc
      split at h
      · generalize landenDesc st _ _ _ = r at h
        obtain ⟨c1, d1⟩ := r
        simp only [Option.some.injEq, Prod.mk.injEq] at h
        obtain ⟨h1, h2, h3⟩ := h
        have hsn : sn ^ 2 = 1 / (c1 * c1 + 1) := by
          rw [← h1, Nat.cast_one, apply_ite (· ^ 2), neg_sq, ite_self, sq_one_div_sqrt]
        rw [← h2, h1, mul_pow, hsn]
        have : c1 * c1 + 1 ≠ 0 := (add_pos_of_nonneg_of_pos (mul_self_nonneg c1) one_pos).ne'
        field_simp
        ring
      · simp only [Option.some.injEq, Prod.mk.injEq] at h
        obtain ⟨h1, h2, h3⟩ := h
        rw [← h1, ← h2]; exact Real.sin_sq_add_cos_sq _
  · simp only [Option.some.injEq, Prod.mk.injEq] at h
    obtain ⟨h1, h2, h3⟩ := h
    rw [← h1, ← h2, Real.tanh_eq_sinh_div_cosh]
    have hc : Real.cosh x ≠ 0 := (Real.cosh_pos x).ne'
    have := Real.cosh_sq x
    push_cast
    field_simp
    linarith

/-- from any seed `(c, d)` that satisfies the relation at the innermost level, the descending loop followed by the final
    normalisation `sn = 1/√(c²+1)`, `cn = c·sn` gives `dn² = cn² + k'² sn²` exactly, for every depth of the AGM stack
    produced by the ascending loop -/
theorem sncndn_dn_identity (kp2 : ℝ) (hk : 0 < kp2) (st rest : List (ℝ × ℝ)) (c0 aL bL cs d : ℝ)
    (hasc : agmAsc num 1 kp2 [] = some (st, c0)) (hst : st = (aL, bL) :: rest) (hinv : LandenInv c0 (bL * aL) cs d) :
    let r := landenDesc st (cs / c0) cs d
    let sn := 1 / √(r.1 * r.1 + 1)
    r.2 ^ 2 = (r.1 * sn) ^ 2 + kp2 * sn ^ 2 := by
  intro r sn
  have h1 : (0 : ℝ) < 1 := one_pos
  obtain ⟨aL', bL', rest', e1, e2, e3, e4, e5, e6⟩ := agm_ascent_chain num _ kp2 [] st c0 h1 hk trivial hasc
  rw [hst] at e1
  simp only [List.cons.injEq, Prod.mk.injEq] at e1
  obtain ⟨⟨rfl, rfl⟩, rfl⟩ := e1
  have hL := landen_descent st c0 (bL * aL) cs d e3 e4 hinv
  rw [e5] at hL
  simp only [outer] at hL
  unfold LandenInv at hL
  change r.2 ^ 2 * (r.1 ^ 2 + 1 ^ 2) = r.1 ^ 2 + kp2 at hL
  have hpos : 0 < r.1 * r.1 + 1 := add_pos_of_nonneg_of_pos (mul_self_nonneg _) one_pos
  have hsn : sn ^ 2 = 1 / (r.1 * r.1 + 1) := sq_one_div_sqrt r.1
  rw [mul_pow, hsn]
  field_simp
  linarith

/-- the seed `dn = 1` of the code misses the relation at the innermost level by exactly `((a_L − b_L)/2)²` -/
theorem sncndn_seed_defect (aL bL c : ℝ) :
    1 ^ 2 * (c ^ 2 + ((aL + bL) / 2) ^ 2) - (c ^ 2 + bL * aL) = ((aL - bL) / 2) ^ 2 := by
  ring

/-- for `k² = 1` (`k'² = 0`) the closed forms satisfy both identities -/
theorem sncndn_k1 (e : Par ℝ) (hk : e.kp2 = 0) (x sn cn dn : ℝ) (h : sncndn e x = some (sn, cn, dn)) :
    sn ^ 2 + cn ^ 2 = 1 ∧ dn ^ 2 = cn ^ 2 + e.kp2 * sn ^ 2 := by
  refine ⟨sncndn_unit_circle e x sn cn dn h, ?_⟩
  unfold sncndn at h
  simp only [hk, eqb_real, lit_real, Nat.cast_zero, decide_true, Bool.not_true, Bool.false_eq_true, if_false,
    Option.some.injEq, Prod.mk.injEq] at h
  obtain ⟨h1, h2, h3⟩ := h
  rw [hk, ← h2, ← h3]; ring

/-- oddness in `sn`, for every first-quadrant kernel even in `sn` -/
theorem wrap_odd (c : ℝ) (g : ℝ → ℝ → ℝ) (hs : ∀ s t, g (-s) t = g s t) (sn cn : ℝ) (hsn : sn ≠ 0) :
    wrap c (g (-sn) cn) (-sn) cn = - wrap c (g sn cn) sn cn := by
  rw [wrap_real, wrap_real, hs, ite_neg_lt hsn]
  split_ifs <;> simp

/-- reflection about `π/2`, for every kernel even in `cn` with values in `[0, 2c]` -/
theorem wrap_reflect (c : ℝ) (g : ℝ → ℝ → ℝ) (hc : ∀ s t, g s (-t) = g s t) (sn cn : ℝ) (hsn : 0 < sn) (hcn : 0 < cn)
    (h0 : 0 ≤ g sn cn) (h2 : g sn cn ≤ 2 * c) :
    wrap c (g sn (-cn)) sn (-cn) = 2 * c - wrap c (g sn cn) sn cn := by
  rw [wrap_real, wrap_real, hc]
  have h1 : ¬ (sn < 0) := by linarith
  have h3 : ¬ (cn < 0) := by linarith
  have h4 : (-cn < 0) := by linarith
  have h5 : cn ≠ 0 := hcn.ne'
  simp only [h1, h3, h4, h5, neg_eq_zero, if_true, if_false]
  rw [abs_of_nonneg h0, abs_of_nonneg (by linarith)]

/-- the six Carlson kernels are even in `sn` and in `cn` -/
theorem core_even (e : Par ℝ) (k : Kind) (sn cn dn : ℝ) :
    core e k (-sn) cn dn = core e k sn cn dn ∧ core e k sn (-cn) dn = core e k sn cn dn := by
  cases k <;>
    simp only [core, coreF, coreE, coreD, corePi, coreG, coreH, abs_real, abs_neg, neg_mul_neg, and_self]

theorem delta_even (e : Par ℝ) (sn cn : ℝ) : delta e (-sn) cn = delta e sn cn ∧ delta e sn (-cn) = delta e sn cn :=
  Proofs.Jacobi.delta_even e sn cn

/-- `F(−sn, cn, dn) = −F(sn, cn, dn)` and the same for `E, D, Pi, G, H` -/
theorem incomplete_odd (e : Par ℝ) (k : Kind) (sn cn dn : ℝ) (hsn : sn ≠ 0) : inc e k (-sn) cn dn = - inc e k sn cn dn := by
  unfold inc
  exact wrap_odd (comp e k) (fun s t => core e k s t dn) (fun s t => (core_even e k s t dn).1) sn cn hsn

/-- `X(sn, −cn, dn) = 2X() − X(sn, cn, dn)` in the first quadrant, when the Carlson expression lies in `[0, 2X()]` -/
theorem incomplete_reflect (e : Par ℝ) (k : Kind) (sn cn dn : ℝ) (hsn : 0 < sn) (hcn : 0 < cn)
    (h0 : 0 ≤ core e k sn cn dn) (h2 : core e k sn cn dn ≤ 2 * comp e k) :
    inc e k sn (-cn) dn = 2 * comp e k - inc e k sn cn dn := by
  unfold inc
  exact wrap_reflect (comp e k) (fun s t => core e k s t dn) (fun s t => (core_even e k s t dn).2) sn cn hsn hcn h0 h2

/-- the periodic part has period `π` for every `X` whatsoever -/
theorem periodic_part_period (X : ℝ → ℝ → ℝ → ℝ) (c sn cn dn : ℝ) (hcn : cn ≠ 0) :
    deltaWith X c (-sn) (-cn) dn = deltaWith X c sn cn dn :=
  Proofs.Jacobi.deltaWith_neg X c sn cn dn hcn

/-- beyond `±π` on both sides a half turn adds `2c`, for every `X` whatsoever (`cos φ ≠ 0`) -/
theorem period_far (e : Par ℝ) (X : ℝ → ℝ → ℝ → ℝ) (c φ : ℝ) (h1 : π ≤ |φ|) (h2 : π ≤ |φ + π|) (hcos : cos φ ≠ 0) :
    phiWith e X c (φ + π) = phiWith e X c φ + 2 * c := by
  rw [phiWith_far e X c _ h1, phiWith_far e X c _ h2, Real.sin_add_pi, Real.cos_add_pi, delta_neg_neg,
    deltaWith_neg X c _ _ _ hcos]
  have := Real.pi_pos
  field_simp
  ring

/-- `X(φ + π) = X(φ) + 2c` for every `φ`, through all the branches of the period handling, for the frame `wrap` around
    every kernel `g` that is even in `sn`, `cn` and takes values in `[0, 2c]`, `c > 0` -/
theorem period_every_kernel (e : Par ℝ) (c : ℝ) (g : ℝ → ℝ → ℝ → ℝ) (hc : 0 < c)
    (hs : ∀ s t d, g (-s) t d = g s t d) (ht : ∀ s t d, g s (-t) d = g s t d)
    (hg : ∀ s t d, 0 ≤ g s t d ∧ g s t d ≤ 2 * c) (φ : ℝ) :
    phiWith e (fun sn cn dn => wrap c (g sn cn dn) sn cn) c (φ + π) =
      phiWith e (fun sn cn dn => wrap c (g sn cn dn) sn cn) c φ + 2 * c := by
  have hpi := Real.pi_pos
  have hc0 : c ≠ 0 := hc.ne'
  rw [phiWith_wrap e c g hc hs ht hg, phiWith_wrap e c g hc hs ht hg, Real.sin_add_pi, Real.cos_add_pi, delta_neg_neg]
  by_cases hcos : cos φ = 0
  · -- at `cos φ = 0` both periodic parts vanish
    have hsin : sin φ ^ 2 = 1 := by
      have h := Real.sin_sq_add_cos_sq φ
      rwa [hcos, zero_pow two_ne_zero, add_zero] at h
    rw [hcos, neg_zero, deltaWith_wrap_zero c g hc _ _ hsin, deltaWith_wrap_zero c g hc _ _ ((neg_sq _).trans hsin)]
    field_simp; ring
  · rw [deltaWith_neg _ c _ _ _ hcos]; field_simp; ring

/-- the same for the six integrals of the model -/
theorem incomplete_period (e : Par ℝ) (k : Kind) (hc : 0 < comp e k)
    (hg : ∀ s t d, 0 ≤ core e k s t d ∧ core e k s t d ≤ 2 * comp e k) (φ : ℝ) :
    phiWith e (inc e k) (comp e k) (φ + π) = phiWith e (inc e k) (comp e k) φ + 2 * comp e k :=
  period_every_kernel e (comp e k) (core e k) hc (fun s t d => (core_even e k s t d).1)
    (fun s t d => (core_even e k s t d).2) hg φ

/-- `incPhi` is `phiWith` outside the shortcuts for `k² = 0` and `k² = 1` -/
theorem incPhi_general_branch (e : Par ℝ) (k : Kind) (hk : e.k2 ≠ 0) (hkp : e.kp2 ≠ 0) (φ : ℝ) :
    incPhi e k φ = phiWith e (inc e k) (comp e k) φ := by
  cases k <;> simp [incPhi, comp, hk, hkp, lit_real]

/-- `Ed`: one more turn adds `4E` -/
theorem ed_turn (e : Par ℝ) (n sn cn : ℝ) : edWith e (n + 1) sn cn = edWith e n sn cn + 4 * e.eEc := by
  unfold edWith; simp only [lit_real]; push_cast; ring

theorem einv_reduce_shift (e : Par ℝ) (x : ℝ) (hE : e.eEc ≠ 0) :
    einvReduce e (x + 2 * e.eEc) = ((einvReduce e x).1 + 1, (einvReduce e x).2) := by
  rw [einvReduce_real, einvReduce_real]
  have : (x + 2 * e.eEc) / (2 * e.eEc) + 1 / 2 = (x / (2 * e.eEc) + 1 / 2) + 1 := by
    field_simp; ring
  rw [this, Int.floor_add_one]
  push_cast
  refine Prod.ext rfl ?_
  simp only
  ring

/-- `Einv(x + 2E) = Einv(x) + π` -/
theorem einv_period (e : Par ℝ) (x : ℝ) (hE : e.eEc ≠ 0) : einv e (x + 2 * e.eEc) = (einv e x).map (· + π) := by
  unfold einv
  rw [einv_reduce_shift e x hE]
  simp only [pi_real]
  cases einvLoop e (einvReduce e x).2 num (einvStart e (einvReduce e x).2) with
  | none => rfl
  | some v => simp only [Option.map_some, Option.some.injEq]; ring

/-- the reduced argument lies in `[−E, E)` -/
theorem einv_reduce_range (e : Par ℝ) (x : ℝ) (hE : 0 < e.eEc) :
    -e.eEc ≤ (einvReduce e x).2 ∧ (einvReduce e x).2 < e.eEc := by
  rw [einvReduce_real]
  -- with `y = x/(2E)` and `n = ⌊y + 1/2⌋` the reduced argument is `2E(y − n)`, and `−1/2 ≤ y − n < 1/2`
  obtain ⟨y, rfl⟩ : ∃ y, x = y * (2 * e.eEc) := ⟨x / (2 * e.eEc), (div_mul_cancel₀ x (mul_pos two_pos hE).ne').symm⟩
  rw [mul_div_cancel_right₀ y (mul_pos two_pos hE).ne']
  have h1 := Int.floor_le (y + 1 / 2)
  have h2 := Int.lt_floor_add_one (y + 1 / 2)
  generalize (⌊y + 1 / 2⌋ : ℝ) = n at h1 h2
  have hE2 := mul_pos two_pos hE
  exact ⟨by linarith only [mul_le_mul_of_nonneg_left h1 hE2.le], by linarith only [mul_lt_mul_of_pos_left h2 hE2]⟩

/-- when the Newton loop of `Einv` ends, the last iterate `φ` satisfies `|E(φ) − x| ≤ tolJAC·min(1, |result|)·Δ(φ)` (the
    stopping test is relative to the angle for small angles), and the returned value is `φ` minus a correction
    of at most `tolJAC·min(1, |result|)`; in particular a fixed point (`correction = 0`) solves `E(φ) = x` -/
theorem einv_newton_residual (e : Par ℝ) (x : ℝ) (n : ℕ) (φ0 r : ℝ) (h : einvLoop e x n φ0 = some r) :
    ∃ φ : ℝ,
      let dn := delta e (sin φ) (cos φ)
      let err := (inc e .E (sin φ) (cos φ) dn - x) / dn
      r = φ - err ∧ |err| ≤ tolJAC * min 1 |r| ∧ |err| ≤ tolJAC ∧
      (dn ≠ 0 → |inc e .E (sin φ) (cos φ) dn - x| ≤ tolJAC * min 1 |r| * |dn|) ∧
      (dn ≠ 0 → r = φ → inc e .E (sin φ) (cos φ) dn = x) := by
  have ht : (0 : ℝ) ≤ tolJAC := by unfold tolJAC; simp only [sqrt_real]; exact Real.sqrt_nonneg _
  induction n generalizing φ0 with
  | zero => simp [einvLoop] at h
  | succ n ih =>
    simp only [einvLoop, sin_real, cos_real, abs_real, ltb_real, Bool.not_eq_true', decide_eq_false_iff_not,
      not_lt, lit_real, Nat.cast_one] at h
    split at h
    · rename_i hexit
      simp only [Option.some.injEq] at h
      have hexit' : |(inc e .E (sin φ0) (cos φ0) (delta e (sin φ0) (cos φ0)) - x) / delta e (sin φ0) (cos φ0)|
          ≤ tolJAC * min 1 |r| := by rw [← h]; exact hexit
      refine ⟨φ0, h.symm, hexit', ?_, ?_, ?_⟩
      · calc _ ≤ tolJAC * min 1 |r| := hexit'
          _ ≤ tolJAC * 1 := mul_le_mul_of_nonneg_left (min_le_left _ _) ht
          _ = tolJAC := mul_one _
      · intro hd
        rw [abs_div] at hexit'
        rwa [div_le_iff₀ (abs_pos.mpr hd)] at hexit'
      · intro hd hr
        rw [← h] at hr
        have : (inc e .E (sin φ0) (cos φ0) (delta e (sin φ0) (cos φ0)) - x) / delta e (sin φ0) (cos φ0) = 0 := by
          linarith
        rcases div_eq_zero_iff.mp this with h0 | h0
        · linarith
        · exact absurd h0 hd
    · exact ih _ h

/-- `deltaEinv` has period `π` -/
theorem deltaEinv_period (e : Par ℝ) (stau ctau : ℝ) (hc : ctau ≠ 0) : deltaEinv e (-stau) (-ctau) = deltaEinv e stau ctau :=
  Proofs.Jacobi.deltaEinv_neg e stau ctau hc

/-! ### non-vacuity: concrete instances of the hypotheses used above -/

/-- `rf_exit_bound`: on equal arguments the loop of `RF` ends through its test at once -/
example : ¬ ((rfRun (1 : ℝ) 1 1).mul * |(rfRun (1 : ℝ) 1 1).An| ≤ rfQ (1 : ℝ) 1 1) := by
  have hA : ((1 : ℝ) + 1 + 1) / 3 = 1 := by norm_num
  have hQ : rfQ (1 : ℝ) 1 1 = 0 := by
    unfold rfQ max3
    simp only [lit_real, abs_real, max_real]; push_cast
    rw [hA, sub_self, abs_zero, max_self, max_self, zero_div]
  rw [rfRun_eq, hQ, hA]
  show ¬ ((rfLoop 0 (63 + 1) ⟨1, 1, 1, 1, 1⟩).mul * |(rfLoop 0 (63 + 1) ⟨1, 1, 1, 1, 1⟩).An| ≤ (0 : ℝ))
  have h : ¬ ((1 : ℝ) * |1| ≤ 0) := by norm_num
  rw [rfLoop, leb_real, abs_real, if_neg (by simp)]
  exact h

/-- `agm_ascent_chain`, `sncndn_dn_identity`: the ascending AGM loop succeeds (here for `k'² = 1`) -/
example : agmAsc num (1 : ℝ) 1 [] = some ([((1 : ℝ), (1 : ℝ))], 1) := by
  have ht : (0 : ℝ) ≤ tolJAC := by unfold tolJAC; simp only [sqrt_real]; exact Real.sqrt_nonneg _
  show agmAsc (24 + 1) (1 : ℝ) 1 [] = _
  unfold agmAsc
  simp only [sqrt_real, Real.sqrt_one, lit_real, ltb_real, abs_real]
  norm_num [ht]
example : LandenInv (1 : ℝ) (1 * 1) 2 1 := by unfold LandenInv; norm_num
/-- `landen_step`: a non-degenerate level (`a = 4`, `b = 1`) with a seed satisfying the relation -/
example : LandenInv ((4 + 1) / 2 : ℝ) (1 * 4) 0 (4 / 5) := by unfold LandenInv; norm_num
/-- `sncndn_unit_circle`, `sncndn_k1`: `sncndn` returns a value (here the closed forms for `k² = 1`) -/
example (x : ℝ) : sncndn (⟨1, 0, 0, 1, 1, 0, 1, 0, 0, 1, 1⟩ : Par ℝ) x = some (Real.tanh x, 1 / Real.cosh x, 1 / Real.cosh x) := by
  unfold sncndn; simp [eqb_real, lit_real]
/-- `period_every_kernel`, `wrap_reflect`: a kernel satisfying the contract -/
example : (0 : ℝ) < 1 ∧ ∀ s t d : ℝ, (0 : ℝ) ≤ (fun _ _ _ => (1 / 2 : ℝ)) s t d ∧ (fun _ _ _ => (1 / 2 : ℝ)) s t d ≤ 2 * 1 := by
  refine ⟨by norm_num, fun _ _ _ => ⟨by norm_num, by norm_num⟩⟩
/-- `einv_newton_residual`: the Newton loop of `Einv` returns (here: started at a solution) -/
example (e : Par ℝ) (φ0 : ℝ) :
    einvLoop e (inc e .E (Real.sin φ0) (Real.cos φ0) (delta e (Real.sin φ0) (Real.cos φ0))) 1 φ0 = some φ0 := by
  have ht : (0 : ℝ) ≤ tolJAC := by unfold tolJAC; simp only [sqrt_real]; exact Real.sqrt_nonneg _
  have hm : (0 : ℝ) ≤ tolJAC * RealLike.min 1 |φ0| := mul_nonneg ht (le_min zero_le_one (abs_nonneg _))
  unfold einvLoop
  simp only [sin_real, cos_real, sub_self, zero_div, abs_real, abs_zero, ltb_real, sub_zero, lit_real, Nat.cast_one]
  simp [not_lt.mpr hm]
example : (0 : ℝ) < 1 ∧ (1 : ℝ) < 2 := by norm_num

end elliptic

/-! ## Part 4: `AuxAngle`, exact `AuxLatitude`, `Ellipsoid` -/

section auxexact
open GeoVerif.Elliptic GeoVerif.AuxExact GeoVerif.Proofs.AuxExactP

/-- `normalized()` puts the pair on the unit circle without changing its direction -/
theorem auxangle_normalized (p : Ang ℝ) (h0 : p.x ≠ 0 ∨ p.y ≠ 0) (hb : ¬ ((maxHalf : ℝ) < |p.y| ∧ (maxHalf : ℝ) < |p.x|)) :
    p.normalized.y ^ 2 + p.normalized.x ^ 2 = 1 ∧
    p.normalized.y = p.y / √(p.y ^ 2 + p.x ^ 2) ∧ p.normalized.x = p.x / √(p.y ^ 2 + p.x ^ 2) := by
  have hpos : 0 < p.y ^ 2 + p.x ^ 2 := by
    rcases h0 with h | h
    · have := pow_pos (abs_pos.mpr h) 2; rw [sq_abs] at this; positivity
    · have := pow_pos (abs_pos.mpr h) 2; rw [sq_abs] at this; positivity
  have hr : √(p.y ^ 2 + p.x ^ 2) ≠ 0 := (Real.sqrt_pos.mpr hpos).ne'
  have hsq := Real.sq_sqrt hpos.le
  rw [normalized_eq p hb]
  refine ⟨?_, rfl, rfl⟩
  simp only
  rw [div_pow, div_pow, ← add_div, hsq]
  exact div_self hpos.ne'

/-- a pair on the unit circle is its own normalisation -/
theorem auxangle_normalized_idem (p : Ang ℝ) (h : p.y ^ 2 + p.x ^ 2 = 1) : p.normalized = p := by
  rw [normalized_eq p (guard_of_unit h), h]
  simp

/-- `copyquadrant` keeps the magnitudes and takes the signs of the other pair -/
theorem auxangle_copyquadrant (p q : Ang ℝ) :
    |(p.copyquadrant q).y| = |p.y| ∧ |(p.copyquadrant q).x| = |p.x| ∧
    (q.y < 0 → (p.copyquadrant q).y ≤ 0) ∧ (0 ≤ q.y → 0 ≤ (p.copyquadrant q).y) ∧
    (q.x < 0 → (p.copyquadrant q).x ≤ 0) ∧ (0 ≤ q.x → 0 ≤ (p.copyquadrant q).x) := by
  simp only [Ang.copyquadrant, copysign_real]
  refine ⟨?_, ?_, ?_, ?_, ?_, ?_⟩
  · split_ifs <;> simp
  · split_ifs <;> simp
  · intro h; rw [if_pos h]; simp
  · intro h; rw [if_neg (not_lt.mpr h)]; simp
  · intro h; rw [if_pos h]; simp
  · intro h; rw [if_neg (not_lt.mpr h)]; simp

/-- `operator+=` is the addition of angles -/
theorem auxangle_add (a b : ℝ) (hb : Real.sin b / Real.cos b ≠ 0) :
    (Ang.mk (Real.sin a) (Real.cos a)).add ⟨Real.sin b, Real.cos b⟩ = ⟨Real.sin (a + b), Real.cos (a + b)⟩ := by
  simp only [Ang.add, Ang.tan, eqb_real, lit_real]
  push_cast
  rw [if_pos (by simpa using hb), Real.sin_add, Real.cos_add]

/-- adding an angle with zero tangent changes nothing (so that the signs of zero are preserved) -/
theorem auxangle_add_zero (p q : Ang ℝ) (h : q.y / q.x = 0) : p.add q = p := by
  simp only [Ang.add, Ang.tan, eqb_real, lit_real]
  push_cast
  rw [h]
  simp

theorem auxangle_radians (r : ℝ) (h1 : -π < r) (h2 : r ≤ π) : (Ang.ofRadians r).radians = r := by
  simp only [Ang.ofRadians, Ang.radians, atan2_real, sin_real, cos_real]
  have : (⟨Real.cos r, Real.sin r⟩ : ℂ) = Complex.cos r + Complex.sin r * Complex.I := by
    apply Complex.ext <;> simp [← Complex.ofReal_cos, ← Complex.ofReal_sin]
  rw [this]
  exact Complex.arg_cos_add_sin_mul_I ⟨h1, h2⟩

theorem auxangle_lam (psi : ℝ) : (Ang.ofLam psi).lam = psi := by
  simp only [Ang.ofLam, Ang.lam, Ang.ofTan, Ang.tan, asinh_real, sinh_real, lit_real]
  push_cast
  rw [div_one, Real.arsinh_sinh]

theorem auxangle_lamd (d : ℝ) : (Ang.ofLamd d).lamd = d := by
  have hd : (degree : ℝ) ≠ 0 := by rw [degree_real]; positivity
  simp only [Ang.ofLamd, Ang.lamd, Ang.ofTan, Ang.tan, asinh_real, sinh_real, lit_real]
  push_cast
  rw [div_one, Real.arsinh_sinh]
  field_simp

/-- `degrees()` (`Math::atan2d` with its octant reduction) is the argument of `x + iy` in degrees, in every octant -/
theorem auxangle_degrees (p : Ang ℝ) : p.degrees * (π / 180) = p.radians := by
  obtain ⟨y, x⟩ := p
  have hd : (π / 180 : ℝ) ≠ 0 := by positivity
  simp only [Ang.degrees, Ang.radians, atan2_real, atan2d_real]
  have n1 : ‖(⟨-x, y⟩ : ℂ)‖ = ‖(⟨x, y⟩ : ℂ)‖ := by rw [norm_mk, norm_mk]; congr 1; ring
  have n2 : ‖(⟨y, x⟩ : ℂ)‖ = ‖(⟨x, y⟩ : ℂ)‖ := by rw [norm_mk, norm_mk]; congr 1; ring
  have n3 : ‖(⟨-y, x⟩ : ℂ)‖ = ‖(⟨x, y⟩ : ℂ)‖ := by rw [norm_mk, norm_mk]; congr 1; ring
  by_cases h1 : |x| < |y|
  · rw [if_pos h1]
    by_cases h2 : y < 0
    · rw [if_pos h2, Complex.arg_of_im_neg (z := ⟨x, y⟩) h2,
        Complex.arg_of_re_nonneg (x := ⟨-y, x⟩) (neg_nonneg.mpr h2.le), n3, Real.arccos_eq_pi_div_two_sub_arcsin]
      simp only
      field_simp
      ring
    · have hy : 0 < y := by
        rcases lt_or_eq_of_le (not_lt.mp h2) with h | h
        · exact h
        · rw [← h, abs_zero] at h1; exact absurd h1 (not_lt.mpr (abs_nonneg x))
      rw [if_neg h2, Complex.arg_of_im_pos (z := ⟨x, y⟩) hy,
        Complex.arg_of_re_nonneg (x := ⟨y, x⟩) hy.le, n2, Real.arccos_eq_pi_div_two_sub_arcsin]
      simp only
      field_simp
      ring
  · rw [if_neg h1]
    by_cases h2 : x < 0
    · rw [if_pos h2]
      by_cases h3 : y < 0
      · rw [if_pos h3, Complex.arg_of_re_neg_of_im_neg (x := ⟨x, y⟩) h2 h3,
          Complex.arg_of_re_nonneg (x := ⟨-x, y⟩) (neg_nonneg.mpr h2.le), n1]
        simp only [Complex.neg_im, neg_div, Real.arcsin_neg]
        field_simp
        ring
      · rw [if_neg h3, Complex.arg_of_re_neg_of_im_nonneg (x := ⟨x, y⟩) h2 (not_lt.mp h3),
          Complex.arg_of_re_nonneg (x := ⟨-x, y⟩) (neg_nonneg.mpr h2.le), n1]
        simp only [Complex.neg_im, neg_div, Real.arcsin_neg]
        field_simp
        ring
    · rw [if_neg h2]
      field_simp

/-- `ind(auxout, auxin)` is a bijection from `[0, AUXNUMBER)²` onto the `AUXNUMBER²` table slots, and `−1` elsewhere
    (depends on `Gen/AuxSeries.lean`: the enum value `AUXNUMBER` and the length of `ptrs[]`) -/
theorem ind_bijection :
    (∀ o i : Int, 0 ≤ o → o < 6 → 0 ≤ i → i < 6 → ind o i = 6 * o + i ∧ 0 ≤ ind o i ∧ ind o i < 36) ∧
    (∀ o i : Int, ¬ (0 ≤ o ∧ o < 6 ∧ 0 ≤ i ∧ i < 6) → ind o i = -1) ∧
    (∀ o i o' i' : Int, 0 ≤ ind o i → ind o i = ind o' i' → o = o' ∧ i = i') ∧
    (∀ k : Int, 0 ≤ k → k < 36 → ind (k / 6) (k % 6) = k) ∧
    Gen.AuxSeries.ptrs.length = Gen.AuxSeries.AUXNUMBER * Gen.AuxSeries.AUXNUMBER + 1 := by
  refine ⟨?_, ?_, ?_, ?_, rfl⟩
  · intro o i h1 h2 h3 h4
    rw [ind_eq, if_pos ⟨h1, h2, h3, h4⟩]
    omega
  · intro o i h
    rw [ind_eq, if_neg h]
  · intro o i o' i' h0 h
    rw [ind_eq] at h0 h
    rw [ind_eq] at h
    split_ifs at h0 h <;> omega
  · intro k h0 h1
    rw [ind_eq, if_pos (by omega)]
    omega

/-- the members set by `AuxLatitude(a, f)` -/
theorem auxlat_parameters (a f : ℝ) (hf : f < 1) :
    let P := AL.mk2 a f
    P.b = a * (1 - f) ∧ P.fm1 = 1 - f ∧ P.e2 = f * (2 - f) ∧ P.e2m1 = 1 - P.e2 ∧ P.e12 = P.e2 / (1 - P.e2) ∧
    P.e12p1 = 1 + P.e12 ∧ P.n = f / (2 - f) ∧ P.e ^ 2 = |P.e2| ∧ P.e1 ^ 2 = |P.e12| ∧ P.n2 = P.n ^ 2 ∧ 0 ≤ P.e ∧ 0 ≤ P.e1 := by
  have h1 : (1 : ℝ) - f ≠ 0 := by linarith
  have h3 : (1 : ℝ) - f * (2 - f) ≠ 0 := by
    have : (1 : ℝ) - f * (2 - f) = (1 - f) ^ 2 := by ring
    rw [this]; positivity
  simp only [AL.mk2, lit_real, sqrt_real, abs_real]
  push_cast
  refine ⟨rfl, rfl, trivial, by ring, rfl, ?_, trivial, Real.sq_sqrt (abs_nonneg _), Real.sq_sqrt (abs_nonneg _), by ring,
    Real.sqrt_nonneg _, Real.sqrt_nonneg _⟩
  field_simp
  ring

/-- `AuxLatitude::axes(a, b)` sets the same members as `AuxLatitude(a, (a − b)/a)` -/
theorem auxlat_axes (a b : ℝ) (ha : 0 < a) (hb : 0 < b) : AL.axes a b = AL.mk2 a ((a - b) / a) := by
  have ha' : a ≠ 0 := ha.ne'
  have hb' : b ≠ 0 := hb.ne'
  have hpos : 0 < a + b := add_pos ha hb
  have hab : a + b ≠ 0 := hpos.ne'
  have hf1 : 1 - (a - b) / a = b / a := by field_simp; ring
  have hf2 : 2 - (a - b) / a = (a + b) / a := by field_simp; ring
  have he2 : (a - b) / a * ((a + b) / a) = (a - b) * (a + b) / (a * a) := by field_simp
  have he2m : 1 - (a - b) * (a + b) / (a * a) = b * b / (a * a) := by field_simp; ring
  have he12 : (a - b) * (a + b) / (a * a) / (b * b / (a * a)) = (a - b) * (a + b) / (b * b) := by field_simp
  have hnn : 0 ≤ |a - b| * (a + b) := mul_nonneg (abs_nonneg _) hpos.le
  have he : √(|a - b| * (a + b)) / a = √|(a - b) * (a + b) / (a * a)| := by
    rw [abs_div, abs_mul, abs_of_pos hpos, abs_of_pos (mul_pos ha ha), Real.sqrt_div hnn, Real.sqrt_mul_self ha.le]
  have he1 : √(|a - b| * (a + b)) / b = √|(a - b) * (a + b) / (b * b)| := by
    rw [abs_div, abs_mul, abs_of_pos hpos, abs_of_pos (mul_pos hb hb), Real.sqrt_div hnn, Real.sqrt_mul_self hb.le]
  have hn : (a - b) / a / ((a + b) / a) = (a - b) / (a + b) := by field_simp
  have h12 : 1 / (b / a * (b / a)) = a * a / (b * b) := by field_simp
  simp only [AL.axes, AL.mk2, lit_real, sqrt_real, abs_real]
  push_cast
  simp only [hf1, hf2, he2, he2m, he12, he, he1, hn, h12]
  congr 1
  · field_simp
  · ring

/-- `tan β = (1 − f) tan φ`, `tan θ = (1 − f)² tan φ` -/
theorem parametric_geocentric_closed_form (a f : ℝ) (phi : Ang ℝ) :
    (parametric (AL.mk2 a f) phi).1.tan = (1 - f) * phi.tan ∧ (parametric (AL.mk2 a f) phi).2 = 1 - f ∧
    (geocentric (AL.mk2 a f) phi).1.tan = (1 - f) ^ 2 * phi.tan ∧ (geocentric (AL.mk2 a f) phi).2 = (1 - f) ^ 2 := by
  simp only [parametric, geocentric, AL.mk2, Ang.tan, lit_real]
  push_cast
  refine ⟨by ring, rfl, by ring, by ring⟩

/-- the exact conversions among φ, β, θ multiply the tangent by a power of `1 − f` -/
theorem convert_exact_low (a f : ℝ) (hf : f ≠ 1) (i o : Int) (hi : 0 ≤ i ∧ i < 3) (ho : 0 ≤ o ∧ o < 3) (z : Ang ℝ) :
    (convertExact (AL.mk2 a f) i o z).tan = (1 - f) ^ (o - i) * z.tan ∧ (convertExact (AL.mk2 a f) i o z).x = z.x := by
  have hind : ¬ ind o i < 0 := by rw [ind_eq, if_pos (by omega)]; omega
  unfold convertExact
  rw [if_neg hind]
  by_cases hio : i = o
  · rw [if_pos hio]; subst hio; simp
  · rw [if_neg hio, if_pos (by simp; omega)]
    refine ⟨?_, rfl⟩
    simp only [Ang.tan]
    rw [powFm1_eq _ _ (by omega) (by omega), mk2_fm1]; ring

theorem convert_exact_same_oob (P : AL ℝ) (z : Ang ℝ) :
    (∀ k : Int, 0 ≤ k → k < 6 → convertExact P k k z = z) ∧
    (∀ i o : Int, ¬ (0 ≤ o ∧ o < 6 ∧ 0 ≤ i ∧ i < 6) → convertExact P i o z = Ang.NaN) := by
  constructor
  · intro k h0 h1
    have hind : ¬ ind k k < 0 := by rw [ind_eq, if_pos (by omega)]; omega
    unfold convertExact
    rw [if_neg hind, if_pos rfl]
  · intro i o h
    unfold convertExact
    rw [ind_eq, if_neg h, if_pos (by norm_num)]

/-- the rectifying latitude from the two meridian arcs: `μ = (π/2)·sa/(sa + sb)`; the cosine is formed as the sine of the
    complementary arc so that it keeps its relative accuracy at the pole -/
theorem rectifying_from_arcs (sa sb : ℝ) (h : sa + sb ≠ 0) :
    (rectFromArcs sa sb).1 = Real.sin (π / 2 * (sa / (sa + sb))) ∧
    (rectFromArcs sa sb).2.1 = Real.cos (π / 2 * (sa / (sa + sb))) ∧
    (rectFromArcs sa sb).2.2 = 2 * (sa + sb) / π := by
  have hpi : π ≠ 0 := Real.pi_ne_zero
  simp only [rectFromArcs, lit_real, sin_real]
  push_cast
  refine ⟨?_, ?_, rfl⟩
  · congr 1
    show sa / (2 * (sa + sb) / π) = _
    field_simp
  · rw [← Real.sin_pi_div_two_sub]
    congr 1
    show sb / (2 * (sa + sb) / π) = _
    field_simp
    ring

/-- the cancellation-free form of `tan χ` used for `f > 0` equals the general expression
    `tan φ √(1+σ²) − σ √(1+tan²φ)` (the formula of `Math::taupf`) -/
theorem conformal_branch_algebra (t s : ℝ) (ht : 0 < t) (hs : 0 ≤ s) :
    (t - s) * (1 + s / t) / (√(1 ^ 2 + s ^ 2) + s / t * √(1 ^ 2 + t ^ 2)) = t * √(1 ^ 2 + s ^ 2) - s * √(1 ^ 2 + t ^ 2) := by
  have hs2 : (0 : ℝ) < 1 ^ 2 + s ^ 2 := add_pos_of_pos_of_nonneg (pow_pos one_pos 2) (sq_nonneg s)
  have ht2 : (0 : ℝ) < 1 ^ 2 + t ^ 2 := add_pos_of_pos_of_nonneg (pow_pos one_pos 2) (sq_nonneg t)
  have hA : √(1 ^ 2 + s ^ 2) ^ 2 = 1 ^ 2 + s ^ 2 := Real.sq_sqrt hs2.le
  have hB : √(1 ^ 2 + t ^ 2) ^ 2 = 1 ^ 2 + t ^ 2 := Real.sq_sqrt ht2.le
  have hA0 : 0 < √(1 ^ 2 + s ^ 2) := Real.sqrt_pos.mpr hs2
  have hB0 : 0 < √(1 ^ 2 + t ^ 2) := Real.sqrt_pos.mpr ht2
  generalize √(1 ^ 2 + s ^ 2) = A at hA hA0 ⊢
  generalize √(1 ^ 2 + t ^ 2) = B at hB hB0 ⊢
  have hden : A + s / t * B ≠ 0 := (add_pos_of_pos_of_nonneg hA0 (mul_nonneg (div_nonneg hs ht.le) hB0.le)).ne'
  rw [div_eq_iff hden]
  field_simp
  linear_combination (-t ^ 2) * hA + s ^ 2 * hB

/-- on the executed definition: for `f > 0` and `σ < tan φ / 2` -/
theorem conformal_oblate_is_taupf (P : AL ℝ) (tphi : ℝ) (hf : 0 < P.f) (ht : 0 < tphi)
    (hs : 0 ≤ Real.sinh (P.e2 * atanhee P tphi)) (hlt : Real.sinh (P.e2 * atanhee P tphi) < tphi / 2) :
    tchiOf P tphi = tphi * sc (Real.sinh (P.e2 * atanhee P tphi)) - Real.sinh (P.e2 * atanhee P tphi) * sc tphi := by
  have h := conformal_branch_algebra tphi (Real.sinh (P.e2 * atanhee P tphi)) ht hs
  unfold tchiOf
  simp only [leb_real, ltb_real, sinh_real, lit_real]
  push_cast
  rw [if_neg (by simpa using hf), if_pos (by simpa using hlt), sc_eq, sc_eq]
  exact h

/-- for `f ≤ 0` the general expression is used directly -/
theorem conformal_prolate_is_taupf (P : AL ℝ) (tphi : ℝ) (hf : P.f ≤ 0) :
    tchiOf P tphi = tphi * sc (Real.sinh (P.e2 * atanhee P tphi)) - Real.sinh (P.e2 * atanhee P tphi) * sc tphi := by
  unfold tchiOf
  simp only [leb_real, sinh_real, lit_real]
  push_cast
  rw [if_pos (by simpa using hf)]

/-- the authalic latitude: with `Dq⁺(1 − sin φ) = q(π/2) − q(φ)` and `Dq⁻ = (q(π/2) + q(φ))/(1 + sin φ)` the pair
    `(q(φ), cos φ √(Dq⁺ Dq⁻))` has modulus `q(π/2)`, i.e. `sin ξ = q(φ)/q(π/2)` -/
theorem authalic_modulus (qv Q s cx Dqp : ℝ) (hs : s ^ 2 + cx ^ 2 = 1) (hs1 : 0 ≤ s ∧ s < 1) (hcx : 0 < cx)
    (hq : 0 ≤ qv ∧ qv ≤ Q) (hD : Dqp * (1 - s) = Q - qv) :
    qv ^ 2 + (cx * √(Dqp * ((Q + qv) / (1 + s)))) ^ 2 = Q ^ 2 := by
  obtain ⟨hs0, hs1⟩ := hs1
  obtain ⟨hq0, hq1⟩ := hq
  have h1 : 0 < 1 - s := sub_pos.mpr hs1
  have h2 : 0 < 1 + s := add_pos_of_pos_of_nonneg one_pos hs0
  have hDq : Dqp = (Q - qv) / (1 - s) := eq_div_of_mul_eq h1.ne' hD
  have hD0 : 0 ≤ Dqp := hDq ▸ div_nonneg (sub_nonneg.mpr hq1) h1.le
  have hnn : 0 ≤ Dqp * ((Q + qv) / (1 + s)) :=
    mul_nonneg hD0 (div_nonneg (add_nonneg (hq0.trans hq1) hq0) h2.le)
  rw [mul_pow, Real.sq_sqrt hnn]
  have hcx2 : cx ^ 2 = (1 - s) * (1 + s) := by linear_combination hs
  rw [hcx2, hDq]
  field_simp
  ring

/-- if the Newton loop of `FromAuxiliary` stops because the target is hit, the returned tangent is a solution -/
theorem newton_exact_is_solution (P : AL ℝ) (auxin : Int) (tzeta ltzeta : ℝ) (fuel : ℕ) (s t : Newton ℝ)
    (h : newtonLoop P auxin tzeta ltzeta fuel s = (t, Exit.exact)) :
    (toAux P auxin (Ang.ofTan t.tphi)).1.tan = tzeta :=
  (newtonLoop_spec P auxin tzeta ltzeta fuel s).1 t h

/-- if it stops because the step in `log₂ tan φ` fell below `√ε`, the result is one plain Newton step from a point whose
    last logarithmic step was below the tolerance -/
theorem newton_converged_step (P : AL ℝ) (auxin : Int) (tzeta ltzeta : ℝ) (fuel : ℕ) (s t : Newton ℝ)
    (h : newtonLoop P auxin tzeta ltzeta fuel s = (t, Exit.converged)) :
    ∃ tphi : ℝ, t.tphi = tphi - ((toAux P auxin (Ang.ofTan tphi)).1.tan - tzeta) / (toAux P auxin (Ang.ofTan tphi)).2 ∧
      tphi = (2 : ℝ) ^ t.ltphi :=
  (newtonLoop_spec P auxin tzeta ltzeta fuel s).2.1 t h

/-- the iteration count never exceeds the budget by more than the final step -/
theorem newton_count (P : AL ℝ) (auxin : Int) (tzeta ltzeta : ℝ) (fuel : ℕ) (s : Newton ℝ) (hs : s.n ≤ numit) :
    (newtonLoop P auxin tzeta ltzeta fuel s).1.n ≤ numit + 1 :=
  (newtonLoop_spec P auxin tzeta ltzeta fuel s).2.2 hs

/-- `QuarterMeridian = (π/2)·RectifyingRadius(exact)`, i.e. `2 R_G(a², b²)` -/
theorem quarter_meridian_exact (P : AL ℝ) :
    quarterMeridian P = π / 2 * rectifyingRadiusExact P ∧ quarterMeridian P = 2 * rg2 (P.a ^ 2) (P.b ^ 2) := by
  have hpi : π ≠ 0 := Real.pi_ne_zero
  refine ⟨?_, ?_⟩
  · unfold quarterMeridian
    rw [pi_real, lit_real]
  · simp only [quarterMeridian, rectifyingRadiusExact, pi_real, lit_real, sq_real]; push_cast
    field_simp
    ring

/-- `Area = 4π·AuthalicRadiusSquared(exact) = 2π(a² + b² asinh(e′)/e)` (oblate), `2π(a² + b² atan(e)/e)` (prolate), `4πa²` (sphere) -/
theorem area_closed_form (a f : ℝ) (ha : a ≠ 0) (hf : f < 1) :
    let P := AL.mk2 a f
    area P = 4 * π * authalicRadiusSqExact P ∧
    (0 < f → area P = 2 * π * (a ^ 2 + P.b ^ 2 * (Real.arsinh P.e1 / P.e))) ∧
    (f < 0 → area P = 2 * π * (a ^ 2 + P.b ^ 2 * (Real.arctan P.e / P.e))) ∧
    (f = 0 → area P = 4 * π * a ^ 2) := by
  intro P
  have h1 : (1 : ℝ) - f ≠ 0 := (sub_pos.mpr hf).ne'
  have hq : P.q = 1 / ((1 - f) * (1 - f)) +
      (if f = 0 then 1 else (if 0 < f then Real.arsinh P.e1 else Real.arctan P.e) / P.e) := by
    simp only [P, AL.mk2, qOf, eqb_real, ltb_real, lit_real, decide_eq_true_eq, asinh_real, atan_real]
    push_cast
    rfl
  -- `area = 4π · b² q/2` with `b = a(1 − f)` and `q = 1/(1 − f)² + X`, `X` the term of the branch taken
  have harea (X : ℝ) (hX : P.q = 1 / ((1 - f) * (1 - f)) + X) : area P = 2 * π * (a ^ 2 + P.b ^ 2 * X) := by
    simp only [area, authalicRadiusSqExact, lit_real, sq_real, pi_real]
    rw [hX, mk2_b]
    field_simp
    ring
  refine ⟨?_, fun h => harea _ ?_, fun h => harea _ ?_, fun h => ?_⟩
  · simp only [area, lit_real, pi_real]
  · rw [hq, if_neg h.ne', if_pos h]
  · rw [hq, if_neg h.ne, if_neg (not_lt.mpr h.le)]
  · rw [harea 1 (by rw [hq, if_pos h]), mk2_b, h]
    ring

/-- Euler's formula: `1/R(α) = cos²α / M + sin²α / N` -/
theorem euler_formula (a e2 s salp calp : ℝ) (ha : a ≠ 0) (he : e2 ≠ 1) (hv : 0 < 1 - e2 * s ^ 2) :
    1 / normalCurvatureRadius a e2 s salp calp =
      calp ^ 2 / meridionalCurvatureRadius a e2 s + salp ^ 2 / transverseCurvatureRadius a e2 s :=
  Proofs.AuxExactP.euler_formula a e2 s salp calp ha he hv

/-- `M = N (1 − e²)/(1 − e² sin²φ)`; along the meridian (`α = 0`) the normal radius is `M`, across it (`α = 90°`) it is `N` -/
theorem curvature_relations (a e2 s : ℝ) (he : e2 ≠ 1) (hv : 0 < 1 - e2 * s ^ 2) :
    meridionalCurvatureRadius a e2 s = transverseCurvatureRadius a e2 s * (1 - e2) / (1 - e2 * s ^ 2) ∧
    normalCurvatureRadius a e2 s 0 1 = meridionalCurvatureRadius a e2 s ∧
    normalCurvatureRadius a e2 s 1 0 = transverseCurvatureRadius a e2 s := by
  have h1 : (1 : ℝ) - e2 ≠ 0 := sub_ne_zero.mpr (Ne.symm he)
  have hsv : 0 < √(1 - e2 * s ^ 2) := Real.sqrt_pos.mpr hv
  simp only [normalCurvatureRadius, meridionalCurvatureRadius, transverseCurvatureRadius, vOf, lit_real, sq_real, sqrt_real]
  push_cast
  set v := 1 - e2 * s ^ 2
  have hv' : v ≠ 0 := hv.ne'
  have hsv' : √v ≠ 0 := hsv.ne'
  refine ⟨?_, ?_, ?_⟩
  · field_simp
  · norm_num
    field_simp
  · norm_num

/-- `CircleRadius = N cos φ`, `CircleHeight = N (1 − e²) sin φ`, and the point lies on the ellipse -/
theorem circle_closed_form (a f s c : ℝ) (hf : f < 1) (hsc : s ^ 2 + c ^ 2 = 1) :
    let P := AL.mk2 a f
    circleRadius P s c = transverseCurvatureRadius a P.e2 s * c ∧
    circleHeight P s c = transverseCurvatureRadius a P.e2 s * (1 - P.e2) * s ∧
    (a ≠ 0 → (circleRadius P s c / a) ^ 2 + (circleHeight P s c / P.b) ^ 2 = 1) := by
  intro P
  have h1 : 0 < 1 - f := by linarith
  have hb : P.b = a * (1 - f) := mk2_b a f
  have ha : P.a = a := rfl
  have hfm : P.fm1 = 1 - f := mk2_fm1 a f
  have he2 : P.e2 = f * (2 - f) := mk2_e2 a f
  have hv : 1 - f * (2 - f) * s ^ 2 = (s * (1 - f)) ^ 2 + c ^ 2 := by linear_combination (-1 : ℝ) * hsc
  have hvpos : 0 < (s * (1 - f)) ^ 2 + c ^ 2 := by
    rcases eq_or_ne c 0 with rfl | hc
    · have hs2 : s ^ 2 = 1 := by linear_combination hsc
      rw [mul_pow, hs2, one_mul]
      exact add_pos_of_pos_of_nonneg (pow_pos h1 2) (sq_nonneg _)
    · exact add_pos_of_nonneg_of_pos (sq_nonneg _) (sq_pos_iff.mpr hc)
  have hr : 0 < √((s * (1 - f)) ^ 2 + c ^ 2) := Real.sqrt_pos.mpr hvpos
  have hnorm : (convertExact P 0 1 ⟨s, c⟩).normalized =
      ⟨s * (1 - f) / √((s * (1 - f)) ^ 2 + c ^ 2), c / √((s * (1 - f)) ^ 2 + c ^ 2)⟩ := by
    rw [convertExact_0_1, normalized_eq, hfm]
    intro h
    exact absurd ((one_lt_maxHalf.trans h.2).trans_le (abs_le_one_of_unit hsc)) (lt_irrefl _)
  have hN : transverseCurvatureRadius a (f * (2 - f)) s = a / √((s * (1 - f)) ^ 2 + c ^ 2) := by
    simp only [transverseCurvatureRadius, vOf, lit_real, sq_real, sqrt_real]
    push_cast
    rw [hv]
  have hsq := Real.sq_sqrt hvpos.le
  have hr' := hr.ne'
  have h1' := h1.ne'
  simp only [circleRadius, circleHeight, hnorm, ha, hb, he2, hN]
  generalize √((s * (1 - f)) ^ 2 + c ^ 2) = r at *
  refine ⟨?_, ?_, ?_⟩
  · ring
  · ring
  · intro ha0
    field_simp
    linear_combination -hsq

/-! ### non-vacuity -/

/-- `newton_exact_is_solution`: the loop can end through the exact test (here for the identity conversion) -/
example (P : AL ℝ) (t : ℝ) :
    newtonLoop P 0 t (RealX.log2 t) 1 ⟨t, 0, 0, 0, 0, 0, 0⟩ = (⟨t, 0, 0, 0, 0, 0, 1⟩, Exit.exact) := by
  unfold newtonLoop numit toAux Ang.ofTan Ang.tan
  simp [eqb_real, lit_real]
example : ((⟨3, 4⟩ : Ang ℝ).x ≠ 0 ∨ (⟨3, 4⟩ : Ang ℝ).y ≠ 0) := Or.inl (by norm_num)
example : ((3 / 5 : ℝ)) ^ 2 + (4 / 5) ^ 2 = 1 ∧ (1 / 298 : ℝ) < 1 := by norm_num

end auxexact

end GeoVerif.Props.C15
