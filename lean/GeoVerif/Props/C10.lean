import GeoVerif.Proofs.DMSClosure
import GeoVerif.Proofs.DMSNul
import GeoVerif.Proofs.DMSStrVal
import GeoVerif.Proofs.DMSRoundTrip
import GeoVerif.Proofs.Calendar
import GeoVerif.Model.ParseLine
/-!
# C10 — text formatting and parsing (`DMS`, `Utility`): property theorems

About the definitions the driver executes (`Model/DMS.lean`, `Model/Calendar.lean`, `Model/ParseLine.lean`) and the tables
re-extracted from `DMS.cpp` / `DMS.hpp` / `Math.hpp` on every run (`Gen/DMSC.lean`, `Gen/MathC.lean`).  Byte strings are
`List Nat`; all theorems hold for every `Nat`, so for NUL and high-bit bytes too.  What is not proved is listed in
`tools/props.d/C10.py`.
-/
namespace GeoVerif.Props.C10
open GeoVerif GeoVerif.DMS GeoVerif.DMSProofs GeoVerif.Gen GeoVerif.Decimal

/-! ## `Utility::lookup` and the extracted tables -/

/-- **NUL never matches** (finding F6, fix 50029a3): for every table. -/
theorem lookup_nul (tbl : Bytes) : lookup tbl 0 = -1 := by
  simp [lookup]

/-- the digit table is `0123456789`: `digitVal` is the ASCII digit value for every `Nat` -/
theorem digit_table (c : Nat) : digitVal c = if 48 ≤ c ∧ c ≤ 57 then some (c - 48) else none := digitVal_spec c

/-- hemisphere letters (either case): S, N → latitude (S negative), W, E → longitude (W negative); nothing else -/
theorem hemisphere_table : ∀ c, c < 256 →
    lookup DMSC.hemispheres c =
      (if c = 83 ∨ c = 115 then 0 else if c = 78 ∨ c = 110 then 1 else if c = 87 ∨ c = 119 then 2
       else if c = 69 ∨ c = 101 then 3 else -1) := by decide +kernel

theorem hemisphere_meaning :
    (hemiFlag 0, hemiNeg 0) = (Flag.lat, true) ∧ (hemiFlag 1, hemiNeg 1) = (Flag.lat, false) ∧
    (hemiFlag 2, hemiNeg 2) = (Flag.lon, true) ∧ (hemiFlag 3, hemiNeg 3) = (Flag.lon, false) := by decide

/-- signs: `-` ↦ 0 (negative), `+` ↦ 1 -/
theorem sign_table : ∀ c, c < 256 → lookup DMSC.signs c = (if c = 45 then 0 else if c = 43 then 1 else -1) := by
  decide +kernel

/-- component indicators: `d`/`D` ↦ 0, `'` ↦ 1, `"` ↦ 2, `:` ↦ 3 -/
theorem indicator_table : ∀ c, c < 256 →
    lookup DMSC.dmsindicators c =
      (if c = 68 ∨ c = 100 then 0 else if c = 39 then 1 else if c = 34 then 2 else if c = 58 then 3 else -1) := by
  decide +kernel

/-- The alternative symbols documented in `DMS.hpp` (UTF-8 and bare single-byte forms) with the ASCII character they
    stand for (0 = ignored space). -/
def docSymbols : List (Bytes × Nat) := [
  -- degrees
  ([0xc2, 0xb0], 100), ([0xc2, 0xba], 100), ([0xe2, 0x81, 0xb0], 100), ([0xcb, 0x9a], 100), ([0xe2, 0x88, 0x98], 100),
  ([42], 100), ([0xb0], 100), ([0xba], 100),
  -- minutes
  ([96], 39), ([0xe2, 0x80, 0xb2], 39), ([0xe2, 0x80, 0xb5], 39), ([0xc2, 0xb4], 39), ([0xe2, 0x80, 0x98], 39),
  ([0xe2, 0x80, 0x99], 39), ([0xe2, 0x80, 0x9b], 39), ([0xca, 0xb9], 39), ([0xcb, 0x8a], 39), ([0xcb, 0x8b], 39), ([0xb4], 39),
  -- seconds
  ([0xe2, 0x80, 0xb3], 34), ([0xe2, 0x80, 0xb6], 34), ([0xcb, 0x9d], 34), ([0xe2, 0x80, 0x9c], 34), ([0xe2, 0x80, 0x9d], 34),
  ([0xe2, 0x80, 0x9f], 34), ([0xca, 0xba], 34), ([39, 39], 34), ([96, 0xc2, 0xb4], 34), ([0xe2, 0x80, 0xb2, 0xe2, 0x80, 0xb2], 34),
  -- plus, minus
  ([0xe2, 0x9e, 0x95], 43), ([0xe2, 0x81, 0xa4], 43),
  ([0xe2, 0x80, 0x90], 45), ([0xe2, 0x80, 0x91], 45), ([0xe2, 0x80, 0x93], 45), ([0xe2, 0x80, 0x94], 45), ([0xe2, 0x88, 0x92], 45),
  ([0xe2, 0x9e, 0x96], 45),
  -- ignored
  ([0xc2, 0xa0], 0), ([0xe2, 0x80, 0x87], 0), ([0xe2, 0x80, 0x89], 0), ([0xe2, 0x80, 0x8a], 0), ([0xe2, 0x80, 0x8b], 0),
  ([0xe2, 0x80, 0xaf], 0), ([0xe2, 0x81, 0xa3], 0), ([0xa0], 0)]

/-- **every documented alternative symbol is rewritten to its ASCII meaning** by the substitution table extracted from
    `DMS::Decode` (table certificate, re-checked against the source on every run) -/
theorem documented_symbols :
    ∀ pc ∈ docSymbols, replaceAll pc.1 = (if pc.2 = 0 then [] else [pc.2]) := by decide +kernel

/-- … also between digits (the replacement does not disturb its neighbours) -/
theorem documented_symbols_in_context :
    ∀ pc ∈ docSymbols, replaceAll ([49, 50] ++ pc.1 ++ [51, 52]) = [49, 50] ++ (if pc.2 = 0 then [] else [pc.2]) ++ [51, 52] := by
  decide +kernel

/-- plain ASCII other than `*` and the grave accent is left alone -/
theorem plain_ascii_untouched : ∀ c, c < 128 → c ≠ 42 → c ≠ 96 → replaceAll [c] = [c] := by
  intro c h1 h2 h3
  refine replaceAll_noop [c] (fun x hx => ?_) (List.count_le_length.trans (Nat.le_refl 1))
  rw [List.mem_singleton.mp hx]
  exact ⟨h1, h2, h3⟩

/-! ## Encode: carry logic (integer level) -/

/-- **normalised minutes** (trailing MINUTE): for every count `i` of whole minutes, the minutes field is `< 60` and the
    carry goes to the degrees. -/
theorem encode_normalised_minute (i : Nat) :
    (splitFields DMSC.compMINUTE i).2.1 < 60 ∧ (splitFields DMSC.compMINUTE i).2.2 = 0 ∧
    (splitFields DMSC.compMINUTE i).1 * 60 + (splitFields DMSC.compMINUTE i).2.1 = i := by
  simp only [splitFields, DMSC.compMINUTE, MathC.dm]
  simp
  omega

/-- **normalised minutes and seconds** (trailing SECOND): for every count `i` of whole seconds, both fields are `< 60`
    and the carries propagate (`i % 60`, `i / 60 % 60`, `i / 3600`): the fields re-assemble to `i`. -/
theorem encode_normalised_second (i : Nat) :
    (splitFields DMSC.compSECOND i).2.2 < 60 ∧ (splitFields DMSC.compSECOND i).2.1 < 60 ∧
    ((splitFields DMSC.compSECOND i).1 * 60 + (splitFields DMSC.compSECOND i).2.1) * 60 + (splitFields DMSC.compSECOND i).2.2 = i := by
  simp only [splitFields, DMSC.compMINUTE, DMSC.compSECOND, MathC.dm, MathC.ms]
  simp
  omega

theorem encode_degree_only (i : Nat) : splitFields DMSC.compDEGREE i = (i, 0, 0) := by
  simp [splitFields, DMSC.compDEGREE, DMSC.compMINUTE, DMSC.compSECOND]

/-- **azimuth range on the printed fields** (closed interval, observation F7): if the whole degrees `D` and the rounded
    count `i` of seconds stay within 360°, the degrees field is ≤ 360 and at 360 the other fields are zero. -/
theorem azimuth_fields_second (D i : Nat) (h : D * 3600 + i ≤ 360 * 3600) :
    D + (splitFields DMSC.compSECOND i).1 ≤ 360 ∧
    (D + (splitFields DMSC.compSECOND i).1 = 360 → (splitFields DMSC.compSECOND i).2.1 = 0 ∧ (splitFields DMSC.compSECOND i).2.2 = 0) := by
  simp only [splitFields, DMSC.compMINUTE, DMSC.compSECOND, MathC.dm, MathC.ms]
  simp
  omega

theorem azimuth_fields_minute (D i : Nat) (h : D * 60 + i ≤ 360 * 60) :
    D + (splitFields DMSC.compMINUTE i).1 ≤ 360 ∧
    (D + (splitFields DMSC.compMINUTE i).1 = 360 → (splitFields DMSC.compMINUTE i).2.1 = 0) := by
  simp only [splitFields, DMSC.compMINUTE, MathC.dm]
  simp
  omega

example : splitFields DMSC.compSECOND 3600 = (1, 0, 0) := by decide
example : splitFields DMSC.compSECOND 3599 = (0, 59, 59) := by decide

/-- the effective precision never exceeds what was asked, nor the cap `15 − 2t` of `DMS::Encode` -/
theorem clampPrec_le (t p : Nat) : clampPrec t p ≤ p ∧ clampPrec t p ≤ 15 - 2 * t := by
  unfold clampPrec; omega

/-! ## Decode: component-indicator bookkeeping of `InternalDecode` (discrete stage, all strings) -/

/-- a final number without indicator goes to the **next expected** slot -/
theorem comps_trailing (f npiece : Nat) (sl : Slots) (s : Bytes) (n : Num)
    (hn : number s = (n, [])) (hp : npiece < 3) (hne : n.nint + n.nfrac ≠ 0) :
    comps (f + 1) npiece sl s = .ok (sl.set npiece n) := by
  rw [comps_end f npiece sl s n hn, if_neg (by omega), if_neg hne]

/-- … and a fourth component is an error ("Extra text following seconds") -/
theorem comps_trailing_fourth (f npiece : Nat) (sl : Slots) (s : Bytes) (n : Num)
    (hn : number s = (n, [])) (hp : 3 ≤ npiece) : ∃ e, comps (f + 1) npiece sl s = .error e :=
  ⟨_, by rw [comps_end f npiece sl s n hn, if_pos hp]⟩

/-- **a number followed by `d`, `'` or `"` goes to the slot the indicator names** (`k` = 0, 1, 2), whatever the next
    expected slot is, as long as the order is respected (`npiece ≤ k`) — in particular when components are skipped
    (`4d9"`: seconds directly after degrees; `34.5'`: minutes only). -/
theorem comps_indicator (f npiece k : Nat) (sl : Slots) (s rest : Bytes) (n : Num) (c : Nat)
    (hn : number s = (n, c :: rest)) (hc : c ≠ 46) (hk : lookup DMSC.dmsindicators c = (k : Int)) (hk3 : k < 3)
    (hord : npiece ≤ k) (hne : n.nint + n.nfrac ≠ 0) :
    comps (f + 1) npiece sl s =
      if rest.isEmpty then .ok (sl.set k n)
      else if n.point then .error "Decimal point in non-terminal component"
      else comps f (k + 1) (sl.set k n) rest :=
  comps_step f npiece k sl s rest n c hn hc (Or.inl hk) hord hk3 hne

/-- `:` names the next expected slot -/
theorem comps_colon (f npiece : Nat) (sl : Slots) (s rest : Bytes) (n : Num) (c : Nat)
    (hn : number s = (n, c :: rest)) (hc : c ≠ 46) (hk : lookup DMSC.dmsindicators c = 3) (hrest : rest ≠ [])
    (hp : npiece < 3) (hne : n.nint + n.nfrac ≠ 0) :
    comps (f + 1) npiece sl s =
      if n.point then .error "Decimal point in non-terminal component"
      else comps f (npiece + 1) (sl.set npiece n) rest := by
  rw [comps_step f npiece npiece sl s rest n c hn hc (Or.inr ⟨by omega, hrest, rfl⟩) (Nat.le_refl _) hp hne,
    if_neg (mt List.isEmpty_iff.mp hrest)]

/-- components out of order (`4d5"4'`) or repeated (`4d5d`) are rejected -/
theorem comps_out_of_order (f npiece k : Nat) (sl : Slots) (s rest : Bytes) (n : Num) (c : Nat)
    (hn : number s = (n, c :: rest)) (hc : c ≠ 46) (hk : lookup DMSC.dmsindicators c = (k : Int)) (hk3 : k < 3)
    (hord : k < npiece) : ∃ e, comps (f + 1) npiece sl s = .error e :=
  error_of_not_ok fun r h => by
    obtain ⟨_, _, k', hk' | ⟨hk', _, _⟩, _, _⟩ := comps_ok_cons hn h <;> omega

/-- `:` at the end (`4:5:`) is rejected -/
theorem comps_colon_at_end (f npiece : Nat) (sl : Slots) (s : Bytes) (n : Num) (c : Nat)
    (hn : number s = (n, [c])) (hk : lookup DMSC.dmsindicators c = 3) : ∃ e, comps (f + 1) npiece sl s = .error e :=
  error_of_not_ok fun r h => by
    obtain ⟨_, _, k', hk' | ⟨_, hrest, _⟩, _, _⟩ := comps_ok_cons hn h
    · omega
    · exact hrest rfl

/-- **a fourth `:` component is an error** (finding F14, fix 820a592: no slot 3 exists) -/
theorem comps_fourth_component (f npiece : Nat) (sl : Slots) (s rest : Bytes) (n : Num) (c : Nat)
    (hn : number s = (n, c :: rest)) (hk : lookup DMSC.dmsindicators c = 3) (hp : 3 ≤ npiece) :
    ∃ e, comps (f + 1) npiece sl s = .error e :=
  error_of_not_ok fun r h => by
    obtain ⟨_, _, k', hk' | ⟨_, _, hk'⟩, _, _⟩ := comps_ok_cons hn h <;> omega

/-- **any character that is not a digit, point or indicator is rejected** — NUL, high-bit bytes, letters, internal signs -/
theorem comps_illegal_character (f npiece : Nat) (sl : Slots) (s rest : Bytes) (n : Num) (c : Nat)
    (hn : number s = (n, c :: rest)) (hk : lookup DMSC.dmsindicators c < 0) : ∃ e, comps (f + 1) npiece sl s = .error e :=
  error_of_not_ok fun r h => by
    obtain ⟨_, _, k', hk' | ⟨hk', _, _⟩, _, _⟩ := comps_ok_cons hn h <;> omega

/-- an indicator without a number (`d5`, `4d'`, `4::5`) is rejected -/
theorem comps_missing_number (f npiece : Nat) (sl : Slots) (s rest : Bytes) (n : Num) (c : Nat)
    (hn : number s = (n, c :: rest)) (hne : n.nint + n.nfrac = 0) : ∃ e, comps (f + 1) npiece sl s = .error e :=
  error_of_not_ok fun _ h => (comps_ok_cons hn h).2.1 hne

/-! ### the encoder's field layouts are parsed into exactly their numbers (closure of formatter into parser, field level) -/

-- `numOf ds`, `numFracOf ds fs` (`Proofs/DMSGrammar.lean`): the `Num` records of the texts `ds` and `ds.fs`

/-- `D d M ' S . F "` (every digit string `D M S F`, `D M S` non-empty): degrees, minutes and seconds-with-fraction -/
theorem grammar_dms (D M S F : Bytes) (hD : AllDigits D) (hM : AllDigits M) (hS : AllDigits S) (hF : AllDigits F)
    (nD : D ≠ []) (nM : M ≠ []) (nS : S ≠ []) :
    comps 4 0 {} (D ++ 100 :: (M ++ 39 :: (S ++ 46 :: (F ++ [34])))) =
      .ok { d := numOf D, m := numOf M, s := numFracOf S F } := by
  rw [comps_whole_ind 3 0 0 {} D _ 100 hD nD (by simp) ind_d (by decide) (by decide) (by simp),
    comps_whole_ind 2 1 1 _ M _ 39 hM nM (by simp) ind_m (by decide) (by decide) (by simp),
    comps_step 1 2 2 _ _ [] (numFracOf S F) 34
      (number_frac S F [34] hS hF (by intro c t h; cases h; unfold IsDigit; omega)) (by decide) (Or.inl ind_s)
      (by decide) (by decide) (numFracOf_ne S F nS)]
  rfl

/-- the `:` form `D : M : S . F` gives the same three numbers -/
theorem grammar_colon (D M S F : Bytes) (hD : AllDigits D) (hM : AllDigits M) (hS : AllDigits S) (hF : AllDigits F)
    (nD : D ≠ []) (nM : M ≠ []) (nS : S ≠ []) :
    comps 4 0 {} (D ++ 58 :: (M ++ 58 :: (S ++ 46 :: F))) =
      .ok { d := numOf D, m := numOf M, s := numFracOf S F } := by
  have hnum : number (S ++ 46 :: F) = (numFracOf S F, []) := by
    have := number_frac S F [] hS hF (by intro c t h; cases h)
    rwa [List.append_nil] at this
  rw [comps_whole_colon 3 0 {} D _ hD nD (by decide) (by simp),
    comps_whole_colon 2 1 _ M _ hM nM (by decide) (by simp),
    comps_trailing 1 2 _ _ (numFracOf S F) hnum (by decide) (numFracOf_ne S F nS)]
  rfl

/-- **skipped component**: `D d S "` — the number before `"` is the *seconds*, minutes stay empty (`4d9"` = 4.0025) -/
theorem grammar_skip_minutes (D S : Bytes) (hD : AllDigits D) (hS : AllDigits S) (nD : D ≠ []) (nS : S ≠ []) :
    comps 4 0 {} (D ++ 100 :: (S ++ [34])) = .ok { d := numOf D, s := numOf S } := by
  rw [comps_whole_ind 3 0 0 {} D _ 100 hD nD (by simp) ind_d (by decide) (by decide) (by simp)]
  exact comps_last_ind 2 1 2 _ S [] 34 hS AllDigits.nil nS (by simp) ind_s (by decide) (by decide)

/-- minutes only (`34'`) and seconds only (`56"`): the lone number is *not* taken as degrees -/
theorem grammar_minutes_only (M : Bytes) (hM : AllDigits M) (nM : M ≠ []) :
    comps 4 0 {} (M ++ [39]) = .ok { m := numOf M } :=
  comps_last_ind 3 0 1 {} M [] 39 hM AllDigits.nil nM (by simp) ind_m (by decide) (by decide)

theorem grammar_seconds_only (S : Bytes) (hS : AllDigits S) (nS : S ≠ []) :
    comps 4 0 {} (S ++ [34]) = .ok { s := numOf S } :=
  comps_last_ind 3 0 2 {} S [] 34 hS AllDigits.nil nS (by simp) ind_s (by decide) (by decide)

-- non-vacuity: the hypotheses are satisfiable and the statements say what the documentation says
example : comps 4 0 {} (strBytes "4d9\"") = .ok { d := { int := 4, nint := 1 }, s := { int := 9, nint := 1 } } := by decide
example : comps 4 0 {} (strBytes "20d30'40.5\"") =
    .ok { d := { int := 20, nint := 2 }, m := { int := 30, nint := 2 }, s := { int := 40, nint := 2, point := true, frac := 5, nfrac := 1 } } := by
  decide
example : comps 4 0 {} (strBytes "1:2:3:4:5") = .error "More than 3 DMS components" := by decide
example : comps 4 0 {} [49, 0, 50] = .error "Illegal character" := by decide


/-! ## closure of the formatter into the parser (all finite angles, all precisions, all flags) -/

/-- **`encode_in_grammar`: every output of `Encode` for a finite angle is a text of the grammar that the parser accepts.**
    For every finite binary64 `±m·2^e`, trailing component `t ∈ {DEGREE, MINUTE, SECOND}`, every requested precision `p`
    (clamped to `clampPrec t p`), every flag `NONE / LATITUDE / LONGITUDE / AZIMUTH` and every separator byte `sep`
    (0 = indicators `d ' "`): the output is `[-] D [d M [' S]] [.F] [' | "] [S|N|W|E]` — `dmsText` — with non-empty
    digit strings `D M S` (only the bytes `0…9`; leading zeros from the zero fill included; a component that `t` does not
    print is a string of value 0 that `dmsText` ignores), exactly `clampPrec t p`
    fraction digits `F` and a point iff that number is positive, the sign only without a flag, the hemisphere letter only
    for LATITUDE / LONGITUDE and chosen by the sign; the digit strings denote the numbers `encFields` (degrees including the
    carry, minutes, seconds, fraction units).  For the two separators `Decode` understands (none, `:`) the component loop
    parses that text into exactly those three numbers (`slotsOf`). -/
theorem encode_in_grammar (s : Bool) (m : Nat) (e : Int) (t p : Nat) (ind : Flag) (sep : Nat) (ht : t ≤ 2) :
    let h := encodeHead (.fin s m e) t p ind
    ∃ D M S F : Bytes, AllDigits D ∧ AllDigits M ∧ AllDigits S ∧ AllDigits F ∧ D ≠ [] ∧ M ≠ [] ∧ S ≠ [] ∧
      F.length = clampPrec t p ∧
      digitsVal 0 D = (encFields h t).1 ∧ digitsVal 0 M = (encFields h t).2.1 ∧ digitsVal 0 S = (encFields h t).2.2.1 ∧
      digitsVal 0 F = (encFields h t).2.2.2 ∧
      encode (.fin s m e) t p ind sep = sgnText ind h.neg ++ dmsText t sep D M S F ++ hemiText ind h.neg ∧
      (sep = 0 ∨ sep = 58 → comps 4 0 {} (dmsText t sep D M S F) = .ok (slotsOf t D M S F)) := by
  intro h
  obtain ⟨D, M, S, F, hD, hM, hS, hF, nD, nM, nS, hl, v1, v2, v3, v4, henc⟩ := encode_shape s m e t p ind sep ht
  exact ⟨D, M, S, F, hD, hM, hS, hF, nD, nM, nS, hl, v1, v2, v3, v4, henc,
    fun hsep => grammar_text t sep D M S F ht hsep hD hM hS hF nD nM nS⟩

/-- the general grammar theorem behind it: every `dmsText` (indicator or `:` style, with or without fraction, trailing
    degrees / minutes / seconds) is parsed into exactly its numbers -/
theorem grammar_all (t sep : Nat) (D M S F : Bytes) (ht : t ≤ 2) (hsep : sep = 0 ∨ sep = 58)
    (hD : AllDigits D) (hM : AllDigits M) (hS : AllDigits S) (hF : AllDigits F) (nD : D ≠ []) (nM : M ≠ []) (nS : S ≠ []) :
    comps 4 0 {} (dmsText t sep D M S F) = .ok (slotsOf t D M S F) :=
  grammar_text t sep D M S F ht hsep hD hM hS hF nD nM nS

/-- `%.*f` (`Utility::str` on a finite number) writes only digits, at most one point, exactly `p` decimals -/
theorem fmtFixed_shape (x : F64) (p : Nat) :
    ∃ I F : Bytes, fmtFixed x p = (if x.signbit then [45] else []) ++ I ++ (if p = 0 then [] else 46 :: F) ∧
      AllDigits I ∧ I ≠ [] ∧ AllDigits F ∧ F.length = p ∧
      digitsVal 0 I = fixedUnits x p / 10 ^ p ∧ digitsVal 0 F = fixedUnits x p % 10 ^ p := by
  obtain ⟨I, F, h, r⟩ := unitsToFixed_shape (fixedUnits x p) p
  exact ⟨I, F, by simp only [fmtFixed, h, List.append_assoc], r⟩

/-- **`decode_encode` (discrete part, all finite angles)**: `Decode (Encode x …)` — through the whole byte pipeline
    `replaceAll`, `trim`, `pieces`, `strip`, `comps` — is the numeric stage `evalSlots` applied to the printed fields
    (`D M S F` of `encode_in_grammar`, values `encFields`), added to `-0`, with the sign the encoder wrote (`readNeg`:
    the sign of the angle, none for AZIMUTH) and the flag of the hemisphere class (`readFlag`: LATITUDE for `N/S`,
    LONGITUDE for `E/W`, NONE otherwise).  The numeric stage is total on these fields for `|x| < 2^40`
    (`roundtrip_bound` below). -/
theorem decode_encode (s : Bool) (m : Nat) (e : Int) (t p : Nat) (ind : Flag) (sep : Nat) (ht : t ≤ 2)
    (hsep : sep = 0 ∨ sep = 58) (hind : ind ≠ Flag.num) :
    let h := encodeHead (.fin s m e) t p ind
    ∃ D M S F : Bytes, AllDigits D ∧ AllDigits M ∧ AllDigits S ∧ AllDigits F ∧ D ≠ [] ∧ M ≠ [] ∧ S ≠ [] ∧
      F.length = clampPrec t p ∧
      digitsVal 0 D = (encFields h t).1 ∧ digitsVal 0 M = (encFields h t).2.1 ∧ digitsVal 0 S = (encFields h t).2.2.1 ∧
      digitsVal 0 F = (encFields h t).2.2.2 ∧
      ∀ v, evalSlots (readNeg ind h.neg) (slotsOf t D M S F) = .ok v →
        decode (encode (.fin s m e) t p ind sep) = .ok (F64.add F64.nzero v, readFlag ind) := by
  intro h
  obtain ⟨D, M, S, F, hD, hM, hS, hF, nD, nM, nS, hl, v1, v2, v3, v4, henc⟩ := encode_shape s m e t p ind sep ht
  refine ⟨D, M, S, F, hD, hM, hS, hF, nD, nM, nS, hl, v1, v2, v3, v4, fun v hv => ?_⟩
  rw [henc]
  exact decode_layout t sep D M S F ind h.neg v ht hsep hind hD hM hS hF nD nM nS hv

/-- the same for any text of the grammar with the encoder's sign / letter layout (not only encoder outputs) -/
theorem grammar_decodes (t sep : Nat) (D M S F : Bytes) (ind : Flag) (neg : Bool) (v : F64) (ht : t ≤ 2)
    (hsep : sep = 0 ∨ sep = 58) (hind : ind ≠ Flag.num)
    (hD : AllDigits D) (hM : AllDigits M) (hS : AllDigits S) (hF : AllDigits F) (nD : D ≠ []) (nM : M ≠ []) (nS : S ≠ [])
    (hv : evalSlots (readNeg ind neg) (slotsOf t D M S F) = .ok v) :
    decode (sgnText ind neg ++ dmsText t sep D M S F ++ hemiText ind neg) = .ok (F64.add F64.nzero v, readFlag ind) :=
  decode_layout t sep D M S F ind neg v ht hsep hind hD hM hS hF nD nM nS hv

-- non-vacuity: concrete encoder outputs and their decoding (the model is executable)
example : encode (F64.fin true 81 (-2)) 2 1 Flag.lat 0 = strBytes "20d15'00.0\"S" := by decide +kernel
example : (decode (strBytes "20d15'00.0\"S")).toOption.map (·.2) = some Flag.lat := by decide +kernel

/-! ## hemisphere and sign rules -/

/-- flag bookkeeping of `DecodeLatLon`, complete case table: without letters the order is decided by `longfirst`; one
    letter fixes the other coordinate; two latitudes or two longitudes are an error -/
theorem latlon_assignment (ia ib : Flag) (lf : Bool) (ha : ia = .none ∨ ia = .lat ∨ ia = .lon) (hb : ib = .none ∨ ib = .lat ∨ ib = .lon) :
    assignLatLon ia ib lf =
      (if ia = .none ∧ ib = .none then .ok (!lf)
       else if ia = .lat ∧ ib = .lat ∨ ia = .lon ∧ ib = .lon then .error "Both interpreted as latitudes / longitudes"
       else .ok (ia = .lat ∨ ib = .lon)) := by
  rcases ha with rfl | rfl | rfl <;> rcases hb with rfl | rfl | rfl <;> cases lf <;> decide

/-- **`|lat| > 90` is rejected**: whatever `DecodeLatLon` returns has a latitude that is not above 90° in magnitude -/
theorem latlon_latitude_range (sa sb : Bytes) (lf : Bool) (lat lon : F64)
    (h : decodeLatLon sa sb lf = .ok (lat, lon)) : F64.gt (F64.abs lat) MathF.qd = false := by
  unfold decodeLatLon at h
  -- both `decode`s and `assignLatLon` succeed
  split at h
  · cases h
  split at h
  · cases h
  split at h
  · cases h
  rename_i firstLat _
  cases firstLat
  all_goals
    simp only [if_true, if_false, Bool.false_eq_true] at h
    split at h
    · cases h
    · rename_i hgt
      cases h
      simpa using hgt

/-- hemisphere letters of the pieces of a sum must agree -/
theorem flags_combine (a b : Flag) :
    combineFlags a b = (if a = .none then .ok b else if b = .none ∨ a = b then .ok a else .error "Incompatible hemisphere specifier") := by
  unfold combineFlags; rfl

/-- `DecodeAngle` refuses any hemisphere letter, `DecodeAzimuth` refuses N/S -/
theorem angle_no_hemisphere (s : Bytes) (v : F64) (h : decodeAngle s = .ok v) : ∃ w, decode s = .ok (w, Flag.none) := by
  unfold decodeAngle at h
  split at h
  · cases h
  · rename_i w ind heq
    split at h
    · cases h
    · rename_i hi
      have : ind = Flag.none := by simpa using hi
      subst this; exact ⟨w, heq⟩

theorem azimuth_no_latitude (s : Bytes) (v : F64) (h : decodeAzimuth s = .ok v) :
    ∃ w f, decode s = .ok (w, f) ∧ f ≠ Flag.lat ∧ v = MathF.angNormalize w := by
  unfold decodeAzimuth at h
  split at h
  · cases h
  · rename_i w ind heq
    split at h
    · cases h
    · rename_i hi
      cases h
      exact ⟨w, ind, heq, hi, rfl⟩


/-! ## malformed input: NUL bytes, and the splitting of sums -/

/-- **NUL is rejected** (component loop, all strings, any position, any fuel): a component text containing a NUL byte
    is never accepted.  The full statement "`decode s` is an error whenever `0 ∈ s`" is `decode_nul_rejected` below. -/
theorem nul_rejected_partial (f np : Nat) (sl : Slots) (s : Bytes) (h : 0 ∈ s) : ∃ e, comps f np sl s = .error e :=
  comps_nul f np sl s h

/-- **`decode_nul_rejected`: `Decode` rejects every string that contains a NUL byte** (finding F6, the full statement):
    the substitution table (no pattern contains a NUL), trimming, the splitting at signs and the hemisphere / sign
    stripping all keep the NUL inside some piece, the component loop rejects it and the `nan` / `inf` spellings of
    `Utility::nummatch` do not contain it (`internalDecode_nul`). -/
theorem decode_nul_rejected (s : Bytes) (h : 0 ∈ s) : ∃ e, decode s = .error e := by
  have ht : 0 ∈ trim (replaceAll s) := trim_keeps_nul _ (replaceAll_keeps_nul s h)
  obtain ⟨p, hp, h0⟩ := pieces_keep_nul _ ht
  unfold decode
  simp only
  split
  · exact ⟨_, rfl⟩
  · exact sumPieces_error_of_mem _ ⟨p, hp, internalDecode_nul p h0⟩ _ _

/-- the steps: each stage keeps a NUL byte -/
theorem nul_survives_stages (s : Bytes) (h : 0 ∈ s) :
    0 ∈ replaceAll s ∧ 0 ∈ trim s ∧ (∃ p ∈ pieces (s.length + 1) true s, 0 ∈ p) ∧ nummatch s = none ∧
    (∀ st, strip s = .ok st → 0 ∈ st.body) :=
  ⟨replaceAll_keeps_nul s h, trim_keeps_nul s h, pieces_keep_nul s h, nummatch_nul s h, fun _ hs => strip_keeps_nul hs h⟩

example : (decode [49, 0, 50]).toOption.isNone = true := by decide +kernel

/-! ## sums of signed pieces -/

/-- **splitting at signs**: a first piece `[letter][sign]text` and later pieces `sign text` (texts free of `+ -`) are
    exactly what `Decode` hands to `InternalDecode` -/
theorem pieces_at_signs (p1 : Bytes) (rest : List Bytes) (h1 : FirstPiece p1) (hr : ∀ p ∈ rest, LaterPiece p)
    (fuel : Nat) (hf : (p1 :: rest).flatten.length ≤ fuel) : pieces fuel true (p1 :: rest).flatten = p1 :: rest :=
  pieces_split p1 rest h1 hr fuel hf

/-- **`decode_sum`: a string of signed pieces decodes to the left-to-right binary64 sum `((-0 + x₁) + x₂) + …` of the
    values of its pieces** (each addition correctly rounded: `F64.add`), with the hemisphere flags combined
    (`foldFlags`: equal or absent, otherwise an error); an error in any piece is an error of the whole.  Stated for plain
    text (`replaceAll` and `trim` are the identity on it; for texts over the plain alphabet see `replaceAll_noop`). -/
theorem decode_sum (p1 : Bytes) (rest : List Bytes) (h1 : FirstPiece p1) (hr : ∀ p ∈ rest, LaterPiece p)
    (hrep : replaceAll (p1 :: rest).flatten = (p1 :: rest).flatten)
    (htrim : trim (p1 :: rest).flatten = (p1 :: rest).flatten)
    (xs : List (F64 × Flag)) (hx : (p1 :: rest).map internalDecode = xs.map Except.ok) :
    decode (p1 :: rest).flatten =
      match foldFlags (xs.map (·.2)) Flag.none with
      | .error e => .error e
      | .ok f => .ok ((xs.map (·.1)).foldl F64.add F64.nzero, f) := by
  rw [DMSProofs.decode_sum p1 rest h1 hr hrep htrim]
  exact sumPieces_ok _ xs hx _ _

/-- … and before evaluating the pieces: `Decode` is `sumPieces` over exactly those pieces -/
theorem decode_sum_pieces (p1 : Bytes) (rest : List Bytes) (h1 : FirstPiece p1) (hr : ∀ p ∈ rest, LaterPiece p)
    (hrep : replaceAll (p1 :: rest).flatten = (p1 :: rest).flatten)
    (htrim : trim (p1 :: rest).flatten = (p1 :: rest).flatten) :
    decode (p1 :: rest).flatten = sumPieces (p1 :: rest) F64.nzero Flag.none :=
  DMSProofs.decode_sum p1 rest h1 hr hrep htrim

/-- an error in any piece is an error of the sum -/
theorem sum_error (ps : List Bytes) (h : ∃ p ∈ ps, ∃ e, internalDecode p = .error e) (v : F64) (ind : Flag) :
    ∃ e, sumPieces ps v ind = .error e := sumPieces_error_of_mem ps h v ind

-- non-vacuity: `S3-2.5+4.1N` satisfies the hypotheses
example : FirstPiece (strBytes "S3") ∧ ∀ p ∈ [strBytes "-2.5", strBytes "+4.1N"], LaterPiece p := ⟨example_first, example_later⟩

/-- the substitution table and trimming leave plain text alone (no `*`, grave accent, high-bit byte; at most one `'`;
    no white space) -/
theorem plain_text_untouched (s : Bytes) (hA : ∀ c ∈ s, c < 128 ∧ c ≠ 42 ∧ c ≠ 96 ∧ isspace c = false) (h39 : s.count 39 ≤ 1) :
    replaceAll s = s ∧ trim s = s :=
  ⟨replaceAll_noop s (fun c hc => ⟨(hA c hc).1, (hA c hc).2.1, (hA c hc).2.2.1⟩) h39, trim_noop s (fun c hc => (hA c hc).2.2.2)⟩

/-! ## hemisphere letter and sign rules of `InternalDecode` (all strings) -/

/-- a hemisphere letter at both ends is an error ("Repeated or contradictory hemisphere indicators") -/
theorem hemisphere_repeated (a b : Nat) (mid : Bytes) (ha : isHemi a = true) (hb : isHemi b = true) :
    ∃ e, strip (a :: (mid ++ [b])) = .error e := by
  rw [strip_stages, stripLead_hemi a _ ha]
  simp only [stripTrail_hemi _ _ mid b hb, hemiFlag_ne_none, ne_eq, not_false_eq_true, if_true]
  exact ⟨_, rfl⟩

/-- a sign directly after a leading hemisphere letter is accepted and multiplies the letter's sign -/
theorem sign_after_hemisphere (hemi sg : Nat) (body : Bytes) (hh : isHemi hemi = true) (hs : isSign sg = true)
    (hne : body ≠ []) (hlast : ∀ c ∈ body.getLast?, isHemi c = false) :
    strip (hemi :: sg :: body) =
      .ok ⟨(if lookup DMSC.signs sg = 0 then !hemiNeg (lookup DMSC.hemispheres hemi) else hemiNeg (lookup DMSC.hemispheres hemi)),
           hemiFlag (lookup DMSC.hemispheres hemi), body⟩ := by
  have hb : body.isEmpty = false := by cases body with | nil => exact absurd rfl hne | cons _ _ => rfl
  rw [strip_stages, stripLead_hemi hemi _ hh]
  simp only
  rw [stripTrail_nohemi _ _ _ (by rw [getLast?_cons_of_ne_nil sg body hne]; exact hlast)]
  simp only [stripSign_sign _ sg body hs, hb, Bool.false_eq_true, if_false]

/-- … likewise a leading sign with a trailing letter -/
theorem sign_with_trailing_hemisphere (sg hemi : Nat) (body : Bytes) (hs : isSign sg = true) (hh : isHemi hemi = true)
    (hne : body ≠ []) :
    strip (sg :: (body ++ [hemi])) =
      .ok ⟨(if lookup DMSC.signs sg = 0 then !hemiNeg (lookup DMSC.hemispheres hemi) else hemiNeg (lookup DMSC.hemispheres hemi)),
           hemiFlag (lookup DMSC.hemispheres hemi), body⟩ := by
  have hb : body.isEmpty = false := by cases body with | nil => exact absurd rfl hne | cons _ _ => rfl
  rw [strip_stages, stripLead_nohemi sg _ (isHemi_of_isSign hs)]
  simp only
  rw [← List.cons_append, stripTrail_hemi _ _ (sg :: body) hemi hh]
  simp only [ne_eq, not_true_eq_false, if_false, stripSign_sign _ sg body hs, hb, Bool.false_eq_true]

/-- only one sign is removed: a second one is an "Internal sign" error of the piece -/
theorem internal_sign_rejected (body : Bytes) (hne : body ≠ []) (hlast : ∀ c ∈ body.getLast?, isHemi c = false) :
    internalDecode (45 :: 45 :: body) = .error "Internal sign" := by
  simp only [internalDecode, parseFields_double_sign body hne hlast, nummatch_double_sign]

/-! ## `Utility::val (Utility::str x p)` -/

/-- non-finite values round-trip through their spellings, at every precision -/
theorem str_val_nonfinite (p : Nat) :
    (match utilVal (utilStr .nan p) with | .ok .nan => true | _ => false) = true ∧
    (match utilVal (utilStr (.inf false) p) with | .ok (.inf false) => true | _ => false) = true ∧
    (match utilVal (utilStr (.inf true) p) with | .ok (.inf true) => true | _ => false) = true := by
  have h1 : utilStr .nan p = strBytes "nan" := rfl
  have h2 : utilStr (.inf false) p = strBytes "inf" := rfl
  have h3 : utilStr (.inf true) p = strBytes "-inf" := rfl
  rw [h1, h2, h3]
  decide +kernel

/-- **`val` reads back exactly what `str` printed** (finite `x`, every precision `p`): the text is `[-]I[.F]` with
    `p` decimals (`fmtFixed_shape`), has no white space, and the stream-extraction model returns the correctly rounded
    (`ofDecExp` = strtod) value of `N / 10^p`, `N = fixedUnits x p` = `|x|·10^p` rounded half-even to an integer, with the
    sign of `x`.  So `val (str x p)` differs from `x` by the half unit of `fixedUnits` plus one rounding
    (`str_val_roundtrip` below for the bound). -/
theorem str_val_reads_units (s : Bool) (m : Nat) (e : Int) (p : Nat) :
    trim (utilStr (.fin s m e) p) = utilStr (.fin s m e) p ∧
    valPlain (utilStr (.fin s m e) p) =
      (match ofDecExp (fixedUnits (.fin s m e) p) (0 - (p : Int)) with
       | .inf _ => none
       | v => some (if s then F64.neg v else v)) :=
  ⟨trim_noop _ (fmtFixed_nospace _ p), valPlain_fmtFixed s m e p⟩

/-! ## the round-trip bounds (rational error bounds over the exact binary64 model, `IsRN` rounding theory) -/

/-- **the one rounding of `%.*f`**: the printed count of units `fixedUnits x p` is within half a unit of `|x|·10^p` -/
theorem fixedUnits_half_unit (s : Bool) (m : ℕ) (e : ℤ) (p : ℕ) :
    |((fixedUnits (F64.fin s m e) p : ℕ) : ℚ) - |(F64.fin s m e).val| * 10 ^ p| ≤ 1 / 2 := fixedUnits_half s m e p

/-- **`encode_value_bound`: what `encodeHead` does, with constants.**  For every binary64 value `x` (finite,
    representable, below the overflow threshold), trailing unit `t` (scale `sc` = 1, 60, 3600), requested precision
    `prec` (effective `P = clampPrec t prec`) and flag other than AZIMUTH: the sign is the sign bit of `x`; the whole
    degrees `⌊|x|⌋` are split off exactly (0 for DEGREE) and the fractional part `|x| − ⌊|x|⌋` is computed exactly; it is
    multiplied by `sc` with ONE binary64 rounding and printed with ONE decimal rounding (`fixedUnits`, half-even) to
    `units` counts of `10^-P` trailing units.  Hence the printed value `idegree + units/(sc·10^P)` is within
    `½·10^-P/sc + 2^-53` of `|x|` (for DEGREE without the `2^-53`: `encodeHead_bound_deg`). -/
theorem encode_value_bound (s : Bool) (m : ℕ) (e : ℤ) (hx : F64.IsRep (F64.fin s m e))
    (hb : |(F64.fin s m e).val| < (2:ℚ) ^ (1024:ℤ))
    (trailing prec : ℕ) (ht : trailing = 0 ∨ trailing = 1 ∨ trailing = 2) (ind : Flag) (hind : ind ≠ Flag.azi) :
    let x := F64.fin s m e
    let h := encodeHead x trailing prec ind
    let P := clampPrec trailing prec
    let sc : ℚ := scaleOf trailing
    h.neg = s ∧ h.prec = P ∧
    h.idegree.isFinite = true ∧ h.idegree.signbit = false ∧
    h.idegree.val = (if trailing = 0 then 0 else ((⌊|x.val|⌋ : ℤ) : ℚ)) ∧
    |(h.idegree.val + (h.units : ℚ) / (sc * 10 ^ P) - |x.val|)| ≤ (1 / 2) / (sc * 10 ^ P) + (2:ℚ) ^ (-(53:ℤ)) :=
  encodeHead_bound s m e hx hb trailing prec ht ind hind

/-- the rounded count can reach but not exceed one whole degree (so the carry into the degrees is 0 or 1 and minutes,
    seconds < 60 after the carry, `encode_normalised_*`) -/
theorem encode_units_le_degree (s : Bool) (m : ℕ) (e : ℤ) (hx : F64.IsRep (F64.fin s m e))
    (trailing prec : ℕ) (ht : trailing = 1 ∨ trailing = 2) (ind : Flag) (hind : ind ≠ Flag.azi) :
    ((encodeHead (F64.fin s m e) trailing prec ind).units : ℚ) ≤ (scaleOf trailing : ℚ) * 10 ^ clampPrec trailing prec :=
  (encodeHead_bound_ms s m e hx trailing prec ht ind hind).2.2.2.2.2.2

/-- **the decoder side**: for slots with degrees `< 2^41`, minutes and seconds `< 60`, at most 15 fraction digits and a
    point only in the last non-zero component, the numeric stage of `Decode` succeeds and returns a binary64 within
    `4·2^-53·V` of `±V`, `V = d + m/60 + s/3600` the exact rational value of the fields (integer parts are accumulated
    exactly, `strtod` is one correct rounding, the sum and the division one each) -/
theorem decode_value_bound (neg : Bool) (sl : Slots)
    (hD : sl.d.int < 2 ^ 41) (hM : sl.m.int < 60) (hS : sl.s.int < 60)
    (hd : NumOK sl.d) (hm : NumOK sl.m) (hs : NumOK sl.s)
    (hlast_s : numVal sl.s ≠ 0 → sl.d.point = false ∧ sl.m.point = false)
    (hlast_m : numVal sl.m ≠ 0 → sl.d.point = false) :
    let V : ℚ := numVal sl.d + numVal sl.m / 60 + numVal sl.s / 3600
    ∃ v : F64, evalSlots neg sl = .ok v ∧ F64.IsRep v ∧ |v.val| ≤ 2 ^ 53 ∧
      |v.val - (if neg then -V else V)| ≤ 4 * (2:ℚ) ^ (-(53:ℤ)) * V :=
  evalSlots_bound neg sl ⟨hD, hM, hS, hd, hm, hs, hlast_s, hlast_m⟩

/-- **`roundtrip_bound`**: for every binary64 value `x` with `|x| < 2^40`, trailing DEGREE / MINUTE / SECOND, every
    precision, flag NONE / LATITUDE / LONGITUDE and separator none or `:`:
    `Decode (Encode x …)` succeeds with the flag of the hemisphere class and a finite value `y` with

      `|y − x| ≤ B + 4·2^-53·(|x| + B)`,   `B = ½·10^-P/sc + 2^-53`,  `P = clampPrec t p`, `sc = 1, 60, 3600`

    (`rtBound`): half a unit of the last printed digit, the one binary rounding of the scaling in `Encode`, and the
    three roundings of `Decode`.  AZIMUTH: `roundtrip_bound_azimuth` (all `x`, with respect to the reduced angle).  The
    degrees are limited to `2^40` (beyond `2^53` the statement is false for the code as it is: finding F33, digit-by-digit
    accumulation of the integer part). -/
theorem roundtrip_bound (s : Bool) (m : ℕ) (e : ℤ) (hx : F64.IsRep (F64.fin s m e)) (hb : |(F64.fin s m e).val| < 2 ^ 40)
    (t p : ℕ) (ht : t ≤ 2) (ind : Flag) (hind : ind = Flag.none ∨ ind = Flag.lat ∨ ind = Flag.lon) (sep : ℕ)
    (hsep : sep = 0 ∨ sep = 58) :
    ∃ y : F64, decode (encode (F64.fin s m e) t p ind sep) = .ok (y, readFlag ind) ∧ y.isFinite = true ∧
      |(y.val - (F64.fin s m e).val)| ≤
        ((1 / 2) / ((scaleOf t : ℚ) * 10 ^ clampPrec t p) + (2:ℚ) ^ (-(53:ℤ))) +
          4 * (2:ℚ) ^ (-(53:ℤ)) * (|(F64.fin s m e).val| + ((1 / 2) / ((scaleOf t : ℚ) * 10 ^ clampPrec t p) + (2:ℚ) ^ (-(53:ℤ)))) := by
  have hA : ind ≠ Flag.azi := by rcases hind with rfl | rfl | rfl <;> decide
  have hN : ind ≠ Flag.num := by rcases hind with rfl | rfl | rfl <;> decide
  exact roundtrip_gen t ht s m e p ind sep hsep hN s m e ind hA hx hb rfl
    (by rw [readNeg_of_ne_azi ind s hA]; exact (val_sign s m e).symm)

/-- **`roundtrip_bound_azimuth`**: with the AZIMUTH flag `Encode` prints the reduced angle
    `x′ = aziReduce x` — `a = AngNormalize x` (exact, `≡ x mod 360`, `|a| ≤ 180`: C16 `angNormalize_spec`), then `a + 360`
    (one binary64 rounding) if `a < 0`, else `0 + a = a`; `x′` is a binary64 value in `[0, 512]` (in fact `[0, 360]`) —
    and `Decode (Encode x … AZIMUTH)` succeeds with flag NONE and a value within the same bound `rtBound` of `x′`,
    for EVERY binary64 `x`. -/
theorem roundtrip_bound_azimuth (s : Bool) (m : ℕ) (e : ℤ) (hx : F64.IsRep (F64.fin s m e)) (t p : ℕ) (ht : t ≤ 2) (sep : ℕ)
    (hsep : sep = 0 ∨ sep = 58) :
    (F64.IsRep (aziReduce (F64.fin s m e)) ∧ 0 ≤ (aziReduce (F64.fin s m e)).val ∧ (aziReduce (F64.fin s m e)).val ≤ 512 ∧
      ((MathF.angNormalize (F64.fin s m e)).val < 0 →
        RN ((MathF.angNormalize (F64.fin s m e)).val + 360) (aziReduce (F64.fin s m e)).val) ∧
      (0 ≤ (MathF.angNormalize (F64.fin s m e)).val →
        (aziReduce (F64.fin s m e)).val = (MathF.angNormalize (F64.fin s m e)).val)) ∧
    ∃ y : F64, decode (encode (F64.fin s m e) t p Flag.azi sep) = .ok (y, Flag.none) ∧ y.isFinite = true ∧
      |(y.val - (aziReduce (F64.fin s m e)).val)| ≤
        ((1 / 2) / ((scaleOf t : ℚ) * 10 ^ clampPrec t p) + (2:ℚ) ^ (-(53:ℤ))) +
          4 * (2:ℚ) ^ (-(53:ℤ)) * ((aziReduce (F64.fin s m e)).val + ((1 / 2) / ((scaleOf t : ℚ) * 10 ^ clampPrec t p) + (2:ℚ) ^ (-(53:ℤ)))) := by
  refine ⟨aziReduce_spec s m e hx, ?_⟩
  obtain ⟨⟨hf, hr⟩, h0, h512, _, _⟩ := aziReduce_spec s m e hx
  obtain ⟨s0, m0, e0, hx0⟩ := F64.exists_fin_of_isFinite _ hf
  have hhead : encodeHead (F64.fin s m e) t p Flag.azi = encodeHead (F64.fin s0 m0 e0) t p Flag.none := by
    rw [← hx0]; rfl
  rw [hx0] at hr h0 h512 ⊢
  have habs : |(F64.fin s0 m0 e0).val| = (F64.fin s0 m0 e0).val := abs_of_nonneg h0
  have hb : |(F64.fin s0 m0 e0).val| < 2 ^ 40 := by rw [habs]; norm_num; linarith
  have hsgn : (if readNeg Flag.azi s0 then -|(F64.fin s0 m0 e0).val| else |(F64.fin s0 m0 e0).val|) = (F64.fin s0 m0 e0).val := by
    simp [readNeg, habs]
  have := roundtrip_gen t ht s m e p Flag.azi sep hsep (by decide) s0 m0 e0 Flag.none (by decide) ⟨rfl, hr⟩ hb hhead hsgn
  rwa [habs] at this

/-- the head of `Encode` for AZIMUTH is the head for NONE on the reduced angle -/
theorem encode_azimuth_head (x : F64) (t p : ℕ) : encodeHead x t p Flag.azi = encodeHead (aziReduce x) t p Flag.none :=
  rfl

-- non-vacuity: 10.5 is a binary64 value below 2^40
example : F64.IsRep (F64.fin false 21 (-1)) ∧ |(F64.fin false 21 (-1)).val| < 2 ^ 40 := by
  refine ⟨⟨rfl, 21, -1, by norm_num, by norm_num, by rw [F64.val_fin]; simp⟩, ?_⟩
  rw [F64.val_fin]; norm_num

/-- **`str_val_roundtrip`** (finite values): for `|x| ≤ 2^52` and precision `p ≤ 30`, `Utility::val (Utility::str x p)`
    succeeds with a finite `y`, `|y − x| ≤ ½·10^-p + 2^-53·(|x| + 1)` (the decimal rounding of `str`, the binary rounding
    of `strtod`).  Non-finite values: `str_val_nonfinite`. -/
theorem str_val_roundtrip (s : Bool) (m : ℕ) (e : ℤ) (hb : |(F64.fin s m e).val| ≤ 2 ^ 52) (p : ℕ) (hp : p ≤ 30) :
    ∃ y : F64, utilVal (utilStr (F64.fin s m e) p) = .ok y ∧ y.isFinite = true ∧
      |(y.val - (F64.fin s m e).val)| ≤ (1 / 2) / 10 ^ p + (2:ℚ) ^ (-(53:ℤ)) * (|(F64.fin s m e).val| + 1) := by
  obtain ⟨hfin, hbound⟩ := ofDec_fixedUnits (F64.fin s m e) rfl hb p hp
  have hstr : utilStr (F64.fin s m e) p = fmtFixed (F64.fin s m e) p := rfl
  have htrim : trim (fmtFixed (F64.fin s m e) p) = fmtFixed (F64.fin s m e) p := trim_noop _ (fmtFixed_nospace _ p)
  have hval := valPlain_fmtFixed s m e p
  have hof : ofDecExp (fixedUnits (F64.fin s m e) p) (0 - (p : ℤ)) = ofDec (fixedUnits (F64.fin s m e) p) p := by
    unfold ofDec; rw [Int.zero_sub]
  rw [hof] at hval
  obtain ⟨sv, mv, ev, hv⟩ := F64.exists_fin_of_isFinite _ hfin
  rw [hv] at hval hbound
  simp only at hval
  refine ⟨if s then F64.neg (F64.fin sv mv ev) else F64.fin sv mv ev, ?_, ?_, ?_⟩
  · unfold utilVal
    simp only [hstr, htrim, hval]
  · cases s <;> rfl
  · have hs := val_sign s m e
    cases s
    · simp only [Bool.false_eq_true, if_false] at hs ⊢
      rw [hs, abs_abs]; exact hbound
    · simp only [if_true] at hs ⊢
      rw [F64.neg_fin_val, hs, abs_neg, abs_abs]
      have : -(F64.fin sv mv ev).val - -|(F64.fin true m e).val| = -((F64.fin sv mv ev).val - |(F64.fin true m e).val|) := by ring
      rw [this, abs_neg]; exact hbound

/-- none of the substitution patterns contains a NUL, and none replaces by a digit, point or letter: the table can only
    produce `d ' " + -` or delete (Gen-obligation) -/
theorem replace_table_wellformed :
    ∀ pc ∈ DMSC.replaceTable, pc.1 ≠ [] ∧ 0 ∉ pc.1 ∧ pc.1 ≠ [pc.2] ∧ (pc.2 = 0 ∨ pc.2 = 100 ∨ pc.2 = 39 ∨ pc.2 = 34 ∨ pc.2 = 43 ∨ pc.2 = 45) := by
  decide +kernel

/-- **splitting a sum loses nothing**: the pieces handed to `InternalDecode` concatenate to the trimmed text -/
theorem pieces_join : ∀ (fuel : Nat) (first : Bool) (t : Bytes), t.length ≤ fuel → (pieces fuel first t).flatten = t :=
  pieces_flatten

example : pieces 12 true (strBytes "S3-2.5+4.1N") = [strBytes "S3", strBytes "-2.5", strBytes "+4.1N"] := by decide
example : pieces 8 true (strBytes "N-20d30") = [strBytes "N-20d30"] := by decide

/-! ## Glue: the calendar of `Utility::day / date / dow`, `Utility::ParseLine`, `Utility::trim`

`Calendar.dayRaw / dateRaw / dow` are the integer arithmetic of `src/Utility.cpp` with C++'s truncating `/` and `%`
(the driver executes exactly these definitions against the implementation: every day of 0001-01-01 … 3300-12-31 in the
thorough tier, 1352 … 2427 in the quick tier).  `Calendar.Valid / leap / monthLength / nextDate` are the calendar documented in
`Utility.hpp`, stated without day numbers. -/
section Calendar
open GeoVerif.Calendar

/-- **`date (day (y, m, d)) = (y, m, d)`** for every date of the documented calendar from 0001-01-01 on (all years, unbounded). -/
theorem date_day (y m d : Int) (h : Valid y m d) : dateRaw (dayRaw y m d) = (y, m, d) :=
  dateRaw_dayRaw y m d h

/-- the day number of a valid date is positive (`day(…, check = true)` does not reject it as "before 0001-01-01") -/
theorem day_pos (y m d : Int) (h : Valid y m d) : 1 ≤ dayRaw y m d := dayRaw_pos y m d h

/-- **`day(y, m, d, check = true)` accepts every valid date** inside the guarded range and returns its day number -/
theorem dayChecked_accepts (y m d : Int) (h : Valid y m d) (hy : y ≤ 200000) : dayChecked y m d = some (dayRaw y m d) :=
  dayChecked_of_valid y m d h hy

/-- the two calendar tests of the code agree: a valid date is Gregorian by its (y, m, d) iff its day number is ≥ 639799 -/
theorem switch_consistent (y m d : Int) (h : Valid y m d) : gregS (dayRaw y m d) = gregYMD y m d := by
  rw [dayRaw_eq y m d h.1 h.2.1]
  exact decide_eq_decide.2 (dayE_switch y m d h).2

/-- **`day (date s) = s`** for EVERY day number `s ≥ 1`, and `date s` is a date of the documented calendar (so `date` and `day` are
mutually inverse bijections between the day numbers from 1 on and the valid dates; proved by induction along `nextDate`) -/
theorem day_date (s : Int) (hs : 1 ≤ s) :
    Valid (dateRaw s).1 (dateRaw s).2.1 (dateRaw s).2.2 ∧ dayRaw (dateRaw s).1 (dateRaw s).2.1 (dateRaw s).2.2 = s :=
  dayRaw_dateRaw s hs

/-- **the day number steps by exactly one along the documented calendar** (month ends, leap days of either rule, year ends and the
1752-09-02 → 1752-09-14 switch included), and the successor of a valid date is valid -/
theorem day_next (y m d : Int) (h : Valid y m d) :
    Valid (nextDate y m d).1 (nextDate y m d).2.1 (nextDate y m d).2.2 ∧
    dayRaw (nextDate y m d).1 (nextDate y m d).2.1 (nextDate y m d).2.2 = dayRaw y m d + 1 :=
  ⟨nextDate_valid y m d h, dayRaw_next y m d h⟩

/-- consecutive day numbers are consecutive dates of the documented calendar, for every `s ≥ 1` -/
theorem date_succ (s : Int) (hs : 1 ≤ s) : dateRaw (s + 1) = nextDate (dateRaw s).1 (dateRaw s).2.1 (dateRaw s).2.2 :=
  dateRaw_succ s hs

open GeoVerif.Calendar in
example : (1 : Int) ≤ 639798 ∧ dateRaw (639798 + 1) = nextDate 1752 9 2 ∧ dayRaw 1900 3 1 = dayRaw 1900 2 28 + 1 ∧
    dayRaw 1700 3 1 = dayRaw 1700 2 29 + 1 := by decide

/-- `dow` is 7-periodic and steps by one (for day numbers ≥ −5, where C++'s `%` is the mathematical one) -/
theorem dow_periodic (s : Int) (h : -5 ≤ s) : dow (s + 7) = dow s ∧ dow (s + 1) = (dow s + 1) % 7 ∧ 0 ≤ dow s ∧ dow s ≤ 6 := by
  unfold dow
  rw [Int.tmod_eq_emod_of_nonneg (by omega), Int.tmod_eq_emod_of_nonneg (by omega), Int.tmod_eq_emod_of_nonneg (by omega)]
  omega

/-- **`day(y, m, d, check = true)` accepts ONLY dates of the documented calendar** (converse of `dayChecked_accepts`: together, inside
the guarded range the checked overload succeeds exactly on the valid dates, and then returns the day number) -/
theorem dayChecked_only_valid (y m d s : Int) (h : dayChecked y m d = some s) : Valid y m d ∧ s = dayRaw y m d := by
  unfold dayChecked day date at h
  by_cases hg1 : dayGuard y m d = true
  · simp only [hg1, if_true] at h
    by_cases hg2 : dateGuard (dayRaw y m d) = true
    · simp only [hg2, if_true] at h
      split at h
      · rename_i hc
        obtain ⟨hpos, h1, h2, h3⟩ := hc
        have hs : s = dayRaw y m d := by simpa using h.symm
        have hv := (dayRaw_dateRaw (dayRaw y m d) (by omega)).1
        rw [← h1, ← h2, ← h3] at hv
        exact ⟨hv, hs⟩
      · simp at h
    · simp [hg2] at h
  · simp [hg1] at h

/-- the week day advances by one along the documented calendar (also across the eleven days dropped in September 1752) -/
theorem dow_next (y m d : Int) (h : Valid y m d) :
    dow (dayRaw (nextDate y m d).1 (nextDate y m d).2.1 (nextDate y m d).2.2) = (dow (dayRaw y m d) + 1) % 7 := by
  rw [(day_next y m d h).2]
  exact (dow_periodic (dayRaw y m d) (by have := day_pos y m d h; omega)).2.1

open GeoVerif.Calendar in
example : dayChecked 2024 2 29 = some (dayRaw 2024 2 29) ∧ dayChecked 1752 9 10 = none ∧ dayChecked 1900 2 29 = none := by decide

/-- **`date` is strictly increasing** (lexicographic order of (y, m, d), `dateKey = 10000 y + 100 m + d`) on ALL day numbers from 1 on -/
theorem date_strictMono (s t : Int) (hs : 1 ≤ s) (hst : s < t) : dateKey (dateRaw s) < dateKey (dateRaw t) :=
  dateRaw_strictMono s t hs hst

/-- **`day` orders the valid dates as the calendar does**: earlier date ⇔ smaller day number (hence differences of day numbers, as
`fractionalyear` uses them, count the days between two dates) -/
theorem day_lt_iff (y m d y' m' d' : Int) (h : Valid y m d) (h' : Valid y' m' d') :
    dayRaw y m d < dayRaw y' m' d' ↔ dateKey (y, m, d) < dateKey (y', m', d') :=
  dayRaw_lt_iff y m d y' m' d' h h'

open GeoVerif.Calendar in
example : Valid 1752 9 2 ∧ Valid 1752 9 14 ∧ dateKey (1752, 9, 2) < dateKey (1752, 9, 14) ∧ dayRaw 1752 9 2 < dayRaw 1752 9 14 := by decide

/-- **`fractionalyear(yyyy-mm-dd)` lies in `[y, y + 1)`** for every valid date up to year 199999: the exact rational the code rounds is
`y + n / den` with `0 ≤ n < den` (`n` = days since January 1, `den` = length of the year) -/
theorem fractionalyear_range (y m d : Int) (h : Valid y m d) (hy : y ≤ 199999) :
    ∃ n den, fracYear y m d = some (y, n, den) ∧ 0 ≤ n ∧ n < den := by
  have hd31 := valid_d31 y m d h
  have ⟨hy1, hm1, hm2, hd1, _, _⟩ := h
  have v0 := valid_jan1 y hy1
  have v1 := valid_jan1 (y + 1) (by omega)
  have lo : ¬ dayRaw y m d < dayRaw y 1 1 := fun e => by
    have := (dayRaw_lt_iff y m d y 1 1 h v0).1 e
    simp only [dateKey] at this
    omega
  have hi : dayRaw y m d < dayRaw (y + 1) 1 1 :=
    (dayRaw_lt_iff y m d (y + 1) 1 1 h v1).2 (by simp only [dateKey]; omega)
  refine ⟨dayRaw y m d - dayRaw y 1 1, dayRaw (y + 1) 1 1 - dayRaw y 1 1, ?_, by omega, by omega⟩
  simp only [fracYear, dayChecked_of_valid y m d h (by omega), day_of_valid y 1 1 v0 (by omega), day_of_valid (y + 1) 1 1 v1 (by omega)]

/-- documented anchors: 0001-01-01 is day 1 and a Saturday; 1752-09-02 (Wednesday) is followed by 1752-09-14 (Thursday) = day 639799;
    2000-01-01 was a Saturday, 1970-01-01 a Thursday; 1700 and 1752 have a February 29, 1800 and 1900 do not, 2000 does -/
theorem calendar_anchors :
    dayRaw 1 1 1 = 1 ∧ dow 1 = 6 ∧ dayRaw 1752 9 14 = 639799 ∧ dayRaw 1752 9 2 = 639798 ∧ dow 639798 = 3 ∧ dow 639799 = 4 ∧
    dow (dayRaw 2000 1 1) = 6 ∧ dow (dayRaw 1970 1 1) = 4 ∧ dateRaw 639798 = (1752, 9, 2) ∧ dateRaw 639799 = (1752, 9, 14) ∧
    Valid 1700 2 29 ∧ Valid 1752 2 29 ∧ ¬ Valid 1800 2 29 ∧ ¬ Valid 1900 2 29 ∧ Valid 2000 2 29 ∧ ¬ Valid 1752 9 3 ∧ ¬ Valid 1752 9 13 := by
  decide

open GeoVerif.Calendar in
example : Valid 2024 2 29 ∧ nextDate 2024 2 29 = (2024, 3, 1) ∧ nextDate 1752 9 2 = (1752, 9, 14) ∧ nextDate 1999 12 31 = (2000, 1, 1) := by decide
open GeoVerif.Calendar in
example : dayChecked 2023 2 29 = none ∧ dayChecked 1752 9 5 = none ∧ dayChecked 0 12 31 = none ∧ (dayChecked 2012 7 2).isSome = true := by decide
open GeoVerif.Calendar in
/-- `fractionalyear`: 2010-01-01 ↦ 2010 + 0/365, 2012-07-02 ↦ 2012 + 183/366 = 2012.5 (the header's example says 07-03) -/
example : fracYear 2010 1 1 = some (2010, 0, 365) ∧ fracYear 2012 7 2 = some (2012, 183, 366) ∧ fracYear 2012 7 3 = some (2012, 184, 366) ∧
    fracYear 1752 12 31 = some (1752, 354, 355) := by decide

end Calendar

/-! `Utility::ParseLine` / `trim`: executable model (`Model/ParseLine.lean`), compared exactly with the implementation on every
sampled line; the documented examples below are decided on the model.  No universally quantified statement about `parseLine` is proved. -/
open GeoVerif.ParseLine in
example : parseLine (strBytes "  Name = EGM 96  # comment") 61 35 = (true, strBytes "Name", strBytes "EGM 96") := by decide
open GeoVerif.ParseLine in
example : parseLine (strBytes "ID\tWMM2020") 0 35 = (true, strBytes "ID", strBytes "WMM2020") := by decide

open GeoVerif.ParseLine in
example : parseLine (strBytes " # only a comment") 0 35 = (false, [], []) ∧ parseLine (strBytes "= 5") 61 35 = (false, [], []) ∧
    parseLine (strBytes "key") 61 35 = (true, strBytes "key", []) ∧ parseLine (strBytes "a b#c") 0 0 = (true, strBytes "a", strBytes "b#c") := by decide
open GeoVerif.ParseLine in
example : dispatch (strBytes "38SMB4488") = 1 ∧ dispatch (strBytes "33.3,44.4") = 2 ∧ dispatch (strBytes "38n 444000 3684000") = 3 ∧
    dispatch (strBytes "444000 3684000 38n") = 4 ∧ dispatch (strBytes "1 2 3") = 0 ∧ dispatch (strBytes "") = 0 ∧ dispatch (strBytes "1 2 3 4") = 0 := by decide
example : trim (strBytes " \t a b \n") = strBytes "a b" := by decide


end GeoVerif.Props.C10
