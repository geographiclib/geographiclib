import GeoVerif.Model.Polygon
import GeoVerif.Model.PolygonF
import GeoVerif.Model.Planimeter
import GeoVerif.Proofs.PolygonHist
import GeoVerif.Props.C16
import Mathlib.Algebra.Order.Floor.Ring
import Mathlib.Algebra.Order.Floor.Semiring
import Mathlib.Data.Rat.Floor
import Mathlib.Tactic.Linarith
import Mathlib.Tactic.Ring
import Mathlib.Tactic.NormNum
import Mathlib.Tactic.Positivity
import Mathlib.Tactic.SplitIfs
import Mathlib.Data.List.Rotate
import Mathlib.Algebra.BigOperators.Group.List.Basic
/-!
# C08 — property theorems (polygon bookkeeping)

`transitQ`, `transitdirectQ`, `areaReduce` and the state machine are the
definitions of `Model/Polygon.lean` that the driver executes against the
implementation; here they are studied over ℚ.  The edit-history theorems are stated a second time for
the bit-level record `PolygonF.StateF` (binary64 words, two-word accumulators); `section AccumulatorLevel` has
`AreaReduce` on the two-word accumulator, and `section Tool` the way the `Planimeter` tool cuts its input lines into
polygons (`Model/Planimeter.lean`).
-/
namespace GeoVerif.Props.C08
open GeoVerif GeoVerif.Polygon

/-- what `AngNormalize` / `AngDiff` guarantee about an edge: all three values in [−180, 180] and
    `n1 + d = n2 + 360 k` for an integer `k` (C16) -/
structure Edge (d n1 n2 : ℚ) (k : ℤ) : Prop where
  hd  : -180 ≤ d ∧ d ≤ 180
  hn1 : -180 ≤ n1 ∧ n1 ≤ 180
  hn2 : -180 ≤ n2 ∧ n2 ≤ 180
  hk  : n1 + d = n2 + 360 * (k : ℚ)

theorem floor_add_turns (x : ℚ) (k : ℤ) : ⌊(x + 360 * k) / 360⌋ = ⌊x / 360⌋ + k := by
  rw [show (x + 360 * (k:ℚ)) / 360 = x / 360 + k by ring, Int.floor_add_intCast]

theorem floor_div_360_eq {x : ℚ} (j : ℤ) (h1 : 360 * (j:ℚ) ≤ x) (h2 : x < 360 * (j + 1)) : ⌊x / 360⌋ = j := by
  rw [Int.floor_eq_iff]; constructor <;> linarith

theorem floor_div_360_of_mem {x : ℚ} (h : -180 ≤ x ∧ x ≤ 180) :
    ⌊x / 360⌋ = if x < 0 then -1 else 0 := by
  split_ifs with hx
  · exact floor_div_360_eq (-1) (by push_cast; linarith [h.1]) (by push_cast; linarith)
  · exact floor_div_360_eq 0 (by push_cast; linarith) (by push_cast; linarith [h.2])

theorem transitQ_east {d n1 n2 : ℚ} (hd : 0 < d) (h : (n1 < 0 ∧ 0 ≤ n2) ∨ (0 < n1 ∧ n2 = 0)) :
    transitQ d n1 n2 = 1 :=
  if_pos ⟨hd, h⟩

theorem transitQ_west {d n1 n2 : ℚ} (hd : d < 0) (h1 : 0 ≤ n1) (h2 : n2 < 0 ∨ n2 = 180) :
    transitQ d n1 n2 = -1 := by
  rw [transitQ, if_neg fun h => lt_asymm hd h.1, if_pos ⟨hd, h1, h2⟩]

theorem transitQ_zero {d n1 n2 : ℚ} (h1 : 0 < d → ¬ ((n1 < 0 ∧ 0 ≤ n2) ∨ (0 < n1 ∧ n2 = 0)))
    (h2 : d < 0 → 0 ≤ n1 → ¬ (n2 < 0 ∨ n2 = 180)) : transitQ d n1 n2 = 0 := by
  rw [transitQ, if_neg fun h => h1 h.1 h.2, if_neg fun h => h2 h.1 h.2.1 h.2.2]

/-- the code's decision is the jump of `⌊·/360⌋` along the edge, read off the normalised end points: the bounds leave
    `k ∈ {−1, 0, 1}`, and for each `k` the signs of `n1`, `n2` fix both sides -/
theorem Edge.transit {d n1 n2 : ℚ} {k : ℤ} (e : Edge d n1 n2 k) :
    transitQ d n1 n2 = ⌊n2 / 360⌋ + k - ⌊n1 / 360⌋ := by
  obtain ⟨⟨hd1, hd2⟩, hn1, hn2, hk⟩ := e
  rw [floor_div_360_of_mem hn1, floor_div_360_of_mem hn2]
  obtain ⟨⟨h11, h12⟩, h21, h22⟩ := And.intro hn1 hn2
  have hk' : k = -1 ∨ k = 0 ∨ k = 1 := by
    have h1 : (-2:ℤ) < k := by exact_mod_cast (by linarith : (-2:ℚ) < k)
    have h2 : k < 2 := by exact_mod_cast (by linarith : (k:ℚ) < 2)
    omega
  rcases hk' with rfl | rfl | rfl <;> push_cast at hk
  · -- `n2 = n1 + d + 360 ≥ 0`; with `n1 ≥ 0` only `0 − 180 = 180 − 360` is left
    rw [if_neg (by linarith : ¬ n2 < 0)]
    by_cases h : n1 < 0
    · rw [if_pos h, transitQ_zero (fun _ => by linarith) (fun _ _ => by linarith)]; rfl
    · rw [if_neg h, transitQ_west (by linarith) (by linarith) (Or.inr (by linarith))]; rfl
  · by_cases h1 : n1 < 0 <;> by_cases h2 : n2 < 0 <;> simp only [h1, h2, if_true, if_false]
    · rw [transitQ_zero (fun _ h => by rcases h with ⟨_, h⟩ | ⟨h, _⟩ <;> linarith) (fun _ _ => by linarith)]; rfl
    · rw [transitQ_east (by linarith) (Or.inl ⟨h1, not_lt.mp h2⟩)]; rfl
    · rw [transitQ_west (by linarith) (not_lt.mp h1) (Or.inl h2)]; rfl
    · rw [transitQ_zero (fun _ h => by rcases h with ⟨h, _⟩ | ⟨_, h⟩ <;> linarith)
        (fun _ _ h => by rcases h with h | h <;> linarith)]; rfl
  · -- `n1 = n2 − d + 360 ≥ 0`; with `n2 ≥ 0` only `180 + 180 = 0 + 360` is left
    rw [if_neg (by linarith : ¬ n1 < 0)]
    by_cases h : n2 < 0
    · rw [if_pos h, transitQ_zero (fun _ h => by rcases h with ⟨h, _⟩ | ⟨_, h⟩ <;> linarith) (fun _ _ => by linarith)]; rfl
    · rw [if_neg h, transitQ_east (by linarith) (Or.inr ⟨by linarith, by linarith⟩)]; rfl

/-- pointwise: `transit = ⌊(n1+d)/360⌋ − ⌊n1/360⌋` — the number of times the edge passes longitude 0 (mod 360), signed -/
theorem transit_eq_floor {d n1 n2 : ℚ} {k : ℤ} (e : Edge d n1 n2 k) :
    transitQ d n1 n2 = ⌊(n1 + d) / 360⌋ - ⌊n1 / 360⌋ := by
  rw [e.transit, e.hk, floor_add_turns]

theorem Edge.reverse {d n1 n2 : ℚ} {k : ℤ} (e : Edge d n1 n2 k) : Edge (-d) n2 n1 (-k) :=
  ⟨⟨by linarith [e.hd.2], by linarith [e.hd.1]⟩, e.hn2, e.hn1, by have := e.hk; push_cast; linarith⟩

/-- the crossing count of an edge traversed backwards is the negative -/
theorem transitQ_antisymm {d n1 n2 : ℚ} {k : ℤ} (e : Edge d n1 n2 k) :
    transitQ (-d) n2 n1 = - transitQ d n1 n2 := by
  rw [e.transit, e.reverse.transit]; ring

/-- a closed chain of edges, as far as the crossing count sees it: every entry is an `Edge`, and the turn numbers
    `⌊λ/360⌋` of the end points add up to those of the start points (as they do when each edge ends where the next
    begins and the last where the first begins: `sum_ends_eq_sum_starts`) -/
structure Chain (es : List (ℚ × ℚ × ℚ × ℤ)) : Prop where
  edges : ∀ e ∈ es, Edge e.1 e.2.1 e.2.2.1 e.2.2.2
  closed : (es.map fun e => ⌊e.2.2.1 / 360⌋).sum = (es.map fun e => ⌊e.2.1 / 360⌋).sum

/-- `h`: each edge ends where the next begins, the last where the first begins -/
theorem sum_ends_eq_sum_starts {α β : Type} [AddCommMonoid β] (f g : α → ℚ) (φ : ℚ → β) (es : List α)
    (h : es.map g = (es.map f).rotate 1) : (es.map fun e => φ (g e)).sum = (es.map fun e => φ (f e)).sum := by
  have := congrArg (List.map φ) h
  rw [List.map_map, List.map_rotate, List.map_map] at this
  exact (congrArg List.sum this).trans (List.rotate_perm _ 1).sum_eq

/-- start independence: any cyclic sum (perimeter, raw area, crossings) is unchanged when the vertex list is rotated -/
theorem cyclic_sum_rotate_int (l : List ℤ) (n : ℕ) : (l.rotate n).sum = l.sum := (List.rotate_perm l n).sum_eq

theorem sum_transit {α : Type} (d n1 n2 : α → ℚ) (k : α → ℤ) (es : List α)
    (h : ∀ e ∈ es, Edge (d e) (n1 e) (n2 e) (k e)) :
    (es.map fun e => transitQ (d e) (n1 e) (n2 e)).sum
      = (es.map fun e => ⌊n2 e / 360⌋).sum + (es.map k).sum - (es.map fun e => ⌊n1 e / 360⌋).sum := by
  induction es with
  | nil => rfl
  | cons e es ih =>
    simp only [List.map_cons, List.sum_cons]
    rw [ih fun x hx => h x (List.mem_cons_of_mem _ hx), (h e List.mem_cons_self).transit]; ring

/-- **crossing count = winding number**: around any closed chain the transits add up to `Σ k`, and `360·Σ k = Σ d`
    (the total signed longitude swept), whatever the vertices' representatives modulo 360 are -/
theorem transit_winding (es : List (ℚ × ℚ × ℚ × ℤ)) (h : Chain es) :
    (es.map fun e => transitQ e.1 e.2.1 e.2.2.1).sum = (es.map fun e => e.2.2.2).sum := by
  rw [sum_transit (·.1) (·.2.1) (·.2.2.1) (·.2.2.2) es h.edges, h.closed]; ring

/-- the class of a remainder `r = x − 720 j ∈ [−360, 360]` (`0` for `0 ≤ r < 360`, else `1`) has the parity of `⌊x/360⌋` -/
theorem cls_parity (x r : ℚ) (j : ℤ) (hr : -360 ≤ r ∧ r ≤ 360) (hx : x = r + 720 * (j:ℚ)) :
    (if 0 ≤ r ∧ r < 360 then (0:ℤ) else 1) % 2 = ⌊x / 360⌋ % 2 := by
  rw [hx, show r + 720 * (j:ℚ) = r + 360 * ((2 * j : ℤ) : ℚ) by push_cast; ring, floor_add_turns]
  by_cases ha : r < 0
  · rw [floor_div_360_eq (-1) (by push_cast; linarith [hr.1]) (by push_cast; linarith),
      if_neg fun h => absurd ha (not_lt.mpr h.1)]
    omega
  · by_cases hb : r < 360
    · rw [floor_div_360_eq 0 (by push_cast; linarith) (by push_cast; linarith), if_pos ⟨not_lt.mp ha, hb⟩]; omega
    · rw [floor_div_360_eq 1 (by push_cast; linarith) (by push_cast; linarith [hr.2]), if_neg fun h => hb h.2]; omega

/-- `transitdirect` has the parity of `⌊λ₂/360⌋ − ⌊λ₁/360⌋` when `r = λ − 720 j ∈ [−360, 360]` is the IEEE remainder -/
theorem transitdirect_parity (x1 x2 r1 r2 : ℚ) (j1 j2 : ℤ)
    (h1 : -360 ≤ r1 ∧ r1 ≤ 360) (h2 : -360 ≤ r2 ∧ r2 ≤ 360) (e1 : x1 = r1 + 720 * (j1:ℚ)) (e2 : x2 = r2 + 720 * (j2:ℚ)) :
    (transitdirectQ r1 r2) % 2 = (⌊x2 / 360⌋ - ⌊x1 / 360⌋) % 2 := by
  unfold transitdirectQ
  have a := cls_parity x1 r1 j1 h1 e1
  have b := cls_parity x2 r2 j2 h2 e2
  omega

/-- `TestPoint` returns what `AddPoint` followed by `Compute` returns (same backend values), for every reachable or
    unreachable state with at least one vertex -/
theorem testPoint_eq_add_compute (st : State) (A : ℚ) (lat lon : F64) (rv sg : Bool) (k1 k2 : ℚ × ℚ) (h : st.num ≠ 0) :
    testPoint st A lon rv sg k1 k2 = compute (addPoint st lat lon k1.1 k1.2) A rv sg k2.1 k2.2 := by
  have h2 : ¬ (st.num + 1 < 2) := by omega
  cases hp : st.polyline <;> simp [testPoint, compute, addPoint, h, hp, h2, add_assoc]

theorem testEdge_eq_add_compute (st : State) (A s : ℚ) (lat2 lon2 : F64) (S12 : ℚ) (rv sg : Bool) (k2 : ℚ × ℚ) (h : st.num ≠ 0) :
    testEdge st A s lon2 S12 rv sg k2 = compute (addEdge st s lat2 lon2 S12) A rv sg k2.1 k2.2 := by
  have h2 : ¬ (st.num + 1 < 2) := by omega
  cases hp : st.polyline <;> simp [testEdge, compute, addEdge, h, hp, h2, add_assoc]

theorem clear_is_init (st : State) : clear st = init st.polyline := rfl

/-- a polyline never reports an area and never counts crossings -/
theorem polyline_no_area (st : State) (A : ℚ) (rv sg : Bool) (s S : ℚ) (h : st.polyline = true) :
    (compute st A rv sg s S).area = none := by
  simp only [compute, h, if_true]; split_ifs <;> rfl

theorem testPoint_polyline (st : State) (A : ℚ) (lon : F64) (rv sg : Bool) (k1 k2 : ℚ × ℚ) (h : st.polyline = true) :
    (testPoint st A lon rv sg k1 k2).area = none := by
  simp only [testPoint, h, if_true]; split_ifs <;> rfl

theorem testEdge_polyline (st : State) (A s : ℚ) (lon2 : F64) (S12 : ℚ) (rv sg : Bool) (k2 : ℚ × ℚ) (h : st.polyline = true) :
    (testEdge st A s lon2 S12 rv sg k2).area = none := by
  simp only [testEdge, h, if_true]; split_ifs <;> rfl

theorem remainderQ_spec (x y : ℚ) : ∃ n : ℤ, remainderQ x y = x - n * y ∧ -(1 / 2) ≤ x / y - n ∧ x / y - n ≤ 1 / 2 := by
  refine ⟨_, rfl, ?_⟩
  have hf1 : ((x / y).floor : ℚ) ≤ x / y := Int.floor_le _
  have hf2 : x / y < (x / y).floor + 1 := Int.lt_floor_add_one _
  split_ifs <;> push_cast <;> constructor <;> linarith

theorem remainderQ_range (x y : ℚ) (hy : 0 < y) : -(y / 2) ≤ remainderQ x y ∧ remainderQ x y ≤ y / 2 := by
  obtain ⟨n, hn, h1, h2⟩ := remainderQ_spec x y
  rw [hn, show x - n * y = (x / y - n) * y by field_simp, show y / 2 = 1 / 2 * y by ring, ← neg_mul]
  exact ⟨mul_le_mul_of_nonneg_right h1 hy.le, mul_le_mul_of_nonneg_right h2 hy.le⟩

/-- congruence modulo the ellipsoid area -/
def CongA (A x y : ℚ) : Prop := ∃ m : ℤ, x = y + m * A

theorem remainderQ_cong (x A : ℚ) : CongA A (remainderQ x A) x := by
  obtain ⟨n, hn, -⟩ := remainderQ_spec x A
  exact ⟨-n, by rw [hn]; push_cast; ring⟩

/-- the stages of `areaReduce` after the remainder -/
def adjC (A : ℚ) (c : ℤ) (a : ℚ) : ℚ := if c % 2 = 1 then a + (if a < 0 then 1 else -1) * (A / 2) else a
def orient (rv : Bool) (a : ℚ) : ℚ := if !rv then -a else a
def window (A : ℚ) (sg : Bool) (a : ℚ) : ℚ :=
  if sg then (if a > A / 2 then a - A else if a ≤ -(A / 2) then a + A else a)
  else (if a ≥ A then a - A else if a < 0 then a + A else a)

theorem areaReduce_stages (area A : ℚ) (c : ℤ) (rv sg : Bool) :
    areaReduce area A c rv sg = window A sg (orient rv (adjC A c (remainderQ area A))) := rfl

theorem adjC_range {A a : ℚ} (c : ℤ) (h : -(A / 2) ≤ a ∧ a ≤ A / 2) : -(A / 2) ≤ adjC A c a ∧ adjC A c a ≤ A / 2 := by
  unfold adjC; split_ifs <;> constructor <;> linarith [h.1, h.2]

theorem orient_range {A a : ℚ} (rv : Bool) (h : -(A / 2) ≤ a ∧ a ≤ A / 2) : -(A / 2) ≤ orient rv a ∧ orient rv a ≤ A / 2 := by
  cases rv
  · exact ⟨neg_le_neg h.2, neg_le.mp h.1⟩
  · exact h

theorem window_range {A a : ℚ} (hA : 0 < A) (h : -(A / 2) ≤ a ∧ a ≤ A / 2) :
    (-(A / 2) < window A true a ∧ window A true a ≤ A / 2) ∧ (0 ≤ window A false a ∧ window A false a < A) := by
  unfold window
  constructor
  · -- only `a = -(A/2)` is moved
    rw [if_pos rfl, if_neg (not_lt.mpr h.2)]
    split_ifs with h1
    · constructor <;> linarith [h.1]
    · exact ⟨not_le.mp h1, h.2⟩
  · rw [if_neg Bool.false_ne_true, if_neg (by linarith [h.2] : ¬ a ≥ A)]
    split_ifs with h1
    · constructor <;> linarith [h.1]
    · exact ⟨not_lt.mp h1, by linarith [h.2]⟩

/-- signed result in (−A/2, A/2], unsigned in [0, A) -/
theorem areaReduce_range (area A : ℚ) (c : ℤ) (rv sg : Bool) (hA : 0 < A) :
    (sg = true → -(A / 2) < areaReduce area A c rv sg ∧ areaReduce area A c rv sg ≤ A / 2) ∧
    (sg = false → 0 ≤ areaReduce area A c rv sg ∧ areaReduce area A c rv sg < A) := by
  have h := window_range hA (orient_range rv (adjC_range c (remainderQ_range area A hA)))
  rw [areaReduce_stages]
  exact ⟨fun hs => hs ▸ h.1, fun hs => hs ▸ h.2⟩

theorem cong_eq_of_abs_lt {A x y : ℚ} (hA : 0 < A) (h : CongA A x y) (hlt : |x - y| < A) : x = y := by
  obtain ⟨m, rfl⟩ := h
  rw [add_sub_cancel_left, abs_mul, abs_of_pos hA, mul_lt_iff_lt_one_left hA] at hlt
  have hm : |m| < 1 := by exact_mod_cast hlt
  rw [Int.abs_lt_one_iff.mp hm]; simp

theorem CongA.refl (A x : ℚ) : CongA A x x := ⟨0, by simp⟩
theorem CongA.symm {A x y : ℚ} (h : CongA A x y) : CongA A y x := by
  obtain ⟨m, hm⟩ := h; exact ⟨-m, by rw [hm]; push_cast; ring⟩
theorem CongA.trans {A x y z : ℚ} (h1 : CongA A x y) (h2 : CongA A y z) : CongA A x z := by
  obtain ⟨m, hm⟩ := h1; obtain ⟨n, hn⟩ := h2; exact ⟨m + n, by rw [hm, hn]; push_cast; ring⟩
theorem CongA.neg {A x y : ℚ} (h : CongA A x y) : CongA A (-x) (-y) := by
  obtain ⟨m, hm⟩ := h; exact ⟨-m, by rw [hm]; push_cast; ring⟩
theorem CongA.add {A x y u v : ℚ} (h1 : CongA A x y) (h2 : CongA A u v) : CongA A (x + u) (y + v) := by
  obtain ⟨m, hm⟩ := h1; obtain ⟨n, hn⟩ := h2; exact ⟨m + n, by rw [hm, hn]; push_cast; ring⟩

def sgn (rv : Bool) : ℚ := if rv then 1 else -1

theorem adjC_cong (A : ℚ) (c : ℤ) (a : ℚ) : CongA A (adjC A c a) (a + c * (A / 2)) := by
  unfold adjC
  obtain ⟨j, rfl | rfl⟩ := Int.even_or_odd' c
  · rw [if_neg (by omega)]; exact ⟨-j, by push_cast; ring⟩
  · rw [if_pos (by omega)]
    split_ifs
    · exact ⟨-j, by push_cast; ring⟩
    · exact ⟨-j - 1, by push_cast; ring⟩

theorem orient_eq (rv : Bool) (a : ℚ) : orient rv a = sgn rv * a := by
  cases rv <;> simp [orient, sgn]

theorem window_cong (A : ℚ) (sg : Bool) (a : ℚ) : CongA A (window A sg a) a := by
  unfold window
  split_ifs
  · exact ⟨-1, by push_cast; ring⟩
  · exact ⟨1, by push_cast; ring⟩
  · exact CongA.refl _ _
  · exact ⟨-1, by push_cast; ring⟩
  · exact ⟨1, by push_cast; ring⟩
  · exact CongA.refl _ _

theorem CongA.mul_sgn {A x y : ℚ} (rv : Bool) (h : CongA A x y) : CongA A (sgn rv * x) (sgn rv * y) := by
  cases rv
  · simpa [sgn] using h.neg
  · simpa [sgn] using h

/-- **what `AreaReduce` computes, modulo `A`**: `± (area + crossings·A/2)` -/
theorem areaReduce_cong (area A : ℚ) (c : ℤ) (rv sg : Bool) :
    CongA A (areaReduce area A c rv sg) (sgn rv * (area + c * (A / 2))) := by
  rw [areaReduce_stages]
  refine (window_cong A sg _).trans ?_
  rw [orient_eq]
  exact CongA.mul_sgn rv ((adjC_cong A c _).trans ((remainderQ_cong area A).add (CongA.refl _ _)))

/-- each of the two result ranges is a fundamental domain for congruence modulo `A` -/
theorem CongA.eq_of_signed {A x y : ℚ} (hA : 0 < A) (h : CongA A x y) (hx : -(A / 2) < x ∧ x ≤ A / 2)
    (hy : -(A / 2) < y ∧ y ≤ A / 2) : x = y :=
  cong_eq_of_abs_lt hA h (abs_lt.mpr ⟨by linarith [hx.1, hy.2], by linarith [hx.2, hy.1]⟩)

theorem CongA.eq_of_unsigned {A x y : ℚ} (hA : 0 < A) (h : CongA A x y) (hx : 0 ≤ x ∧ x < A) (hy : 0 ≤ y ∧ y < A) : x = y :=
  cong_eq_of_abs_lt hA h (abs_lt.mpr ⟨by linarith [hx.1, hy.2], by linarith [hx.2, hy.1]⟩)

/-- **master lemma**: the reduced area depends only on `± (area + crossings·A/2)` modulo `A`: the two results are
    congruent and lie in the same fundamental domain -/
theorem areaReduce_eq_of_cong {A : ℚ} (hA : 0 < A) {area area' : ℚ} {c c' : ℤ} {rv rv' : Bool} (sg : Bool)
    (h : CongA A (sgn rv' * (area' + c' * (A / 2))) (sgn rv * (area + c * (A / 2)))) :
    areaReduce area' A c' rv' sg = areaReduce area A c rv sg := by
  have hc := ((areaReduce_cong area' A c' rv' sg).trans h).trans (areaReduce_cong area A c rv sg).symm
  cases sg
  · exact hc.eq_of_unsigned hA ((areaReduce_range _ A _ _ _ hA).2 rfl) ((areaReduce_range _ A _ _ _ hA).2 rfl)
  · exact hc.eq_of_signed hA ((areaReduce_range _ A _ _ _ hA).1 rfl) ((areaReduce_range _ A _ _ _ hA).1 rfl)

theorem sgn_not (rv : Bool) : sgn (!rv) = - sgn rv := by cases rv <;> simp [sgn]

/-- **flipping `reverse`**: signed result `a ↦ −a` (the end point `A/2` of the half-open range maps to itself);
    unsigned result `a ↦ A − a` for `a ≠ 0`, `0 ↦ 0` -/
theorem areaReduce_flip (area A : ℚ) (c : ℤ) (rv : Bool) (hA : 0 < A) :
    (areaReduce area A c (!rv) true =
        if areaReduce area A c rv true = A / 2 then A / 2 else - areaReduce area A c rv true) ∧
    (areaReduce area A c (!rv) false =
        if areaReduce area A c rv false = 0 then 0 else A - areaReduce area A c rv false) := by
  have key : ∀ sg, CongA A (areaReduce area A c (!rv) sg) (-(areaReduce area A c rv sg)) := by
    intro sg
    refine (areaReduce_cong area A c (!rv) sg).trans ?_
    rw [sgn_not, neg_mul]
    exact (areaReduce_cong area A c rv sg).neg.symm
  constructor
  · have r1 := (areaReduce_range area A c rv true hA).1 rfl
    have r2 := (areaReduce_range area A c (!rv) true hA).1 rfl
    split_ifs with h
    · refine ((key true).trans ?_).eq_of_signed hA r2 ⟨by linarith, le_rfl⟩
      rw [h]; exact ⟨-1, by push_cast; ring⟩
    · have : areaReduce area A c rv true < A / 2 := lt_of_le_of_ne r1.2 h
      exact (key true).eq_of_signed hA r2 ⟨by linarith, by linarith⟩
  · have r1 := (areaReduce_range area A c rv false hA).2 rfl
    have r2 := (areaReduce_range area A c (!rv) false hA).2 rfl
    split_ifs with h
    · refine CongA.eq_of_unsigned hA ?_ r2 ⟨le_rfl, hA⟩
      simpa [h] using key false
    · have : 0 < areaReduce area A c rv false := lt_of_le_of_ne r1.1 (Ne.symm h)
      exact ((key false).trans ⟨-1, by push_cast; ring⟩).eq_of_unsigned hA r2 ⟨by linarith, by linarith⟩

/-- **flipping the traversal order** (raw sum negated, crossing parity kept) is the same as flipping `reverse` -/
theorem areaReduce_neg_area (area A : ℚ) (c c' : ℤ) (rv sg : Bool) (hA : 0 < A) (hc : c' % 2 = c % 2) :
    areaReduce (-area) A c' rv sg = areaReduce area A c (!rv) sg := by
  apply areaReduce_eq_of_cong hA
  rw [sgn_not, neg_mul, ← mul_neg]
  apply CongA.mul_sgn
  obtain ⟨j, hj⟩ : ∃ j, c' + c = 2 * j := ⟨(c' + c) / 2, by omega⟩
  have hj' : (c' : ℚ) = 2 * j - c := by exact_mod_cast eq_sub_of_add_eq hj
  exact ⟨j, by rw [hj']; ring⟩

abbrev Vertex := F64 × F64
/-- `(s12, S12)` of the inverse problem between two vertices -/
abbrev Backend := Vertex → Vertex → ℚ × ℚ

def step (B : Backend) (sp : State × Vertex) (q : Vertex) : State × Vertex :=
  (addPoint sp.1 q.1 q.2 (B sp.2 q).1 (B sp.2 q).2, q)

/-- `Clear(); AddPoint(v₀); …; AddPoint(vₙ₋₁); Compute(reverse, sign)` for a polygon (not polyline) -/
def polygon (B : Backend) (A : ℚ) (rv sg : Bool) : List Vertex → Result
  | [] => compute (init false) A rv sg 0 0
  | v :: r =>
    let sp := r.foldl (step B) (addPoint (init false) v.1 v.2 0 0, v)
    compute sp.1 A rv sg (B sp.2 v).1 (B sp.2 v).2

def path {α : Type} [AddCommMonoid α] (f : Vertex → Vertex → α) : Vertex → List Vertex → α
  | _, [] => 0
  | p, q :: r => f p q + path f q r

/-- cyclic sum of `f` over the edges of the closed polygon -/
def cyc {α : Type} [AddCommMonoid α] (f : Vertex → Vertex → α) : List Vertex → α
  | [] => 0
  | p :: r => path f p (r ++ [p])

theorem path_append {α : Type} [AddCommMonoid α] (f : Vertex → Vertex → α) (p q : Vertex) (l m : List Vertex) :
    path f p (l ++ q :: m) = path f p (l ++ [q]) + path f q m := by
  induction l generalizing p with
  | nil => simp [path]
  | cons a l ih => simp only [List.cons_append, path, ih, add_assoc]

theorem cyc_rotate_one {α : Type} [AddCommMonoid α] (f : Vertex → Vertex → α) (vs : List Vertex) :
    cyc f (vs.rotate 1) = cyc f vs := by
  match vs with
  | [] => simp
  | [p] => simp
  | p :: q :: r =>
    have : (p :: q :: r).rotate 1 = q :: (r ++ [p]) := by simp [List.rotate_cons_succ]
    rw [this]
    simp only [cyc, path, List.cons_append]
    rw [show r ++ [p] ++ [q] = r ++ p :: [q] by simp, path_append]
    simp only [path, add_zero]
    exact add_comm _ _

theorem cyc_rotate {α : Type} [AddCommMonoid α] (f : Vertex → Vertex → α) (vs : List Vertex) (n : ℕ) :
    cyc f (vs.rotate n) = cyc f vs := by
  induction n with
  | zero => simp
  | succ n ih => rw [← List.rotate_rotate, cyc_rotate_one, ih]

def fS (B : Backend) (p q : Vertex) : ℚ := (B p q).2
def fs (B : Backend) (p q : Vertex) : ℚ := (B p q).1
def fT (p q : Vertex) : ℤ := transit p.2 q.2

def lastV : Vertex → List Vertex → Vertex
  | p, [] => p
  | _, q :: r => lastV q r

theorem path_snoc {α : Type} [AddCommMonoid α] (f : Vertex → Vertex → α) (p x : Vertex) (r : List Vertex) :
    path f p (r ++ [x]) = path f p r + f (lastV p r) x := by
  induction r generalizing p with
  | nil => simp [path, lastV]
  | cons q r ih => simp only [List.cons_append, path, ih, lastV, add_assoc]

theorem cyc_cons {α : Type} [AddCommMonoid α] (f : Vertex → Vertex → α) (p : Vertex) (r : List Vertex) :
    cyc f (p :: r) = path f p r + f (lastV p r) p := path_snoc f p p r

theorem foldl_step_eq (B : Backend) (r : List Vertex) (st : State) (p : Vertex) (hn : st.num ≠ 0) (hp : st.polyline = false)
    (hl : (st.lat1, st.lon1) = p) :
    r.foldl (step B) (st, p) =
      ({ st with num := st.num + r.length, perimsum := st.perimsum + path (fs B) p r, areasum := st.areasum + path (fS B) p r,
                 crossings := st.crossings + path fT p r, lat1 := (lastV p r).1, lon1 := (lastV p r).2 }, lastV p r) := by
  induction r generalizing st p with
  | nil => subst hl; simp [path, lastV]
  | cons q r ih =>
    rw [List.foldl_cons, step, ih _ q (by simp [addPoint, hn]) (by simp [addPoint, hn, hp]) (by simp [addPoint, hn])]
    subst hl
    simp [addPoint, hn, hp, path, lastV, fs, fS, fT, add_assoc, Nat.add_comm]

/-- **closed form of a whole run**: vertex count, cyclic perimeter, and `AreaReduce` of the cyclic sums -/
theorem polygon_eq (B : Backend) (A : ℚ) (rv sg : Bool) (vs : List Vertex) (h : 2 ≤ vs.length) :
    polygon B A rv sg vs =
      ⟨vs.length, some (cyc (fs B) vs), some (some (areaReduce (cyc (fS B) vs) A (cyc fT vs) rv sg))⟩ := by
  match vs, h with
  | v :: w :: r, _ =>
    rw [polygon, foldl_step_eq B (w :: r) _ v (by simp [addPoint, init]) rfl rfl]
    simp only [cyc_cons]
    simp [compute, addPoint, init, fs, fS, fT, Nat.add_comm]

/-- **start independence**: the result of `Compute` does not depend on which vertex the polygon was started from -/
theorem start_independent (B : Backend) (A : ℚ) (rv sg : Bool) (vs : List Vertex) (n : ℕ) :
    polygon B A rv sg (vs.rotate n) = polygon B A rv sg vs := by
  by_cases h : 2 ≤ vs.length
  · rw [polygon_eq B A rv sg vs h, polygon_eq B A rv sg _ (by rw [List.length_rotate]; exact h)]
    simp only [cyc_rotate, List.length_rotate]
  · match vs, h with
    | [], _ => simp
    | [v], _ => simp
    | _ :: _ :: _, h => simp at h

theorem path_add {α : Type} [AddCommMonoid α] (f g : Vertex → Vertex → α) (p : Vertex) (r : List Vertex) :
    path (fun x y => f x y + g x y) p r = path f p r + path g p r := by
  induction r generalizing p with
  | nil => simp [path]
  | cons q r ih => simp only [path, ih]; exact add_add_add_comm _ _ _ _

theorem cyc_add {α : Type} [AddCommMonoid α] (f g : Vertex → Vertex → α) (vs : List Vertex) :
    cyc (fun x y => f x y + g x y) vs = cyc f vs + cyc g vs := by
  cases vs with
  | nil => simp [cyc]
  | cons p r => exact path_add f g p _

theorem path_reverse {α : Type} [AddCommMonoid α] (f : Vertex → Vertex → α) (p x : Vertex) (r : List Vertex) :
    path f x (r.reverse ++ [p]) = path (fun a b => f b a) p (r ++ [x]) := by
  induction r generalizing p with
  | nil => simp [path]
  | cons q r ih =>
    rw [List.reverse_cons, List.append_assoc, List.singleton_append, path_append, ih q]
    simp only [path, List.cons_append, add_zero]
    exact add_comm _ _

theorem cyc_reverse {α : Type} [AddCommMonoid α] (f : Vertex → Vertex → α) (vs : List Vertex) :
    cyc f vs.reverse = cyc (fun a b => f b a) vs := by
  cases vs with
  | nil => simp [cyc]
  | cons p r =>
    have h : (p :: r).reverse = (p :: r.reverse).rotate 1 := by simp [List.rotate_cons_succ]
    rw [h, cyc_rotate_one]
    exact path_reverse f p p r

theorem path_even (g : Vertex → Vertex → ℤ) (p : Vertex) (r : List Vertex)
    (h : ∀ x ∈ p :: r, ∀ y ∈ p :: r, g x y % 2 = 0) : path g p r % 2 = 0 := by
  induction r generalizing p with
  | nil => simp [path]
  | cons q r ih =>
    have h1 := h p (by simp) q (by simp)
    have h2 := ih q (fun x hx y hy => h x (List.mem_cons_of_mem _ hx) y (List.mem_cons_of_mem _ hy))
    simp only [path]; omega

theorem cyc_even (g : Vertex → Vertex → ℤ) (vs : List Vertex)
    (h : ∀ x ∈ vs, ∀ y ∈ vs, g x y % 2 = 0) : cyc g vs % 2 = 0 := by
  cases vs with
  | nil => simp [cyc]
  | cons p r =>
    have mem : ∀ x ∈ p :: (r ++ [p]), x ∈ p :: r := fun x hx => by
      simp only [List.mem_cons, List.mem_append] at hx ⊢; tauto
    exact path_even g p _ fun x hx y hy => h x (mem x hx) y (mem y hy)

theorem path_zero {α : Type} [AddCommMonoid α] (p : Vertex) (r : List Vertex) :
    path (fun _ _ => (0:α)) p r = 0 := by
  induction r generalizing p with
  | nil => simp [path]
  | cons q r ih => simp [path, ih]

/-- **flipping the traversal order** of a polygon: for a backend with symmetric distances and antisymmetric areas,
    and edges whose two directions have crossing counts of equal parity (true of `transitQ`: `transitQ_antisymm`),
    the raw sum is negated, the parity kept, and the result is that of the original order with `reverse` flipped -/
theorem reverse_traversal (B : Backend) (A : ℚ) (hA : 0 < A) (rv sg : Bool) (vs : List Vertex)
    (hs : ∀ p q, (B q p).1 = (B p q).1) (hS : ∀ p q, (B q p).2 = -(B p q).2)
    (hT : ∀ p ∈ vs, ∀ q ∈ vs, (transit q.2 p.2 + transit p.2 q.2) % 2 = 0) :
    cyc (fS B) vs.reverse = - cyc (fS B) vs ∧ cyc fT vs.reverse % 2 = cyc fT vs % 2 ∧
    polygon B A rv sg vs.reverse = polygon B A (!rv) sg vs := by
  have e1 : cyc (fs B) vs.reverse = cyc (fs B) vs := by
    rw [cyc_reverse]; congr 1; funext a b; exact hs a b
  have e2 : cyc (fS B) vs.reverse = - cyc (fS B) vs := by
    refine eq_neg_of_add_eq_zero_left ?_
    rw [cyc_reverse, ← cyc_add, show (fun x y => fS B y x + fS B x y) = fun _ _ => (0:ℚ) from
      funext₂ fun x y => by simp [fS, hS x y]]
    cases vs <;> simp [cyc, path_zero]
  have e3 : cyc fT vs.reverse % 2 = cyc fT vs % 2 := by
    have : (cyc fT vs.reverse + cyc fT vs) % 2 = 0 := by
      rw [cyc_reverse, ← cyc_add]
      exact cyc_even _ vs hT
    omega
  refine ⟨e2, e3, ?_⟩
  by_cases h : 2 ≤ vs.length
  · rw [polygon_eq B A (!rv) sg vs h, polygon_eq B A rv sg _ (by rw [List.length_reverse]; exact h)]
    rw [e1, e2, areaReduce_neg_area _ A _ _ rv sg hA e3, List.length_reverse]
  · match vs, h with
    | [], _ => simp [polygon, compute, init]
    | [v], _ => simp [polygon, compute, init, addPoint]
    | _ :: _ :: _, h => simp at h

theorem lastV_snoc (p x : Vertex) (r : List Vertex) : lastV p (r ++ [x]) = x := by
  induction r generalizing p with
  | nil => rfl
  | cons q r ih => exact ih q

/-- cutting the cycle `a, l₁, b, l₂` along `a b`: the two parts traverse the diagonal once in each direction -/
theorem cyc_cut {α : Type} [AddCommMonoid α] (f : Vertex → Vertex → α) (a b : Vertex) (l1 l2 : List Vertex) :
    cyc f (a :: l1 ++ [b]) + cyc f (b :: l2 ++ [a]) = cyc f (a :: l1 ++ b :: l2) + (f b a + f a b) := by
  have c3 : cyc f (a :: l1 ++ b :: l2) = path f a (l1 ++ [b]) + path f b (l2 ++ [a]) := by
    rw [List.cons_append, cyc, List.append_assoc, List.cons_append, path_append]
  rw [c3, List.cons_append, List.cons_append, cyc_cons, cyc_cons, lastV_snoc, lastV_snoc]
  exact add_add_add_comm _ _ _ _

/-- **cutting along a diagonal**: the polygon `a, l₁, b, l₂` is cut into `a, l₁, b` and `b, l₂, a`.  For a backend
    with antisymmetric areas (and a diagonal whose two directions have crossing counts of equal parity) the two areas
    add up to the area of the whole, modulo the area `A` of the ellipsoid -/
theorem cut_additive (B : Backend) (A : ℚ) (rv sg : Bool) (a b : Vertex) (l1 l2 : List Vertex)
    (hS : (B b a).2 = -(B a b).2) (hT : (transit b.2 a.2 + transit a.2 b.2) % 2 = 0) :
    ∃ r1 r2 r : ℚ,
      (polygon B A rv sg (a :: l1 ++ [b])).area = some (some r1) ∧
      (polygon B A rv sg (b :: l2 ++ [a])).area = some (some r2) ∧
      (polygon B A rv sg (a :: l1 ++ b :: l2)).area = some (some r) ∧
      CongA A (r1 + r2) r := by
  have g1 := polygon_eq B A rv sg (a :: l1 ++ [b]) (by simp)
  have g2 := polygon_eq B A rv sg (b :: l2 ++ [a]) (by simp)
  have g3 := polygon_eq B A rv sg (a :: l1 ++ b :: l2) (by simp; omega)
  refine ⟨_, _, _, by rw [g1], by rw [g2], by rw [g3], ?_⟩
  refine ((areaReduce_cong _ A _ rv sg).add (areaReduce_cong _ A _ rv sg)).trans
    (CongA.trans ?_ (areaReduce_cong _ A _ rv sg).symm)
  rw [← mul_add]
  apply CongA.mul_sgn
  -- the area terms of the diagonal cancel, its two crossing counts add up to an even number `2 j`
  have hq := cyc_cut (fS B) a b l1 l2
  rw [show fS B b a + fS B a b = 0 by simp [fS, hS], add_zero] at hq
  have hz := cyc_cut fT a b l1 l2
  obtain ⟨j, hj⟩ : ∃ j, fT b a + fT a b = 2 * j := ⟨(fT b a + fT a b) / 2, by simp only [fT]; omega⟩
  have hz' : ((cyc fT (a :: l1 ++ [b]) : ℤ) : ℚ) = cyc fT (a :: l1 ++ b :: l2) + 2 * j - cyc fT (b :: l2 ++ [a]) := by
    rw [hj] at hz; exact_mod_cast eq_sub_of_add_eq hz
  exact ⟨j, by rw [hz', ← hq]; ring⟩

/-- one edge under a relabelling of its end longitudes by whole turns: the signed difference moves by `ε` turns
    (`ε ≠ 0` only at a ±180° tie) and the crossing count by the same `ε` -/
theorem edge_relabel {d n1 n2 d' n1' n2' : ℚ} {k k' j1 j2 : ℤ} (e : Edge d n1 n2 k) (e' : Edge d' n1' n2' k')
    (h1 : n1' = n1 + 360 * (j1:ℚ)) (h2 : n2' = n2 + 360 * (j2:ℚ)) :
    ∃ ε : ℤ, d' = d + 360 * (ε:ℚ) ∧ transitQ d' n1' n2' = transitQ d n1 n2 + ε ∧
      (ε = 0 ∨ (ε = 1 ∧ d = -180 ∧ d' = 180) ∨ (ε = -1 ∧ d = 180 ∧ d' = -180)) := by
  have hd : d' = d + 360 * ((j2 - j1 + k' - k : ℤ):ℚ) := by have := e.hk; have := e'.hk; push_cast; linarith
  refine ⟨j2 - j1 + k' - k, hd, ?_, ?_⟩
  · rw [e.transit, e'.transit, h1, h2, floor_add_turns, floor_add_turns]; ring
  · generalize j2 - j1 + k' - k = ε at hd
    have c1 : ε ≤ 1 := by exact_mod_cast (by linarith [e.hd.1, e'.hd.2] : (ε:ℚ) ≤ 1)
    have c2 : -1 ≤ ε := by exact_mod_cast (by linarith [e.hd.2, e'.hd.1] : (-1:ℚ) ≤ ε)
    obtain rfl | rfl | rfl : ε = 0 ∨ ε = 1 ∨ ε = -1 := by omega
    · exact Or.inl rfl
    · push_cast at hd
      exact Or.inr (Or.inl ⟨rfl, by linarith [e.hd.1, e'.hd.2], by linarith [e.hd.1, e'.hd.2]⟩)
    · push_cast at hd
      exact Or.inr (Or.inr ⟨rfl, by linarith [e.hd.2, e'.hd.1], by linarith [e.hd.2, e'.hd.1]⟩)

/-- an edge as `PolygonArea` sees it: end latitudes, signed longitude difference, normalised end longitudes -/
structure REdge where
  φ1 : ℚ
  φ2 : ℚ
  d : ℚ
  n1 : ℚ
  n2 : ℚ
  k : ℤ

def REdge.ok (e : REdge) : Prop := Edge e.d e.n1 e.n2 e.k

/-- same latitudes, end longitudes moved by whole turns -/
def Relabel (e e' : REdge) : Prop :=
  e'.φ1 = e.φ1 ∧ e'.φ2 = e.φ2 ∧ (∃ j : ℤ, e'.n1 = e.n1 + 360 * (j:ℚ)) ∧ (∃ j : ℤ, e'.n2 = e.n2 + 360 * (j:ℚ))

/-- the raw area sum and the crossing count of a list of edges, for a backend `S φ₁ φ₂ lon12` -/
def rawArea (S : ℚ → ℚ → ℚ → ℚ) (es : List REdge) : ℚ := (es.map fun e => S e.φ1 e.φ2 e.d).sum
def crossings (es : List REdge) : ℤ := (es.map fun e => transitQ e.d e.n1 e.n2).sum

/-- **relabelling invariance of the pair (ΣS12, crossings)**: for a backend that sees the longitudes only through
    the signed `lon12` and satisfies the tie contract `S(φ₁, φ₂, +180) − S(φ₁, φ₂, −180) = A/2`, replacing any
    longitudes by themselves plus whole turns leaves `ΣS12 + crossings·A/2` unchanged modulo `A` … -/
theorem relabel_cong (S : ℚ → ℚ → ℚ → ℚ) (A : ℚ) (tie : ∀ φ1 φ2, S φ1 φ2 180 - S φ1 φ2 (-180) = A / 2)
    (es es' : List REdge) (h : List.Forall₂ Relabel es es') (hok : ∀ e ∈ es, e.ok) (hok' : ∀ e ∈ es', e.ok) :
    CongA A (rawArea S es' + crossings es' * (A / 2)) (rawArea S es + crossings es * (A / 2)) := by
  induction h with
  | nil => exact CongA.refl _ _
  | @cons e e' es es' hr _ ih =>
    obtain ⟨m, hm⟩ := ih (fun x hx => hok x (List.mem_cons_of_mem _ hx)) (fun x hx => hok' x (List.mem_cons_of_mem _ hx))
    obtain ⟨p1, p2, ⟨j1, q1⟩, ⟨j2, q2⟩⟩ := hr
    obtain ⟨ε, hd, ht, hε⟩ := edge_relabel (hok e (by simp)) (hok' e' (by simp)) q1 q2
    have hSS : S e'.φ1 e'.φ2 e'.d = S e.φ1 e.φ2 e.d + ε * (A / 2) := by
      rw [p1, p2]
      rcases hε with rfl | ⟨rfl, a, b⟩ | ⟨rfl, a, b⟩
      · rw [hd, Int.cast_zero, mul_zero, add_zero, zero_mul, add_zero]
      · rw [a, b, ← tie e.φ1 e.φ2]; push_cast; ring
      · rw [a, b, ← tie e.φ1 e.φ2]; push_cast; ring
    refine ⟨m + ε, ?_⟩
    simp only [rawArea, crossings, List.map_cons, List.sum_cons] at hm ⊢
    rw [hSS, ht]; simp only [Int.cast_add]; linear_combination hm

/-- … so the reduced area is unchanged (neither `ΣS12` nor the crossing parity is
    invariant on its own when an edge spans exactly 180°: the theorem is about the pair) -/
theorem area_relabel_invariant (S : ℚ → ℚ → ℚ → ℚ) (A : ℚ) (hA : 0 < A)
    (tie : ∀ φ1 φ2, S φ1 φ2 180 - S φ1 φ2 (-180) = A / 2)
    (es es' : List REdge) (h : List.Forall₂ Relabel es es') (hok : ∀ e ∈ es, e.ok) (hok' : ∀ e ∈ es', e.ok)
    (rv sg : Bool) :
    areaReduce (rawArea S es') A (crossings es') rv sg = areaReduce (rawArea S es) A (crossings es) rv sg :=
  areaReduce_eq_of_cong hA sg (CongA.mul_sgn rv (relabel_cong S A tie es es' h hok hok'))

/-- non-vacuity, and the reason the theorem is about the pair: the meridional edge from (0°, 0°) to (10°, 180°)
    relabelled as ending at −180°: `lon12` flips from +180 to −180, the crossing count from 0 to −1 -/
example : Relabel ⟨0, 10, 180, 0, 180, 0⟩ ⟨0, 10, -180, 0, -180, 0⟩ ∧
    REdge.ok ⟨0, 10, 180, 0, 180, 0⟩ ∧ REdge.ok ⟨0, 10, -180, 0, -180, 0⟩ ∧
    transitQ 180 0 180 = 0 ∧ transitQ (-180) 0 (-180) = -1 := by
  refine ⟨⟨rfl, rfl, ⟨0, by norm_num⟩, ⟨-1, by norm_num⟩⟩, ⟨by norm_num, by norm_num, by norm_num, by norm_num⟩,
    ⟨by norm_num, by norm_num, by norm_num, by norm_num⟩, by decide +kernel, by decide +kernel⟩

/-- a backend satisfying the tie contract that is not constant: `S = lon12·A/720 + φ₁φ₂·lon12²…` -/
example (A : ℚ) : ∀ φ1 φ2 : ℚ, (fun φ1 φ2 d : ℚ => d * (A / 720) + φ1 * φ2 * d ^ 2) φ1 φ2 180
      - (fun φ1 φ2 d : ℚ => d * (A / 720) + φ1 * φ2 * d ^ 2) φ1 φ2 (-180) = A / 2 := by
  intro φ1 φ2; ring

/-- the edges of a closed polygon: each ends (normalised longitude) where the next begins -/
def Cyclic (es : List REdge) : Prop := es.map (·.n2) = (es.map (·.n1)).rotate 1

/-- around a closed polygon the crossings count the whole turns swept: `360 · Σ transit = Σ lon12` -/
theorem crossings_swept (es : List REdge) (hc : Cyclic es) (hok : ∀ e ∈ es, e.ok) :
    360 * (crossings es : ℚ) = (es.map (·.d)).sum := by
  have hcr : crossings es = (es.map (·.k)).sum := by
    rw [crossings, sum_transit REdge.d REdge.n1 REdge.n2 REdge.k es hok, sum_ends_eq_sum_starts _ _ (⌊· / 360⌋) es hc]; ring
  have hsum : (es.map (·.n1)).sum + (es.map (·.d)).sum = (es.map (·.n2)).sum + 360 * ((es.map (·.k)).sum : ℤ) := by
    clear hcr hc
    induction es with
    | nil => simp
    | cons e es ih =>
      have := ih (fun x hx => hok x (List.mem_cons_of_mem _ hx))
      have hk := (hok e (by simp)).hk
      simp only [List.map_cons, List.sum_cons]; push_cast at this ⊢; linarith
  have hn : (es.map (·.n2)).sum = (es.map (·.n1)).sum := sum_ends_eq_sum_starts _ _ id es hc
  rw [hcr]; linarith

/-- **shift invariance**: two closed polygons with the same latitudes and the same signed longitude differences
    (e.g. all longitudes shifted by a constant that leaves every `AngDiff` unchanged) have the same reduced area,
    wherever the prime meridian falls -/
theorem area_shift_invariant (S : ℚ → ℚ → ℚ → ℚ) (A : ℚ) (es es' : List REdge)
    (h : List.Forall₂ (fun e e' : REdge => e'.φ1 = e.φ1 ∧ e'.φ2 = e.φ2 ∧ e'.d = e.d) es es')
    (hc : Cyclic es) (hc' : Cyclic es') (hok : ∀ e ∈ es, e.ok) (hok' : ∀ e ∈ es', e.ok) (rv sg : Bool) :
    areaReduce (rawArea S es') A (crossings es') rv sg = areaReduce (rawArea S es) A (crossings es) rv sg := by
  have h1 : rawArea S es' = rawArea S es ∧ (es'.map (·.d)).sum = (es.map (·.d)).sum := by
    clear hc hc' hok hok'
    induction h with
    | nil => exact ⟨rfl, rfl⟩
    | cons hr _ ih =>
      obtain ⟨a, b, c⟩ := hr
      simp only [rawArea, List.map_cons, List.sum_cons] at ih ⊢
      rw [a, b, c, ih.1, ih.2]; exact ⟨rfl, rfl⟩
  have h2 : crossings es' = crossings es := by
    exact_mod_cast mul_left_cancel₀ (by norm_num : (360:ℚ) ≠ 0)
      ((crossings_swept es' hc' hok').trans (h1.2.trans (crossings_swept es hc hok).symm))
  rw [h1.1, h2]

/-- non-vacuity: the triangle with longitudes −10, 100, 170 and the same triangle shifted by +30
    (170 + 30 = 200 is normalised to −160): all `lon12` are unchanged, both are closed chains -/
example : Cyclic [⟨0, 1, 110, -10, 100, 0⟩, ⟨1, 2, 70, 100, 170, 0⟩, ⟨2, 0, 180, 170, -10, 1⟩] ∧
    Cyclic [⟨0, 1, 110, 20, 130, 0⟩, ⟨1, 2, 70, 130, -160, 1⟩, ⟨2, 0, 180, -160, 20, 0⟩] ∧
    (∀ e ∈ [(⟨0, 1, 110, -10, 100, 0⟩ : REdge), ⟨1, 2, 70, 100, 170, 0⟩, ⟨2, 0, 180, 170, -10, 1⟩], e.ok) ∧
    (∀ e ∈ [(⟨0, 1, 110, 20, 130, 0⟩ : REdge), ⟨1, 2, 70, 130, -160, 1⟩, ⟨2, 0, 180, -160, 20, 0⟩], e.ok) := by
  refine ⟨by simp [Cyclic], by simp [Cyclic], ?_, ?_⟩ <;>
  · intro e he
    simp only [List.mem_cons, List.not_mem_nil, or_false] at he
    rcases he with rfl | rfl | rfl <;> exact ⟨by norm_num, by norm_num, by norm_num, by norm_num⟩

/-- a toy backend with symmetric distances and antisymmetric areas -/
def toyB : Backend := fun p q => ((toRat p.2 - toRat q.2) ^ 2, toRat q.2 - toRat p.2)

def vA : Vertex := (F64.ofInt 0, F64.ofInt (-10))
def vB : Vertex := (F64.ofInt 40, F64.ofInt 100)
def vC : Vertex := (F64.ofInt 10, F64.ofInt 170)
def vD : Vertex := (F64.ofInt (-20), F64.ofInt (-120))

example : (∀ p q, (toyB q p).1 = (toyB p q).1) ∧ (∀ p q, (toyB q p).2 = -(toyB p q).2) :=
  ⟨fun p q => by simp only [toyB]; ring, fun p q => by simp only [toyB]; ring⟩
/-- every pair of these vertices (so every edge and every diagonal) has crossing counts of equal parity in its two
    directions; the polygon goes once round the pole (one net crossing of the prime meridian) -/
example : ∀ p ∈ [vA, vB, vC, vD], ∀ q ∈ [vA, vB, vC, vD], (transit q.2 p.2 + transit p.2 q.2) % 2 = 0 := by
  decide +kernel
example : cyc fT [vA, vB, vC, vD] = 1 := by decide +kernel

/-- **edit-history independence, exact-sum model**: after *any* history the state — `_num`, `_crossings`, the two
    sums, `_lat0, _lon0, _lat1, _lon1`, the mode — is the state reached by the `Add*` operations after the last `Clear`
    alone; `TestPoint`, `TestEdge`, `Compute` and everything before the last `Clear` leave no trace -/
theorem history_independent (B : Polygon.Backend) (A : ℚ) (pl : Bool) (ops : List Op) :
    run B A (init pl) ops = run B A (init pl) (effective ops) := by
  unfold run
  exact foldl_effective (fun s op => (exec B A s op).1) (fun s => s.polyline = pl) (init pl) rfl
    (fun s op h => by rw [exec_polyline]; exact h) (fun s h => by simp [exec, clear, h])
    (fun s op => exec_observer B A s op) ops

/-- **edit-history independence for the concrete record** (`PolygonF.StateF`: `_num`, `_crossings`, both words of `_areasum` and of
    `_perimetersum`, `_lat0, _lon0, _lat1, _lon1`, `_polyline`, every operation as the code's sequence of binary64
    operations): the same statement, bit for bit -/
theorem history_independent_record (B : Polygon.Backend) (A : F64) (pl : Bool) (ops : List Op) :
    PolygonF.run B A (PolygonF.init pl) ops = PolygonF.run B A (PolygonF.init pl) (effective ops) := by
  unfold PolygonF.run
  exact foldl_effective (fun s op => (PolygonF.exec B A s op).1) (fun s => s.polyline = pl) (PolygonF.init pl) rfl
    (fun s op h => by rw [execF_polyline]; exact h) (fun s h => by simp [PolygonF.exec, PolygonF.clear, h])
    (fun s op => execF_observer B A s op) ops

/-- **clearing restores the empty state**, after any history whatever -/
theorem clear_after_any_history (B : Polygon.Backend) (A : ℚ) (pl : Bool) (ops : List Op) :
    run B A (init pl) (ops ++ [Op.clear]) = init pl := by
  rw [history_independent, effective_append_clear]; rfl

theorem clear_after_any_history_record (B : Polygon.Backend) (A : F64) (pl : Bool) (ops : List Op) :
    PolygonF.run B A (PolygonF.init pl) (ops ++ [Op.clear]) = PolygonF.init pl := by
  rw [history_independent_record, effective_append_clear]; rfl

/-- the queries are observers: whatever was asked before, a query returns what it returns on the object built by the
    effective `Add*` operations alone -/
theorem query_after_history (B : Polygon.Backend) (A : ℚ) (pl : Bool) (pre post : List Op) (q : Op) :
    (trace B A (init pl) (pre ++ q :: post))[pre.length]? = some (exec B A (run B A (init pl) (effective pre)) q) := by
  rw [trace_append, List.getElem?_append_right (by rw [trace_length]), trace_length, Nat.sub_self,
    ← history_independent]
  rfl

/-- non-vacuity / what `effective` is on a concrete history: two vertices, a query, `Clear`, an ignored edge, a vertex,
    a query, an edge -/
example (a b c d : F64) : effective [.addPoint a b, .addPoint c d, .compute true false, .clear, .addEdge a b,
      .addPoint c d, .testPoint a b false true, .addEdge c d]
    = [.addEdge a b, .addPoint c d, .addEdge c d] := rfl

/-- the discrete part of the record — count, crossing counter, the four coordinates, the mode — is the same in the
    bit-level record and in the exact-sum model, for every history and every solver (the two differ only in how the
    sums are held) -/
structure SameDiscrete (st : State) (sf : PolygonF.StateF) : Prop where
  num : st.num = sf.num
  cross : st.crossings = sf.crossings
  lat0 : st.lat0 = sf.lat0
  lon0 : st.lon0 = sf.lon0
  lat1 : st.lat1 = sf.lat1
  lon1 : st.lon1 = sf.lon1
  poly : st.polyline = sf.polyline

theorem sameDiscrete_init (pl : Bool) : SameDiscrete (init pl) (PolygonF.init pl) := ⟨rfl, rfl, rfl, rfl, rfl, rfl, rfl⟩

theorem record_discrete_agrees (B : Polygon.Backend) (A : ℚ) (AF : F64) (ops : List Op) (st : State) (sf : PolygonF.StateF)
    (h : SameDiscrete st sf) : SameDiscrete (run B A st ops) (PolygonF.run B AF sf ops) := by
  induction ops generalizing st sf with
  | nil => exact h
  | cons op r ih =>
    refine ih _ _ ?_
    have ⟨h1, h2, h3, h4, h5, h6, h7⟩ := h
    cases op with
    | clear => simp only [exec, PolygonF.exec, clear, PolygonF.clear, h7]; exact sameDiscrete_init _
    | addPoint lat lon =>
      by_cases h0 : sf.num = 0
      · simp only [exec, PolygonF.exec, addPoint, PolygonF.addPoint, h1, h0, if_true]
        exact ⟨rfl, h2, rfl, rfl, rfl, rfl, h7⟩
      · simp only [exec, PolygonF.exec, addPoint, PolygonF.addPoint, h1, h0, if_false, h2, h6, h7]
        exact ⟨rfl, rfl, h3, h4, rfl, rfl, rfl⟩
    | addEdge azi s =>
      by_cases h0 : sf.num = 0
      · simp only [exec, PolygonF.exec, addEdge, PolygonF.addEdge, h1, h0, if_true]
        exact ⟨h1, h2, h3, h4, h5, h6, h7⟩
      · simp only [exec, PolygonF.exec, addEdge, PolygonF.addEdge, h1, h0, if_false, h2, h5, h6, h7]
        exact ⟨rfl, rfl, h3, h4, rfl, rfl, rfl⟩
    | _ => exact h

/-- **polyline mode for the concrete record**: whatever the history, both words of `_areasum` of a polyline stay `+0` and
    `_crossings` stays 0 -/
theorem polyline_never_touches_area_record (B : Polygon.Backend) (A : F64) (ops : List Op) :
    (PolygonF.run B A (PolygonF.init true) ops).areasum = Accum.set 0 ∧
    (PolygonF.run B A (PolygonF.init true) ops).crossings = 0 ∧
    (PolygonF.run B A (PolygonF.init true) ops).polyline = true := by
  suffices key : ∀ st : PolygonF.StateF, st.areasum = Accum.set 0 ∧ st.crossings = 0 ∧ st.polyline = true →
      (PolygonF.run B A st ops).areasum = Accum.set 0 ∧ (PolygonF.run B A st ops).crossings = 0 ∧
      (PolygonF.run B A st ops).polyline = true from key _ ⟨rfl, rfl, rfl⟩
  induction ops with
  | nil => exact fun st h => h
  | cons op r ih =>
    intro st ⟨h1, h2, h3⟩
    refine ih _ ?_
    cases op with
    | clear => exact ⟨rfl, rfl, h3⟩
    | addPoint lat lon => simp only [PolygonF.exec, PolygonF.addPoint, h3, if_true]; split_ifs <;> exact ⟨h1, h2, rfl⟩
    | addEdge azi s =>
      simp only [PolygonF.exec, PolygonF.addEdge, h3, if_true]
      split_ifs
      · exact ⟨h1, h2, h3⟩
      · exact ⟨h1, h2, rfl⟩
    | _ => exact ⟨h1, h2, h3⟩

/-- the number of vertices of the polygon a history describes: `Clear` starts again, every point counts, an edge counts
    once there is a point to start from (documented: `AddEdge` "does nothing if no points have been added yet") -/
def countV : List Op → ℕ → ℕ
  | [], n => n
  | .clear :: r, _ => countV r 0
  | .addPoint .. :: r, n => countV r (n + 1)
  | .addEdge .. :: r, n => countV r (if n = 0 then 0 else n + 1)
  | _ :: r, n => countV r n

theorem num_eq_count (B : Polygon.Backend) (A : ℚ) (st : State) (ops : List Op) : (run B A st ops).num = countV ops st.num := by
  induction ops generalizing st with
  | nil => rfl
  | cons op ops ih =>
    rw [run_cons, ih]
    cases op with
    | addPoint lat lon => by_cases h0 : st.num = 0 <;> simp [countV, exec, addPoint, h0]
    | addEdge azi s => by_cases h0 : st.num = 0 <;> simp [countV, exec, addEdge, h0]
    | _ => rfl

/-- the count a query reports, as a function of the number of vertices `n` of the polygon so far -/
def countOf (q : Op) (n : ℕ) : ℕ :=
  match q with
  | .testPoint .. => n + 1
  | .testEdge .. => if n = 0 then 0 else n + 1
  | _ => n

theorem exec_result_num (B : Polygon.Backend) (A : ℚ) (st : State) (q : Op) (res : Result)
    (h : (exec B A st q).2 = some res) : res.num = countOf q st.num := by
  cases q with
  | compute rv sg => obtain rfl := Option.some.inj h; exact compute_num ..
  | testPoint lat lon rv sg => obtain rfl := Option.some.inj h; exact testPoint_num ..
  | testEdge azi s rv sg => obtain rfl := Option.some.inj h; exact testEdge_num ..
  | _ => simp [exec] at h

theorem execF_result_num (B : Polygon.Backend) (A : F64) (st : PolygonF.StateF) (q : Op) (res : PolygonF.ResultF)
    (h : (PolygonF.exec B A st q).2 = some res) : res.num = countOf q st.num := by
  cases q with
  | compute rv sg => obtain rfl := Option.some.inj h; exact computeF_num ..
  | testPoint lat lon rv sg => obtain rfl := Option.some.inj h; exact testPointF_num ..
  | testEdge azi s rv sg => obtain rfl := Option.some.inj h; exact testEdgeF_num ..
  | _ => simp [PolygonF.exec] at h

/-- for every history `pre`, every query `q` issued after it returns the number of vertices of the polygon
    described by `pre` (`+ 1` for the tentative vertex of `TestPoint` / `TestEdge`; `TestEdge` without a starting point
    returns 0) -/
theorem count_returned (B : Polygon.Backend) (A : ℚ) (pl : Bool) (pre : List Op) (q : Op) (res : Result)
    (h : (exec B A (run B A (init pl) pre) q).2 = some res) : res.num = countOf q (countV pre 0) := by
  rw [exec_result_num B A _ q res h, num_eq_count]; rfl

/-- the same for the bit-level record -/
theorem count_returned_record (B : Polygon.Backend) (A : F64) (pl : Bool) (pre : List Op) (q : Op) (res : PolygonF.ResultF)
    (h : (PolygonF.exec B A (PolygonF.run B A (PolygonF.init pl) pre) q).2 = some res) : res.num = countOf q (countV pre 0) := by
  rw [execF_result_num B A _ q res h, ← (record_discrete_agrees B 0 A pre _ _ (sameDiscrete_init pl)).num, num_eq_count]; rfl

/-- what `countV` counts: a first point followed by `m` further `Add*` operations gives `m + 1` vertices;
    edges before the first point are ignored -/
theorem countV_adds (r : List Op) (n : ℕ) (hn : n ≠ 0) (ha : ∀ op ∈ r, op.isAdd = true) : countV r n = n + r.length := by
  induction r generalizing n with
  | nil => rfl
  | cons op r ih =>
    have ih' := fun n hn => ih n hn fun o ho => ha o (List.mem_cons_of_mem _ ho)
    cases op with
    | addPoint => rw [countV, ih' _ (Nat.succ_ne_zero n), List.length_cons]; omega
    | addEdge => rw [countV, if_neg hn, ih' _ (Nat.succ_ne_zero n), List.length_cons]; omega
    | _ => exact absurd (ha _ List.mem_cons_self) Bool.false_ne_true

theorem countV_edge_first (r : List Op) (azi s : F64) : countV (.addEdge azi s :: r) 0 = countV r 0 := rfl

/-- one edge as the bookkeeping sees it: length, area term, crossing count -/
structure EdgeRec where
  s : ℚ
  S : ℚ
  cross : ℤ

/-- the edges laid down by the `Add*` operations of a history (no `Clear`), `cur` = the current vertex if there is one:
    a point after the first one is joined to its predecessor by the solver's inverse problem (crossings by `transit`), an
    edge goes where the solver's direct problem says (crossings by `transitdirect`), an edge before the first point is
    ignored -/
def edgesOf (B : Polygon.Backend) : Option Vertex → List Op → List EdgeRec
  | _, [] => []
  | none, .addPoint lat lon :: r => edgesOf B (some (lat, lon)) r
  | some p, .addPoint lat lon :: r =>
      ⟨toRat (B.inverse p.1 p.2 lat lon).1, toRat (B.inverse p.1 p.2 lat lon).2, transit p.2 lon⟩ :: edgesOf B (some (lat, lon)) r
  | none, .addEdge _ _ :: r => edgesOf B none r
  | some p, .addEdge azi s :: r =>
      ⟨toRat s, toRat (B.direct p.1 p.2 azi s).2.2, transitdirect p.2 (B.direct p.1 p.2 azi s).2.1⟩ ::
        edgesOf B (some ((B.direct p.1 p.2 azi s).1, (B.direct p.1 p.2 azi s).2.1)) r
  | c, .clear :: r => edgesOf B c r
  | c, .compute .. :: r => edgesOf B c r
  | c, .testPoint .. :: r => edgesOf B c r
  | c, .testEdge .. :: r => edgesOf B c r

def curOf (st : State) : Option Vertex := if st.num = 0 then none else some (st.lat1, st.lon1)

theorem curOf_addPoint (st : State) (lat lon : F64) (s S : ℚ) : curOf (addPoint st lat lon s S) = some (lat, lon) := by
  by_cases h0 : st.num = 0 <;> simp [addPoint, curOf, h0]

theorem run_closed_form (B : Polygon.Backend) (A : ℚ) (ops : List Op) (hc : ∀ op ∈ ops, op.isClear = false) (st : State) :
    (run B A st ops).perimsum = st.perimsum + ((edgesOf B (curOf st) ops).map (·.s)).sum ∧
    (run B A st ops).areasum = st.areasum + (if st.polyline then 0 else ((edgesOf B (curOf st) ops).map (·.S)).sum) ∧
    (run B A st ops).crossings = st.crossings + (if st.polyline then 0 else ((edgesOf B (curOf st) ops).map (·.cross)).sum) ∧
    (run B A st ops).polyline = st.polyline := by
  induction ops generalizing st with
  | nil => simp [run, edgesOf]
  | cons op r ih =>
    have hr := fun st => ih (fun o ho => hc o (List.mem_cons_of_mem _ ho)) st
    have hop := hc op (by simp)
    rw [run_cons]
    obtain ⟨h1, h2, h3, h4⟩ := hr (exec B A st op).1
    rw [h1, h2, h3, h4]
    cases op with
    | clear => simp [Op.isClear] at hop
    | addPoint lat lon =>
      by_cases h0 : st.num = 0
      · simp [exec, addPoint, h0, curOf, edgesOf]
      · cases hp : st.polyline <;> simp [exec, addPoint, h0, curOf, edgesOf, hp, add_assoc]
    | addEdge azi s =>
      by_cases h0 : st.num = 0
      · simp [exec, addEdge, h0, curOf, edgesOf]
      · cases hp : st.polyline <;> simp [exec, addEdge, h0, curOf, edgesOf, hp, add_assoc]
    | _ => simp only [exec, edgesOf]; exact ⟨trivial, rfl, rfl, trivial⟩

def historyEdges (B : Polygon.Backend) (ops : List Op) : List EdgeRec := edgesOf B none (effective ops)

/-- sums of an arbitrary history (polygon mode): length, area term and crossing count of every edge laid down since the
    last `Clear`, whatever was queried in between -/
theorem sums_of_history (B : Polygon.Backend) (A : ℚ) (pl : Bool) (ops : List Op) :
    (run B A (init pl) ops).perimsum = ((historyEdges B ops).map (·.s)).sum ∧
    (run B A (init pl) ops).areasum = (if pl then 0 else ((historyEdges B ops).map (·.S)).sum) ∧
    (run B A (init pl) ops).crossings = (if pl then 0 else ((historyEdges B ops).map (·.cross)).sum) ∧
    (run B A (init pl) ops).polyline = pl ∧
    (run B A (init pl) ops).num = countV ops 0 := by
  have hc := run_closed_form B A (effective ops) (effective_no_clear_mem ops) (init pl)
  rw [← history_independent] at hc
  obtain ⟨h1, h2, h3, h4⟩ := hc
  refine ⟨?_, ?_, ?_, h4, num_eq_count B A (init pl) ops⟩
  · rw [h1]; simp [init, curOf, historyEdges]
  · rw [h2]; simp [init, curOf, historyEdges]
  · rw [h3]; simp [init, curOf, historyEdges]

/-- **polyline mode, state**: whatever the history, a polyline never touches the area sum or the crossing counter -/
theorem polyline_never_touches_area (B : Polygon.Backend) (A : ℚ) (ops : List Op) :
    (run B A (init true) ops).areasum = 0 ∧ (run B A (init true) ops).crossings = 0 := by
  obtain ⟨_, h2, h3, _, _⟩ := sums_of_history B A true ops
  exact ⟨by simpa using h2, by simpa using h3⟩

/-- **polyline mode, `Compute`**: after any history `Compute` returns the number of vertices and the sum of the lengths
    of the edges laid down since the last `Clear` (the path is not closed) and does not write the area -/
theorem polyline_compute (B : Polygon.Backend) (A : ℚ) (ops : List Op) (rv sg : Bool) :
    (exec B A (run B A (init true) ops) (.compute rv sg)).2 =
      some ⟨countV ops 0, some ((historyEdges B ops).map (·.s)).sum, none⟩ := by
  obtain ⟨h1, _, _, h4, h5⟩ := sums_of_history B A true ops
  have hf := fresh_run B A ops (init true) (fresh_init true)
  simp only [exec, compute, h4, if_true]
  split_ifs with hlt
  · have := (hf hlt).1
    rw [← h1, this, h5]
  · rw [h1, h5]

/-- **polygon mode for comparison, `Compute`**: the perimeter is the sum of the edge lengths plus the closing edge, the
    area is `AreaReduce` of the sum of the area terms plus the closing edge's, with all the crossings -/
theorem polygon_compute (B : Polygon.Backend) (A : ℚ) (ops : List Op) (rv sg : Bool) (h2 : 2 ≤ countV ops 0) :
    let st := run B A (init false) ops
    let k := B.inverse st.lat1 st.lon1 st.lat0 st.lon0
    (exec B A st (.compute rv sg)).2 =
      some ⟨countV ops 0, some (((historyEdges B ops).map (·.s)).sum + toRat k.1),
        some (some (areaReduce (((historyEdges B ops).map (·.S)).sum + toRat k.2) A
          (((historyEdges B ops).map (·.cross)).sum + transit st.lon1 st.lon0) rv sg))⟩ := by
  intro st k
  obtain ⟨h1, h2', h3, h4, h5⟩ := sums_of_history B A false ops
  have hn : ¬ st.num < 2 := by show ¬ (run B A (init false) ops).num < 2; rw [h5]; omega
  simp only [exec, compute, hn, if_false]
  have hp : st.polyline = false := h4
  simp only [hp, Bool.false_eq_true, if_false]
  show some (Result.mk (run B A (init false) ops).num _ _) = _
  rw [h5, h1, h2', h3]; simp only [Bool.false_eq_true, if_false]; rfl

/-- **polyline mode, dataflow**: in polyline mode nothing that is returned or stored depends on the solver's area output `S12` (nor on
    the second inverse problem of `TestPoint`): two solvers that agree on distances and positions give identical traces -/
theorem polyline_S12_irrelevant (B B' : Polygon.Backend) (A : ℚ)
    (hinv : ∀ a b c d, (B.inverse a b c d).1 = (B'.inverse a b c d).1)
    (hdir : ∀ a b c d, (B.direct a b c d).1 = (B'.direct a b c d).1 ∧ (B.direct a b c d).2.1 = (B'.direct a b c d).2.1)
    (ops : List Op) (st : State) (hp : st.polyline = true) :
    trace B A st ops = trace B' A st ops := by
  induction ops generalizing st with
  | nil => rfl
  | cons op r ih =>
    have he : exec B A st op = exec B' A st op := by
      cases op with
      | clear => rfl
      | addPoint lat lon => simp [exec, addPoint, hp, hinv]
      | addEdge azi s => simp [exec, addEdge, hp, (hdir _ _ _ _).1, (hdir _ _ _ _).2]
      | compute rv sg => simp [exec, compute, hp]
      | testPoint lat lon rv sg => simp [exec, testPoint, hp, hinv]
      | testEdge azi s rv sg => simp [exec, testEdge, hp]
    simp only [trace, he]
    rw [ih _ (by rw [exec_polyline]; exact hp)]

/-- every query on a polyline leaves the area reference unwritten -/
theorem polyline_results (B : Polygon.Backend) (A : ℚ) (pre : List Op) (q : Op) (res : Result)
    (h : (exec B A (run B A (init true) pre) q).2 = some res) : res.area = none := by
  have hp : (run B A (init true) pre).polyline = true := (sums_of_history B A true pre).2.2.2.1
  generalize run B A (init true) pre = st at h hp
  cases q with
  | compute rv sg => obtain rfl := Option.some.inj h; exact polyline_no_area _ A rv sg _ _ hp
  | testPoint lat lon rv sg => obtain rfl := Option.some.inj h; exact testPoint_polyline _ A lon rv sg _ _ hp
  | testEdge azi s rv sg => obtain rfl := Option.some.inj h; exact testEdge_polyline _ A _ _ _ rv sg _ hp
  | _ => simp [exec] at h

/-- `AreaReduce` sees the crossing count only through its parity -/
theorem areaReduce_parity (area A : ℚ) (c c' : ℤ) (h : c % 2 = c' % 2) (rv sg : Bool) :
    areaReduce area A c rv sg = areaReduce area A c' rv sg := by
  unfold areaReduce; rw [h]

/-- two objects that differ at most in the value (not the parity) of the crossing counter -/
structure Sim (a b : State) : Prop where
  num : a.num = b.num
  cross : a.crossings % 2 = b.crossings % 2
  area : a.areasum = b.areasum
  perim : a.perimsum = b.perimsum
  lat0 : a.lat0 = b.lat0
  lon0 : a.lon0 = b.lon0
  lat1 : a.lat1 = b.lat1
  lon1 : a.lon1 = b.lon1
  poly : a.polyline = b.polyline

theorem Sim.refl (a : State) : Sim a a := ⟨rfl, rfl, rfl, rfl, rfl, rfl, rfl, rfl, rfl⟩

/-- such objects answer every query identically … -/
theorem sim_query (B : Polygon.Backend) (A : ℚ) {a b : State} (h : Sim a b) (q : Op) : (exec B A a q).2 = (exec B A b q).2 := by
  obtain ⟨h1, h2, h3, h4, h5, h6, h7, h8, h9⟩ := h
  replace h2 : a.crossings ≡ b.crossings [ZMOD 2] := h2
  cases q with
  | compute rv sg =>
    simp only [exec, compute, h1, h3, h4, h5, h6, h7, h8, h9]
    rw [areaReduce_parity _ A _ _ (h2.add_right _)]
  | testPoint lat lon rv sg =>
    simp only [exec, testPoint, h1, h3, h4, h5, h6, h7, h8, h9]
    rw [areaReduce_parity _ A _ _ ((h2.add_right _).add_right _)]
  | testEdge azi s rv sg =>
    simp only [exec, testEdge, h1, h3, h4, h5, h6, h7, h8, h9]
    rw [areaReduce_parity _ A _ _ ((h2.add_right _).add_right _)]
  | _ => rfl

theorem crossings_step (pl : Bool) {c c' t t' : ℤ} (h : c % 2 = c' % 2) (ht : t % 2 = t' % 2) :
    (if pl then c else c + t) % 2 = (if pl then c' else c' + t') % 2 := by
  cases pl
  · exact Int.ModEq.add h ht
  · exact h

/-- … and stay so under every operation -/
theorem sim_exec (B : Polygon.Backend) (A : ℚ) {a b : State} (h : Sim a b) (op : Op) : Sim (exec B A a op).1 (exec B A b op).1 := by
  have ⟨h1, h2, h3, h4, h5, h6, h7, h8, h9⟩ := h
  cases op with
  | clear => simp only [exec, clear, h9]; exact Sim.refl _
  | addPoint lat lon =>
    by_cases h0 : b.num = 0
    · simp only [exec, addPoint, h1, h0, if_true]
      exact ⟨rfl, h2, h3, h4, rfl, rfl, rfl, rfl, h9⟩
    · simp only [exec, addPoint, h1, h0, if_false, h3, h4, h7, h8, h9]
      exact ⟨rfl, crossings_step _ h2 rfl, rfl, rfl, h5, h6, rfl, rfl, rfl⟩
  | addEdge azi s =>
    by_cases h0 : b.num = 0
    · simp only [exec, addEdge, h1, h0, if_true]
      exact ⟨h1, h2, h3, h4, h5, h6, h7, h8, h9⟩
    · simp only [exec, addEdge, h1, h0, if_false, h3, h4, h7, h8, h9]
      exact ⟨rfl, crossings_step _ h2 rfl, rfl, rfl, h5, h6, rfl, rfl, rfl⟩
  | _ => exact h

/-- the solver contract for one edge: the inverse problem between the start `p` of the edge and the end its direct problem
    returns gives back the edge (same length, same area term), and the two crossing counters agree in parity
    (`transitdirect_transit_parity` below: true whenever the end longitude is the start longitude plus `AngDiff`) -/
def Consistent (B : Polygon.Backend) (p : Vertex) (azi s : F64) : Prop :=
  toRat (B.inverse p.1 p.2 (B.direct p.1 p.2 azi s).1 (B.direct p.1 p.2 azi s).2.1).1 = toRat s ∧
  toRat (B.inverse p.1 p.2 (B.direct p.1 p.2 azi s).1 (B.direct p.1 p.2 azi s).2.1).2 = toRat (B.direct p.1 p.2 azi s).2.2 ∧
  (transitdirect p.2 (B.direct p.1 p.2 azi s).2.1 - transit p.2 (B.direct p.1 p.2 azi s).2.1) % 2 = 0

theorem sim_edge_point (B : Polygon.Backend) (A : ℚ) {a b : State} (h : Sim a b) (azi s : F64)
    (hc : b.num ≠ 0 → Consistent B (b.lat1, b.lon1) azi s) :
    Sim (exec B A a (.addEdge azi s)).1
      (if b.num = 0 then b else (exec B A b (.addPoint (B.direct b.lat1 b.lon1 azi s).1 (B.direct b.lat1 b.lon1 azi s).2.1)).1) := by
  obtain ⟨h1, h2, h3, h4, h5, h6, h7, h8, h9⟩ := h
  by_cases h0 : b.num = 0
  · simp only [exec, addEdge, h1, h0, if_true]
    exact ⟨h1, h2, h3, h4, h5, h6, h7, h8, h9⟩
  · obtain ⟨c1, c2, c3⟩ := hc h0
    simp only [exec, addEdge, addPoint, h1, h0, if_false, h3, h4, h7, h8, h9, c1, c2]
    exact ⟨rfl, crossings_step _ h2 (Int.emod_eq_emod_iff_emod_sub_eq_zero.mpr c3), rfl, rfl, h5, h6, rfl, rfl, rfl⟩

/-- the history in which every edge has been replaced by the point it leads to (`cur` = the current vertex) -/
def pointsFor (B : Polygon.Backend) : Option Vertex → List Op → List Op
  | _, [] => []
  | _, .clear :: r => .clear :: pointsFor B none r
  | _, .addPoint lat lon :: r => .addPoint lat lon :: pointsFor B (some (lat, lon)) r
  | none, .addEdge _ _ :: r => pointsFor B none r
  | some p, .addEdge azi s :: r =>
      .addPoint (B.direct p.1 p.2 azi s).1 (B.direct p.1 p.2 azi s).2.1 ::
        pointsFor B (some ((B.direct p.1 p.2 azi s).1, (B.direct p.1 p.2 azi s).2.1)) r
  | c, .compute rv sg :: r => .compute rv sg :: pointsFor B c r
  | c, .testPoint lat lon rv sg :: r => .testPoint lat lon rv sg :: pointsFor B c r
  | c, .testEdge azi s rv sg :: r => .testEdge azi s rv sg :: pointsFor B c r

/-- the solver contract along a history: every edge that is actually laid down is `Consistent` -/
def AllConsistent (B : Polygon.Backend) : Option Vertex → List Op → Prop
  | _, [] => True
  | _, .clear :: r => AllConsistent B none r
  | _, .addPoint lat lon :: r => AllConsistent B (some (lat, lon)) r
  | none, .addEdge _ _ :: r => AllConsistent B none r
  | some p, .addEdge azi s :: r =>
      Consistent B p azi s ∧ AllConsistent B (some ((B.direct p.1 p.2 azi s).1, (B.direct p.1 p.2 azi s).2.1)) r
  | c, .compute _ _ :: r => AllConsistent B c r
  | c, .testPoint _ _ _ _ :: r => AllConsistent B c r
  | c, .testEdge _ _ _ _ :: r => AllConsistent B c r

/-- what the queries of a history return, in order -/
def answers (B : Polygon.Backend) (A : ℚ) (st : State) (ops : List Op) : List Result :=
  (trace B A st ops).filterMap (·.2)

theorem answers_cons (B : Polygon.Backend) (A : ℚ) (st : State) (op : Op) (r : List Op) :
    answers B A st (op :: r) = ((exec B A st op).2.toList) ++ answers B A (exec B A st op).1 r := by
  unfold answers
  simp only [trace, List.filterMap_cons]
  cases (exec B A st op).2 <;> simp

/-- **edges as points**: in every history (any mixture of the six operations) whose laid-down edges satisfy the solver
    contract, replacing each `AddEdge` by `AddPoint` of the vertex the solver's direct problem returns changes no answer
    of any query, and the final objects differ at most in the value (not the parity) of the crossing counter -/
theorem edges_as_points (B : Polygon.Backend) (A : ℚ) (ops : List Op) (a b : State) (h : Sim a b)
    (hcons : AllConsistent B (curOf b) ops) :
    answers B A a ops = answers B A b (pointsFor B (curOf b) ops) ∧
    Sim (run B A a ops) (run B A b (pointsFor B (curOf b) ops)) := by
  induction ops generalizing a b with
  | nil => exact ⟨rfl, h⟩
  | cons op r ih =>
    -- an operation that `pointsFor` keeps, `c` the current vertex after it
    have kept : ∀ c, curOf (exec B A b op).1 = c → AllConsistent B c r →
        pointsFor B (curOf b) (op :: r) = op :: pointsFor B c r →
        answers B A a (op :: r) = answers B A b (pointsFor B (curOf b) (op :: r)) ∧
        Sim (run B A a (op :: r)) (run B A b (pointsFor B (curOf b) (op :: r))) := by
      rintro c rfl hc hp
      have := ih _ _ (sim_exec B A h op) hc
      rw [hp, answers_cons, answers_cons, run_cons, run_cons, sim_query B A h op]
      exact ⟨congrArg _ this.1, this.2⟩
    cases op with
    | clear => exact kept none rfl hcons rfl
    | addPoint lat lon =>
      exact kept _ (curOf_addPoint ..) hcons rfl
    | compute rv sg => exact kept _ rfl hcons rfl
    | testPoint lat lon rv sg => exact kept _ rfl hcons rfl
    | testEdge azi s rv sg => exact kept _ rfl hcons rfl
    | addEdge azi s =>
      by_cases h0 : b.num = 0
      · have hcur : curOf b = none := if_pos h0
        have hs := sim_edge_point B A h azi s (fun hne => absurd h0 hne)
        rw [if_pos h0] at hs
        rw [hcur] at hcons ⊢
        have := ih _ _ hs (by rw [hcur]; exact hcons)
        rw [hcur] at this
        simp only [pointsFor, answers_cons, run_cons]
        exact ⟨by simpa [exec] using this.1, this.2⟩
      · have hcur : curOf b = some (b.lat1, b.lon1) := if_neg h0
        rw [hcur] at hcons ⊢
        have hs := sim_edge_point B A h azi s (fun _ => hcons.1)
        rw [if_neg h0] at hs
        have hcur' : curOf (exec B A b (.addPoint (B.direct b.lat1 b.lon1 azi s).1 (B.direct b.lat1 b.lon1 azi s).2.1)).1
            = some ((B.direct b.lat1 b.lon1 azi s).1, (B.direct b.lat1 b.lon1 azi s).2.1) := curOf_addPoint ..
        have := ih _ _ hs (by rw [hcur']; exact hcons.2)
        rw [hcur'] at this
        simp only [pointsFor, answers_cons, run_cons]
        exact ⟨by simpa [exec] using this.1, this.2⟩

/-- the solver seen as the edge function of `polygon` / `polygon_eq` / `start_independent` / `cut_additive` -/
def toQ (B : Polygon.Backend) : Backend :=
  fun p q => (toRat (B.inverse p.1 p.2 q.1 q.2).1, toRat (B.inverse p.1 p.2 q.1 q.2).2)

def pointOps (vs : List Vertex) : List Op := vs.map fun q => Op.addPoint q.1 q.2
def edgeOps (es : List (F64 × F64)) : List Op := es.map fun e => Op.addEdge e.1 e.2

/-- the vertices the solver's direct problem returns along a chain of edges starting at `p` -/
def dverts (B : Polygon.Backend) : Vertex → List (F64 × F64) → List Vertex
  | _, [] => []
  | p, e :: es => ((B.direct p.1 p.2 e.1 e.2).1, (B.direct p.1 p.2 e.1 e.2).2.1) ::
      dverts B ((B.direct p.1 p.2 e.1 e.2).1, (B.direct p.1 p.2 e.1 e.2).2.1) es

theorem pointsFor_edges (B : Polygon.Backend) (p : Vertex) (es : List (F64 × F64)) :
    pointsFor B (some p) (edgeOps es) = pointOps (dverts B p es) := by
  induction es generalizing p with
  | nil => rfl
  | cons e es ih => simp only [edgeOps, List.map_cons, pointsFor, dverts, pointOps] at ih ⊢; rw [ih]

theorem run_points (B : Polygon.Backend) (A : ℚ) (r : List Vertex) (st : State) (p : Vertex) (hn : st.num ≠ 0)
    (hp : (st.lat1, st.lon1) = p) :
    run B A st (pointOps r) = (r.foldl (step (toQ B)) (st, p)).1 := by
  induction r generalizing st p with
  | nil => rfl
  | cons q r ih =>
    subst hp
    exact ih _ q (by simp [exec, addPoint, hn]) (by simp [exec, addPoint, hn])

/-- `Clear; AddPoint v₀; …; AddPoint vₙ₋₁; Compute` in the history machine is `polygon` -/
theorem compute_points (B : Polygon.Backend) (A : ℚ) (rv sg : Bool) (v : Vertex) (r : List Vertex) :
    (exec B A (run B A (init false) (pointOps (v :: r))) (.compute rv sg)).2 = some (polygon (toQ B) A rv sg (v :: r)) := by
  have hrun : run B A (init false) (pointOps (v :: r)) = (r.foldl (step (toQ B)) (addPoint (init false) v.1 v.2 0 0, v)).1 :=
    run_points B A r (addPoint (init false) v.1 v.2 0 0) v (by simp [addPoint, init]) rfl
  rw [hrun, polygon, foldl_step_eq (toQ B) r _ v (by simp [addPoint, init]) rfl rfl]
  rfl

/-- **closed polygons**: `AddPoint v₀; AddEdge e₁; …; AddEdge eₙ; Compute` returns what the `AddPoint`-built polygon
    through `v₀` and the vertices the direct problem returns gives — so `polygon_eq`, `start_independent`,
    `reverse_traversal`, `cut_additive` and the relabelling theorems speak about `AddEdge`-built polygons too -/
theorem edge_polygon_is_point_polygon (B : Polygon.Backend) (A : ℚ) (rv sg : Bool) (v : Vertex) (es : List (F64 × F64))
    (hcons : AllConsistent B (some v) (edgeOps es)) :
    (exec B A (run B A (init false) (.addPoint v.1 v.2 :: edgeOps es)) (.compute rv sg)).2
      = some (polygon (toQ B) A rv sg (v :: dverts B v es)) := by
  have h := edges_as_points B A (.addPoint v.1 v.2 :: edgeOps es) (init false) (init false) (Sim.refl _)
    (by simpa [curOf, init, AllConsistent] using hcons)
  have hp : pointsFor B (curOf (init false)) (.addPoint v.1 v.2 :: edgeOps es) = pointOps (v :: dverts B v es) := by
    simp only [pointsFor, pointsFor_edges]; rfl
  rw [hp] at h
  rw [sim_query B A h.2, compute_points]

/-- non-vacuity of the solver contract: a toy solver whose direct problem lands on `(azi, s)` and whose inverse problem
    reports `(lon2, lon2 − lon1)`; the history crosses longitude 360 eastwards with an edge, is cleared, starts with an
    ignored edge and crosses longitude 0 eastwards -/
def toyD : Polygon.Backend where
  inverse _ lon1 _ lon2 := (lon2, lon2 - lon1)
  direct _ lon1 azi s := (azi, s, s - lon1)

example : AllConsistent toyD none
    [.addPoint (F64.ofInt 0) (F64.ofInt 350), .addEdge (F64.ofInt 10) (F64.ofInt 370), .compute false true,
     .addEdge (F64.ofInt 20) (F64.ofInt 380), .clear, .addEdge (F64.ofInt 1) (F64.ofInt 2),
     .addPoint (F64.ofInt 5) (F64.ofInt (-5)), .testEdge (F64.ofInt 7) (F64.ofInt 3) true true, .addEdge (F64.ofInt 7) (F64.ofInt 3)] := by
  simp only [AllConsistent, Consistent, toyD, and_true, true_and]
  decide +kernel

/-- **why the two crossing counters agree in parity**: when the end longitude handed to `transitdirect` is the start
    longitude plus the signed difference `d = AngDiff` (the unrolled longitude `LONG_UNROLL` asks the solver for), then
    `transitdirect` (through the IEEE remainders `r₁, r₂` modulo 720) and `transit` (through the normalised longitudes
    `n₁, n₂`) count the same crossings modulo 2 -/
theorem transitdirect_transit_parity {d n1 n2 : ℚ} {k : ℤ} (e : Edge d n1 n2 k) (x1 x2 r1 r2 : ℚ) (i j1 j2 : ℤ)
    (hx1 : x1 = n1 + 360 * (i:ℚ)) (hx2 : x2 = x1 + d)
    (h1 : -360 ≤ r1 ∧ r1 ≤ 360) (h2 : -360 ≤ r2 ∧ r2 ≤ 360) (e1 : x1 = r1 + 720 * (j1:ℚ)) (e2 : x2 = r2 + 720 * (j2:ℚ)) :
    transitdirectQ r1 r2 % 2 = transitQ d n1 n2 % 2 := by
  rw [transitdirect_parity x1 x2 r1 r2 j1 j2 h1 h2 e1 e2, transit_eq_floor e, hx2, hx1,
    show n1 + 360 * (i:ℚ) + d = n1 + d + 360 * i by ring, floor_add_turns, floor_add_turns]
  congr 1; ring

/-- non-vacuity: the edge from longitude 350 (= −10 normalised, `i = 1`) east by 20° to 370: both counters give 1 -/
example : Edge 20 (-10) 10 0 ∧ (350 : ℚ) = -10 + 360 * ((1:ℤ):ℚ) ∧ (370 : ℚ) = 350 + 20 ∧
    (350 : ℚ) = 350 + 720 * ((0:ℤ):ℚ) ∧ (370 : ℚ) = -350 + 720 * ((1:ℤ):ℚ) ∧ transitdirectQ 350 (-350) = 1 ∧ transitQ 20 (-10) 10 = 1 := by
  refine ⟨⟨by norm_num, by norm_num, by norm_num, by norm_num⟩, by norm_num, by norm_num, by norm_num, by norm_num, by decide +kernel, by decide +kernel⟩

section AccumulatorLevel
open GeoVerif.Accum

/-- the `remainder` step is C16's `Accumulator::remainder` -/
theorem accRemainder_eq (a : Acc) (y : F64) : accRemainder a y = Accum.remainder a y := rfl

theorem areaReduceAcc_stages (a : Acc) (A : F64) (c : ℤ) (rv sg : Bool) :
    areaReduceAcc a A c rv sg = windowAcc A sg (orientAcc rv (adjAcc a A c)) := rfl

/-- flipping `reverse` negates the oriented, reduced sum *exactly* (both words) -/
theorem orientAcc_flip (rv : Bool) (a : Acc) : orientAcc (!rv) a = negate (orientAcc rv a) := by
  cases rv <;> simp [orientAcc, negate_negate]

/-- the result is the oriented reduced sum, or that sum with `A` added or subtracted by one `Accumulator::Add` -/
theorem areaReduceAcc_cases (a : Acc) (A : F64) (c : ℤ) (rv sg : Bool) :
    areaReduceAcc a A c rv sg = orientAcc rv (adjAcc a A c) ∨
    areaReduceAcc a A c rv sg = Accum.sub (orientAcc rv (adjAcc a A c)) A ∨
    areaReduceAcc a A c rv sg = Accum.add (orientAcc rv (adjAcc a A c)) A := by
  rw [areaReduceAcc_stages]; unfold windowAcc
  split_ifs <;> simp

/-- the signed window leaves `x` alone: `¬ x > A/2` and `¬ x ≤ −A/2`, as the code tests them -/
def InSigned (A x : F64) : Prop := F64.gt x (A / 2) = false ∧ F64.le x (F64.neg A / 2) = false
/-- the unsigned window leaves `x` alone: `¬ x ≥ A` and `¬ x < 0` -/
def InUnsigned (A x : F64) : Prop := F64.ge x A = false ∧ F64.lt x 0 = false

theorem windowAcc_signed_id {A : F64} {o : Acc} (h : InSigned A o.s) : windowAcc A true o = o := by
  simp [windowAcc, h.1, h.2]

theorem windowAcc_unsigned_id {A : F64} {o : Acc} (h : InUnsigned A o.s) : windowAcc A false o = o := by
  simp [windowAcc, h.1, h.2]

theorem windowAcc_unsigned_add {A : F64} {o : Acc} (hneg : F64.lt o.s 0 = true) (hlt : F64.ge o.s A = false) :
    windowAcc A false o = Accum.add o A := by
  simp [windowAcc, hneg, hlt]

/-- **`A(reverse, signed) = − A(not reverse, signed)` exactly, on both words**, whenever the reduced sum is strictly inside
    `(−A/2, A/2)` (at `±A/2` both results are `+A/2`: `areaReduce_flip`) -/
theorem areaReduceAcc_signed_flip (a : Acc) (A : F64) (c : ℤ) (rv : Bool)
    (h1 : InSigned A (adjAcc a A c).s) (h2 : InSigned A (F64.neg (adjAcc a A c).s)) :
    areaReduceAcc a A c (!rv) true = negate (areaReduceAcc a A c rv true) := by
  have hs : ∀ rv, InSigned A (orientAcc rv (adjAcc a A c)).s := by
    intro rv; cases rv
    · simpa [orientAcc, negate] using h2
    · simpa [orientAcc] using h1
  rw [areaReduceAcc_stages, areaReduceAcc_stages, windowAcc_signed_id (hs _), windowAcc_signed_id (hs _), orientAcc_flip]

/-- **unsigned = signed** when the oriented reduced sum is non-negative: the same accumulator, word for word -/
theorem areaReduceAcc_unsigned_eq_signed (a : Acc) (A : F64) (c : ℤ) (rv : Bool)
    (h1 : InSigned A (orientAcc rv (adjAcc a A c)).s) (h2 : InUnsigned A (orientAcc rv (adjAcc a A c)).s) :
    areaReduceAcc a A c rv false = areaReduceAcc a A c rv true := by
  rw [areaReduceAcc_stages, areaReduceAcc_stages, windowAcc_signed_id h1, windowAcc_unsigned_id h2]

/-- **`A(reverse, unsigned) = A0 − A(not reverse, unsigned)` on the accumulator level**: when the oriented reduced sum is
    negative, the unsigned result is *the accumulator* obtained by negating the other orientation's result (exactly) and
    adding `A0` to it with one `Accumulator::Add` -/
theorem areaReduceAcc_unsigned_complement (a : Acc) (A : F64) (c : ℤ) (rv : Bool)
    (hneg : F64.lt (orientAcc rv (adjAcc a A c)).s 0 = true) (hlt : F64.ge (orientAcc rv (adjAcc a A c)).s A = false)
    (h' : InUnsigned A (orientAcc (!rv) (adjAcc a A c)).s) :
    areaReduceAcc a A c rv false = Accum.add (negate (areaReduceAcc a A c (!rv) false)) A := by
  rw [areaReduceAcc_stages, areaReduceAcc_stages, windowAcc_unsigned_id h', windowAcc_unsigned_add hneg hlt,
    orientAcc_flip, negate_negate]

/-- non-vacuity (`A0 = 16`, the sum `(3, 0)`, no crossings): the signed results are `(−3, −0)` and `(3, 0)`; the unsigned
    result for `reverse = false` is the accumulator `(13, 0) = 16 + (−3)`, the one for `reverse = true` is `(3, 0)` -/
example : InSigned (F64.ofInt 16) (adjAcc ⟨F64.ofInt 3, 0⟩ (F64.ofInt 16) 0).s ∧
    InSigned (F64.ofInt 16) (F64.neg (adjAcc ⟨F64.ofInt 3, 0⟩ (F64.ofInt 16) 0).s) ∧
    F64.lt (orientAcc false (adjAcc ⟨F64.ofInt 3, 0⟩ (F64.ofInt 16) 0)).s 0 = true ∧
    F64.ge (orientAcc false (adjAcc ⟨F64.ofInt 3, 0⟩ (F64.ofInt 16) 0)).s (F64.ofInt 16) = false ∧
    InUnsigned (F64.ofInt 16) (orientAcc true (adjAcc ⟨F64.ofInt 3, 0⟩ (F64.ofInt 16) 0)).s ∧
    F64.same (areaReduceAcc ⟨F64.ofInt 3, 0⟩ (F64.ofInt 16) 0 false false).s (F64.ofInt 13) = true := by
  unfold InSigned InUnsigned; decide +kernel

/-- **… and in value**: under the hypotheses of `areaReduceAcc_unsigned_complement`, with representable words of magnitude
    `≤ 2^1016`, the unsigned results for the two orientations add up to `A0` up to the single rounding of that one
    `Accumulator::Add` (C16 `accum_add_step`: at most `2^-53` of its low-order part) -/
theorem areaReduceAcc_unsigned_complement_held (a : Acc) (A : F64) (c : ℤ) (rv : Bool)
    (hneg : F64.lt (orientAcc rv (adjAcc a A c)).s 0 = true) (hlt : F64.ge (orientAcc rv (adjAcc a A c)).s A = false)
    (h' : InUnsigned A (orientAcc (!rv) (adjAcc a A c)).s)
    (hs : F64.IsRep (orientAcc rv (adjAcc a A c)).s) (ht : F64.IsRep (orientAcc rv (adjAcc a A c)).t) (hA : F64.IsRep A)
    (bs : |(orientAcc rv (adjAcc a A c)).s.val| ≤ (2:ℚ) ^ (1016:ℤ)) (bt : |(orientAcc rv (adjAcc a A c)).t.val| ≤ (2:ℚ) ^ (1016:ℤ))
    (bA : |A.val| ≤ (2:ℚ) ^ (1016:ℤ)) :
    let o := orientAcc rv (adjAcc a A c)
    let p := MathF.sum A o.t
    let q := MathF.sum p.1 o.s
    |heldQ (areaReduceAcc a A c rv false) + heldQ (areaReduceAcc a A c (!rv) false) - A.val|
      ≤ max (|q.2.val + p.2.val| * (2:ℚ) ^ (-(53:ℤ))) ((2:ℚ) ^ (-(1075:ℤ))) := by
  intro o p q
  have e1 : areaReduceAcc a A c (!rv) false = negate o := by
    rw [areaReduceAcc_stages, windowAcc_unsigned_id h', orientAcc_flip]
  have key := (GeoVerif.Props.C16.accum_add_step o A hs ht hA bs bt bA).2.2.2.2
  rw [areaReduceAcc_unsigned_complement a A c rv hneg hlt h', e1, negate_negate, heldQ_negate]
  have : heldQ (Accum.add o A) + -heldQ o - A.val = (Accum.add o A).s.val + (Accum.add o A).t.val - (o.s.val + o.t.val + A.val) := by
    simp only [heldQ]; ring
  rw [this]; exact key

end AccumulatorLevel

/-! the `Planimeter` tool: input lines (`true` = a vertex, `false` = a terminator) cut into polygons -/
section Tool
open GeoVerif.Planimeter

/-- the printed vertex counts add up to the vertex lines read, plus the `n` vertices of the polygon being read: every
    vertex line is counted in exactly one result line -/
theorem segments_sum (l : List Bool) (n : ℕ) : (segments l n).sum = n + l.count true := by
  induction l generalizing n with
  | nil => by_cases h : n = 0 <;> simp [segments, h]
  | cons b r ih =>
    cases b
    · by_cases h : n = 0 <;> simp [segments, h, ih]
    · simp [segments, ih]; omega

/-- no result line is printed for a polygon without vertices -/
theorem segments_pos (l : List Bool) (n : ℕ) : ∀ x ∈ segments l n, 0 < x := by
  induction l generalizing n with
  | nil => by_cases h : n = 0 <;> simp [segments, h]; omega
  | cons b r ih =>
    cases b
    · by_cases h : n = 0 <;> simp only [segments, h, if_true, if_false, List.mem_cons, forall_eq_or_imp]
      · exact ih 0
      · exact ⟨by omega, ih 0⟩
    · exact ih (n + 1)

/-- at most one result line per terminator, plus one for the end of the input -/
theorem segments_length (l : List Bool) (n : ℕ) : (segments l n).length ≤ l.count false + 1 := by
  induction l generalizing n with
  | nil => by_cases h : n = 0 <;> simp [segments, h]
  | cons b r ih =>
    cases b
    · have := ih 0
      by_cases h : n = 0 <;> simp [segments, h] <;> omega
    · simpa [segments] using ih (n + 1)

/-- an input of `k` vertex lines and nothing else is one polygon -/
theorem segments_vertices_only (k n : ℕ) : segments (List.replicate k true) n = if n + k = 0 then [] else [n + k] := by
  induction k generalizing n with
  | zero => simp [segments]
  | succ k ih => rw [List.replicate_succ, segments, ih]; simp; omega

example : segments [true, true, true, false, false, true, false, true, true] 0 = [3, 1, 2] := by decide

end Tool

end GeoVerif.Props.C08
