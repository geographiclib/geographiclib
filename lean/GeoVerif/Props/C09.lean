import GeoVerif.Proofs.RhumbExact
import GeoVerif.Proofs.RhumbCert
import GeoVerif.Gen.RhumbArea
import Mathlib.Analysis.Real.Pi.Bounds
/-!
# C09 — rhumb lines: property theorems

The first part is about the definitions of `Model/Rhumb.lean` — the same terms the driver executes in binary64
(`dd`, `dde`, `rinv`) or over the exact `F64` softfloat (`rdir`) against the implementation — read at type `ℝ`; the second part
about `Model/RhumbSeries.lean` and `Model/RhumbExact.lean`, with its own list of driver ops.
-/
namespace GeoVerif.Props.C09
open GeoVerif GeoVerif.Rhumb GeoVerif.RhumbS GeoVerif.RhumbX GeoVerif.Proofs.Rhumb GeoVerif.Proofs.RhumbSeries GeoVerif.Proofs.RhumbExact Real

/-- `Dsn` is a divided difference in both branches (the product branch `x y > 0` and the plain one) -/
theorem Dsn_dd (x y : ℝ) : Dsn x y * (y - x) = sn y - sn x := by
  unfold Dsn
  simp only [eqb_real, ltb_real, decide_eq_true_eq, lit0, lit1, sn_real]
  split_ifs with h1 h2
  · subst h1; simp
  · have hx := sc_pos x; have hy := sc_pos y
    have hsum : x * sc y + sc x * y ≠ 0 := mul_comm y (sc x) ▸ add_ne_zero_of_mul_pos h2 hy hx
    field_simp
    linear_combination x ^ 2 * sc_sq y - y ^ 2 * sc_sq x
  · exact div_mul_cancel₀ _ (sub_ne_zero.mpr (Ne.symm h1))

/-- confluent value `sn′(x)` -/
theorem Dsn_confluent (x : ℝ) : Dsn x x = 1 / (Real.sqrt (1 + x ^ 2) * (1 + x ^ 2)) := by
  unfold Dsn; simp only [eqb_real, decide_true, if_true, lit1, sc_real]; ring_nf

/-- `Datan`: addition-theorem branch `2xy > −1` and plain branch -/
theorem Datan_dd (x y : ℝ) : Datan x y * (y - x) = Real.arctan y - Real.arctan x := datan_dd x y

theorem Datan_confluent (x : ℝ) : Datan x x = 1 / (1 + x ^ 2) := by
  unfold Datan; simp only [eqb_real, decide_true, if_true, lit1]; ring_nf

/-- `Dasinh`: both Kahan–Fateman forms for `x y > 0`, plain form otherwise -/
theorem Dasinh_dd (x y : ℝ) : Dasinh x y * (y - x) = Real.arsinh y - Real.arsinh x := dasinh_dd x y

theorem Dasinh_confluent (x : ℝ) : Dasinh x x = 1 / Real.sqrt (1 + x ^ 2) := by
  unfold Dasinh; simp only [eqb_real, decide_true, if_true, lit1, sc_real]

/-- `Dh`, `h(t) = t·sn(t)/2`, in all three branches (underflow shelter, plain, product form) -/
theorem Dh_dd (x y : ℝ) : Dh x y * (y - x) = hfun y - hfun x := by
  have hx := sc_pos x; have hy := sc_pos y
  unfold Dh
  simp only [eqb_real, leb_real, decide_eq_true_eq, lit0, lit2, sn_real, sq_real, hfun_real]
  split_ifs with h1 h2
  · -- `d = x²/sc x + y²/sc y` vanishes only for `x = y = 0`
    have hd := (div_eq_zero_iff.mp h1).resolve_right two_ne_zero
    obtain ⟨ex, ey⟩ := (add_eq_zero_iff_of_nonneg (sn_mul_self_nonneg x) (sn_mul_self_nonneg y)).mp hd
    have hx0 : x = 0 := by_contra fun h => (sn_mul_self_pos h).ne' ex
    have hy0 : y = 0 := by_contra fun h => (sn_mul_self_pos h).ne' ey
    subst hx0 hy0; simp
  · by_cases hyx : y - x = 0
    · rw [hyx, mul_zero, ← sub_eq_zero.mp hyx, sub_self]
    · rw [div_mul_cancel₀ _ hyx]
  · -- product form (here `x y > 0`, so `d > 0`): `(y² − x²)(x²y² + x² + y²) = y⁴ sc²x − x⁴ sc²y`
    have hx0 : x ≠ 0 := left_ne_zero_of_mul (not_le.mp h2).ne'
    have hd0 : x ^ 2 * sc y + y ^ 2 * sc x ≠ 0 :=
      (add_pos_of_pos_of_nonneg (mul_pos (sq_pos_of_ne_zero hx0) hy) (mul_nonneg (sq_nonneg y) hx.le)).ne'
    field_simp
    linear_combination x ^ 4 * sc_sq y - y ^ 4 * sc_sq x

/-- confluent value `h′(x)` (all three branches of the code at `x = y`) -/
theorem Dh_confluent (x : ℝ) : Dh x x = x * (2 + x ^ 2) / (2 * sc x ^ 3) := by
  have hxn : sc x ≠ 0 := (sc_pos x).ne'
  unfold Dh
  simp only [eqb_real, leb_real, decide_eq_true_eq, lit0, lit2, sn_real, sq_real]
  by_cases h0 : x = 0
  · subst h0; simp
  rw [if_neg (div_pos (add_pos (sn_mul_self_pos h0) (sn_mul_self_pos h0)) two_pos).ne',
    if_neg (not_le.mpr (mul_self_pos.mpr h0))]
  field_simp
  ring

/-- `Dlam`: divided difference of `lam = asinh(tan χ)` with respect to `χ`; confluent value `sec χ` -/
theorem Dlam_dd (x y : ℝ) : Dlam x y * (Real.arctan y - Real.arctan x) = Real.arsinh y - Real.arsinh x := dlam_dd x y

theorem Dlam_confluent (x : ℝ) : Dlam x x = Real.sqrt (1 + x ^ 2) := dlam_confluent x

/-- `Dp0Dpsi`: divided difference of `p0 = asinh(h(tan χ))` with respect to `ψ = asinh(tan χ)`;
    confluent value `sin χ` -/
theorem Dp0Dpsi_dd (x y : ℝ) :
    Dp0Dpsi x y * (Real.arsinh y - Real.arsinh x) = Real.arsinh (hfun y) - Real.arsinh (hfun x) := by
  by_cases h : x = y
  · subst h; simp
  · simp only [Dp0Dpsi, eqb_real, h, decide_false, Bool.false_eq_true, if_false]
    exact dd_div (dd_chain (dasinh_dd (hfun x) (hfun y)) (Dh_dd x y)) (dasinh_dd x y) (arsinh_sub_ne_zero h)

theorem Dp0Dpsi_confluent (x : ℝ) : Dp0Dpsi x x = sn x := by simp [Dp0Dpsi]

/-- an instance in the product branch `x y > 0`, where `Dsn` takes its cancellation-free form -/
example : Dsn (1 : ℝ) 2 * (2 - 1) = sn (2 : ℝ) - sn 1 := Dsn_dd 1 2

/-- `DClenshaw` is the divided difference of the Clenshaw sums, for every coefficient list.  The hypotheses `hne`, `h1` are not used:
    the identity holds for every pair of angles, also at `Delta = 1`, where the code switches to the plain-difference reading
    `dclenshaw_diff` — see `dclenshaw_dd_all` -/
theorem dclenshaw_dd (sinp : Bool) (z1 z2 : ℝ) (cs : List ℝ) (hne : z2 - z1 ≠ 0) (h1 : z2 - z1 ≠ 1) :
    DClenshaw sinp (z2 - z1) (sin z1) (cos z1) (sin z2) (cos z2) cs * (z2 - z1)
      = clenshaw sinp (sin z2) (cos z2) cs - clenshaw sinp (sin z1) (cos z1) cs :=
  dclenshaw_two_angles sinp z1 z2 cs

/-- `Delta = 1`: the plain difference of the two sums, for any two points on the unit circle -/
theorem dclenshaw_diff (sinp : Bool) (s1 c1 s2 c2 : ℝ) (cs : List ℝ) (h1 : s1 ^ 2 + c1 ^ 2 = 1) (h2 : s2 ^ 2 + c2 ^ 2 = 1) :
    DClenshaw sinp 1 s1 c1 s2 c2 cs = clenshaw sinp s2 c2 cs - clenshaw sinp s1 c1 cs :=
  mul_one (DClenshaw sinp 1 s1 c1 s2 c2 cs) ▸ dclenshaw_gen sinp 1 s1 c1 s2 c2 cs h1 h2 (by unfold szetamd; simp [lit1])

/-- the matrix recurrence itself: its state is (mean, half divided difference) of the two scalar Clenshaw recurrences
    with `X₂ = Xa + D·Xb`, `X₁ = Xa − D·Xb` -/
theorem dclen_pair (Xa Xb D : ℝ) (cs : List ℝ) :
    (dclen Xa Xb (D * D) cs).1.1 = ((clen (Xa + D * Xb) cs).1 + (clen (Xa - D * Xb) cs).1) / 2 ∧
    (dclen Xa Xb (D * D) cs).1.2 * D = ((clen (Xa + D * Xb) cs).1 - (clen (Xa - D * Xb) cs).1) / 2 ∧
    (dclen Xa Xb (D * D) cs).2.1 = ((clen (Xa + D * Xb) cs).2 + (clen (Xa - D * Xb) cs).2) / 2 ∧
    (dclen Xa Xb (D * D) cs).2.2 * D = ((clen (Xa + D * Xb) cs).2 - (clen (Xa - D * Xb) cs).2) / 2 :=
  dclen_inv Xa Xb D cs

example : ((3:ℝ)/5) ^ 2 + ((4:ℝ)/5) ^ 2 = 1 := by norm_num

example : (0.3 : ℝ) - 0.1 ≠ 0 ∧ (0.3 : ℝ) - 0.1 ≠ 1 := by norm_num

/-- pole wrap, the two-step reduction of `GenPosition` beyond the pole: for every real rectifying latitude `mu2` (in particular every `|mu2| > 90`, any number of circuits)
    and every normaliser satisfying the contract, the code's two-step reduction returns `z ∈ [−90, 90]` which is
    `mu2` or its reflection `180 − mu2` up to whole turns — the rectifying latitude of the point reached on the meridian
    circle (same sine) -/
theorem pole_wrap (norm : ℝ → ℝ) (hn : NormContract norm) (mu2 : ℝ) :
    |poleFold angReal norm mu2| ≤ 90 ∧
    ∃ k : ℤ, poleFold angReal norm mu2 = mu2 - 360 * k ∨ poleFold angReal norm mu2 = 180 - mu2 - 360 * k := by
  obtain ⟨hm, k, hk⟩ := hn mu2
  unfold poleFold
  simp only [angReal, decide_eq_true_eq, gt_iff_lt]
  split_ifs with h
  · obtain ⟨hz, k', hk'⟩ := hn (180 - norm mu2)
    rw [abs_le] at hm hz
    refine ⟨?_, k' - k, Or.inr (by rw [hk', hk]; push_cast; ring)⟩
    rw [abs_le]
    rcases lt_abs.mp h with hc | hc
    · -- `norm mu2 ∈ (90, 180]`: `180 − norm mu2 ∈ [0, 90)` is already reduced, `k' = 0`
      have : k' = 0 := int_eq_of_lt_of_lt (by push_cast; linarith) (by push_cast; linarith)
      rw [hk', this]; push_cast; constructor <;> linarith
    · -- `norm mu2 ∈ [−180, −90)`: `180 − norm mu2 ∈ (270, 360]`, `k' = 1`
      have : k' = 1 := int_eq_of_lt_of_lt (by push_cast; linarith) (by push_cast; linarith)
      rw [hk', this]; push_cast; constructor <;> linarith
  · exact ⟨not_lt.mp h, k, Or.inl hk⟩

/-- hence the sine of the returned rectifying latitude (in degrees) is that of `mu2` -/
theorem pole_wrap_sin (norm : ℝ → ℝ) (hn : NormContract norm) (mu2 : ℝ) :
    sin (poleFold angReal norm mu2 * π / 180) = sin (mu2 * π / 180) := by
  obtain ⟨_, k, hk | hk⟩ := pole_wrap norm hn mu2
  · rw [hk, show (mu2 - 360 * (k:ℝ)) * π / 180 = mu2 * π / 180 - (k:ℝ) * (2 * π) by ring, Real.sin_sub_int_mul_two_pi]
  · rw [hk, show (180 - mu2 - 360 * (k:ℝ)) * π / 180 = (π - mu2 * π / 180) - (k:ℝ) * (2 * π) by ring,
      Real.sin_sub_int_mul_two_pi, Real.sin_pi_sub]

/-- non-vacuity of the contract; `mu2 = 300` is mapped to `−60` by the two-step form -/
theorem pole_wrap_example : ∃ norm, NormContract norm ∧ poleFold angReal norm 300 = -60 := by
  refine ⟨floorNorm, floorNorm_contract, ?_⟩
  unfold poleFold
  simp only [angReal, floorNorm_300, decide_eq_true_eq]
  norm_num

/-- the one-step form (first normalisation dropped, seeded change C09B) leaves [−90, 90]: on the same normaliser it returns `−120` for
    `mu2 = 300` -/
theorem one_step_refuted : ∃ norm, NormContract norm ∧ poleFoldOneStep angReal norm 300 = -120 ∧ ¬ |poleFoldOneStep angReal norm 300| ≤ 90 := by
  have h : poleFoldOneStep angReal floorNorm 300 = -120 := by
    unfold poleFoldOneStep
    simp only [angReal, decide_eq_true_eq]
    rw [if_pos (by norm_num)]
    exact floorNorm_m120
  refine ⟨floorNorm, floorNorm_contract, h, ?_⟩
  rw [h]; norm_num

/-- the returned course is the shortest: with `lon12` from the AngDiff contract the course `r = (s12, α, S12)` (`α` in radians here)
    wraps at most half way round (`|lam12| ≤ π`), its azimuth `α = atan2(lam12, psi12)` is that of the straight line from `(ψ₁, 0)` to `(ψ₂, lam12)` on the
    Mercator chart: `hypot·sin α = lam12`, `hypot·cos α = psi12` (so `lam12 = tan α · psi12`, with the right signs), and
    `s12 · cos α = R · dmudpsi · psi12` — the meridian-arc difference over `cos α` when `dmudpsi = Δμ/Δψ`.
    Tie rule *as coded*: nothing here forces `lon12 = +180` on opposite meridians; the code keeps the sign of
    `lon2 − lon1` (the header promises the east-going course).  `hne` and the congruence part of `hc` are not used. -/
theorem rhumb_inverse_shortest (lon1 lon2 lon12 : ℝ) (K : InvKernels ℝ) (hc : DiffContract lon1 lon2 lon12)
    (hne : lon12 ≠ 0 ∨ K.psi2 - K.psi1 ≠ 0) :
    let r := inverseCore (π / 180) lon12 K false
    let lam12 := lon12 * (π / 180)
    let psi12 := K.psi2 - K.psi1
    |lam12| ≤ π ∧
    Real.sqrt (lam12 ^ 2 + psi12 ^ 2) * sin r.2.1 = lam12 ∧
    Real.sqrt (lam12 ^ 2 + psi12 ^ 2) * cos r.2.1 = psi12 ∧
    r.1 * cos r.2.1 = K.rm * K.dmudpsi * psi12 ∧
    r.2.2 = K.c2 * lon12 * K.msx := by
  intro r lam12 psi12
  obtain ⟨hsin, hcos⟩ : Real.sqrt (lam12 ^ 2 + psi12 ^ 2) * sin r.2.1 = lam12 ∧
      Real.sqrt (lam12 ^ 2 + psi12 ^ 2) * cos r.2.1 = psi12 := sqrt_mul_sin_cos_arg psi12 lam12
  refine ⟨?_, hsin, hcos, ?_, rfl⟩
  · have hd : (0:ℝ) < π / 180 := div_pos Real.pi_pos (by norm_num)
    rw [abs_mul, abs_of_pos hd]
    calc |lon12| * (π / 180) ≤ 180 * (π / 180) := mul_le_mul_of_nonneg_right hc.range hd.le
      _ = π := by ring
  · show Real.sqrt (lam12 ^ 2 + psi12 ^ 2) * K.dmudpsi * K.rm * cos r.2.1 = _
    linear_combination (K.dmudpsi * K.rm) * hcos

example : DiffContract 10 (-170) (-180) := ⟨by norm_num, ⟨0, by norm_num⟩⟩

/-! The series path (`Model/RhumbSeries.lean`) and the exact path (`Model/RhumbExact.lean`).  All statements below are about the
definitions the driver executes in the running-error arithmetic against the implementation (ops `rh_const`, `rh_inv`, `rh_pos`,
`rh_dconv`, `rh_msx`, `rh_de`, `rh_drect`, `rh_xinv`, `rh_xpos`), read at `ℝ`, and hold for every coefficient list (in particular for
the tables extracted from `AuxLatitude.cpp` / `Rhumb.cpp`).  `serA c ζ = ζ + Σ_k c_k sin((2k+2)ζ)` is the series auxiliary latitude
with the sum taken as the code's Clenshaw sum; `psiOf χ = asinh(tan χ)`; `p0Of χ = asinh(h(tan χ))`; `pOf P β = Σ_l P_l cos((2l+2)β)`. -/

/-- `Convert(auxin, auxout, ζ, exact = false)` on any representative `r (sin ζ, cos ζ)`, `r > 0`, of the angle `ζ` returns the unit point of
    the series latitude `η = ζ + Σ c_k sin((2k+2)ζ)` — provided the correction is below a right angle (the code skips the rotation when
    `tan d = 0`, which is right only for `d = 0`) -/
theorem convert_is_series (c : List ℝ) (r ζ : ℝ) (hr : 0 < r) (hd : |clenshaw true (sin ζ) (cos ζ) c| < π / 2) :
    convertS c (r * sin ζ, r * cos ζ) = (sin (serA c ζ), cos (serA c ζ)) := by
  rw [convertS_polar c r ζ hr]; exact convertS_unit c ζ hd

example : |clenshaw true (sin (1:ℝ)) (cos 1) []| < π / 2 := sphere_clenshaw_lt _ _

/-- `DConvert` is the divided difference of `Convert`: for angles `ζ₁, ζ₂ ∈ (−π, π]` given by any representatives,
    `DConvert · (ζ₂ − ζ₁) = η(ζ₂) − η(ζ₁)` (also when `ζ₂ − ζ₁ = 1`, where `DClenshaw` switches to its plain-difference reading, and
    trivially when `ζ₁ = ζ₂`) — the lift of `dclenshaw_dd` to the full function (normalisation, `radians()`, `1 +`) -/
theorem DConvert_dd (c : List ℝ) (r1 r2 z1 z2 : ℝ) (hr1 : 0 < r1) (hr2 : 0 < r2) (h1 : -π < z1 ∧ z1 ≤ π) (h2 : -π < z2 ∧ z2 ≤ π) :
    dconvert c (r1 * sin z1, r1 * cos z1) (r2 * sin z2, r2 * cos z2) * (z2 - z1) = serA c z2 - serA c z1 := by
  rw [dconvert_polar c r1 r2 z1 z2 hr1 hr2]; exact dconvert_dd c z1 z2 h1 h2

example : (0:ℝ) < 2 ∧ (-π < (1:ℝ) ∧ (1:ℝ) ≤ π) := ⟨by norm_num, by linarith [Real.pi_gt_three], by linarith [Real.pi_gt_three]⟩

/-- confluent case: `DConvert(ζ, ζ)` is the derivative of the series latitude at `ζ` -/
theorem DConvert_confluent (c : List ℝ) (r1 r2 z : ℝ) (hr1 : 0 < r1) (hr2 : 0 < r2) :
    HasDerivAt (serA c) (dconvert c (r1 * sin z, r1 * cos z) (r2 * sin z, r2 * cos z)) z := by
  rw [dconvert_polar c r1 r2 z z hr1 hr2]; exact dconvert_hasDerivAt c z

/-- `DClenshaw` on the angles `z`, `z + Δ` with `Delta = Δ`: the divided difference for every `Δ` (no exception at `Δ = 1`) -/
theorem dclenshaw_dd_all (sinp : Bool) (z Δ : ℝ) (cs : List ℝ) :
    DClenshaw sinp Δ (sin z) (cos z) (sin (z + Δ)) (cos (z + Δ)) cs * Δ
      = clenshaw sinp (sin (z + Δ)) (cos (z + Δ)) cs - clenshaw sinp (sin z) (cos z) cs := dclenshaw_angle sinp z Δ cs

/-- for `Δ = 0` `DClenshaw` is the derivative of the Clenshaw sum (sine and cosine series) -/
theorem dclenshaw_confluent (sinp : Bool) (z : ℝ) (cs : List ℝ) :
    HasDerivAt (fun x => clenshaw sinp (sin x) (cos x) cs) (DClenshaw sinp 0 (sin z) (cos z) (sin z) (cos z) cs) z :=
  dclenshaw_hasDerivAt sinp z cs

/-- `dmu/dpsi` of both series solvers: `dmudpsi · (ψ₂ − ψ₁) = μ(χ₂) − μ(χ₁)` for conformal latitudes `χ₁, χ₂ ∈ (−π/2, π/2)`,
    `μ = χ + Σ c_k sin((2k+2)χ)` the χ→μ series -/
theorem dmudpsi_series_dd (P : Params ℝ) (x y : ℝ) (hx : |x| < π / 2) (hy : |y| < π / 2) :
    dmudpsiS P (sin x, cos x) (sin y, cos y) * (psiOf y - psiOf x) = serA P.cMuChi y - serA P.cMuChi x := by
  unfold dmudpsiS
  rw [tanA_unit, tanA_unit]
  exact dconv_dlam_dd P.cMuChi x y hx hy

/-- on a parallel: `dmudpsi = μ′(χ) cos χ` -/
theorem dmudpsi_series_parallel (P : Params ℝ) (x : ℝ) (hx : |x| < π / 2) :
    ∃ m' : ℝ, HasDerivAt (serA P.cMuChi) m' x ∧ dmudpsiS P (sin x, cos x) (sin x, cos x) = m' * cos x := dmudpsiS_confluent P x hx

example : |(1:ℝ)| < π / 2 := by rw [abs_of_pos one_pos]; linarith only [Real.pi_gt_three]

/-- `Rhumb::GenInverse` (series) is the exact rhumb inverse of the series auxiliary latitudes: with `χᵢ = χ(φᵢ)` (φ→χ series),
    `ψᵢ = asinh tan χᵢ`, `λ₁₂ = lon12 · π/180`, `μ` the χ→μ series and `R = _rm`, the triple `(s12, azi12, S12)` returned by `GenInverse`
    satisfies: `azi12` is the direction (degrees, `(−180, 180]`) of `(ψ₂ − ψ₁, λ₁₂)` on the Mercator chart — so `tan azi12 = λ₁₂/(ψ₂ − ψ₁)` with
    the right quadrant; `s12 cos azi12 = R (μ(χ₂) − μ(χ₁))` — the series meridian-arc difference over `cos azi12`;
    `s12 sin azi12 = λ₁₂ · dmudpsi · R`; `s12 = hypot(λ₁₂, ψ₁₂) · dmudpsi · R` (on a parallel `dmudpsi = μ′(χ) cos χ`, `dmudpsi_series_parallel`:
    the parallel-circle length); `S12 = _c2 · lon12 · MeanSinXi` -/
theorem geninverse_series (P : Params ℝ) (φ1 φ2 lon12 : ℝ) (h1 : ChiOK P φ1) (h2 : ChiOK P φ2) :
    let r := genInverseS P (sin φ1, cos φ1) (sin φ2, cos φ2) lon12
    let χ1 := serA P.cChiPhi φ1
    let χ2 := serA P.cChiPhi φ2
    let lam12 := lon12 * (π / 180)
    let psi12 := psiOf χ2 - psiOf χ1
    let D := dmudpsiS P (sin χ1, cos χ1) (sin χ2, cos χ2)
    (¬ (psi12 = 0 ∧ lam12 = 0) → r.2.1 = GeoVerif.Props.C16.argd lam12 psi12) ∧
    r.1 * cos (r.2.1 * π / 180) = P.rm * (serA P.cMuChi χ2 - serA P.cMuChi χ1) ∧
    r.1 * sin (r.2.1 * π / 180) = lam12 * D * P.rm ∧
    r.1 = Real.sqrt (lam12 ^ 2 + psi12 ^ 2) * D * P.rm ∧
    r.2.2 = P.c2 * lon12 * meanSinXi P (sin χ1, cos χ1) (sin χ2, cos χ2) := by
  intro r χ1 χ2 lam12 psi12 D
  have hr : r = (Real.sqrt (lam12 ^ 2 + psi12 ^ 2) * D * P.rm, atan2d lam12 psi12,
      P.c2 * lon12 * meanSinXi P (sin χ1, cos χ1) (sin χ2, cos χ2)) := genInverseS_unfold P φ1 φ2 lon12 h1 h2
  have hs : r.1 = Real.sqrt (lam12 ^ 2 + psi12 ^ 2) * D * P.rm := by rw [hr]
  have haz : ¬ (psi12 = 0 ∧ lam12 = 0) → r.2.1 = GeoVerif.Props.C16.argd lam12 psi12 := fun hz => by
    rw [hr]; exact atan2d_real lam12 psi12 hz
  have hD : D * psi12 = serA P.cMuChi χ2 - serA P.cMuChi χ1 := dmudpsi_series_dd P χ1 χ2 h1.range h2.range
  -- `s12 (cos azi12, sin azi12) = D R (ψ₁₂, λ₁₂)`: for coincident points `s12 = 0`, otherwise `azi12` is the direction of `(ψ₁₂, λ₁₂)`
  have key : r.1 * cos (r.2.1 * π / 180) = D * P.rm * psi12 ∧ r.1 * sin (r.2.1 * π / 180) = D * P.rm * lam12 := by
    rw [hs]
    by_cases hz : psi12 = 0 ∧ lam12 = 0
    · rw [hz.1, hz.2]; simp
    · rw [haz hz]
      obtain ⟨hsin, hcos⟩ := argd_sin_cos lam12 psi12
      exact ⟨by linear_combination (D * P.rm) * hcos, by linear_combination (D * P.rm) * hsin⟩
  refine ⟨haz, ?_, ?_, hs, by rw [hr]⟩
  · rw [key.1, ← hD]; ring
  · rw [key.2]; ring

/-- non-vacuity: the sphere -/
example : ChiOK sphereParams 1 :=
  ⟨sphere_clenshaw_lt _ _, by show |serA [] 1| < π / 2; rw [sphere_serA, abs_of_pos one_pos]; linarith only [Real.pi_gt_three]⟩

/-- `Rhumb::MeanSinXi` (series): for conformal latitudes `χx, χy ∈ (−π/2, π/2)`:
    `MeanSinXi · (ψy − ψx) = (p₀(χy) − p₀(χx)) + Dp · (β̃(χy) − β̃(χx))`, where `Dp` is the coded divided difference of the area series,
    `Dp · (βy − βx) = p(βy) − p(βx)` with `β = B(Φ(χ))` (χ→φ then φ→β series) and `β̃` is the direct χ→β series used by `DConvert`.
    Hence `S12 = _c2 · lon12 · MeanSinXi` is `_c2 · lon12 · [Δp₀ + Δp]/Δψ` as soon as the two routes to β agree (`meansinxi_series_composed`) —
    they agree modulo `n⁷` for the extracted tables (C15 *Gen* certificate `aux_compose`), and `p` is the series certified by `rhumb_area_table`. -/
theorem meansinxi_series (P : Params ℝ) (x y : ℝ) (hx : |x| < π / 2) (hy : |y| < π / 2) (bx : BetaOK P x) (by' : BetaOK P y) :
    meanSinXi P (sin x, cos x) (sin y, cos y) * (psiOf y - psiOf x) =
      (p0Of y - p0Of x) +
      DClenshaw false (betaVia P y - betaVia P x) (sin (betaVia P x)) (cos (betaVia P x)) (sin (betaVia P y)) (cos (betaVia P y)) P.pP
        * (serA P.cBetaChi y - serA P.cBetaChi x) ∧
    DClenshaw false (betaVia P y - betaVia P x) (sin (betaVia P x)) (cos (betaVia P x)) (sin (betaVia P y)) (cos (betaVia P y)) P.pP
        * (betaVia P y - betaVia P x) = pOf P.pP (betaVia P y) - pOf P.pP (betaVia P x) := by
  refine ⟨?_, dclenshaw_two_angles false _ _ P.pP⟩
  rw [meanSinXi_unit P x y hx hy bx by', add_mul, mul_assoc, dconv_dlam_dd P.cBetaChi x y hx hy]
  exact congrArg (· + _) (Dp0Dpsi_dd (Real.tan x) (Real.tan y))

/-- with the composition property as hypothesis (χ→β series = φ→β series after χ→φ series at both points; *Gen* `aux_compose` modulo `n⁷`):
    `MeanSinXi · (ψy − ψx) = [p₀ + p∘β](χy) − [p₀ + p∘β](χx)` — the mean of `sin ξ` over the isometric latitude when `p₀ + p` is the area integral -/
theorem meansinxi_series_composed (P : Params ℝ) (x y : ℝ) (hx : |x| < π / 2) (hy : |y| < π / 2) (bx : BetaOK P x) (by' : BetaOK P y)
    (cx : serA P.cBetaChi x = betaVia P x) (cy : serA P.cBetaChi y = betaVia P y) :
    meanSinXi P (sin x, cos x) (sin y, cos y) * (psiOf y - psiOf x) =
      (p0Of y + pOf P.pP (betaVia P y)) - (p0Of x + pOf P.pP (betaVia P x)) := by
  obtain ⟨h1, h2⟩ := meansinxi_series P x y hx hy bx by'
  rw [h1, cx, cy, h2]; ring

example : BetaOK sphereParams 1 :=
  ⟨sphere_clenshaw_lt _ _, sphere_clenshaw_lt _ _, by
    show -π < serA [] (serA [] 1) ∧ serA [] (serA [] 1) ≤ π
    rw [sphere_serA, sphere_serA]; constructor <;> linarith only [Real.pi_gt_three]⟩

/-- on a parallel: `MeanSinXi(χ, χ) = sin χ + p′(β) β̃′(χ) cos χ` -/
theorem meansinxi_series_parallel (P : Params ℝ) (x : ℝ) (hx : |x| < π / 2) (bx : BetaOK P x) :
    ∃ p' b' : ℝ, HasDerivAt (pOf P.pP) p' (betaVia P x) ∧ HasDerivAt (serA P.cBetaChi) b' x ∧
      meanSinXi P (sin x, cos x) (sin x, cos x) = sin x + p' * (b' * cos x) := by
  refine ⟨_, _, dclenshaw_hasDerivAt false (betaVia P x) P.pP, dconvert_hasDerivAt P.cBetaChi x, ?_⟩
  rw [meanSinXi_unit P x x hx hx bx bx, sub_self, Dp0Dpsi_confluent, dlam_confluent, ← sc_real, sc_tan x hx, sn_tan x hx]
  have := cos_ne_zero_of_abs_lt hx
  field_simp

/-- `GenDirect ∘ GenInverse` (series) closes: feed the inverse solution `(s12, azi12)` of `(φ₁, φ₂, lon12)` to the line object at `φ₁` with the exact sine and cosine of
    `azi12`: `GenPosition` takes the regular branch (`|mu2| ≤ 90`, `mu2 = μ(φ₂)` in degrees), returns the point `φ₂`, the longitude
    difference `lon12` and the same `S12`.  Besides ranges, `ClosureHyp` assumes the composition of the series (`comp1`, `comp2`: χ→μ after
    φ→χ is φ→μ at both points) and the reversion (`rev`: μ→φ inverts φ→μ at `φ₂`), which is where the truncation of the series enters -/
theorem gendirect_geninverse_series (P : Params ℝ) (φ1 φ2 lon12 eps2 : ℝ) (H : ClosureHyp P φ1 φ2) :
    let inv := genInverseS P (sin φ1, cos φ1) (sin φ2, cos φ2) lon12
    let L := lineInit P (sin φ1, cos φ1) (sin (inv.2.1 * π / 180)) (cos (inv.2.1 * π / 180)) eps2
    let rm2 := positionMuS P L inv.1
    let o := genPositionReg P L rm2.1 rm2.2
    rm2.2 = serA P.cMuPhi φ2 * 180 / π ∧ |rm2.2| ≤ 90 ∧ o.phi2 = (sin φ2, cos φ2) ∧ o.lon2x = lon12 ∧ o.S12 = inv.2.2 := by
  intro inv L rm2 o
  have hpi := Real.pi_pos
  have hrm := H.rm
  obtain ⟨_, hA, hB, _, hS⟩ := geninverse_series P φ1 φ2 lon12 H.chi1 H.chi2
  have hL : L = _ := lineInit_unit P φ1 _ _ eps2 H.cos1 H.chi1.d H.mu1d H.mu1r
  have hr12 : rm2.1 = inv.1 / (P.rm * (π / 180)) := by
    show inv.1 / (P.rm * degree) = _; rw [degree_real]
  have hmu2 : rm2.2 = serA P.cMuPhi φ2 * 180 / π := by
    show L.mu1 + rm2.1 * L.calp = _
    rw [hr12, hL]
    dsimp only
    rw [div_mul_eq_mul_div, hA, H.comp1, H.comp2]
    field_simp; ring
  have ho := genPositionReg_unit P L rm2.1 (serA P.cMuPhi φ2) φ2 H.phid H.rev H.chi2.d
  rw [← hmu2] at ho
  dsimp only at ho
  have hlon : rm2.1 * L.salp / dmudpsiS P L.chi1 (sin (serA P.cChiPhi φ2), cos (serA P.cChiPhi φ2)) = lon12 := by
    rw [hr12, hL]
    dsimp only
    rw [div_mul_eq_mul_div, hB]
    have hD := H.dne
    field_simp
  refine ⟨hmu2, ?_, congrArg PosOut.phi2 ho, (congrArg PosOut.lon2x ho).trans hlon, ?_⟩
  · rw [hmu2, abs_div, abs_mul, abs_of_pos hpi, abs_of_pos (by norm_num : (0:ℝ) < 180), div_le_iff₀ hpi]
    linarith only [H.mu2r]
  · rw [show o.S12 = _ from congrArg PosOut.S12 ho]
    dsimp only
    rw [hlon, hS, hL]

/-- non-vacuity: the sphere, both points on the parallel of latitude ½ rad -/
example : ClosureHyp sphereParams (1 / 2) (1 / 2) := by
  have h12 : |((1:ℝ) / 2)| < π / 2 := by rw [abs_of_pos (by norm_num)]; linarith only [Real.pi_gt_three]
  have c0 := sphere_clenshaw_lt
  refine ⟨⟨c0 _ _, by show |serA [] (1 / 2)| < _; rw [sphere_serA]; exact h12⟩, ⟨c0 _ _, by show |serA [] (1 / 2)| < _; rw [sphere_serA]; exact h12⟩, ?_, one_ne_zero, c0 _ _, ?_, ?_, c0 _ _, ?_, ?_, ?_, ?_⟩
  · exact cos_ne_zero_of_abs_lt h12
  · show -π < serA [] (1 / 2) ∧ serA [] (1 / 2) ≤ π; rw [sphere_serA]; exact abs_lt_pi_of_lt_half h12
  · show |serA [] (1 / 2)| ≤ π / 2; rw [sphere_serA]; exact h12.le
  · show serA [] (serA [] (1 / 2)) = serA [] (1 / 2); rw [sphere_serA]
  · show serA [] (serA [] (1 / 2)) = serA [] (1 / 2); rw [sphere_serA]
  · show serA [] (serA [] (1 / 2)) = 1 / 2; rw [sphere_serA, sphere_serA]
  · show dmudpsiS sphereParams (sin (serA [] (1 / 2)), cos (serA [] (1 / 2))) (sin (serA [] (1 / 2)), cos (serA [] (1 / 2))) ≠ 0
    rw [sphere_serA, sphere_dmudpsi _ h12]; exact cos_ne_zero_of_abs_lt h12

/-- `Math::sincosd` on `[−90, 90]` as modelled is the sine and cosine of the angle in degrees (all special cases 30°, 45°, 60°) -/
theorem sincosd90_spec (x : ℝ) (hx : |x| ≤ 90) : sincosd90 x = (sin (x * (π / 180)), cos (x * (π / 180))) := sincosd90_real x

/-- `Math::atan2d` as modelled is the argument of `(x, y)` in degrees (octant logic: C16 `atan2d_octant`) -/
theorem atan2d_spec (y x : ℝ) (h : ¬ (x = 0 ∧ y = 0)) : atan2d y x = GeoVerif.Props.C16.argd y x := atan2d_real y x h

/-- `DAuxLatitude::Dsin` (exact path) -/
theorem Dsin_dd (x y : ℝ) : Dsin x y * (x - y) = sin x - sin y := by
  unfold Dsin
  simp only [eqb_real, decide_eq_true_eq, lit0, lit1, lit2, sin_real, cos_real]
  split_ifs with h
  · have : x = y := sub_eq_zero.mp ((div_eq_zero_iff.mp h).resolve_right two_ne_zero)
    subst this; simp
  · have hxy : x - y ≠ 0 := fun h0 => h (by rw [h0, zero_div])
    rw [Real.sin_sub_sin]; field_simp

theorem Dsin_confluent (x : ℝ) : Dsin x x = cos x := by
  unfold Dsin; simp [lit0, lit1, lit2]

/-- `DParametric` is the divided difference of the parametric latitude: for all tangents `tx, ty` (opposite signs, the addition-theorem
    branch `tx ty ≤ 1`, the reciprocal branch `tx ty > 1`, equal arguments), with `e2m1 = (1 − f)²`, `1 − f > 0`:
    `DParametric · (atan ty − atan tx) = atan((1−f) ty) − atan((1−f) tx)` -/
theorem DParametric_dd (fm1 tx ty : ℝ) (hf : 0 < fm1) :
    DParametric fm1 (fm1 * fm1) tx ty * (Real.arctan ty - Real.arctan tx) = Real.arctan (fm1 * ty) - Real.arctan (fm1 * tx) := by
  by_cases hxy : tx = ty
  · subst hxy; rw [sub_self, sub_self, mul_zero]
  have hat := arctan_sub_ne_zero hxy
  unfold DParametric
  simp only [leb_real, eqb_real, lit0, lit1, atan_real, atan2_real, Bool.not_eq_true', decide_eq_false_iff_not, decide_eq_true_eq]
  by_cases h0 : 0 ≤ tx * ty
  · rw [if_neg (not_not.mpr h0), if_neg hxy]
    by_cases h1 : tx * ty ≤ 1
    · have hden : Complex.arg ⟨1 + tx * ty, ty - tx⟩ = Real.arctan ty - Real.arctan tx := by
        simpa only [one_mul] using atan2_dparametric 1 tx ty one_pos h0
      rw [if_pos h1, atan2_dparametric fm1 tx ty hf h0, hden, div_mul_cancel₀ _ hat]
    · have h1' : 0 < tx * ty := zero_lt_one.trans (not_le.mp h1)
      have hden : Complex.arg ⟨1 + 1 / tx * (1 / ty), 1 / ty - 1 / tx⟩ = Real.arctan tx - Real.arctan ty := by
        simpa only [one_mul] using atan2_dparametric_inv 1 tx ty one_pos h1'
      rw [if_neg h1, if_neg (mt eq_of_one_div_eq_one_div hxy), atan2_dparametric_inv fm1 tx ty hf h1', hden,
        ← neg_sub (Real.arctan (fm1 * ty)), ← neg_sub (Real.arctan ty), neg_div_neg_eq, div_mul_cancel₀ _ hat]
  · rw [if_pos h0, div_mul_cancel₀ _ hat]

/-- confluent value in both sub-branches (`t² ≤ 1` and the reciprocal form for `t² > 1`, where seeded change C09E put the wrong denominator):
    `dβ/dφ = (1−f)(1 + t²)/(1 + (1−f)² t²)`, `t = tan φ` -/
theorem DParametric_confluent (fm1 t : ℝ) (hf : 0 < fm1) :
    DParametric fm1 (fm1 * fm1) t t = fm1 * (1 + t ^ 2) / (1 + fm1 ^ 2 * t ^ 2) := by
  unfold DParametric
  simp only [leb_real, eqb_real, lit0, lit1, Bool.not_eq_true', decide_eq_false_iff_not, decide_eq_true_eq, if_true]
  rw [if_neg (not_not.mpr (mul_self_nonneg t))]
  by_cases h1 : t * t ≤ 1
  · rw [if_pos h1, ← sq, ← sq]
  · have ht : t ≠ 0 := by rintro rfl; simp at h1
    have : 0 < fm1 * fm1 := mul_pos hf hf
    rw [if_neg h1]
    field_simp
    ring

example : (0:ℝ) < 1 - 1 / 298 := by norm_num

/-- `Datanhee`, prolate ellipsoid (`f < 0`): divided difference of `atan(e sin φ)/e` with respect to `tan φ` (no division by `e`) -/
theorem Datanhee_prolate_dd (f e e1 fm1 x y : ℝ) (hf : f < 0) :
    e * (Datanhee f e e1 fm1 x y * (y - x)) = Real.arctan (e * sn y) - Real.arctan (e * sn x) := by
  unfold Datanhee
  simp only [ltb_real, lit0, hf, decide_true, if_true]
  linear_combination (e * Datan (e * sn x) (e * sn y)) * Dsn_dd x y + Datan_dd (e * sn x) (e * sn y)

/-- `Datanhee`, oblate ellipsoid or sphere (`f ≥ 0`): divided difference of `asinh(e′ sin β)/(e′(1−f))` `(= atanh(e sin φ)/e)` -/
theorem Datanhee_oblate_dd (f e e1 fm1 x y : ℝ) (hf : ¬ f < 0) :
    e1 * fm1 * (Datanhee f e e1 fm1 x y * (y - x)) = Real.arsinh (e1 * sn (fm1 * y)) - Real.arsinh (e1 * sn (fm1 * x)) := by
  unfold Datanhee
  simp only [ltb_real, lit0, hf, decide_false, Bool.false_eq_true, if_false]
  linear_combination (e1 * Dasinh (e1 * sn (fm1 * x)) (e1 * sn (fm1 * y))) * Dsn_dd (fm1 * x) (fm1 * y)
    + Dasinh_dd (e1 * sn (fm1 * x)) (e1 * sn (fm1 * y))

/-- `DIsometric` is the divided difference of the isometric latitude with respect to the geographic latitude, oblate form
    `ψ(t) = asinh t − e asinh(e′ sn((1−f) t))`, `t = tan φ` (hypotheses: the constructor's relations `e² = e·e`, `e = e′(1−f)`) -/
theorem DIsometric_oblate_dd (f e2 e e1 fm1 tx ty : ℝ) (hf : ¬ f < 0) (he2 : e2 = e * e) (he : e = e1 * fm1) :
    DIsometric f e2 e e1 fm1 tx ty * (Real.arctan ty - Real.arctan tx) = psiOblate e e1 fm1 ty - psiOblate e e1 fm1 tx := by
  rw [disometric_gen, he2]
  unfold psiOblate
  linear_combination (-e) * Datanhee_oblate_dd f e e1 fm1 tx ty hf - (e * Datanhee f e e1 fm1 tx ty * (ty - tx)) * he

/-- prolate form `ψ(t) = asinh t + e atan(e sn t)` with `e = √|e²|`, `e² = −e·e` -/
theorem DIsometric_prolate_dd (f e2 e e1 fm1 tx ty : ℝ) (hf : f < 0) (he2 : e2 = -(e * e)) :
    DIsometric f e2 e e1 fm1 tx ty * (Real.arctan ty - Real.arctan tx) = psiProlate e ty - psiProlate e tx := by
  rw [disometric_gen, he2]
  unfold psiProlate
  linear_combination e * Datanhee_prolate_dd f e e1 fm1 tx ty hf

example : ¬ ((1:ℝ) / 298 < 0) := by norm_num

/-- for every pair of Carlson kernels `RF`, `RD`: `DE(X, Y) = DE(Y, X)` (a divided difference is symmetric; `d ↦ −d`, `t ↦ −t`, `sin z ↦ −sin z`) -/
theorem DE_symmetric (RF RD : ℝ → ℝ → ℝ → ℝ) (E : Ell ℝ) (X Y : Ang ℝ) : DE RF RD E X Y = DE RF RD E Y X := by
  unfold DE DEparts
  dsimp only
  rw [deDs_symm, deDt_symm, ← deTail_symm]
  congr 2
  ring

/-- the pair `(sin z, cos z)` formed from `t = tan(z/2)` handed to the kernels lies on the unit circle -/
theorem DE_unit_circle (RF RD : ℝ → ℝ → ℝ → ℝ) (k2 den d Dt sx sy : ℝ) :
    (deTail RF RD k2 den d Dt sx sy).sz ^ 2 + (deTail RF RD k2 den d Dt sx sy).cz ^ 2 = 1 := by
  unfold deTail
  simp only [lit1, lit2]
  have : 1 + d * Dt * (d * Dt) ≠ 0 := (add_pos_of_pos_of_nonneg one_pos (mul_self_nonneg _)).ne'
  field_simp
  ring

/-- confluent value on an oblate ellipsoid, for every kernel pair with `RF(1, 1, 1) = 1`: `DE(X, X) = √(1 + e′² sin²x)`, the integrand of
    `E`.  (The addition theorem DLMF 19.11.2 itself — that `DE` is the divided difference of `E` for `X ≠ Y` — is in the trusted base and is
    checked against quadrature by the harness, relation `dd-elliptic`.) -/
theorem DE_confluent (RF RD : ℝ → ℝ → ℝ → ℝ) (E : Ell ℝ) (x : ℝ) (hf : ¬ E.f < 0) (he : 0 ≤ E.e12) (hx0 : 0 < x) (hx1 : x < π / 2)
    (hRF : RF 1 1 1 = 1) :
    DE RF RD E (sin x, cos x) (sin x, cos x) = Real.sqrt (1 + E.e12 * sin x ^ 2) := by
  have ha : |x| < π / 2 := by rwa [abs_of_pos hx0]
  have hs : 0 < sin x := Real.sin_pos_of_pos_of_lt_pi hx0 (hx1.trans (half_lt_self Real.pi_pos))
  have hc : 0 < cos x := cos_pos_of_abs_lt ha
  have hr : RealLike.atan2 (sin x) (cos x) = x := radians_half x ha
  unfold DE DEparts
  simp only [normalized_unit, ltb_real, lit0, hf, decide_false, Bool.false_eq_true, if_false, abs_real, abs_of_pos hs, sub_self, hr]
  rw [deTail_zero, deDs_self, hRF]
  unfold deDt
  simp only [sqrt_real, lit1]
  have h1 : 0 < 1 + E.e12 * sin x ^ 2 := add_pos_of_pos_of_nonneg one_pos (mul_nonneg he (sq_nonneg _))
  have hΔ := Real.sqrt_pos.mpr h1
  rw [show 1 - -E.e12 * sin x * sin x = 1 + E.e12 * sin x ^ 2 by ring]
  field_simp
  linear_combination (-2) * Real.sq_sqrt h1.le

example : ∃ RF : ℝ → ℝ → ℝ → ℝ, RF 1 1 1 = 1 := ⟨fun _ _ _ => 1, rfl⟩

/-- `DRectifying`, chain rule, same-sign distinct latitudes: for every kernel for which `DE` is the divided difference of some `Eint` in the parametric latitude
    `β = atan((1−f) tan φ)`: `DRectifying · (φ₂ − φ₁) = (b/R)(Eint β₂ − Eint β₁)` (uses `DParametric_dd`) -/
theorem DRectifying_chain (RF RD : ℝ → ℝ → ℝ → ℝ) (E : Ell ℝ) (K : RectK ℝ) (a b : ℝ) (Eint : ℝ → ℝ)
    (ha : |a| < π / 2) (hb : |b| < π / 2) (hab : a ≠ b) (hsign : ¬ a * b < 0) (hfm1 : 0 < E.fm1) (he2m1 : E.e2m1 = E.fm1 * E.fm1)
    (hDE : DE RF RD E (parametric E (sin a, cos a)) (parametric E (sin b, cos b))
             * (Real.arctan (E.fm1 * Real.tan b) - Real.arctan (E.fm1 * Real.tan a))
           = Eint (Real.arctan (E.fm1 * Real.tan b)) - Eint (Real.arctan (E.fm1 * Real.tan a))) :
    DRectifying RF RD E K (sin a, cos a) (sin b, cos b) * (b - a)
      = E.b / K.rr * (Eint (Real.arctan (E.fm1 * Real.tan b)) - Eint (Real.arctan (E.fm1 * Real.tan a))) := by
  unfold DRectifying
  rw [radians_half a ha, radians_half b hb]
  simp only [eqb_real, ltb_real, lit0, hab, hsign, decide_false, Bool.false_eq_true, if_false]
  have hP := DParametric_dd E.fm1 (Real.tan a) (Real.tan b) hfm1
  rw [arctan_tan_of_abs_lt ha, arctan_tan_of_abs_lt hb] at hP
  unfold DParametricA
  rw [tanA_unit, tanA_unit, he2m1, ← hDE, ← hP]; ring

/-- the constant kernels `RF = RD = 0` give `DE = 0`, the divided difference of a constant (the instance is written with the step `0` in
    place of the `arctan` difference of `hDE`) -/
example (E : Ell ℝ) (a b : ℝ) :
    DE (fun _ _ _ => 0) (fun _ _ _ => 0) E (parametric E (sin a, cos a)) (parametric E (sin b, cos b)) * 0 = (fun _ : ℝ => (0:ℝ)) 1 - (fun _ : ℝ => (0:ℝ)) 2 := by simp

/-- opposite signs: the plain quotient of the rectifying latitudes supplied by `AuxLatitude::Rectifying` -/
theorem DRectifying_opposite (RF RD : ℝ → ℝ → ℝ → ℝ) (E : Ell ℝ) (K : RectK ℝ) (a b : ℝ)
    (ha : |a| < π / 2) (hb : |b| < π / 2) (hsign : a * b < 0) :
    DRectifying RF RD E K (sin a, cos a) (sin b, cos b) * (b - a) = radians K.mu2 - radians K.mu1 := by
  have hab : a ≠ b := by rintro rfl; exact (mul_self_nonneg a).not_gt hsign
  unfold DRectifying
  rw [radians_half a ha, radians_half b hb]
  simp only [eqb_real, ltb_real, lit0, hab, hsign, decide_false, decide_true, Bool.false_eq_true, if_false, if_true]
  rw [div_mul_cancel₀ _ (sub_ne_zero.mpr (Ne.symm hab))]

/-- confluent case: `dμ/dφ = (d tan μ/d tan φ) cos²μ / cos²φ` with `d tan μ/d tan φ` the `diff` output of `Rectifying` -/
theorem DRectifying_confluent (RF RD : ℝ → ℝ → ℝ → ℝ) (E : Ell ℝ) (K : RectK ℝ) (a m : ℝ)
    (ha : |a| < π / 2) (hm : |m| < π / 2) (hmu : K.mu1 = (sin m, cos m)) :
    DRectifying RF RD E K (sin a, cos a) (sin a, cos a) = K.d1 * (cos m / cos a) ^ 2 := by
  unfold DRectifying
  simp only [eqb_real, lit0, decide_true, if_true, cos_ne_zero_of_abs_lt ha, decide_false, Bool.false_eq_true, if_false]
  rw [hmu, tanA_unit, tanA_unit, sc_tan a ha, sc_tan m hm, sq_real]
  have := cos_ne_zero_of_abs_lt ha; have := cos_ne_zero_of_abs_lt hm
  field_simp

/-! `area_table_shape` says nothing about the values of the 21 rationals; those are the subject of `rhumb_area_table`, and are
also validated through the quadrature oracle of the harness (`rhumb-area`, `rhumb-series-exact`). -/

/-- the table is triangular with `Lmax` rows — exactly what the `polyval` loop of `AreaCoeffs` consumes (`o == sizeof(coeffs)/sizeof(real)`
    is the code's own post-condition) — no entry is zero, and the order is the one the tolerances assume -/
theorem area_table_shape :
    Gen.RhumbArea.coeffs.length = Gen.RhumbArea.Lmax * (Gen.RhumbArea.Lmax + 1) / 2 ∧ Gen.RhumbArea.Lmax = 6 ∧
    Gen.RhumbArea.coeffs.all (fun q => q != 0) = true := by decide +kernel

/-- table certificate: the 21 coefficients of `Rhumb::AreaCoeffs`
satisfy the defining relation of the rhumb area series, `p′(β) = (1 − f)(sin ξ − sin χ)/cos φ` with
`p(β) = Σ P_l cos 2lβ` (the integrand `Rhumb::qIntegrand` of the exact mode), modulo `n⁷`, where φ(β), χ(β), ξ(β) are the
auxiliary-latitude series of AuxLatitude.cpp certified by C15 (`chi_ode`, `xi_ode`, `aux_revert`, …).  As the left side is a
sine series without constant term this determines every `P_l` through `n⁶`: a single wrong entry (seeded C09A, C09C) is refuted. -/
theorem rhumb_area_table : GeoVerif.Series.RhumbCert.checkRhumbArea = true :=
  GeoVerif.Proofs.RhumbCert.rhumb_area_table

end GeoVerif.Props.C09
