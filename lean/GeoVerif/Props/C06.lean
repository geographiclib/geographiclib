import GeoVerif.Proofs.TM
import GeoVerif.Proofs.TMX
import GeoVerif.Proofs.TMSeriesKernel
import GeoVerif.Proofs.TMCoeffEval
import GeoVerif.Proofs.TMCertGF
import GeoVerif.Proofs.TMCertFG
import GeoVerif.Series.AuxDecode
/-!
# C06 — transverse Mercator (series and exact)

The sign wrapper of both classes over exact binary64 for every first-quadrant kernel; the table certificates; the Newton inversions and
the closed forms of `TransverseMercatorExact` with abstract elliptic functions; the series kernel as a conformal map over `ℝ` / `ℂ`.
-/
namespace GeoVerif.Props.C06
open GeoVerif GeoVerif.TM GeoVerif.Proofs.TM

/-! The wrapper theorems are about `TM.forwardD` / `TM.reverseZ`, the functions the driver executes against both implementations
(`TM.forward = forwardD ∘ (LatFix, AngDiff)`, `TM.reverse = reverseZ ∘ (division by the scale)` by definition, so `lon0` enters
`Forward` only through `AngDiff` and `Reverse` only through `AngNormalize(lon + lon0)`). -/

/-- lat ↦ −lat ⇒ (x, −y, −γ, k) for every kernel, every `lon − lon0`, both classes (`extendp = false`).
    Excluded, because false of the code by its documented rule `if (lat == 0) latsign = -1`: the far-side equator
    (there both `±0` give the southern image).  `graw` is `γ` before the final `AngNormalize` of the series form. -/
theorem tm_parity_lat (c : Cfg) (hc : c.ext = false) (K : F64 → F64 → KOut) (lat d : F64)
    (hn : lat.isNaN = false)
    (hb : ((fwdFoldD false lat d).back && F64.eq (fwdFoldD false lat d).p 0) = false) :
    let r := forwardD c K lat d
    let r' := forwardD c K (F64.neg lat) d
    r'.u = r.u ∧ r'.v = F64.neg r.v ∧ r'.graw = F64.neg r.graw ∧ r'.k = r.k := by
  -- negating `lat` keeps `|lat|` and negates `latsign`, which multiplies `y` and `γ`
  simp only [forwardD, fwdFoldD, fwdUnfold, gammaRaw, hc, Bool.not_false, Bool.true_and] at hb ⊢
  rw [mulSign_sgn_neg, sgn_neg lat hn, hb]
  simp only [Bool.false_eq_true, if_false, neg_mul]
  exact ⟨trivial, mulSign_neg _ (sgn_sign _) _, mulSign_neg _ (sign_mul (sgn_sign _) (sgn_sign _)) _, trivial⟩

/-- non-vacuity: lat = 10, offset = 100 (far side) satisfies the hypotheses -/
example : (F64.ofInt 10).isNaN = false ∧
    ((fwdFoldD false (F64.ofInt 10) (F64.ofInt 100)).back && F64.eq (fwdFoldD false (F64.ofInt 10) (F64.ofInt 100)).p 0) = false ∧
    (fwdFoldD false (F64.ofInt 10) (F64.ofInt 100)).back = true := by decide +kernel

/-- (lon − lon0) ↦ −(lon − lon0) ⇒ (−x, y, −γ, k) for every kernel and every latitude -/
theorem tm_parity_lon (c : Cfg) (hc : c.ext = false) (K : F64 → F64 → KOut) (lat d : F64) (hn : d.isNaN = false) :
    let r := forwardD c K lat d
    let r' := forwardD c K lat (F64.neg d)
    r'.u = F64.neg r.u ∧ r'.v = r.v ∧ r'.graw = F64.neg r.graw ∧ r'.k = r.k := by
  simp only [forwardD, fwdFoldD, fwdUnfold, gammaRaw, hc, Bool.not_false, Bool.true_and]
  rw [mulSign_sgn_neg, sgn_neg d hn]
  simp only [mul_neg]
  -- `latsign` is `-1` on the far-side equator and `sgn` of the sign bit otherwise: a sign either way
  exact ⟨mulSign_neg _ (sgn_sign _) _, trivial, mulSign_neg _ (sign_mul (by split <;> simp [sgn_sign]) (sgn_sign _)) _, trivial⟩

/-- far side: for `|lon − lon0| > 90` the kernel is evaluated at `180 − |lon − lon0|`, `ξ` is reflected in `top`
    (`π` resp. `2E`), `γ ↦ 180 − γ`, `η` and `k` are kept -/
theorem tm_far_side (c : Cfg) (hc : c.ext = false) (K : F64 → F64 → KOut) (lat d : F64)
    (hfar : F64.gt (fabsS d) MathF.qd = true) :
    let fo := fwdFoldD c.ext lat d
    let r := K fo.p fo.q
    fo.back = true ∧ fo.q = MathF.hd - fabsS d ∧
    (forwardD c K lat d).u = mulSign fo.s2 (c.scale r.q) ∧
    (forwardD c K lat d).v = mulSign fo.s1 (c.scale (c.top - r.p)) ∧
    (forwardD c K lat d).graw = mulSign (fo.s1 * fo.s2) (MathF.hd - r.gamma) := by
  unfold fabsS at hfar
  simp [forwardD, fwdFoldD, fwdUnfold, gammaRaw, hc, hfar, fabsS]

example : F64.gt (fabsS (F64.ofInt (-100))) MathF.qd = true := by decide +kernel

/-- on first-quadrant input the wrapper only scales (this is what lets the implementation supply its own kernel values) -/
theorem tm_forward_canonical (c : Cfg) (K : F64 → F64 → KOut) (lat d : F64)
    (h1 : lat.signbit = false) (h2 : d.signbit = false) (h3 : F64.gt d MathF.qd = false) :
    forwardD c K lat d =
      ⟨c.scale (K lat d).q, c.scale (K lat d).p, (K lat d).gamma,
       if c.series then MathF.angNormalize (K lat d).gamma else (K lat d).gamma, (K lat d).k * c.k0, c.scale (K lat d).p⟩ := by
  simp [forwardD, fwdFoldD, fwdUnfold, gammaRaw, h1, h2, h3, mulSign, sgn]

example : (F64.ofInt 10).signbit = false ∧ F64.gt (F64.ofInt 10) MathF.qd = false := by decide +kernel

/-- the kernel is only ever called with sign-bit-clear arguments and, on the near side, an offset not beyond 90° -/
theorem tm_fold_first_quadrant (lat d : F64) :
    let fo := fwdFoldD false lat d
    fo.p = fabsS lat ∧ fo.p.signbit = false ∧
    (fo.back = false → fo.q = fabsS d ∧ fo.q.signbit = false ∧ F64.gt fo.q MathF.qd = false) := by
  refine ⟨rfl, fabsS_signbit lat, fun h => ?_⟩
  have h' : F64.gt (fabsS d) MathF.qd = false := by simpa [fwdFoldD, fabsS] using h
  have hq : (fwdFoldD false lat d).q = fabsS d := by
    unfold fabsS at h'
    simp [fwdFoldD, fabsS, h']
  rw [hq]
  exact ⟨rfl, fabsS_signbit d, h'⟩

/-- Reverse, ξ ↦ −ξ (i.e. y ↦ −y) ⇒ (−lat, lon, −γ, k) for every kernel -/
theorem tm_reverse_parity_xi (c : Cfg) (hc : c.ext = false) (K : F64 → F64 → KOut) (lon0 xi eta : F64) (hn : xi.isNaN = false) :
    let r := reverseZ c K lon0 xi eta
    let r' := reverseZ c K lon0 (F64.neg xi) eta
    r'.u = F64.neg r.u ∧ r'.v = r.v ∧ r'.vraw = r.vraw ∧ r'.graw = F64.neg r.graw ∧ r'.k = r.k := by
  simp only [reverseZ, revFoldZ, revUnfold, gammaRaw, hc, Bool.not_false, Bool.true_and]
  rw [mulSign_sgn_neg, sgn_neg xi hn]
  simp only [neg_mul]
  exact ⟨mulSign_neg _ (sgn_sign _) _, trivial, trivial, mulSign_neg _ (sign_mul (sgn_sign _) (sgn_sign _)) _, trivial⟩

/-- Reverse, η ↦ −η (i.e. x ↦ −x) ⇒ (lat, −(lon − lon0), −γ, k) for every kernel (`vraw` = longitude offset before `lon0` is added) -/
theorem tm_reverse_parity_eta (c : Cfg) (hc : c.ext = false) (K : F64 → F64 → KOut) (lon0 xi eta : F64) (hn : eta.isNaN = false) :
    let r := reverseZ c K lon0 xi eta
    let r' := reverseZ c K lon0 xi (F64.neg eta)
    r'.u = r.u ∧ r'.vraw = F64.neg r.vraw ∧ r'.graw = F64.neg r.graw ∧ r'.k = r.k := by
  simp only [reverseZ, revFoldZ, revUnfold, gammaRaw, hc, Bool.not_false, Bool.true_and]
  rw [mulSign_sgn_neg, sgn_neg eta hn]
  simp only [mul_neg]
  exact ⟨trivial, mulSign_neg _ (sgn_sign _) _, mulSign_neg _ (sign_mul (sgn_sign _) (sgn_sign _)) _, trivial⟩

/-- on first-quadrant `(ξ, η)` the reverse wrapper passes the kernel's answer through -/
theorem tm_reverse_canonical (c : Cfg) (K : F64 → F64 → KOut) (lon0 xi eta : F64)
    (h1 : xi.signbit = false) (h2 : eta.signbit = false) (h3 : F64.gt xi c.half = false) :
    (reverseZ c K lon0 xi eta).u = (K xi eta).p ∧ (reverseZ c K lon0 xi eta).vraw = (K xi eta).q ∧
    (reverseZ c K lon0 xi eta).graw = (K xi eta).gamma ∧ (reverseZ c K lon0 xi eta).k = (K xi eta).k * c.k0 := by
  simp [reverseZ, revFoldZ, revUnfold, gammaRaw, h1, h2, h3, mulSign, sgn]

/-- Clenshaw summation over a commutative ring -/
theorem clenshaw_generic {R : Type} [CommRing R] (a : R) (T : ℕ → R) (hT : ∀ n, T (n + 2) = a * T (n + 1) - T n) (cs : List R) (k : ℕ) :
    wsum T k cs = (clenR a cs).1 * T (k + 1) - (clenR a cs).2 * T k :=
  clenshaw_ring a T hT cs k

/-- complex Clenshaw summation of the Krüger series (`Forward`: `cs = alp`, argument `ζ' = ξ' + iη'`; `Reverse`: `cs = −bet`, argument
    `ζ`): for every coefficient vector and every `ξ, η` the paired real recurrences of the code return
    `ζ + Σ_j c_j sin 2jζ` and its derivative `1 + Σ_j 2j c_j cos 2jζ` -/
theorem clenshaw_complex (cs : List ℝ) (ξ η : ℝ) :
    toC (kr cs ξ η).1 = (⟨ξ, η⟩ : ℂ) + sinSum ⟨ξ, η⟩ 0 cs ∧
    toC (kr cs ξ η).2 = 1 + dcosSum ⟨ξ, η⟩ 0 cs :=
  Proofs.TM.clenshaw_complex cs ξ η

/-! The table certificates depend on `Gen.TMSeries`, generated from the source. -/
open GeoVerif.Series GeoVerif.Series.TMS

/-- the layout consumes `alpcoeff` and `betcoeff` exactly (`N(N+3)/2` entries), `b1coeff` has `N/2 + 2` entries, and coefficient `l` of both
    series is `O(n^l)` with leading terms `α₁ = n/2 + …`, `β₁ = n/2 + …` -/
theorem table_shape : tableSize = Gen.TMSeries.alpcoeff.length ∧ tableSize = Gen.TMSeries.betcoeff.length ∧
    Gen.TMSeries.b1coeff.length = TM.N / 2 + 2 ∧ checkShape = true := by decide +kernel

/-- `b1`: `b1·(1 + n) = Σ_j C(½, j)² n^{2j} = 1 + n²/4 + n⁴/64 + n⁶/256 + …` (mod `n^{N+1}`), the mean of `√(1 + n² − 2n cos 2β)`, i.e. the
    quarter meridian is `π a b1 / 2` -/
theorem b1_table : checkB1 = true := by decide +kernel

/-- `alp` and `bet` are reversions of each other: with `F(ζ) = ζ + Σ_j α_j sin 2jζ` and `G(ζ) = ζ − Σ_j β_j sin 2jζ` built from the two tables,
    `G(F(ζ)) = ζ` modulo `n^{N+1}` (all harmonics; Taylor substitution in the truncated trigonometric-series CAS) -/
theorem alp_bet_revert : checkRevertGF = true := Proofs.TMCert.revertGF

/-- … and `F(G(ζ)) = ζ` modulo `n^{N+1}` -/
theorem bet_alp_revert : checkRevertFG = true := Proofs.TMCert.revertFG

/-- block `l` (1-based) of `alpcoeff`/`betcoeff` as the truncated power series in `n` the constructor evaluates:
`n^l · polyval(num, n) / den` -/
def tmBlock (tbl : List Rat) (l : Nat) : Poly :=
  let b := TM.block tbl l
  Poly.trunc (TM.N + 1) (Poly.shift l (Poly.smul (1 / b.2) (Poly.ofHighFirst b.1)))

def checkAlpAux : Bool :=
  TM.N == AuxDecode.L &&
  (List.range TM.N).all fun i =>
    Poly.eqN (TM.N + 1) (tmBlock Gen.TMSeries.alpcoeff (i + 1))
      ((AuxDecode.block Gen.AuxSeries.RECTIFYING Gen.AuxSeries.CONFORMAL).getD i [])

def checkBetAux : Bool :=
  TM.N == AuxDecode.L &&
  (List.range TM.N).all fun i =>
    Poly.eqN (TM.N + 1) (Poly.smul (-1) (tmBlock Gen.TMSeries.betcoeff (i + 1)))
      ((AuxDecode.block Gen.AuxSeries.CONFORMAL Gen.AuxSeries.RECTIFYING).getD i [])

/-- *Gen* — the polynomials of `alpcoeff` / `−betcoeff` are (as coefficient lists) the `μ ← χ` / `χ ← μ` polynomials decoded from the
    `AuxLatitude` table (both generated from the source) -/
theorem alp_is_aux_list :
    (∀ i, i < TM.N → tmBlock Gen.TMSeries.alpcoeff (i + 1) = (AuxDecode.block Gen.AuxSeries.RECTIFYING Gen.AuxSeries.CONFORMAL).getD i []) ∧
    (∀ i, i < TM.N → Poly.smul (-1) (tmBlock Gen.TMSeries.betcoeff (i + 1)) = (AuxDecode.block Gen.AuxSeries.CONFORMAL Gen.AuxSeries.RECTIFYING).getD i []) := by
  decide +kernel

/-- cross-table certificate: the Krüger table `alpcoeff` of TransverseMercator.cpp equals, as rational series in `n`, the
`μ ← χ` (rectifying from conformal) table of AuxLatitude.cpp — a table transcribed independently and certified by the C15
obligations (`chi_ode`, `mu_beta_table`, `aux_revert`, `aux_compose`).  Together with `alp_bet_revert` this pins the
TM series to the defining relations of the conformal and rectifying latitudes, not only to each other. -/
theorem alp_is_aux : checkAlpAux = true := by
  rw [checkAlpAux, show (TM.N == AuxDecode.L) = true by decide, Bool.true_and, List.all_eq_true]
  intro i hi
  rw [alp_is_aux_list.1 i (List.mem_range.mp hi)]
  exact Proofs.TMCoeff.eqN_refl _ _

/-- likewise `−betcoeff` = the `χ ← μ` table -/
theorem bet_is_aux : checkBetAux = true := by
  rw [checkBetAux, show (TM.N == AuxDecode.L) = true by decide, Bool.true_and, List.all_eq_true]
  intro i hi
  rw [alp_is_aux_list.2 i (List.mem_range.mp hi)]
  exact Proofs.TMCoeff.eqN_refl _ _

/-- `extendp = true`, Forward: no parity folding and no far side for any input — the kernel is called on `(lat, lon − lon0)` as they are
    and its answer is only scaled (this is the convention seeded change C06F broke for `Reverse`) -/
theorem tm_extendp_forward (c : Cfg) (hc : c.ext = true) (K : F64 → F64 → KOut) (lat d : F64) :
    forwardD c K lat d =
      ⟨c.scale (K lat d).q, c.scale (K lat d).p, (K lat d).gamma,
       if c.series then MathF.angNormalize (K lat d).gamma else (K lat d).gamma, (K lat d).k * c.k0, c.scale (K lat d).p⟩ := by
  simp [forwardD, fwdFoldD, fwdUnfold, gammaRaw, hc, mulSign, sgn]

/-- `extendp = true`, Reverse: the kernel is called on `(ξ, η)` as they are (no `xisign`, no `etasign`, no far side) -/
theorem tm_extendp_reverse (c : Cfg) (hc : c.ext = true) (K : F64 → F64 → KOut) (lon0 xi eta : F64) :
    (reverseZ c K lon0 xi eta).u = (K xi eta).p ∧ (reverseZ c K lon0 xi eta).vraw = (K xi eta).q ∧
    (reverseZ c K lon0 xi eta).graw = (K xi eta).gamma ∧ (reverseZ c K lon0 xi eta).k = (K xi eta).k * c.k0 := by
  simp [reverseZ, revFoldZ, revUnfold, gammaRaw, hc, mulSign, sgn]

/-! The exact form (`Model/TMExact.lean`, executed by the driver on the values the implementation's own `EllipticFunction` objects
return): the Newton inversions, for every elliptic-function kernel `Ell`. -/
open GeoVerif.TMX GeoVerif.Proofs.TMX

/-- the loop shared by `zetainv` and `sigmainv` (any step function, any number type): it takes at most `fuel` steps and returns the
    Newton iterate after exactly `steps` steps -/
theorem tmx_newton_iterate {α : Type} [RealLike α] (step : Nat → α → α → α × α) (thr : α) (fuel i : Nat) (trip : Bool) (u v : α) :
    let r := newton step thr fuel i trip u v
    i ≤ r.steps ∧ r.steps ≤ i + fuel ∧ (r.u, r.v) = iterate step (r.steps - i) i (u, v) :=
  newton_iterate step thr fuel i trip u v

/-- exit through the convergence test (`if (trip) break`): iterate `m` is the first whose correction is not `≥ thr`, exactly one more
    step was taken, `m + 2 ≤ fuel` -/
theorem tmx_newton_break {α : Type} [RealLike α] (step : Nat → α → α → α × α) (thr : α) (fuel i : Nat) (u v : α)
    (hb : (newton step thr fuel i false u v).brk = true) :
    ∃ m, (newton step thr fuel i false u v).steps = i + m + 2 ∧ m + 2 ≤ fuel ∧
      long step thr i (u, v) m = false ∧ (∀ m' < m, long step thr i (u, v) m' = true) ∧
      ((newton step thr fuel i false u v).u, (newton step thr fuel i false u v).v) = iterate step (m + 2) i (u, v) := by
  rcases newton_spec step thr fuel i u v with ⟨_, m, h1, h2, h3, h4, h5⟩ | ⟨hb', _⟩
  · exact ⟨m, h2, h1, h3, h4, h5⟩
  · rw [hb] at hb'; exact Bool.noConfusion hb'

/-- non-vacuity: a step function whose corrections vanish -/
example : (newton (fun _ _ _ => ((0 : ℝ), (0 : ℝ))) (1 : ℝ) 10 0 false 5 7).brk = true ∧
    (newton (fun _ _ _ => ((0 : ℝ), (0 : ℝ))) (1 : ℝ) 10 0 false 5 7).steps = 2 := by
  simp [newton]

/-- exit at the cap (silent: `GEOGRAPHICLIB_PANIC` is `false` for binary64): all `fuel` steps were taken and every correction tested
    before the last one was `≥ thr`; `trip` at exit means the last step was the first short one -/
theorem tmx_newton_cap {α : Type} [RealLike α] (step : Nat → α → α → α × α) (thr : α) (fuel i : Nat) (u v : α)
    (hb : (newton step thr fuel i false u v).brk = false) :
    (newton step thr fuel i false u v).steps = i + fuel ∧ (∀ m, m + 1 < fuel → long step thr i (u, v) m = true) ∧
    ((newton step thr fuel i false u v).trip = true → 0 < fuel ∧ long step thr i (u, v) (fuel - 1) = false) := by
  rcases newton_spec step thr fuel i u v with ⟨hb', _⟩ | ⟨_, h1, h2, h3, _⟩
  · rw [hb] at hb'; exact Bool.noConfusion hb'
  · exact ⟨h1, h2, h3⟩

example : (newton (fun _ _ _ => ((1 : ℝ), (0 : ℝ))) (1 : ℝ) 3 0 false 5 7).brk = false := by simp [newton]

/-- iteration caps (*Gen*: `numit_` is read from `TransverseMercatorExact.hpp`): `zetainv` and `sigmainv` evaluate the
    elliptic functions at most `numit_` times, for every kernel, every ellipsoid, every input, over any number type -/
theorem tmx_iteration_cap {α : Type} [RealLike α] (f : α) (ext : Bool) (E : Ell α) (a b : α) :
    (zetainv (mkPar f ext) E a b).1.steps ≤ Gen.TMExact.numit ∧ (sigmainv (mkPar f ext) E a b).1.steps ≤ Gen.TMExact.numit :=
  ⟨zetainv_cap (mkPar f ext) E a b, sigmainv_cap (mkPar f ext) E a b⟩

/-- `zetainv` left through its convergence test (over `ℝ`, every kernel): some Newton iterate `w_m`, `m + 2 ≤ numit_`, has a forward
    image whose residual in the metric of the Newton step, `|dw/dζ|²·((τ'(w_m) − τ')²/(1 + τ'²) + (λ(w_m) − λ)²)`, is below
    `tol2_/max(ψ, 1)²`, all earlier iterates had not, and the result is the iterate two Newton steps later.
    Not proved (needs the analytic properties of the Jacobi functions, which are kernels here): that the loop does leave through this test. -/
theorem tmx_zetainv_converged (p : Par ℝ) (E : Ell ℝ) (taup lam : ℝ) (hnd : (zStart p E taup lam).done = false)
    (hb : (zetainv p E taup lam).1.brk = true) :
    ∃ m, m + 2 ≤ p.numit ∧ (zetainv p E taup lam).1.steps = m + 2 ∧
      (let w := iterate (zStep p E taup lam) m 0 ((zStart p E taup lam).u, (zStart p E taup lam).v)
       let j := E.am m w.1 w.2
       ((dwdzeta p j).1 ^ 2 + (dwdzeta p j).2 ^ 2) *
         ((((zeta p j).1 - taup) * (1 / Real.sqrt (1 ^ 2 + taup ^ 2))) ^ 2 + ((zeta p j).2 - lam) ^ 2) < zThr p taup) ∧
      (∀ m' < m, long (zStep p E taup lam) (zThr p taup) 0 ((zStart p E taup lam).u, (zStart p E taup lam).v) m' = true) ∧
      ((zetainv p E taup lam).1.u, (zetainv p E taup lam).1.v) =
        iterate (zStep p E taup lam) (m + 2) 0 ((zStart p E taup lam).u, (zStart p E taup lam).v) := by
  rw [zetainv_unfold p E taup lam hnd] at hb ⊢
  obtain ⟨m, h1, h2, h3, h4, h5⟩ := tmx_newton_break (zStep p E taup lam) (zThr p taup) p.numit 0 _ _ hb
  refine ⟨m, h2, by rw [h1, Nat.zero_add], ?_, h4, h5⟩
  rwa [long_eq_false_iff, Nat.zero_add, zStep_len] at h3

/-- non-vacuity: a kernel (constant Jacobi values of the point `w = 0`) for which `zetainv` and `sigmainv` do leave through the
    convergence test -/
noncomputable def pEx : Par ℝ := ⟨0, 1, 0, 1, 1 / 1000, 1 / 100, 10, false⟩
noncomputable def eEx : Ell ℝ := ⟨2, 2, 2, 1, fun _ _ _ => ⟨0, 1, 1, 0, 1, 1⟩, fun _ _ _ _ => (0, 0)⟩

example : (zStart pEx eEx 0 0).done = false ∧ (zetainv pEx eEx 0 0).1.brk = true := by
  have h : (zStart pEx eEx 0 0).done = false := by
    simp only [zStart, zetainv0, pEx, asinh_real, Real.arsinh_zero, ltb_real, neg_zero, zero_mul, zero_div, lt_self_iff_false, decide_false,
      Bool.false_and, Bool.false_eq_true, if_false]
  refine ⟨h, ?_⟩
  rw [zetainv_unfold pEx eEx 0 0 h]
  apply newton_brk_of_short _ _ 8
  rw [long_eq_false_iff, zStep_len]
  simp [zeta, dwdzeta, zThr, pEx, eEx, atan2_zero_pos, Proofs.TMX.max_real]

/-- `sigmainv` left through its convergence test: some Newton iterate `w_m` has `|dw/dσ|²·|σ(w_m) − (ξ + iη)|² < tol2_` -/
theorem tmx_sigmainv_converged (p : Par ℝ) (E : Ell ℝ) (xi eta : ℝ) (hnd : (sigmainv0 p E xi eta).done = false)
    (hb : (sigmainv p E xi eta).1.brk = true) :
    ∃ m, m + 2 ≤ p.numit ∧ (sigmainv p E xi eta).1.steps = m + 2 ∧
      (let w := iterate (sigmaStep p E xi eta) m 0 ((sigmainv0 p E xi eta).u, (sigmainv0 p E xi eta).v)
       let j := E.am m w.1 w.2
       let s := sigma p j w.2 (E.einc m w.1 w.2 j)
       ((dwdsigma p j).1 ^ 2 + (dwdsigma p j).2 ^ 2) * ((s.1 - xi) ^ 2 + (s.2 - eta) ^ 2) < p.tol2) ∧
      (∀ m' < m, long (sigmaStep p E xi eta) p.tol2 0 ((sigmainv0 p E xi eta).u, (sigmainv0 p E xi eta).v) m' = true) ∧
      ((sigmainv p E xi eta).1.u, (sigmainv p E xi eta).1.v) =
        iterate (sigmaStep p E xi eta) (m + 2) 0 ((sigmainv0 p E xi eta).u, (sigmainv0 p E xi eta).v) := by
  rw [sigmainv_unfold p E xi eta hnd] at hb ⊢
  obtain ⟨m, h1, h2, h3, h4, h5⟩ := tmx_newton_break (sigmaStep p E xi eta) p.tol2 p.numit 0 _ _ hb
  refine ⟨m, h2, by rw [h1, Nat.zero_add], ?_, h4, h5⟩
  rwa [long_eq_false_iff, Nat.zero_add, sigmaStep_len] at h3

example : (sigmainv0 pEx eEx 0 0).done = false ∧ (sigmainv pEx eEx 0 0).1.brk = true := by
  have h0 : sigmainv0 pEx eEx 0 0 = ⟨false, 0, 0, .plain⟩ := by
    simp only [sigmainv0, pEx, eEx, ofDec_real, ltb_real]
    norm_num
  have h : (sigmainv0 pEx eEx 0 0).done = false := by rw [h0]
  refine ⟨h, ?_⟩
  rw [sigmainv_unfold pEx eEx 0 0 h, h0]
  apply newton_brk_of_short _ _ 8
  rw [long_eq_false_iff, sigmaStep_len]
  simp [iterate, sigma, dwdsigma, pEx, eEx]

/-- which way `Forward` obtains the Thompson coordinates (every kernel, over `ℝ`): the pole case exactly for `lat = 90` (`u = K`, `v = 0`, `γ = lon`,
    `k = 1`); the branch-point case exactly at the single point `lat = 0 ∧ lon − lon0 = 90(1 − e)` (`u = 0`, `v = K'`) — the comparison seeded change C06B
    turned into `≥`; otherwise `(u, v) = zetainv(taupf(tan φ), λ)` with at most `numit_` steps -/
theorem tmx_forward_cases (p : Par ℝ) (E : Ell ℝ) (lat lon tau : ℝ) :
    let r := TMX.fwdKernel p E lat lon tau
    (r.via = Via.pole ↔ lat = 90) ∧
    (r.via = Via.branchPoint ↔ lat ≠ 90 ∧ lat = 0 ∧ lon = 90 * (1 - p.e)) ∧
    (lat = 90 → r.u = E.Ku ∧ r.v = 0 ∧ r.gamma = lon ∧ r.k = 1) ∧
    (lat ≠ 90 → lat = 0 → lon = 90 * (1 - p.e) → r.u = 0 ∧ r.v = E.Kv) ∧
    (r.via = Via.newton → r.u = (zetainv p E (TM.taupf tau p.e) (lon * TMX.degree)).1.u ∧ r.v = (zetainv p E (TM.taupf tau p.e) (lon * TMX.degree)).1.v ∧
      r.steps ≤ p.numit) := by
  intro r
  have h90 : RealLike.eqb lat (RealLike.ofNat 90) = true ↔ lat = 90 := by rw [eqb_real, ninety_real, decide_eq_true_iff]
  have hc : (RealLike.eqb lat (RealLike.ofNat 0) && RealLike.eqb lon (RealLike.ofNat 90 * (1 - p.e))) = true ↔ lat = 0 ∧ lon = 90 * (1 - p.e) := by
    rw [eqb_real, eqb_real, zero_real, ninety_real, Bool.and_eq_true, decide_eq_true_iff, decide_eq_true_iff]
  -- pole, branch point, Newton: in each case the record is explicit and the five claims are read off its fields
  by_cases hp : lat = 90
  · simp only [r, TMX.fwdKernel, h90.mpr hp, if_true]
    exact ⟨⟨fun _ => hp, fun _ => trivial⟩, ⟨fun hv => Via.noConfusion hv, fun h => absurd hp h.1⟩, fun _ => ⟨trivial, zero_real, trivial, one_real⟩,
      fun h => absurd hp h, fun hv => Via.noConfusion hv⟩
  · by_cases hb : lat = 0 ∧ lon = 90 * (1 - p.e)
    · simp only [r, TMX.fwdKernel, mt h90.mp hp, one_real, hc.mpr hb, Bool.false_eq_true, if_false, if_true]
      exact ⟨⟨fun hv => Via.noConfusion hv, fun h => absurd h hp⟩, ⟨fun _ => ⟨hp, hb⟩, fun _ => trivial⟩, fun h => absurd h hp,
        fun _ _ _ => ⟨zero_real, trivial⟩, fun hv => Via.noConfusion hv⟩
    · simp only [r, TMX.fwdKernel, mt h90.mp hp, one_real, mt hc.mp hb, Bool.false_eq_true, if_false]
      exact ⟨⟨fun hv => Via.noConfusion hv, fun h => absurd h hp⟩, ⟨fun hv => Via.noConfusion hv, fun h => absurd h.2 hb⟩, fun h => absurd h hp,
        fun _ h0 hl => absurd ⟨h0, hl⟩ hb, fun _ => ⟨trivial, trivial, zetainv_cap p E _ _⟩⟩

/-- `Reverse`: the branch-point case exactly at `ξ = 0 ∧ η = K' − E'`, otherwise `(u, v) = sigmainv(ξ, η)`; the pole output (`lat = 90`,
    `lon = γ = 0`, `k = 1`) exactly when the Thompson coordinates come out as `(K, 0)` -/
theorem tmx_reverse_cases (p : Par ℝ) (E : Ell ℝ) (xi eta : ℝ) :
    let r := TMX.revKernel p E xi eta
    ((xi = 0 ∧ eta = E.KEv) → r.u = 0 ∧ r.v = E.Kv) ∧
    (¬ (xi = 0 ∧ eta = E.KEv) → r.u = (sigmainv p E xi eta).1.u ∧ r.v = (sigmainv p E xi eta).1.v ∧ r.steps ≤ p.numit) ∧
    (r.via = Via.pole ↔ (r.v = 0 ∧ r.u = E.Ku)) ∧
    (r.via = Via.pole → r.p = 90 ∧ r.q = 0 ∧ r.gamma = 0 ∧ r.k = 1) := by
  intro r
  have hc : (RealLike.eqb xi (RealLike.ofNat 0) && RealLike.eqb eta E.KEv) = true ↔ (xi = 0 ∧ eta = E.KEv) := by
    rw [eqb_real, eqb_real, zero_real, Bool.and_eq_true, decide_eq_true_iff, decide_eq_true_iff]
  -- two `if`s: branch point or Newton for `(u, v)`, then the pole test on `(u, v)`
  by_cases hb : xi = 0 ∧ eta = E.KEv
  · simp only [r, TMX.revKernel, hc.mpr hb, if_true]
    split
    · next h =>
      exact ⟨fun _ => ⟨zero_real, rfl⟩, fun hn => absurd hb hn, ⟨fun hv => Via.noConfusion hv, fun hvu => absurd hvu ((pole_test _ _ _).mp h)⟩,
        fun hv => Via.noConfusion hv⟩
    · next h =>
      exact ⟨fun _ => ⟨zero_real, rfl⟩, fun hn => absurd hb hn, ⟨fun _ => not_not.mp (mt (pole_test _ _ _).mpr h), fun _ => rfl⟩,
        fun _ => ⟨ninety_real, zero_real, zero_real, one_real⟩⟩
  · simp only [r, TMX.revKernel, mt hc.mp hb, Bool.false_eq_true, if_false]
    split
    · next h =>
      exact ⟨fun hy => absurd hy hb, fun _ => ⟨rfl, rfl, sigmainv_cap p E xi eta⟩, ⟨fun hv => Via.noConfusion hv, fun hvu => absurd hvu ((pole_test _ _ _).mp h)⟩,
        fun hv => Via.noConfusion hv⟩
    · next h =>
      exact ⟨fun hy => absurd hy hb, fun _ => ⟨rfl, rfl, sigmainv_cap p E xi eta⟩, ⟨fun _ => not_not.mp (mt (pole_test _ _ _).mpr h), fun _ => rfl⟩,
        fun _ => ⟨ninety_real, zero_real, zero_real, one_real⟩⟩

/-! The closed forms as coded are Lee's (1976).  Mathlib has no Jacobi elliptic functions.  The six values `sn, cn, dn (u | e²)`, `sn, cn, dn (v | 1 − e²)` are arbitrary reals subject to
`sn² + cn² = 1`, `dn² + k² sn² = 1` (`JacobiRel`; the harness checks these two relations on what `EllipticFunction::am` returns, op `tmxf`), and the
functions of the complex argument `w = u + iv` are *defined* by the addition theorem (`snW, cnW, dnW`; A+S 16.21.2–4), for which the same two
relations are proved to persist. -/

/-- the complex values given by the addition theorem satisfy `sn² w + cn² w = 1`, `dn² w + e² sn² w = 1` -/
theorem tmx_complex_jacobi (mu : ℝ) (j : Jac ℝ) (hj : JacobiRel mu j) (hD : denW mu j ≠ 0) :
    snW mu j ^ 2 + cnW mu j ^ 2 = 1 ∧ dnW mu j ^ 2 + (mu : ℂ) * snW mu j ^ 2 = 1 := by
  -- over the common denominator `D` both relations are identities between the numerators: with `cn²`, `dn²` eliminated, polynomial
  -- identities in `sn u`, `sn v`, `μ`
  have h : cnW mu j ^ 2 + ((1 : ℝ) : ℂ) * snW mu j ^ 2 = 1 := by
    refine sq_add_mul_sq 1 _ _ _ _ _ hD ?_ (by ring)
    unfold denW
    simp only [mul_pow, neg_sq]
    rw [hj.cnu_sq, hj.dnu_sq, hj.cnv_sq, hj.dnv_sq]
    ring
  rw [Complex.ofReal_one, one_mul, add_comm] at h
  refine ⟨h, sq_add_mul_sq mu _ _ _ _ _ hD ?_ (by ring)⟩
  unfold denW
  simp only [mul_pow, neg_sq]
  rw [hj.cnu_sq, hj.dnu_sq, hj.cnv_sq, hj.dnv_sq]
  ring

/-- non-vacuity of `JacobiRel`: `e² = 1/4`, `sn u = 3/5`, `sn v = 4/5` -/
noncomputable def jEx : Jac ℝ := ⟨3 / 5, 4 / 5, Real.sqrt (91 / 100), 4 / 5, 3 / 5, Real.sqrt (13 / 25)⟩
example : JacobiRel (1 / 4) jEx ∧ denW (1 / 4) jEx ≠ 0 := by
  refine ⟨⟨by norm_num [jEx], ?_, by norm_num [jEx], ?_⟩, by norm_num [jEx, denW]⟩
  · simp only [jEx]; rw [Real.sq_sqrt (by norm_num)]; norm_num
  · simp only [jEx]; rw [Real.sq_sqrt (by norm_num)]; norm_num

/-- `zeta`, real part = Lee 54.17: `τ' = sinh ψ`, `ψ = atanh(sn u · dn v) − e·atanh(e · sn u / dn v)` (the code evaluates the two `atanh` as
    `asinh(x/√(1 − x²))` with `1 − x²` rewritten by the Jacobi relations, and `sinh` of the difference without cancellation) -/
theorem tmx_zeta_taup (p : Par ℝ) (hp : ParOK p) (j : Jac ℝ) (hj : JacobiRel p.mu j)
    (hdn : 0 < j.dnv) (hx : |j.snu * j.dnv| < 1) (hy : |p.e * j.snu| < j.dnv) :
    (zeta p j).1 = Real.sinh (artanh (j.snu * j.dnv) - p.e * artanh (p.e * j.snu / j.dnv)) := by
  set x := j.snu * j.dnv with hxdef
  set X := p.e * j.snu / j.dnv with hXdef
  have hX : |X| < 1 := by rw [hXdef, abs_div, abs_of_pos hdn]; exact (div_lt_one hdn).mpr hy
  have d1sq : RealLike.sq j.cnu + p.mv * RealLike.sq (j.snu * j.snv) = 1 - x ^ 2 := zeta_den1 p hp j hj
  have d2sq : p.mu * RealLike.sq j.cnu + p.mv * RealLike.sq j.cnv = j.dnv ^ 2 * (1 - X ^ 2) := by
    rw [zeta_den2 p hp j hj, hXdef, ← hp.e2, div_pow, mul_sub, mul_one, mul_div_cancel₀ _ (pow_ne_zero 2 hdn.ne'), mul_pow]
  have hpos1 := sub_pos.mpr ((sq_lt_one_iff_abs_lt_one x).mpr hx)
  have hpos2 := sub_pos.mpr ((sq_lt_one_iff_abs_lt_one X).mpr hX)
  have hd1 := (Real.sqrt_pos.mpr hpos1).ne'
  have hd2s : Real.sqrt (j.dnv ^ 2 * (1 - X ^ 2)) = j.dnv * Real.sqrt (1 - X ^ 2) := by
    rw [Real.sqrt_mul (sq_nonneg _), Real.sqrt_sq hdn.le]
  have hd2 := mul_ne_zero hdn.ne' (Real.sqrt_pos.mpr hpos2).ne'
  have harg : p.e * j.snu / (j.dnv * Real.sqrt (1 - X ^ 2)) = X / Real.sqrt (1 - X ^ 2) := div_mul_eq_div_div _ _ _
  simp only [zeta, sqrt_real, d1sq, d2sq, hd2s, eqb_real, zero_real, hd1, hd2, decide_false, Bool.not_false, if_true, hypot_real, one_real,
    Proofs.TMX.sinh_real, asinh_real, harg]
  rw [sinh_diff_form, Real.arsinh_sinh, arsinh_div_sqrt x hx, arsinh_div_sqrt X hX]

/-- non-vacuity: `e = 1/2` with the instance `jEx` -/
noncomputable def pLee : Par ℝ := ⟨1 / 4, 3 / 4, 1 / 2, 1, 1, 1, 10, false⟩
example : ParOK pLee ∧ 0 < jEx.dnv ∧ |jEx.snu * jEx.dnv| < 1 ∧ |pLee.e * jEx.snu| < jEx.dnv := by
  -- `dn v = √(13/25)` lies between `3/10` and `1`
  have h1 : (3 / 10 : ℝ) < Real.sqrt (13 / 25) := (Real.lt_sqrt (by norm_num)).mpr (by norm_num)
  have h2 : Real.sqrt (13 / 25) < 1 := (Real.sqrt_lt' one_pos).mpr (by norm_num)
  have h0 : (0 : ℝ) < Real.sqrt (13 / 25) := lt_trans (by norm_num) h1
  refine ⟨⟨by norm_num [pLee], by norm_num [pLee], by norm_num [pLee]⟩, h0, ?_, ?_⟩
  · show |3 / 5 * Real.sqrt (13 / 25)| < 1
    rw [abs_of_pos (mul_pos (by norm_num) h0)]
    exact mul_lt_one_of_nonneg_of_lt_one_left (by norm_num) (by norm_num) h2.le
  · show |(1 / 2 : ℝ) * (3 / 5)| < Real.sqrt (13 / 25)
    rw [abs_of_pos (by norm_num)]
    exact lt_of_eq_of_lt (by norm_num) h1

/-- `zeta`, imaginary part = Lee 54.17: `λ = arg(cn u cn v + i dn u sn v) − e·arg(dn u cn v + i e cn u sn v)` … -/
theorem tmx_zeta_lam (p : Par ℝ) (j : Jac ℝ)
    (h1 : Real.sqrt (RealLike.sq j.cnu + p.mv * RealLike.sq (j.snu * j.snv)) ≠ 0)
    (h2 : Real.sqrt (p.mu * RealLike.sq j.cnu + p.mv * RealLike.sq j.cnv) ≠ 0) :
    (zeta p j).2 = Complex.arg ⟨j.cnu * j.cnv, j.dnu * j.snv⟩ - p.e * Complex.arg ⟨j.dnu * j.cnv, p.e * j.cnu * j.snv⟩ := by
  simp only [zeta, sqrt_real, eqb_real, zero_real, h1, h2, decide_false, Bool.not_false, Bool.and_self, if_true, atan2_real]

/-- … and these two arguments are `Im atanh(sn w)` and `Im atanh(e sn w)`: `(1 + s)·conj(1 − s)·D = (…)²` with `D = 1 − dn²u sn²v`, for
    `s = sn w` and `s = e·sn w`; likewise `|1 + sn w|²(1 − x)² = |1 − sn w|²(1 + x)²`, `x = sn u dn v`, i.e. `Re atanh(sn w) = atanh(sn u dn v)` -/
theorem tmx_zeta_is_lee_complex (e mu : ℝ) (he : e ^ 2 = mu) (j : Jac ℝ) (hj : JacobiRel mu j) (hD : denW mu j ≠ 0) :
    (1 + snW mu j) * (starRingEnd ℂ) (1 - snW mu j) * (denW mu j : ℂ) = (⟨j.cnu * j.cnv, j.dnu * j.snv⟩ : ℂ) ^ 2 ∧
    (1 + (e : ℂ) * snW mu j) * (starRingEnd ℂ) (1 - (e : ℂ) * snW mu j) * (denW mu j : ℂ) = (⟨j.dnu * j.cnv, e * j.cnu * j.snv⟩ : ℂ) ^ 2 ∧
    Complex.normSq (1 + snW mu j) * (1 - j.snu * j.dnv) ^ 2 = Complex.normSq (1 - snW mu j) * (1 + j.snu * j.dnv) ^ 2 := by
  have hes : (e : ℂ) * snW mu j = ⟨e * (j.snu * j.dnv) / denW mu j, e * (j.cnu * j.dnu * j.snv * j.cnv) / denW mu j⟩ := by
    rw [snW, ofReal_mul_pair, ← mul_div_assoc, ← mul_div_assoc]
  rw [hes]
  refine ⟨one_add_mul_conj_one_sub _ _ _ _ _ hD ?_ (by ring), one_add_mul_conj_one_sub _ _ _ _ _ hD ?_ (by ring),
    normSq_one_add_sub _ _ _ hD ?_⟩
  -- what is left are the three identities between the numerators: with `cn²`, `dn²`, `e²` eliminated, polynomial identities in `sn u`, `sn v`, `μ`
  all_goals
    unfold denW
    simp only [mul_pow, he]
    rw [hj.cnu_sq, hj.dnu_sq, hj.cnv_sq, hj.dnv_sq]
    ring

/-- `dwdzeta` = Lee 54.21 and `dwdsigma` = reciprocal of Lee 55.9: the Newton Jacobians as coded are `cn w · dn w/(1 − e²)` and
    `dn² w/(1 − e²)` (identities of rational functions in the six values; with `x/0 = 0` they hold without `hD`, `hmv` too) -/
theorem tmx_jacobians (p : Par ℝ) (j : Jac ℝ) (hD : denW p.mu j ≠ 0) (hmv : p.mv ≠ 0) :
    (⟨(dwdzeta p j).1, (dwdzeta p j).2⟩ : ℂ) = cnW p.mu j * dnW p.mu j / (p.mv : ℂ) ∧
    (⟨(dwdsigma p j).1, (dwdsigma p j).2⟩ : ℂ) = dnW p.mu j ^ 2 / (p.mv : ℂ) := by
  -- both sides are a numerator over `(1 − e²)·D²`; the numerators as coded are the products of the numerators of `cn w`, `dn w`
  constructor
  · simp only [dwdzeta, sq_real, cnW, dnW, mk_div]
    rw [div_mul_div_comm, div_div]
    congr 1
    · apply Complex.ext <;> simp only [Complex.mul_re, Complex.mul_im] <;> ring
    · unfold denW; push_cast; ring
  · simp only [dwdsigma, sq_real, two_real, dnW, mk_div]
    rw [div_pow, div_div]
    congr 1
    · apply Complex.ext <;> simp only [sq, Complex.mul_re, Complex.mul_im] <;> ring
    · unfold denW; push_cast; ring

/-- the rewritings the comments of `sigma` and `Scale` announce (Lee 55.4, 55.13): `e² cn²u + (1 − e²) cn²v = dn²u + dn²v − 1` and
    `(1 − e²) sn²v + cn²u dn²v = 1 − sn²u dn²v` -/
theorem tmx_sigma_scale_rewrites (p : Par ℝ) (hp : ParOK p) (j : Jac ℝ) (hj : JacobiRel p.mu j) :
    p.mu * RealLike.sq j.cnu + p.mv * RealLike.sq j.cnv = j.dnu ^ 2 + j.dnv ^ 2 - 1 ∧
    p.mv * RealLike.sq j.snv + RealLike.sq (j.cnu * j.dnv) = 1 - j.snu ^ 2 * j.dnv ^ 2 := by
  simp only [sq_real, hp.mv]
  constructor
  · linear_combination p.mu * hj.u1 + (1 - p.mu) * hj.v1 - hj.u2 - hj.v2
  · linear_combination hj.v2 + j.dnv ^ 2 * hj.u1

/-! The series kernel as coded (`TM.fwdKernel`, `TM.revKernel`, read at `ℝ`).  `F(ζ) = ζ + Σ_j α_j sin 2jζ`, `G(ζ) = ζ − Σ_j β_j sin 2jζ` with `α_j = _alp[j]`, `β_j = _bet[j]` *as the constructor computes them* from the extracted
tables (`alpOf f`, `nbetOf f`).  `ζ' = ξ' + iη'` are the Gauss–Schreiber coordinates as coded. -/
open GeoVerif.Proofs.TMSeries GeoVerif.Proofs.TMCoeff

/-- the second output of the complex Clenshaw pair is the complex derivative of the first — the pair the code uses for
    position and for convergence/scale is Cauchy–Riemann consistent, for every coefficient vector -/
theorem tm_kruger_derivative (cs : List ℝ) (ζ : ℂ) : HasDerivAt (krF cs) (krF' cs ζ) ζ :=
  (hasDerivAt_id ζ).add (hasDerivAt_sinSum cs 0 ζ)

/-- Gauss–Schreiber step = spherical transverse Mercator relations (Krüger (25)): `cos ξ' = cos λ/h`, `sin ξ' = τ'/h`, `sinh η' = sin λ/h`,
    `cosh η' = √(1 + τ'²)/h` (`h = hypot(τ', cos λ)`), hence `tan ξ' = τ'/cos λ`, `tanh η' = sin λ/√(1 + τ'²) = cos φ' sin λ` -/
theorem tm_gauss_schreiber (τ' slam clam : ℝ) (hsc : slam ^ 2 + clam ^ 2 = 1) (hh : 0 < τ' ^ 2 + clam ^ 2) :
    Real.cos (gsXi τ' clam) = clam / Real.sqrt (τ' ^ 2 + clam ^ 2) ∧ Real.sin (gsXi τ' clam) = τ' / Real.sqrt (τ' ^ 2 + clam ^ 2) ∧
    Real.sinh (gsEta τ' slam clam) = slam / Real.sqrt (τ' ^ 2 + clam ^ 2) ∧
    Real.cosh (gsEta τ' slam clam) = Real.sqrt (1 + τ' ^ 2) / Real.sqrt (τ' ^ 2 + clam ^ 2) ∧
    Real.tan (gsXi τ' clam) = τ' / clam ∧ Real.tanh (gsEta τ' slam clam) = slam / Real.sqrt (1 + τ' ^ 2) := by
  obtain ⟨h1, h2, h3, h4⟩ := gs_relations τ' slam clam hsc hh
  have hne : Real.sqrt (τ' ^ 2 + clam ^ 2) ≠ 0 := (Real.sqrt_pos.mpr hh).ne'
  refine ⟨h1, h2, h3, h4, ?_, ?_⟩
  · rw [Real.tan_eq_sin_div_cos, h1, h2, div_div_div_cancel_right₀ hne]
  · rw [Real.tanh_eq_sinh_div_cosh, h3, h4, div_div_div_cancel_right₀ hne]

example : (3 / 5 : ℝ) ^ 2 + (4 / 5) ^ 2 = 1 ∧ (0 : ℝ) < 2 ^ 2 + (4 / 5) ^ 2 := by norm_num

/-- … in closed form: with `ψ = asinh τ'` the isometric latitude of the conformal sphere and `w = ψ + iλ` its Mercator coordinate,
    `sin ζ' = tanh w` and `cos ζ' · cosh w = 1`, i.e. `ζ' = gd(w)` (the transverse Mercator projection of the sphere); and the complex number whose
    `atan2` and `hypot` `Forward` forms for the Gauss–Schreiber convergence and scale is `cosh w = (dζ'/dw)⁻¹` -/
theorem tm_gauss_schreiber_sphere (τ' l : ℝ) (hh : 0 < τ' ^ 2 + Real.cos l ^ 2) :
    Complex.sin ⟨gsXi τ' (Real.cos l), gsEta τ' (Real.sin l) (Real.cos l)⟩ = Complex.tanh ⟨Real.arsinh τ', l⟩ ∧
    Complex.cos ⟨gsXi τ' (Real.cos l), gsEta τ' (Real.sin l) (Real.cos l)⟩ * Complex.cosh ⟨Real.arsinh τ', l⟩ = 1 ∧
    gamma0 τ' (Real.sin l) (Real.cos l) = Complex.arg (Complex.cosh ⟨Real.arsinh τ', l⟩) * (TM.deg : ℝ) ∧
    Real.sqrt (τ' ^ 2 + Real.cos l ^ 2) = ‖Complex.cosh ⟨Real.arsinh τ', l⟩‖ := by
  have hsc := Real.sin_sq_add_cos_sq l
  obtain ⟨h1, h2, h3, h4⟩ := gs_relations τ' (Real.sin l) (Real.cos l) hsc hh
  have rsq := Real.sq_sqrt (add_nonneg zero_le_one (sq_nonneg τ'))
  have hu := inv_mul_cancel₀ hh.ne'
  -- with `r = √(1 + τ'²)`, `u = 1/(τ'² + cos²λ)`: `cos ζ' = u·conj(cosh w)`, `|cosh w|² = r² cos²λ + τ'² sin²λ = 1/u`, `sin ζ' = u·(τ' r, cos λ sin λ)`
  have key : Complex.cos ⟨gsXi τ' (Real.cos l), gsEta τ' (Real.sin l) (Real.cos l)⟩ * Complex.cosh ⟨Real.arsinh τ', l⟩ = 1 ∧
      Complex.sin ⟨gsXi τ' (Real.cos l), gsEta τ' (Real.sin l) (Real.cos l)⟩ * Complex.cosh ⟨Real.arsinh τ', l⟩ = Complex.sinh ⟨Real.arsinh τ', l⟩ := by
    rw [ccos_pair, csin_pair, ccosh_w, csinh_pair, Real.cosh_arsinh, Real.sinh_arsinh, h1, h2, h3, h4]
    simp only [div_mul_div_comm, Real.mul_self_sqrt hh.le]
    simp only [div_eq_mul_inv]
    generalize (τ' ^ 2 + Real.cos l ^ 2)⁻¹ = u at hu
    generalize Real.sqrt (1 + τ' ^ 2) = r at rsq
    constructor
    · apply Complex.ext
      · simp only [Complex.mul_re, Complex.one_re]
        linear_combination hu + u * Real.cos l ^ 2 * rsq + u * τ' ^ 2 * hsc
      · simp only [Complex.mul_im, Complex.one_im]
        ring
    · apply Complex.ext
      · simp only [Complex.mul_re]
        linear_combination τ' * Real.cos l * hu + u * τ' * Real.cos l * (rsq - hsc)
      · simp only [Complex.mul_im]
        linear_combination r * Real.sin l * hu
  refine ⟨?_, key.1, ?_, ?_⟩
  · rw [Complex.tanh_eq_sinh_div_cosh, eq_div_iff (right_ne_zero_of_mul_eq_one key.1), key.2]
  · rw [ccosh_w, gamma0, one_pow, mul_comm (Real.cos l), mul_comm (Real.sin l)]
  · rw [ccosh_w, norm_pair, mul_pow, mul_pow, rsq]
    congr 1
    linear_combination (-τ' ^ 2) * hsc

example : (0 : ℝ) < 1 ^ 2 + Real.cos 0 ^ 2 := by norm_num

/-- … and `1/cosh w` is the derivative of the Gauss–Schreiber map: every differentiable `Z` with `sin Z = tanh` near `w` and
    `cos Z(w)·cosh w = 1` (both hold for `ζ'` as coded, previous theorem) has `dZ/dw = 1/cosh w`; so `γ' = −arg(dζ'/dw)` (in degrees) and
    `k' = (√(1 − e² sin²φ)/cos φ)·|dζ'/dw|`, and with `tm_forward_kernel` the returned convergence and scale are `−arg` and `|·|` (times the
    scale of the Mercator coordinate `w`) of the derivative of the whole map `w ↦ ζ' ↦ ζ`, times `b1` -/
theorem tm_gauss_schreiber_derivative (Z : ℂ → ℂ) (w Z' : ℂ) (hZ : HasDerivAt Z Z' w)
    (hs : ∀ᶠ v in nhds w, Complex.sin (Z v) = Complex.tanh v) (hc : Complex.cos (Z w) * Complex.cosh w = 1) :
    Z' = 1 / Complex.cosh w := by
  have hne : Complex.cosh w ≠ 0 := by
    intro h0; rw [h0, mul_zero] at hc; exact zero_ne_one hc
  -- `tanh` has the derivative `cos(Z w)·Z'` (chain rule through `sin ∘ Z`) and `(cosh² − sinh²)/cosh²`; compare the two
  have h2 : HasDerivAt Complex.tanh ((Complex.cosh w * Complex.cosh w - Complex.sinh w * Complex.sinh w) / Complex.cosh w ^ 2) w :=
    ((Complex.hasDerivAt_sinh w).div (Complex.hasDerivAt_cosh w) hne).congr_of_eventuallyEq (.of_forall Complex.tanh_eq_sinh_div_cosh)
  have h3 : HasDerivAt Complex.tanh (Complex.cos (Z w) * Z') w := hZ.csin.congr_of_eventuallyEq (hs.mono fun v hv => hv.symm)
  have huniq := h3.unique h2
  rw [eq_div_iff hne]
  field_simp at huniq
  linear_combination huniq - Z' * Complex.cosh w * hc + Complex.cosh_sq w

/-- the hypotheses are the two identities `tm_gauss_schreiber_sphere` establishes for `ζ'` as coded at every real `(ψ, λ)`; an explicit differentiable
    complex branch `Z` is not constructed here (at `w = 0`, `Z(0) = 0`, the pointwise hypotheses read as below) -/
example : Complex.cos 0 * Complex.cosh 0 = 1 ∧ Complex.sin 0 = Complex.tanh 0 := by simp

/-- `Forward` (first quadrant, not the pole) as coded: `ξ + iη = F(ζ')`, `γ = γ' − arg F'(ζ')` (degrees), `k = k'·b1·|F'(ζ')|`, with `γ'`, `k'`
    the Gauss–Schreiber values as coded — convergence and scale are the rotation and magnification of the composed map -/
theorem tm_forward_kernel (f lon sphi cphi slam clam : ℝ) :
    let τ' := taupOf f sphi cphi
    let ζ' : ℂ := ⟨gsXi τ' clam, gsEta τ' slam clam⟩
    let r := fwdKernel f false lon sphi cphi slam clam
    (⟨r.p, r.q⟩ : ℂ) = krF (alpOf f) ζ' ∧
    r.gamma = gamma0 τ' slam clam - Complex.arg (krF' (alpOf f) ζ') * (TM.deg : ℝ) ∧
    r.k = k0GS f sphi cphi τ' clam * (b1 (nOf f) * ‖krF' (alpOf f) ζ'‖) := by
  intro τ' ζ' r
  obtain ⟨h1, h2⟩ := kr_value (alpOf f) (gsXi τ' clam) (gsEta τ' slam clam)
  have hr : r = _ := fwdKernel_eq f lon sphi cphi slam clam
  rw [hr, ← h1, ← h2]
  exact ⟨rfl, rfl, rfl⟩

/-- `Reverse` (first quadrant) as coded: `ζ' = G(ζ)`; off the pole image `lat = atan τ`, `τ = tauf(sin ξ'/r)`, `lon = atan2(sinh η', cos ξ')`,
    `γ = arg G'(ζ) + atan2(sin ξ' tanh η', cos ξ')`, `k = b1/|G'(ζ)|·k'`; at the pole image (`r = 0`) `lat = 90`, `k = b1/|G'|·_c` -/
theorem tm_reverse_kernel (f ξ η : ℝ) :
    let ζ : ℂ := ⟨ξ, η⟩
    let ζ' := krF (nbetOf f) ζ
    let r := revKernel f ξ η
    let s := Real.sinh ζ'.im
    let c := max 0 (Real.cos ζ'.re)
    let h := Real.sqrt (s ^ 2 + c ^ 2)
    (h ≠ 0 →
      let τ := tauf (Real.sin ζ'.re / h) (esOf f)
      r.p = Complex.arg ⟨1, τ⟩ * (TM.deg : ℝ) ∧ r.q = Complex.arg ⟨c, s⟩ * (TM.deg : ℝ) ∧
      r.gamma = Complex.arg (krF' (nbetOf f) ζ) * (TM.deg : ℝ) + Complex.arg ⟨c, Real.sin ζ'.re * (s / TM.cosh ζ'.im)⟩ * (TM.deg : ℝ) ∧
      r.k = b1 (nOf f) / ‖krF' (nbetOf f) ζ‖ *
        (Real.sqrt ((1 - e2Of f) + e2Of f / (1 + τ * τ)) * Real.sqrt (1 ^ 2 + τ ^ 2) * h)) ∧
    (h = 0 → r.p = 90 ∧ r.q = 0 ∧ r.gamma = Complex.arg (krF' (nbetOf f) ζ) * (TM.deg : ℝ) ∧ r.k = b1 (nOf f) / ‖krF' (nbetOf f) ζ‖ * cOf f) := by
  intro ζ ζ' r s c h
  obtain ⟨h1, h2⟩ := kr_value (nbetOf f) ξ η
  have hr : r = _ := revKernel_eq f ξ η
  have hζ' : ζ' = toC (kr (nbetOf f) ξ η).1 := h1.symm
  have hF' : krF' (nbetOf f) ζ = toC (kr (nbetOf f) ξ η).2 := h2.symm
  rw [hr, hF']
  constructor
  · intro hne
    simp only [h, s, c, hζ', toC_re, toC_im] at hne
    rw [if_neg hne]
    simp only [h, s, c, hζ', toC_re, toC_im, and_self]
  · intro h0
    simp only [h, s, c, hζ', toC_re, toC_im] at h0
    rw [if_pos h0]
    exact ⟨rfl, rfl, rfl, rfl⟩

/-- `Reverse` after `Forward` on the series step is the composition `G ∘ F` (exactly, over `ℂ`, as coded): feeding the `(ξ, η)` returned by the
    Krüger step of `Forward` into the Krüger step of `Reverse` returns `G(F(ζ'))`.  That `G ∘ F` and `F ∘ G` are the identity modulo `n⁷` *as
    trigonometric series in `ζ'`* (all harmonics, Taylor substitution of the inner series) is what `alp_bet_revert` / `bet_alp_revert` certify on the
    extracted tables, for the polynomials whose values at `n` these coefficients are (`tm_coeffs_eval`); so `Reverse(Forward) = id + O(n⁷)` formally.
    Not proved: a bound of the `O(n⁷)` remainder over `ℝ` (the nanometre figures come from the oracle). -/
theorem tm_reverse_of_forward_series (f ξ' η' : ℝ) :
    let z := (kr (alpOf f) ξ' η').1
    toC (kr (nbetOf f) z.re z.im).1 = krF (nbetOf f) (krF (alpOf f) ⟨ξ', η'⟩) := by
  intro z
  rw [(kr_value (nbetOf f) z.re z.im).1, ← (kr_value (alpOf f) ξ' η').1]
  rfl

/-- `η = 0 ⇔ λ = 0` (first quadrant, not the pole), wherever the derivative series `Σ_j 2j|α_j| cosh 2jη'` stays below 1 -/
theorem tm_eta_zero_iff (f lon sphi cphi slam clam : ℝ) (hh : 0 < (taupOf f sphi cphi) ^ 2 + clam ^ 2)
    (hs : absD (gsEta (taupOf f sphi cphi) slam clam) 0 (alpOf f) < 1) :
    (fwdKernel f false lon sphi cphi slam clam).q = 0 ↔ slam = 0 := by
  rw [fwdKernel_eq]
  show (kr (alpOf f) _ _).1.im = 0 ↔ _
  rw [kr_im_zero_iff _ _ _ hs, gsEta, Real.arsinh_eq_zero_iff, div_eq_zero_iff, or_iff_left (Real.sqrt_pos.mpr hh).ne']

/-- non-vacuity: on the sphere (`f = 0`) every `α_j` the constructor computes is `0` -/
example (η : ℝ) : (0 : ℝ) < (taupOf 0 0 1) ^ 2 + 1 ^ 2 ∧ absD η 0 (alpOf 0) < 1 := by
  refine ⟨by positivity, ?_⟩
  have h0 : nOf (0 : ℝ) = 0 := by simp [nOf]
  have : alpOf 0 = List.replicate TM.N 0 := by unfold alpOf; rw [h0]; exact coeffs_zero _
  rw [this]
  have hz : ∀ (m k : ℕ), absD η k (List.replicate m 0) = 0 := by
    intro m; induction m with
    | zero => intro k; rfl
    | succ m ih => intro k; simp [List.replicate_succ, absD, ih]
  rw [hz]; norm_num

/-- central meridian: `η = 0` and `ξ = χ + Σ_j α_j sin 2jχ`, `χ = atan τ'` the conformal latitude, so `y = k0·a·b1·(χ + Σ α_j sin 2jχ)`
    (`_a1 = a·b1`, wrapper theorem `tm_forward_canonical`); where `dξ/dχ = 1 + Σ 2jα_j cos 2jχ ≥ 0` also `γ = 0` and `k = k'·b1·dξ/dχ` -/
theorem tm_central_meridian (f lon sphi cphi : ℝ) :
    let τ' := taupOf f sphi cphi
    let χ := Real.arctan τ'
    let r := fwdKernel f false lon sphi cphi 0 1
    r.q = 0 ∧ r.p = χ + sinSeries χ 0 (alpOf f) ∧
    (0 ≤ 1 + dcosSeries χ 0 (alpOf f) →
      r.gamma = 0 ∧ r.k = k0GS f sphi cphi τ' 1 * (b1 (nOf f) * (1 + dcosSeries χ 0 (alpOf f)))) := by
  intro τ' χ r
  have hxi : gsXi τ' 1 = χ := arg_one_eq_arctan τ'
  have heta : gsEta τ' 0 1 = 0 := by simp [gsEta]
  -- on the real axis the Krüger sums are the real series
  have hF : krF (alpOf f) ⟨χ, 0⟩ = ((χ + sinSeries χ 0 (alpOf f) : ℝ) : ℂ) := by
    rw [krF, show (⟨χ, 0⟩ : ℂ) = (χ : ℂ) from rfl, sinSum_ofReal, Complex.ofReal_add]
  have hF' : krF' (alpOf f) ⟨χ, 0⟩ = ((1 + dcosSeries χ 0 (alpOf f) : ℝ) : ℂ) := by
    rw [krF', show (⟨χ, 0⟩ : ℂ) = (χ : ℂ) from rfl, dcosSum_ofReal, Complex.ofReal_add, Complex.ofReal_one]
  obtain ⟨s1, s2, s3⟩ := tm_forward_kernel f lon sphi cphi 0 1
  rw [show taupOf f sphi cphi = τ' from rfl, hxi, heta] at s1 s2 s3
  rw [hF] at s1
  rw [hF'] at s2 s3
  refine ⟨congrArg Complex.im s1, congrArg Complex.re s1, fun hpos => ⟨?_, ?_⟩⟩
  · rw [s2, Complex.arg_ofReal_of_nonneg hpos, gamma0, zero_mul, one_mul, arg_pos_real _ (Real.sqrt_nonneg _)]
    ring
  · rw [s3, Complex.norm_real, Real.norm_of_nonneg hpos]

/-- `_alp[l]`, `_bet[l]` as computed are the values at `n` of the certified polynomials (`l = i + 1`), `blockPoly` being the truncated
    power series of the certificates (`tmBlock`) -/
theorem tm_coeffs_eval (tbl : List Rat) (n : ℝ) (i : ℕ) (hi : i < TM.N) :
    (coeffs tbl n).getD i 0 = ev (blockPoly tbl (i + 1)) n ∧ blockPoly tbl (i + 1) = tmBlock tbl (i + 1) :=
  ⟨coeffs_eval tbl n i hi, rfl⟩

example : (0 : ℕ) < TM.N := by decide

/-- the northing on the central meridian is the rectifying-latitude series certified in C15 (*Gen*): the coefficients `α_j` in
    `ξ = χ + Σ α_j sin 2jχ` (`tm_central_meridian`) are the values at `n = f/(2 − f)` of the `μ ← χ` polynomials of `AuxLatitude.cpp`, which the C15
    obligations (`chi_ode`, `mu_beta_table`, `aux_revert`, `aux_compose`) tie to the defining relations of the conformal and rectifying
    latitudes modulo `n⁷`; hence `y/k0 = a·b1·μ(χ)` in the series sense, `a·b1·π/2` being the quarter meridian (`b1_table`) -/
theorem tm_central_meridian_is_rectifying (f : ℝ) (i : ℕ) (hi : i < TM.N) :
    (alpOf f).getD i 0 = ev ((AuxDecode.block Gen.AuxSeries.RECTIFYING Gen.AuxSeries.CONFORMAL).getD i []) (nOf f) := by
  rw [← alp_is_aux_list.1 i hi]
  exact coeffs_eval Gen.TMSeries.alpcoeff (nOf f) i hi

end GeoVerif.Props.C06
