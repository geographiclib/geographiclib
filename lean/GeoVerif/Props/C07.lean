import GeoVerif.Proofs.Geocentric
import GeoVerif.Proofs.GeocentricFrame
import Mathlib.Tactic.Ring
import Mathlib.Tactic.LinearCombination
import Mathlib.Tactic.FieldSimp
import Mathlib.Tactic.Positivity
import Mathlib.Tactic.NormNum
/-!
# C07 — Geocentric / LocalCartesian: exact-real theorems about the formula models

The definitions are those of `Model/Geocentric.lean` (the same terms the driver evaluates in binary64 against
the implementation), read at type `ℝ`.
-/
namespace GeoVerif.Props.C07
open GeoVerif GeoVerif.Geocentric GeoVerif.GeocentricProofs

/-- entry `(i, j)` of a row-major 3×3 matrix -/
noncomputable def ent (M : List ℝ) (i j : ℕ) : ℝ := el M (3 * i + j)

theorem ent_cols {M : List ℝ} (h : (toMat M).transpose * toMat M = 1) :
    ∀ i < 3, ∀ j < 3, ent M 0 i * ent M 0 j + ent M 1 i * ent M 1 j + ent M 2 i * ent M 2 j = if i = j then 1 else 0 := by
  intro i hi j hj
  have := congrFun (congrFun h ⟨i, hi⟩) ⟨j, hj⟩
  simp only [Matrix.mul_apply, Fin.sum_univ_three, Matrix.one_apply, Fin.mk.injEq] at this
  exact this

theorem ent_rows_iff {M : List ℝ} :
    (∀ i < 3, ∀ j < 3, ent M i 0 * ent M j 0 + ent M i 1 * ent M j 1 + ent M i 2 * ent M j 2 = if i = j then 1 else 0) ↔
      toMat M * (toMat M).transpose = 1 := by
  constructor
  · intro hO
    ext i j
    simp only [Matrix.mul_apply, Fin.sum_univ_three, Matrix.one_apply, Fin.ext_iff]
    exact hO i i.2 j j.2
  · intro h i hi j hj
    have := congrFun (congrFun h ⟨i, hi⟩) ⟨j, hj⟩
    simp only [Matrix.mul_apply, Fin.sum_univ_three, Matrix.one_apply, Fin.mk.injEq] at this
    exact this

/-- `MᵀM = I`: the columns (east, north, up) are orthonormal -/
theorem rotation_orthonormal (sphi cphi slam clam : ℝ) (hp : sphi ^ 2 + cphi ^ 2 = 1) (hl : slam ^ 2 + clam ^ 2 = 1) :
    ∀ i < 3, ∀ j < 3,
      ent (rotation sphi cphi slam clam) 0 i * ent (rotation sphi cphi slam clam) 0 j +
      ent (rotation sphi cphi slam clam) 1 i * ent (rotation sphi cphi slam clam) 1 j +
      ent (rotation sphi cphi slam clam) 2 i * ent (rotation sphi cphi slam clam) 2 j = if i = j then 1 else 0 :=
  ent_cols (rotation_isRot sphi cphi slam clam hp hl).1

/-- the rows are orthonormal too (`M Mᵀ = I`), hence `M` is a rotation matrix -/
theorem rotation_orthonormal_rows (sphi cphi slam clam : ℝ) (hp : sphi ^ 2 + cphi ^ 2 = 1) (hl : slam ^ 2 + clam ^ 2 = 1) :
    ∀ i < 3, ∀ j < 3,
      ent (rotation sphi cphi slam clam) i 0 * ent (rotation sphi cphi slam clam) j 0 +
      ent (rotation sphi cphi slam clam) i 1 * ent (rotation sphi cphi slam clam) j 1 +
      ent (rotation sphi cphi slam clam) i 2 * ent (rotation sphi cphi slam clam) j 2 = if i = j then 1 else 0 :=
  ent_rows_iff.mpr (rotation_isRot sphi cphi slam clam hp hl).rows

/-- determinant +1 (proper rotation) -/
theorem rotation_det (sphi cphi slam clam : ℝ) (hp : sphi ^ 2 + cphi ^ 2 = 1) (hl : slam ^ 2 + clam ^ 2 = 1) :
    let M := rotation sphi cphi slam clam
    ent M 0 0 * (ent M 1 1 * ent M 2 2 - ent M 1 2 * ent M 2 1)
    - ent M 0 1 * (ent M 1 0 * ent M 2 2 - ent M 1 2 * ent M 2 0)
    + ent M 0 2 * (ent M 1 0 * ent M 2 1 - ent M 1 1 * ent M 2 0) = 1 :=
  (det_first_row _).symm.trans (rotation_isRot sphi cphi slam clam hp hl).2

/-- the third column is the outward normal `(cosφ cosλ, cosφ sinλ, sinφ)`; the forward point at height `h` is the
    surface point displaced by `h` along it -/
theorem forward_on_normal (E : Ell ℝ) (sphi cphi slam clam h : ℝ) :
    forward E sphi cphi slam clam h =
      ((forward E sphi cphi slam clam 0).1 + h * (cphi * clam),
       (forward E sphi cphi slam clam 0).2.1 + h * (cphi * slam),
       (forward E sphi cphi slam clam 0).2.2 + h * sphi) := by
  obtain ⟨a, f⟩ := E
  rw [forward_real, forward_real, Prod.mk.injEq, Prod.mk.injEq]
  refine ⟨?_, ?_, ?_⟩ <;> ring

/-- the surface point (`h = 0`) satisfies the equation of the ellipsoid `(X²+Y²)/a² + Z²/b² = 1`, `b = a(1−f)` -/
theorem forward_on_ellipsoid (E : Ell ℝ) (sphi cphi slam clam : ℝ)
    (hp : sphi ^ 2 + cphi ^ 2 = 1) (hl : slam ^ 2 + clam ^ 2 = 1) (ha : E.a ≠ 0) (hf : E.f ≠ 1)
    (hpos : 0 < 1 - E.f * (2 - E.f) * sphi ^ 2) :
    let P := forward E sphi cphi slam clam 0
    (P.1 ^ 2 + P.2.1 ^ 2) / E.a ^ 2 + P.2.2 ^ 2 / (E.a * (1 - E.f)) ^ 2 = 1 := by
  obtain ⟨a, f⟩ := E
  rw [forward_real]
  simp only [add_zero]
  -- with `N = a/√(1 − e² sin²φ)`: `N²(1 − e² sin²φ) = a²`, and `1 − e² s² = c² + (1−f)² s²` for a unit pair
  have hN : (a / Real.sqrt (1 - f * (2 - f) * sphi ^ 2)) ^ 2 * (1 - f * (2 - f) * sphi ^ 2) = a ^ 2 := by
    rw [div_pow, Real.sq_sqrt hpos.le, div_mul_cancel₀ _ hpos.ne']
  generalize a / Real.sqrt (1 - f * (2 - f) * sphi ^ 2) = N at hN ⊢
  have h1f : (1 - f) ≠ 0 := sub_ne_zero.mpr (Ne.symm hf)
  field_simp
  linear_combination hN + (N ^ 2 * cphi ^ 2) * hl + (N ^ 2) * hp

/-- `IntForward`'s inlined rotation is `Unrotate` of the offset from the origin, `IntReverse`'s is `Rotate` -/
theorem localForward_eq_unrotate (O : Origin ℝ) (xc yc zc : ℝ) :
    localForward O xc yc zc = unrotate O.r (xc - O.x0) (yc - O.y0) (zc - O.z0) := rfl

theorem localReverse_eq_rotate (O : Origin ℝ) (x y z : ℝ) :
    localReverse O x y z = (O.x0 + (rotate O.r x y z).1, O.y0 + (rotate O.r x y z).2.1, O.z0 + (rotate O.r x y z).2.2) := by
  simp only [localReverse, rotate, Prod.mk.injEq]
  refine ⟨?_, ?_, ?_⟩ <;> ring

/-- `LocalCartesian` forward followed by reverse (before the geocentric inversion) is the identity when the
    matrix is orthonormal: the local system is a rigid motion -/
theorem local_reverse_forward (O : Origin ℝ) (xc yc zc : ℝ)
    (hO : ∀ i < 3, ∀ j < 3, ent O.r i 0 * ent O.r j 0 + ent O.r i 1 * ent O.r j 1 + ent O.r i 2 * ent O.r j 2 = if i = j then 1 else 0) :
    let p := localForward O xc yc zc
    localReverse O p.1 p.2.1 p.2.2 = (xc, yc, zc) := by
  intro p
  rw [localReverse_eq_rotate, show p = unrotate O.r (xc - O.x0) (yc - O.y0) (zc - O.z0) from rfl,
    rotate_unrotate_cancel (ent_rows_iff.mp hO)]
  exact Prod.ext (add_sub_cancel _ _) (Prod.ext (add_sub_cancel _ _) (add_sub_cancel _ _))

/-- the origin maps to `(0, 0, 0)` -/
theorem local_origin (O : Origin ℝ) : localForward O O.x0 O.y0 O.z0 = (0, 0, 0) := by
  simp [localForward]

/-- distances are preserved: `‖L(p) − L(q)‖² = ‖p − q‖²` for a matrix with orthonormal rows -/
theorem local_isometry (O : Origin ℝ) (p q : ℝ × ℝ × ℝ)
    (hO : ∀ i < 3, ∀ j < 3, ent O.r i 0 * ent O.r j 0 + ent O.r i 1 * ent O.r j 1 + ent O.r i 2 * ent O.r j 2 = if i = j then 1 else 0) :
    let P := localForward O p.1 p.2.1 p.2.2
    let Q := localForward O q.1 q.2.1 q.2.2
    (P.1 - Q.1) ^ 2 + (P.2.1 - Q.2.1) ^ 2 + (P.2.2 - Q.2.2) ^ 2 = (p.1 - q.1) ^ 2 + (p.2.1 - q.2.1) ^ 2 + (p.2.2 - q.2.2) ^ 2 := by
  intro P Q
  rw [← unrotate_norm_sq (ent_rows_iff.mp hO) (p.1 - q.1) (p.2.1 - q.2.1) (p.2.2 - q.2.2)]
  simp only [P, Q, localForward, unrotate]
  ring

/-- Cardano branch of `vermU`: for `S > 0` and a non-negative discriminant the result is a positive root of
`u³ − 3r u² = 2S`, and `u > 3r` -/
theorem vermU_spec (S r : ℝ) (hS : 0 < S) (hdisc : 0 ≤ S * (2 * r ^ 3 + S)) :
    (vermU S r) ^ 3 - 3 * r * (vermU S r) ^ 2 = 2 * S ∧ 0 < vermU S r ∧ 3 * r < vermU S r :=
  vermU_cardano S r hS hdisc

/-- **(a) trigonometric branch of the resolvent cubic** (`disc < 0`, which forces `r < 0`):
`u = r(1 + 2cos(atan2(√−disc, −(S + r³))/3))` is the root of `u³ − 3r u² = 2S` in `(3r, 0)` -/
theorem vermU_trig_spec (S r : ℝ) (hS : 0 < S) (hdisc : S * (2 * r ^ 3 + S) < 0) :
    (vermU S r) ^ 3 - 3 * r * (vermU S r) ^ 2 = 2 * S ∧ 3 * r < vermU S r ∧ vermU S r < 0 :=
  vermU_trig S r hS hdisc

/-- non-vacuity: `S = 1/100`, `r = −1` is in the trigonometric branch -/
example : (0:ℝ) < 1 / 100 ∧ (1 / 100 : ℝ) * (2 * (-1) ^ 3 + 1 / 100) < 0 := by norm_num

/-- **where the code takes the trigonometric branch**: with `S = e⁴pq/4`, `r = (p + q − e⁴)/6` and `p, q > 0` the
discriminant `S(2r³ + S)` is negative exactly strictly inside the evolute (astroid) `p^⅓ + q^⅓ < (e⁴)^⅓`, written
polynomially as `27 e⁴ p q < (e⁴ − p − q)³` -/
theorem trig_branch_domain (e4 p q : ℝ) (he : 0 < e4) (hp : 0 < p) (hq : 0 < q) :
    e4 * p * q / 4 * (2 * ((p + q - e4) / 6) ^ 3 + e4 * p * q / 4) < 0 ↔ 27 * e4 * p * q < (e4 - p - q) ^ 3 := by
  have hS : 0 < e4 * p * q / 4 := by positivity
  have e : 2 * ((p + q - e4) / 6) ^ 3 + e4 * p * q / 4 = (27 * e4 * p * q - (e4 - p - q) ^ 3) / 108 := by ring
  rw [e]
  constructor
  · intro h
    have := (pos_iff_neg_of_mul_neg h).mp hS
    linarith
  · intro h
    exact mul_neg_of_pos_of_neg hS (by linarith)

/-- non-vacuity: `e⁴ = 1`, `p = q = 1/100` lies inside the evolute -/
example : (27:ℝ) * 1 * (1 / 100) * (1 / 100) < (1 - 1 / 100 - 1 / 100) ^ 3 := by norm_num

/-- **(a)+(b) Vermeille's `k` in every case the general branch is entered with**, oblate and prolate: for `e² ≠ 0`,
`p, q ≥ 0` (the swapped pair of the code) and `¬(e⁴q = 0 ∧ r ≤ 0)` — both signs of the discriminant, `p = 0` (a point
of the axis resp. the equatorial plane) and `q = 0, r > 0` included — the pair returned by `vermK` is `(k, k + e²)`
(oblate) resp. `(k − e², k)` (prolate) with `k > 0` the root of `p/(k + |e²|)² + q/k² = 1` -/
theorem vermK_spec (a f p q : ℝ) (he : f * (2 - f) ≠ 0) (hp : 0 ≤ p) (hq : 0 ≤ q)
    (hbr : ¬ ((f * (2 - f)) ^ 2 * q = 0 ∧ (p + q - (f * (2 - f)) ^ 2) / 6 ≤ 0)) (prolate : Bool) :
    let kk := vermK (⟨a, f⟩ : Ell ℝ) p q ((p + q - (f * (2 - f)) ^ 2) / 6) prolate
    let k := if prolate then kk.2 else kk.1
    0 < k ∧ kk = (if prolate then k - f * (2 - f) else k, if prolate then k else k + f * (2 - f)) ∧
    p / (k + |f * (2 - f)|) ^ 2 + q / k ^ 2 = 1 := by
  intro kk k
  obtain ⟨h1, h2⟩ := vermKk_spec (f * (2 - f)) p q _ he hp hq (by ring) hbr
  have hkk : kk = _ := vermK_real a f p q ((p + q - (f * (2 - f)) ^ 2) / 6) prolate
  have hk : k = vermKk (f * (2 - f)) p q ((p + q - (f * (2 - f)) ^ 2) / 6) := by
    show (if prolate = true then kk.2 else kk.1) = _
    rw [hkk]
    cases prolate <;> rfl
  rw [hk]
  exact ⟨h1, hkk, h2⟩

/-- non-vacuity of `vermK_spec` in the prolate, trigonometric case: `f = −1` (`e² = −3`), `p = q = 1/100` -/
example : ((-1:ℝ) * (2 - -1) ≠ 0) ∧ ¬ (((-1:ℝ) * (2 - -1)) ^ 2 * (1 / 100) = 0 ∧ (1 / 100 + 1 / 100 - ((-1:ℝ) * (2 - -1)) ^ 2) / 6 ≤ 0) := by
  constructor <;> norm_num

/-- **Vermeille's `k`** (oblate ellipsoid, general position, Cardano branch): the computed pair is `(k, k + e²)` with
`k > 0` the root of the quartic `p/(k + e²)² + q/k² = 1` -/
theorem vermK_oblate_spec (a f p q : ℝ) (hf0 : 0 < f) (hf1 : f < 1) (hp : 0 < p) (hq : 0 < q)
    (hdisc : 0 ≤ (f * (2 - f)) ^ 2 * p * q / 4 *
      (2 * ((p + q - (f * (2 - f)) ^ 2) / 6) ^ 3 + (f * (2 - f)) ^ 2 * p * q / 4)) :
    let E : Ell ℝ := ⟨a, f⟩
    let kk := vermK E p q ((p + q - (f * (2 - f)) ^ 2) / 6) false
    0 < kk.1 ∧ kk.2 = kk.1 + f * (2 - f) ∧ p / kk.2 ^ 2 + q / kk.1 ^ 2 = 1 := by
  intro E kk
  have he : 0 < f * (2 - f) := mul_pos hf0 (by linarith)
  have hbr : ¬ ((f * (2 - f)) ^ 2 * q = 0 ∧ (p + q - (f * (2 - f)) ^ 2) / 6 ≤ 0) :=
    fun h => (mul_pos (pow_pos he 2) hq).ne' h.1
  obtain ⟨hk, hkk, hquart⟩ : 0 < kk.1 ∧ kk = (kk.1, kk.1 + f * (2 - f)) ∧ p / (kk.1 + |f * (2 - f)|) ^ 2 + q / kk.1 ^ 2 = 1 :=
    vermK_spec a f p q he.ne' hp.le hq.le hbr false
  have hk2 : kk.2 = kk.1 + f * (2 - f) := congrArg Prod.snd hkk
  rw [abs_of_pos he, ← hk2] at hquart
  exact ⟨hk, hk2, hquart⟩

/--
**(a)–(d) `IntReverse` inverts `IntForward` in every branch below the far-field threshold.**  For every ellipsoid
(`a > 0`, `f < 1`: oblate, prolate, sphere) and every point `(X, Y, Z)` with `|P| ≤ maxrad` — general position on either
side of the evolute (Cardano and trigonometric branch), the rotation axis, the equatorial plane, the centre, the sphere
branch, and inside the singular disc (oblate) / singular segment (prolate) where the limiting formulas are used — the
forward image of the computed `(sin φ, cos φ, sin λ, cos λ, h)` is the point itself.
-/
theorem reverse_closes (a f maxrad X Y Z : ℝ) (ha : 0 < a) (hf : f < 1)
    (hmax : ¬ maxrad < Real.sqrt (X ^ 2 + Y ^ 2 + Z ^ 2)) :
    let E : Ell ℝ := ⟨a, f⟩
    let rv := reverse E maxrad X Y Z
    forward E rv.sphi rv.cphi rv.slam rv.clam rv.h = (X, Y, Z) := by
  intro E rv
  have hm := reverse_merid a f maxrad X Y Z ha hf hmax
  obtain ⟨_, hcx, hcy⟩ := reverse_lon a f maxrad X Y Z hmax
  show forward (⟨a, f⟩ : Ell ℝ) (reverse (⟨a, f⟩ : Ell ℝ) maxrad X Y Z).sphi _ _ _ _ = _
  rw [forward_real, hm.clR, hm.clZ]
  exact Prod.ext hcx (Prod.ext hcy rfl)

/-- **Geocentric `Reverse` inverts `Forward` on the general (Vermeille–Cardano) branch**: the instance of `reverse_closes`
for an oblate ellipsoid `0 < f < 1`, a point off the axis and off the equatorial plane, and a non-negative discriminant
(every point outside the evolute) -/
theorem reverse_general_closes (a f maxrad X Y Z : ℝ) (ha : 0 < a) (hf0 : 0 < f) (hf1 : f < 1)
    (hXY : X ≠ 0 ∨ Y ≠ 0) (hZ : Z ≠ 0)
    (hmax : ¬ maxrad < Real.sqrt ((Real.sqrt (X ^ 2 + Y ^ 2)) ^ 2 + Z ^ 2))
    (hdisc :
      let p := (Real.sqrt (X ^ 2 + Y ^ 2) / a) ^ 2
      let q := (1 - f) ^ 2 * (Z / a) ^ 2
      0 ≤ (f * (2 - f)) ^ 2 * p * q / 4 *
        (2 * ((p + q - (f * (2 - f)) ^ 2) / 6) ^ 3 + (f * (2 - f)) ^ 2 * p * q / 4)) :
    let E : Ell ℝ := ⟨a, f⟩
    let rv := reverse E maxrad X Y Z
    forward E rv.sphi rv.cphi rv.slam rv.clam rv.h = (X, Y, Z) :=
  reverse_closes a f maxrad X Y Z ha hf1 (by rwa [nested_norm] at hmax)

/-- non-vacuity of `reverse_general_closes`: a = 1, f = 1/2, the point (1, 0, 1) -/
example : forward (⟨1, 1/2⟩ : Ell ℝ) (reverse (⟨1, 1/2⟩ : Ell ℝ) 10 1 0 1).sphi (reverse (⟨1, 1/2⟩ : Ell ℝ) 10 1 0 1).cphi
    (reverse (⟨1, 1/2⟩ : Ell ℝ) 10 1 0 1).slam (reverse (⟨1, 1/2⟩ : Ell ℝ) 10 1 0 1).clam (reverse (⟨1, 1/2⟩ : Ell ℝ) 10 1 0 1).h = (1, 0, 1) :=
  reverse_general_closes 1 (1/2) 10 1 0 1 (by norm_num) (by norm_num) (by norm_num) (Or.inl one_ne_zero) one_ne_zero
    (by rw [show ((1:ℝ) ^ 2 + 0 ^ 2) = 1 by norm_num, Real.sqrt_one, not_lt, Real.sqrt_le_iff]; norm_num)
    (by simp only []; rw [show ((1:ℝ) ^ 2 + 0 ^ 2) = 1 by norm_num, Real.sqrt_one]; norm_num)

/-- non-vacuity, trigonometric branch: `a = 1`, `f = 1/2` (`e⁴ = 9/16`), the point `(1/10, 0, 1/10)` has
`p = 1/100`, `q = 1/400`, inside the evolute -/
example : (27:ℝ) * (9 / 16) * (1 / 100) * (1 / 400) < (9 / 16 - 1 / 100 - 1 / 400) ^ 3 := by norm_num
example : forward (⟨1, 1/2⟩ : Ell ℝ) (reverse (⟨1, 1/2⟩ : Ell ℝ) 10 (1/10) 0 (1/10)).sphi (reverse (⟨1, 1/2⟩ : Ell ℝ) 10 (1/10) 0 (1/10)).cphi
    (reverse (⟨1, 1/2⟩ : Ell ℝ) 10 (1/10) 0 (1/10)).slam (reverse (⟨1, 1/2⟩ : Ell ℝ) 10 (1/10) 0 (1/10)).clam
    (reverse (⟨1, 1/2⟩ : Ell ℝ) 10 (1/10) 0 (1/10)).h = (1/10, 0, 1/10) :=
  reverse_closes 1 (1/2) 10 (1/10) 0 (1/10) (by norm_num) (by norm_num)
    (by rw [not_lt, Real.sqrt_le_iff]; norm_num)

/-- non-vacuity, prolate, inside the singular segment: `a = 1`, `f = −1`, the point `(0, 0, 1)` (`|Z| ≤ a|e²|/(1−f) = 3/2`) -/
example : forward (⟨1, -1⟩ : Ell ℝ) (reverse (⟨1, -1⟩ : Ell ℝ) 10 0 0 1).sphi (reverse (⟨1, -1⟩ : Ell ℝ) 10 0 0 1).cphi
    (reverse (⟨1, -1⟩ : Ell ℝ) 10 0 0 1).slam (reverse (⟨1, -1⟩ : Ell ℝ) 10 0 0 1).clam (reverse (⟨1, -1⟩ : Ell ℝ) 10 0 0 1).h = (0, 0, 1) :=
  reverse_closes 1 (-1) 10 0 0 1 (by norm_num) (by norm_num) (by rw [not_lt, Real.sqrt_le_iff]; norm_num)

/-- non-vacuity, the centre of a sphere -/
example : forward (⟨1, 0⟩ : Ell ℝ) (reverse (⟨1, 0⟩ : Ell ℝ) 10 0 0 0).sphi (reverse (⟨1, 0⟩ : Ell ℝ) 10 0 0 0).cphi
    (reverse (⟨1, 0⟩ : Ell ℝ) 10 0 0 0).slam (reverse (⟨1, 0⟩ : Ell ℝ) 10 0 0 0).clam (reverse (⟨1, 0⟩ : Ell ℝ) 10 0 0 0).h = (0, 0, 0) :=
  reverse_closes 1 0 10 0 0 0 (by norm_num) (by norm_num) (by rw [not_lt, Real.sqrt_le_iff]; norm_num)

/--
**(g) in every branch — far field included — the pairs handed to `Rotation` and to `atan2d` are unit vectors**, and
`cos φ ≥ 0`
-/
theorem reverse_unit (a f maxrad X Y Z : ℝ) (ha : 0 < a) (hf : f < 1) (hmr : 0 ≤ maxrad) :
    let rv := reverse (⟨a, f⟩ : Ell ℝ) maxrad X Y Z
    rv.sphi ^ 2 + rv.cphi ^ 2 = 1 ∧ rv.slam ^ 2 + rv.clam ^ 2 = 1 ∧ 0 ≤ rv.cphi := by
  intro rv
  by_cases hmax : maxrad < Real.sqrt (X ^ 2 + Y ^ 2 + Z ^ 2)
  · obtain ⟨h1, h2, h3, _⟩ := reverse_far_facts a f maxrad X Y Z hmr hmax
    exact ⟨h1, h3, h2⟩
  · have hm := reverse_merid a f maxrad X Y Z ha hf hmax
    exact ⟨hm.unit, (reverse_lon a f maxrad X Y Z hmax).1, hm.cpos⟩

/-- the matrix returned by `Reverse` is a rotation matrix (orthogonal, determinant `+1`) in every branch -/
theorem reverseM_frame_isRot (a f maxrad X Y Z : ℝ) (ha : 0 < a) (hf : f < 1) (hmr : 0 ≤ maxrad) :
    IsRot (reverseM (⟨a, f⟩ : Ell ℝ) maxrad X Y Z).M := by
  obtain ⟨h1, h2, _⟩ := reverse_unit a f maxrad X Y Z ha hf hmr
  exact rotation_isRot _ _ _ _ h1 h2

/-- `sincosd` of the returned `(lat, lon)` gives back the pairs `Reverse` computed, in every branch -/
theorem reverseM_sincos (a f maxrad X Y Z : ℝ) (ha : 0 < a) (hf : f < 1) (hmr : 0 ≤ maxrad) :
    let o := reverseM (⟨a, f⟩ : Ell ℝ) maxrad X Y Z
    let rv := reverse (⟨a, f⟩ : Ell ℝ) maxrad X Y Z
    sind o.lat = rv.sphi ∧ cosd o.lat = rv.cphi ∧ sind o.lon = rv.slam ∧ cosd o.lon = rv.clam := by
  obtain ⟨h1, h2, _⟩ := reverse_unit a f maxrad X Y Z ha hf hmr
  exact ⟨(sind_atan2d _ _ h1).1, (sind_atan2d _ _ h1).2, (sind_atan2d _ _ h2).1, (sind_atan2d _ _ h2).2⟩

/--
**(g) the matrix returned by `Reverse` is the east-north-up frame AT THE RETURNED `(lat, lon)`**, in every branch: it
equals `Rotation(sin lat°, cos lat°, sin lon°, cos lon°)` — the matrix `Forward` returns at that position
-/
theorem reverseM_frame_is_enu (a f maxrad X Y Z : ℝ) (ha : 0 < a) (hf : f < 1) (hmr : 0 ≤ maxrad) :
    let o := reverseM (⟨a, f⟩ : Ell ℝ) maxrad X Y Z
    o.M = rotation (sind o.lat) (cosd o.lat) (sind o.lon) (cosd o.lon) ∧
    o.M = (forwardM (⟨a, f⟩ : Ell ℝ) (sind o.lat) (cosd o.lat) (sind o.lon) (cosd o.lon) o.h).2 := by
  obtain ⟨e1, e2, e3, e4⟩ := reverseM_sincos a f maxrad X Y Z ha hf hmr
  intro o
  have : o.M = rotation (sind o.lat) (cosd o.lat) (sind o.lon) (cosd o.lon) := by rw [e1, e2, e3, e4]; rfl
  exact ⟨this, this⟩

/-- **(g) ranges, for every input**: `|lat| ≤ 90`, `−180 < lon ≤ 180` -/
theorem reverseM_ranges (a f maxrad X Y Z : ℝ) (ha : 0 < a) (hf : f < 1) (hmr : 0 ≤ maxrad) :
    let o := reverseM (⟨a, f⟩ : Ell ℝ) maxrad X Y Z
    |o.lat| ≤ 90 ∧ -180 < o.lon ∧ o.lon ≤ 180 := by
  intro o
  obtain ⟨_, _, h3⟩ := reverse_unit a f maxrad X Y Z ha hf hmr
  have hpi := Real.pi_pos
  set rv := reverse (⟨a, f⟩ : Ell ℝ) maxrad X Y Z
  have hA : |Complex.arg ⟨rv.cphi, rv.sphi⟩| ≤ Real.pi / 2 := Complex.abs_arg_le_pi_div_two_iff.mpr h3
  have hB1 := Complex.neg_pi_lt_arg ⟨rv.clam, rv.slam⟩
  have hB2 := Complex.arg_le_pi ⟨rv.clam, rv.slam⟩
  refine ⟨?_, ?_, ?_⟩
  · rw [show o.lat = _ from atan2d_real _ _, abs_div, abs_mul, abs_of_pos hpi, abs_of_pos (by norm_num : (0:ℝ) < 180),
      div_le_iff₀ hpi]
    linarith
  · rw [show o.lon = _ from atan2d_real _ _, lt_div_iff₀ hpi]; linarith
  · rw [show o.lon = _ from atan2d_real _ _, div_le_iff₀ hpi]; linarith

/-- **end to end in degrees**: `Forward` at the `(lat, lon, h)` returned by `Reverse` gives back the point (below the
far-field threshold), and both calls return the same matrix -/
theorem forwardM_reverseM (a f maxrad X Y Z : ℝ) (ha : 0 < a) (hf : f < 1) (hmr : 0 ≤ maxrad)
    (hmax : ¬ maxrad < Real.sqrt (X ^ 2 + Y ^ 2 + Z ^ 2)) :
    let E : Ell ℝ := ⟨a, f⟩
    let o := reverseM E maxrad X Y Z
    forwardM E (sind o.lat) (cosd o.lat) (sind o.lon) (cosd o.lon) o.h = ((X, Y, Z), o.M) := by
  obtain ⟨e1, e2, e3, e4⟩ := reverseM_sincos a f maxrad X Y Z ha hf hmr
  intro E o
  show (forward E (sind o.lat) (cosd o.lat) (sind o.lon) (cosd o.lon) o.h,
        rotation (sind o.lat) (cosd o.lat) (sind o.lon) (cosd o.lon)) = _
  rw [e1, e2, e3, e4]
  exact Prod.ext (reverse_closes a f maxrad X Y Z ha hf hmax) rfl

/--
**(e) the far-field branch** (`|P| > maxrad ≥ 0`; the code sets `maxrad = 2a/ε`): the returned height is `|P|`, the
direction is the geocentric one, and the forward image of the result misses `P` by exactly the surface point, i.e. by at
most the larger semi-axis `a·max(1, 1−f)` — relative to `|P| > 2a/ε` less than `ε/2·max(1, 1−f)`
-/
theorem reverse_farfield_bound (a f maxrad X Y Z : ℝ) (ha : 0 < a) (hf : f < 1) (hmr : 0 ≤ maxrad)
    (hmax : maxrad < Real.sqrt (X ^ 2 + Y ^ 2 + Z ^ 2)) :
    let E : Ell ℝ := ⟨a, f⟩
    let rv := reverse E maxrad X Y Z
    let F := forward E rv.sphi rv.cphi rv.slam rv.clam rv.h
    rv.h = Real.sqrt (X ^ 2 + Y ^ 2 + Z ^ 2) ∧
    (F.1 - X) ^ 2 + (F.2.1 - Y) ^ 2 + (F.2.2 - Z) ^ 2 ≤ (a * max 1 (1 - f)) ^ 2 ∧
    ((F.1 - X) ^ 2 + (F.2.1 - Y) ^ 2 + (F.2.2 - Z) ^ 2) * maxrad ^ 2 ≤ (a * max 1 (1 - f)) ^ 2 * (X ^ 2 + Y ^ 2 + Z ^ 2) := by
  obtain ⟨hu, _, hl, hh, hx, hy, hz⟩ := reverse_far_facts a f maxrad X Y Z hmr hmax
  have hb := forward_miss a f _ _ _ _ (reverse (⟨a, f⟩ : Ell ℝ) maxrad X Y Z).h ha hf hu hl
  rw [hx, hy, hz] at hb
  have hP : maxrad ^ 2 ≤ X ^ 2 + Y ^ 2 + Z ^ 2 := ((Real.lt_sqrt hmr).mp hmax).le
  exact ⟨hh, hb, mul_le_mul hb hP (sq_nonneg _) (sq_nonneg _)⟩

/-- non-vacuity: a point beyond `maxrad` -/
example : (10:ℝ) < Real.sqrt (100 ^ 2 + 0 ^ 2 + 0 ^ 2) := by
  rw [Real.lt_sqrt (by norm_num)]; norm_num

/--
**(f) in the far field — partial.**  Full statement one would like: the returned `h` is the distance from `P` to the ellipsoid.
That is false beyond `maxrad` by construction (`h = |P|`, the code "treats the earth as a point"); what holds, and is proved
here, is the lower half of `|h − dist(P, ellipsoid)| ≤ max(a, b)`: every point of the ellipsoid is at least
`h − a·max(1, 1−f)` away from `P` (with `maxrad = 2a/ε` that is a relative `ε/2·max(1, 1−f)` of `h`).  The upper half
(`dist ≤ h`) is not formalised.
-/
theorem reverse_farfield_height_partial (a f maxrad X Y Z : ℝ) (ha : 0 < a) (hf : f < 1) (hmr : 0 ≤ maxrad)
    (hmax : maxrad < Real.sqrt (X ^ 2 + Y ^ 2 + Z ^ 2))
    (hbig : a * max 1 (1 - f) ≤ Real.sqrt (X ^ 2 + Y ^ 2 + Z ^ 2)) :
    let rv := reverse (⟨a, f⟩ : Ell ℝ) maxrad X Y Z
    ∀ x y z : ℝ, (x ^ 2 + y ^ 2) / a ^ 2 + z ^ 2 / (a * (1 - f)) ^ 2 = 1 →
      (rv.h - a * max 1 (1 - f)) ^ 2 ≤ (X - x) ^ 2 + (Y - y) ^ 2 + (Z - z) ^ 2 := by
  intro rv x y z hQ
  obtain ⟨_, _, _, hh, _⟩ := reverse_far_facts a f maxrad X Y Z hmr hmax
  rw [show rv.h = _ from hh]
  have hq := ellipse_norm_le a f (x ^ 2 + y ^ 2) z hf (by positivity) (ellipsoid_poly a f x y z ha hf hQ)
  exact sq_norm_sub_ge X Y Z x y z _ (mul_nonneg ha.le (le_max_of_le_left zero_le_one)) hq hbig

/--
**(f) the height of least magnitude, forward form.**  If the point `forward(φ, λ, h)` lies on the same side of the rotation
axis and of the equatorial plane as its foot point (`N + h ≥ 0` and `(1−f)²N + h ≥ 0`, `N = a/√(1 − e² sin²φ)`), then no
point of the ellipsoid is closer to it than `|h|` (and the foot point `forward(φ, λ, 0)` is at distance exactly `|h|`,
`forward_on_normal`): `h` is the signed distance to the ellipsoid.
-/
theorem forward_height_least (a f s c sl cl h x y z : ℝ) (ha : 0 < a) (hf : f < 1)
    (hu : s ^ 2 + c ^ 2 = 1) (hl : sl ^ 2 + cl ^ 2 = 1)
    (hsR : 0 ≤ a / Real.sqrt (1 - f * (2 - f) * s ^ 2) + h)
    (hsZ : 0 ≤ (1 - f) ^ 2 * (a / Real.sqrt (1 - f * (2 - f) * s ^ 2)) + h)
    (hQ : (x ^ 2 + y ^ 2) / a ^ 2 + z ^ 2 / (a * (1 - f)) ^ 2 = 1) :
    let P := forward (⟨a, f⟩ : Ell ℝ) s c sl cl h
    h ^ 2 ≤ (P.1 - x) ^ 2 + (P.2.1 - y) ^ 2 + (P.2.2 - z) ^ 2 := by
  intro P
  obtain ⟨hN, hA⟩ := primeVertical a f s c ha hf hu
  rw [show P = _ from forward_real a f s c sl cl h]
  exact foot_nearest a ((1 - f) ^ 2) _ s c sl cl h x y z (pow_pos (by linarith) 2) hN hu hl hA
    (ellipsoid_poly a f x y z ha hf hQ) hsR hsZ

/--
**(f) `Reverse` returns the height of least magnitude** — in every branch below the far-field threshold, inside the
singular disc / segment included: no point `(x, y, z)` of the ellipsoid is closer to `(X, Y, Z)` than `|h|`, and the foot
point (the forward image of the returned `(φ, λ)` at height 0, which lies on the ellipsoid) is at distance exactly `|h|`.
-/
theorem reverse_height_least (a f maxrad X Y Z : ℝ) (ha : 0 < a) (hf : f < 1)
    (hmax : ¬ maxrad < Real.sqrt (X ^ 2 + Y ^ 2 + Z ^ 2)) :
    let E : Ell ℝ := ⟨a, f⟩
    let rv := reverse E maxrad X Y Z
    let Q0 := forward E rv.sphi rv.cphi rv.slam rv.clam 0
    (∀ x y z : ℝ, (x ^ 2 + y ^ 2) / a ^ 2 + z ^ 2 / (a * (1 - f)) ^ 2 = 1 →
      rv.h ^ 2 ≤ (X - x) ^ 2 + (Y - y) ^ 2 + (Z - z) ^ 2) ∧
    (X - Q0.1) ^ 2 + (Y - Q0.2.1) ^ 2 + (Z - Q0.2.2) ^ 2 = rv.h ^ 2 ∧
    (Q0.1 ^ 2 + Q0.2.1 ^ 2) / a ^ 2 + Q0.2.2 ^ 2 / (a * (1 - f)) ^ 2 = 1 := by
  have hm := reverse_merid a f maxrad X Y Z ha hf hmax
  have hl := (reverse_lon a f maxrad X Y Z hmax).1
  have hc := reverse_closes a f maxrad X Y Z ha hf hmax
  intro E rv Q0
  refine ⟨fun x y z hQ => ?_, ?_, ?_⟩
  · have := forward_height_least a f _ _ _ _ _ x y z ha hf hm.unit hl hm.sideR hm.sideZ hQ
    rwa [hc] at this
  -- the point is the foot point displaced by `h` along the unit normal
  · have hn := forward_on_normal E rv.sphi rv.cphi rv.slam rv.clam rv.h
    rw [hc, Prod.mk.injEq, Prod.mk.injEq] at hn
    rw [hn.1, hn.2.1, hn.2.2]
    linear_combination (rv.h ^ 2 * rv.cphi ^ 2) * hl + (rv.h ^ 2) * hm.unit
  · exact forward_on_ellipsoid E _ _ _ _ hm.unit hl ha.ne' hf.ne (one_sub_e2_sq_pos f _ _ hf hm.unit)

/--
**Forward followed by Reverse is the identity** (over ℝ, on the executed model): for a unit pair `(sin φ, cos φ)` with
`cos φ ≥ 0`, a unit pair `(sin λ, cos λ)` and a height with `N + h > 0` and `(1−e²)N + h > 0` (the point lies strictly on the
near side of the rotation axis and of the equatorial plane — every `h > −min(N, (1−e²)N)`, in particular all geophysical
heights), `Reverse` applied to `Forward(φ, λ, h)` (below the far-field threshold) returns `sin φ, cos φ, h` exactly, and
`sin λ, cos λ` when `cos φ > 0` (on the axis the code returns `λ = 0`).
-/
theorem reverse_forward_id (a f maxrad s c sl cl h : ℝ) (ha : 0 < a) (hf : f < 1)
    (hu : s ^ 2 + c ^ 2 = 1) (hl : sl ^ 2 + cl ^ 2 = 1) (hc : 0 ≤ c)
    (hsR : 0 < a / Real.sqrt (1 - f * (2 - f) * s ^ 2) + h)
    (hsZ : 0 < (1 - f) ^ 2 * (a / Real.sqrt (1 - f * (2 - f) * s ^ 2)) + h)
    (hmax : ¬ maxrad < Real.sqrt ((forward (⟨a, f⟩ : Ell ℝ) s c sl cl h).1 ^ 2 + (forward (⟨a, f⟩ : Ell ℝ) s c sl cl h).2.1 ^ 2 +
      (forward (⟨a, f⟩ : Ell ℝ) s c sl cl h).2.2 ^ 2)) :
    let P := forward (⟨a, f⟩ : Ell ℝ) s c sl cl h
    let rv := reverse (⟨a, f⟩ : Ell ℝ) maxrad P.1 P.2.1 P.2.2
    rv.sphi = s ∧ rv.cphi = c ∧ rv.h = h ∧ (0 < c → rv.slam = sl ∧ rv.clam = cl) ∧ (c = 0 → rv.slam = 0 ∧ rv.clam = 1) := by
  intro P rv
  have hrv : rv = _ := reverse_near a f maxrad P.1 P.2.1 P.2.2 hmax
  rw [hrv, show P = _ from forward_real a f s c sl cl h]
  generalize hN : a / Real.sqrt (1 - f * (2 - f) * s ^ 2) = N at hsR hsZ ⊢
  -- the meridian point of the forward image is `((N + h) c, ((1−f)² N + h) s)`
  have hR : Real.sqrt (((N + h) * c * cl) ^ 2 + ((N + h) * c * sl) ^ 2) = (N + h) * c := by
    rw [show ((N + h) * c * cl) ^ 2 + ((N + h) * c * sl) ^ 2 = ((N + h) * c) ^ 2 by
      linear_combination (((N + h) * c) ^ 2) * hl, Real.sqrt_sq (mul_nonneg hsR.le hc)]
  simp only [hR]
  obtain ⟨e1, e2, e3⟩ := revNear_forward a f s c h N _ _ ha hf hu hc hN hsR hsZ
  refine ⟨e1, e2, e3, fun hcpos => ?_, fun hc0 => ?_⟩
  · have hne : (N + h) * c ≠ 0 := (mul_pos hsR hcpos).ne'
    rw [(revNear_lon _ _ _ _ _ _).1, (revNear_lon _ _ _ _ _ _).2, if_neg hne, if_neg hne, mul_div_cancel_left₀ _ hne,
      mul_div_cancel_left₀ _ hne]
    exact ⟨rfl, rfl⟩
  · have hz : (N + h) * c = 0 := by rw [hc0, mul_zero]
    rw [(revNear_lon _ _ _ _ _ _).1, (revNear_lon _ _ _ _ _ _).2, if_pos hz, if_pos hz]
    exact ⟨rfl, rfl⟩

/-- non-vacuity: the unit sphere, `φ = 0`, `λ = 0`, `h = 1` (so `N + h = 2 > 0`) -/
example : (0:ℝ) < 1 / Real.sqrt (1 - 0 * (2 - 0) * (0:ℝ) ^ 2) + 1 := by
  rw [show (1:ℝ) - 0 * (2 - 0) * (0:ℝ) ^ 2 = 1 by norm_num, Real.sqrt_one]; norm_num

/-- `Reset`: the frame of the local system is `Geocentric::Rotation` at the origin `(lat0, lon0)`, a rotation matrix;
the origin of the local system is the forward image of `(lat0, lon0, h0)` -/
theorem reset_frame (a f s c sl cl h0 : ℝ) (hu : s ^ 2 + c ^ 2 = 1) (hl : sl ^ 2 + cl ^ 2 = 1) :
    let O := reset (⟨a, f⟩ : Ell ℝ) s c sl cl h0
    O.r = rotation s c sl cl ∧ IsRot O.r ∧ (O.x0, O.y0, O.z0) = forward (⟨a, f⟩ : Ell ℝ) s c sl cl h0 := by
  intro O
  exact ⟨rfl, rotation_isRot s c sl cl hu hl, rfl⟩

/-- `MatrixMultiply(M)` replaces `M` by `rᵀ·M` -/
theorem matrixMultiply_spec (r M : List ℝ) : toMat (matrixMultiply r M) = (toMat r).transpose * toMat M :=
  toMat_matrixMultiply r M

/-- the composition of two rotations is a rotation: the matrix returned by `LocalCartesian::Forward/Reverse` is orthogonal
with determinant `+1` whenever the frame of the origin and the frame of the point are -/
theorem matrixMultiply_rotation (r M : List ℝ) (hr : IsRot r) (hM : IsRot M) : IsRot (matrixMultiply r M) := by
  constructor
  · rw [toMat_matrixMultiply, Matrix.transpose_mul, Matrix.transpose_transpose, Matrix.mul_assoc,
      ← Matrix.mul_assoc (toMat r), hr.rows, Matrix.one_mul, hM.1]
  · rw [toMat_matrixMultiply, Matrix.det_mul, Matrix.det_transpose, hr.2, hM.2, one_mul]

/-- at the origin of the local system `Forward` returns `(0, 0, 0)` and the identity matrix -/
theorem localForwardM_at_origin (a f s c sl cl h0 : ℝ) (hu : s ^ 2 + c ^ 2 = 1) (hl : sl ^ 2 + cl ^ 2 = 1) :
    let E : Ell ℝ := ⟨a, f⟩
    let o := localForwardM E (reset E s c sl cl h0) s c sl cl h0
    o.1 = (0, 0, 0) ∧ toMat o.2 = 1 := by
  intro E o
  constructor
  · show localForward (reset E s c sl cl h0) _ _ _ = _
    exact local_origin (reset E s c sl cl h0)
  · exact matrixMultiply_self _ (rotation_isRot s c sl cl hu hl)

/-- the matrix returned by `LocalCartesian::Forward` is a rotation -/
theorem localForwardM_frame_isRot (E : Ell ℝ) (O : Origin ℝ) (s c sl cl h : ℝ) (hO : IsRot O.r)
    (hu : s ^ 2 + c ^ 2 = 1) (hl : sl ^ 2 + cl ^ 2 = 1) : IsRot (localForwardM E O s c sl cl h).2 :=
  matrixMultiply_rotation _ _ hO (rotation_isRot s c sl cl hu hl)

/-- the matrix returned by `LocalCartesian::Reverse` is a rotation, for every local point (every branch of the geocentric
reverse) -/
theorem localReverseM_frame_isRot (a f maxrad : ℝ) (O : Origin ℝ) (x y z : ℝ) (ha : 0 < a) (hf : f < 1) (hmr : 0 ≤ maxrad)
    (hO : IsRot O.r) : IsRot (localReverseM (⟨a, f⟩ : Ell ℝ) maxrad O x y z).M :=
  matrixMultiply_rotation _ _ hO (reverseM_frame_isRot a f maxrad _ _ _ ha hf hmr)

/-- `Unrotate` undoes `Rotate` and conversely, for a rotation matrix -/
theorem unrotate_rotate (M : List ℝ) (x y z : ℝ) (hM : IsRot M) :
    let v := rotate M x y z
    unrotate M v.1 v.2.1 v.2.2 = (x, y, z) :=
  unrotate_rotate_cancel hM.1 x y z

theorem rotate_unrotate (M : List ℝ) (X Y Z : ℝ) (hM : IsRot M) :
    let v := unrotate M X Y Z
    rotate M v.1 v.2.1 v.2.2 = (X, Y, Z) :=
  rotate_unrotate_cancel hM.rows X Y Z

/-- `LocalCartesian` reverse followed by forward (around the geocentric conversions) is the identity -/
theorem local_forward_reverse (O : Origin ℝ) (x y z : ℝ) (hO : IsRot O.r) :
    let P := localReverse O x y z
    localForward O P.1 P.2.1 P.2.2 = (x, y, z) := by
  intro P
  rw [localForward_eq_unrotate, show P = _ from localReverse_eq_rotate O x y z]
  simp only [add_sub_cancel_left]
  exact unrotate_rotate_cancel hO.1 x y z

/--
**`LocalCartesian::Forward` inverts `LocalCartesian::Reverse`, matrices included**: for a local system whose frame is a
rotation (e.g. any `reset`), and a local point whose geocentric image is below the far-field threshold, `Forward` at the
`(lat, lon, h)` returned by `Reverse` gives back `(x, y, z)` and the same matrix.
-/
theorem localForwardM_reverseM (a f maxrad : ℝ) (O : Origin ℝ) (x y z : ℝ) (ha : 0 < a) (hf : f < 1) (hmr : 0 ≤ maxrad)
    (hO : IsRot O.r)
    (hmax : ¬ maxrad < Real.sqrt ((localReverse O x y z).1 ^ 2 + (localReverse O x y z).2.1 ^ 2 + (localReverse O x y z).2.2 ^ 2)) :
    let E : Ell ℝ := ⟨a, f⟩
    let o := localReverseM E maxrad O x y z
    localForwardM E O (sind o.lat) (cosd o.lat) (sind o.lon) (cosd o.lon) o.h = ((x, y, z), o.M) := by
  intro E o
  set P := localReverse O x y z with hP
  have h1 := forwardM_reverseM a f maxrad P.1 P.2.1 P.2.2 ha hf hmr hmax
  simp only [forwardM, Prod.mk.injEq] at h1
  obtain ⟨hpos, hM⟩ := h1
  have hlr := local_forward_reverse O x y z hO
  simp only [] at hlr
  show (localForward O (forward E _ _ _ _ _).1 (forward E _ _ _ _ _).2.1 (forward E _ _ _ _ _).2.2,
        matrixMultiply O.r (rotation _ _ _ _)) = _
  have hpos' : forward E (sind o.lat) (cosd o.lat) (sind o.lon) (cosd o.lon) o.h = (P.1, P.2.1, P.2.2) := hpos
  have hM' : rotation (sind o.lat) (cosd o.lat) (sind o.lon) (cosd o.lon) = (reverseM E maxrad P.1 P.2.1 P.2.2).M := hM
  rw [hpos', hM']
  exact Prod.ext hlr rfl

/-- non-vacuity: the frame of a `reset` at the north pole of the unit sphere satisfies the hypotheses (`IsRot`) -/
example : IsRot (reset (⟨1, 0⟩ : Ell ℝ) 1 0 0 1 0).r := (reset_frame 1 0 1 0 0 1 0 (by norm_num) (by norm_num)).2.1

end GeoVerif.Props.C07
