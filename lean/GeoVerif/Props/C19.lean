import GeoVerif.Proofs.HarmonicDeriv
import GeoVerif.Proofs.HarmonicGlue
import GeoVerif.Gen.C19Glue
import Mathlib.Analysis.Real.Pi.Bounds
import Mathlib.Analysis.Complex.ExponentialBounds
/-!
The statements are about the definitions of `Model/Harmonic.lean` and `Model/HarmonicGlue.lean`, the same terms the driver executes
against `SphericalEngine::coeff`, `SphericalHarmonic`(1, 2), `MagneticModel`, `NormalGravity`, `GravityModel`, `GravityCircle`.
Statements marked *Gen* are about constants extracted from the sources (`Gen/C19Glue.lean`) and are proved by evaluation.
-/
namespace GeoVerif.Props.C19
open GeoVerif GeoVerif.Harmonic GeoVerif.Proofs.Harmonic

section Clenshaw
variable {R : Type} [CommRing R]

/-- partial sums started at an index `k + 1 ≥ 1`:
    `Σ_j cs[j]·F(k+1+j) = y_{k+1}·F(k+1) + β_{k+1}·F(k)·y_{k+2}` -/
theorem clenshaw_tail (al be F : ℕ → R) (hF : ∀ k, F (k + 2) = al (k + 1) * F (k + 1) + be (k + 1) * F k)
    (cs : List R) (k : ℕ) :
    dsum F (k + 1) cs = (clenG 0 al be (k + 1) cs).1 * F (k + 1) + be (k + 1) * F k * (clenG 0 al be (k + 1) cs).2 := by
  -- the recurrence with derivative (`clenD_tail`) carries its second family alone when the first is `0`
  have h := clenD_tail al be 0 0 F (fun k => by simp) (fun k => by simpa using hF k) cs k
  simpa [clenD_fst] using h

/-- **Clenshaw**: for every three-term recurrence `F(k+2) = α_{k+1}·F(k+1) + β_{k+1}·F(k)` started with
    `F(1) = α_0·F(0)` over a commutative ring, the backward recurrence
    `y_k = α_k·y_{k+1} + β_{k+1}·y_{k+2} + c_k` returns the defining sum: `Σ_k c_k·F(k) = y_0·F(0)`.
    This is the mathematical core of the inner (degree) and outer (order) loops of `SphericalEngine::Value`. -/
theorem clenshaw_general (al be F : ℕ → R) (hF : ∀ k, F (k + 2) = al (k + 1) * F (k + 1) + be (k + 1) * F k)
    (hF1 : F 1 = al 0 * F 0) (cs : List R) :
    dsum F 0 cs = (clenG 0 al be 0 cs).1 * F 0 := by
  have h := clenD_sum al be 0 0 F (fun k => by simp) (fun k => by simpa using hF k) (by simp) (by simpa using hF1) cs
  simpa [clenD_fst] using h

/-- non-vacuity: `F(k) = k + 1` satisfies `F(k+2) = 2·F(k+1) − F(k)`, `F(1) = 2·F(0)` -/
example : ∃ al be F : ℕ → ℤ, (∀ k, F (k + 2) = al (k + 1) * F (k + 1) + be (k + 1) * F k) ∧ F 1 = al 0 * F 0 ∧ F 0 ≠ 0 :=
  ⟨fun _ => 2, fun _ => -1, fun k => (k : ℤ) + 1, fun k => by push_cast; ring, by norm_num, by norm_num⟩

/-- the outer loop sums two families (cosine and sine) that share `α, β` but start with `F^c(0) = 1`, `F^c(1) = cl·A₀`
    and `F^s(0) = 0`, `F^s(1) = sl·A₀`: the last step of `Value` is
    `Σ_m (wc_m·F^c(m) + ws_m·F^s(m)) = wc₀ + A₀·(cl·vc + sl·vs) + B₀·vc2` -/
theorem clenshaw_outer (al be Fc Fs : ℕ → R)
    (hFc : ∀ k, Fc (k + 2) = al (k + 1) * Fc (k + 1) + be (k + 1) * Fc k)
    (hFs : ∀ k, Fs (k + 2) = al (k + 1) * Fs (k + 1) + be (k + 1) * Fs k)
    (A0 cl sl : R) (hc0 : Fc 0 = 1) (hs0 : Fs 0 = 0) (hc1 : Fc 1 = cl * A0) (hs1 : Fs 1 = sl * A0)
    (wc0 : R) (wcs wss : List R) :
    wc0 * Fc 0 + dsum Fc 1 wcs + dsum Fs 1 wss =
      wc0 + A0 * (cl * (clenG 0 al be 1 wcs).1 + sl * (clenG 0 al be 1 wss).1) + be 1 * (clenG 0 al be 1 wcs).2 := by
  have h1 := clenshaw_tail al be Fc hFc wcs 0
  have h2 := clenshaw_tail al be Fs hFs wss 0
  simp only [Nat.zero_add] at h1 h2
  rw [h1, h2, hc0, hs0, hc1, hs1]
  ring

end Clenshaw

/-! Clenshaw turns the inner and the outer loop of `SphericalEngine::Value` into sums against the functions generated by the three-term recurrences as coded
(`ratio`, `sect` of `Proofs/Harmonic.lean`); `ratio_legendre`, `sect_sectoral` identify those with the textbook normalised associated Legendre functions. -/

theorem clenG_congr {R : Type} [CommRing R] (al be be' : ℕ → R) (k : ℕ) (cs : List R) (h : ∀ j, k < j → be j = be' j) :
    clenG 0 al be k cs = clenG 0 al be' k cs := by
  induction cs generalizing k with
  | nil => rfl
  | cons c cs ih =>
    simp only [clenG]
    rw [ih (k + 1) (fun j hj => h j (by omega)), h (k + 1) (by omega)]

theorem innerSum_eq (full : Bool) (P : Pt ℝ) (N m : ℕ) (cf : ℕ → ℕ → ℝ) :
    innerSum full P N m cf = dsum (ratio full P.q P.t m) 0 (col N m cf) := by
  unfold innerSum col
  have h := clenshaw_general (fun l => innerA full P.q P.t m (l + m)) (fun l1 => innerB full (P.q ^ 2) m (l1 - 1 + m))
    (ratio full P.q P.t m) (fun k => by simp [ratio]) (by simp [ratio]) ((List.range (N + 1 - m)).map fun l => cf (l + m) m)
  rw [h]
  simp [ratio, ofNat_real, sq_real]

theorem innerSum_sum (full : Bool) (P : Pt ℝ) (N m : ℕ) (cf : ℕ → ℕ → ℝ) :
    innerSum full P N m cf = ∑ l ∈ Finset.range (N + 1 - m), cf (l + m) m * ratio full P.q P.t m l := by
  rw [innerSum_eq, col, dsum_range]; simp

theorem innerSum_smul (full : Bool) (P : Pt ℝ) (N m : ℕ) (g : ℕ → ℝ) (cf : ℕ → ℕ → ℝ) :
    innerSum full P N m (fun n m' => g m' * cf n m') = g m * innerSum full P N m cf := by
  simp only [innerSum_sum, Finset.mul_sum, mul_assoc]

/-- the outer loop as coded (one `outerCG` per family, then the `m = 0` step) is the defining sum over the orders `1 … M` against the functions `sect` generated by the
    outer recurrence.  `outerCG` passes `β_j = outerB (j − 1)`; `clenshaw_outer` wants `β_1 = B₀`, which the loop started at `1` never reads. -/
theorem outerCG_dsum (full : Bool) (cl sl uq : ℝ) (M : ℕ) (w0 : ℝ) (fc fs : ℕ → ℝ) :
    w0 + outerA0 full uq * (cl * (outerCG full cl uq (uq ^ 2) M fc).1 + sl * (outerCG full cl uq (uq ^ 2) M fs).1)
        + outerB0 full (uq ^ 2) * (outerCG full cl uq (uq ^ 2) M fc).2 =
      w0 + dsum (sect full cl sl uq true) 1 ((List.range M).map fun j => fc (j + 1))
        + dsum (sect full cl sl uq false) 1 ((List.range M).map fun j => fs (j + 1)) := by
  unfold outerCG
  simp only [ofNat_real, Nat.cast_zero]
  have hb : ∀ cs : List ℝ, clenG 0 (outerA full cl uq) (outerB full (uq ^ 2) ∘ fun x => x - 1) 1 cs
      = clenG 0 (outerA full cl uq) (fun j => if j = 1 then outerB0 full (uq ^ 2) else outerB full (uq ^ 2) (j - 1)) 1 cs :=
    fun cs => clenG_congr _ _ _ 1 cs fun j hj => by simp [show j ≠ 1 by omega]
  have h := clenshaw_outer (outerA full cl uq) (fun j => if j = 1 then outerB0 full (uq ^ 2) else outerB full (uq ^ 2) (j - 1))
    (sect full cl sl uq true) (sect full cl sl uq false)
    (fun k => by cases k <;> simp [sect]) (fun k => by cases k <;> simp [sect])
    (outerA0 full uq) cl sl (by simp [sect]) (by simp [sect]) (by simp [sect]) (by simp [sect])
    w0 ((List.range M).map fun j => fc (j + 1)) ((List.range M).map fun j => fs (j + 1))
  have s0 : sect full cl sl uq true 0 = 1 := by simp [sect]
  rw [s0, mul_one, if_pos rfl] at h
  rw [hb, hb, ← h]

/-- the same as one sum over `m = 0 … M` (`fs 0` does not matter: `sect … false 0 = 0`) -/
theorem outer_is_sum (full : Bool) (cl sl uq : ℝ) (M : ℕ) (fc fs : ℕ → ℝ) :
    fc 0 + outerA0 full uq * (cl * (outerCG full cl uq (uq ^ 2) M fc).1 + sl * (outerCG full cl uq (uq ^ 2) M fs).1)
        + outerB0 full (uq ^ 2) * (outerCG full cl uq (uq ^ 2) M fc).2 =
      ∑ m ∈ Finset.range (M + 1), (fc m * sect full cl sl uq true m + fs m * sect full cl sl uq false m) := by
  have s0 : sect full cl sl uq true 0 = 1 ∧ sect full cl sl uq false 0 = 0 := by simp [sect]
  rw [outerCG_dsum, dsum_range, dsum_range, Finset.sum_range_succ', Finset.sum_add_distrib, s0.1, s0.2]
  simp only [Nat.add_comm 1]
  ring

theorem valuePt_outer (full : Bool) (P : Pt ℝ) (N M : ℕ) (cC cS : ℕ → ℕ → ℝ) (sc : ℝ) :
    valuePt full P N M cC cS sc = P.q / sc * (innerSum full P N 0 cC
      + outerA0 full (P.u * P.q) * (P.cl * (outerCG full P.cl (P.u * P.q) ((P.u * P.q) ^ 2) M fun m => innerSum full P N m cC).1
          + P.sl * (outerCG full P.cl (P.u * P.q) ((P.u * P.q) ^ 2) M fun m => innerSum full P N m cS).1)
      + outerB0 full ((P.u * P.q) ^ 2) * (outerCG full P.cl (P.u * P.q) ((P.u * P.q) ^ 2) M fun m => innerSum full P N m cC).2) := by
  simp only [valuePt, outerCG, sq_real]

/-- Clenshaw only: `ratio`, `sect` are not yet identified with the Legendre functions -/
theorem value_is_series_partial (full : Bool) (P : Pt ℝ) (N M : ℕ) (cC cS : ℕ → ℕ → ℝ) (sc : ℝ) :
    valuePt full P N M cC cS sc = P.q / sc *
      (dsum (ratio full P.q P.t 0) 0 (col N 0 cC)
        + dsum (sect full P.cl P.sl (P.u * P.q) true) 1 ((List.range M).map fun j => dsum (ratio full P.q P.t (j + 1)) 0 (col N (j + 1) cC))
        + dsum (sect full P.cl P.sl (P.u * P.q) false) 1 ((List.range M).map fun j => dsum (ratio full P.q P.t (j + 1)) 0 (col N (j + 1) cS))) := by
  rw [valuePt_outer, outerCG_dsum]
  simp only [innerSum_eq]

/-- the rearrangement behind `value_is_series_alg` and `grad_theta_is_series`: per-order sums `Σ_l c_l·a_{m,l}` against `Φc_m`, `Φs_m`, where each product
    `Φ_m·a_{m,l}` is a term `cos mλ·q^(l+m)·b_{m,l}` resp. `sin mλ·…` -/
theorem series_assemble (q : ℝ) (N M : ℕ) (cC cS : ℕ → ℕ → ℝ) (Φc Φs cm sm : ℕ → ℝ) (a b : ℕ → ℕ → ℝ)
    (hc : ∀ m l, Φc m * a m l = cm m * (q ^ (l + m) * b m l)) (hs : ∀ m l, Φs m * a m l = sm m * (q ^ (l + m) * b m l)) :
    q * ∑ m ∈ Finset.range (M + 1), ((∑ l ∈ Finset.range (N + 1 - m), cC (l + m) m * a m l) * Φc m
        + (∑ l ∈ Finset.range (N + 1 - m), cS (l + m) m * a m l) * Φs m) =
      ∑ m ∈ Finset.range (M + 1), ∑ l ∈ Finset.range (N + 1 - m), (cC (l + m) m * cm m + cS (l + m) m * sm m) * q ^ (l + m + 1) * b m l := by
  rw [Finset.mul_sum]
  refine Finset.sum_congr rfl fun m _ => ?_
  rw [Finset.sum_mul, Finset.sum_mul, ← Finset.sum_add_distrib, Finset.mul_sum]
  refine Finset.sum_congr rfl fun l _ => ?_
  rw [pow_succ]
  linear_combination (q * cC (l + m) m) * hc m l + (q * cS (l + m) m) * hs m l

/-- **the inner recurrence as coded** (`A`, `B` with `root[k] = √k`) **generates `q^l·P_{m+l,m}(t, u)/P_{mm}(u)`**, `P_{nm}` the
    textbook fully normalised (`full = true`) resp. Schmidt semi-normalised associated Legendre functions of `Proofs/Harmonic.lean`
    (`anm`, `bnm`, `sectoral`, `legendre`); stated without the division (`P_{mm}(0) = 0`) -/
theorem inner_recurrence_is_legendre (full : Bool) (q t u : ℝ) (m l : ℕ) :
    ratio full q t m l * sectoral full u m = q ^ l * legendre full t u m l := ratio_legendre full q t u m l

/-- **the outer recurrence as coded generates `q^m·P_{mm}(u)·cos mλ`** (`c = true`) **resp. `·sin mλ`**; `cos mλ`, `sin mλ` are the
    Chebyshev recurrences `cosm`, `sinm` in `cl = cos λ`, `sl = sin λ` (`cosm_cos`, `sinm_sin`) -/
theorem outer_recurrence_is_sectoral (full : Bool) (cl sl u q : ℝ) (c : Bool) (m : ℕ) :
    sect full cl sl (u * q) c m = q ^ m * sectoral full u m * (if c then cosm cl m else sinm cl sl m) := by
  rw [sect_sectoral, sectoral_scale]; rfl

/-- `Pbar` against the textbook closed forms at low degree: fully normalised and (the last three) Schmidt -/
theorem legendre_low (t u : ℝ) :
    Pbar true t u 0 0 = 1 ∧ Pbar true t u 1 0 = Real.sqrt 3 * t ∧ Pbar true t u 1 1 = Real.sqrt 3 * u ∧
    Pbar true t u 2 1 = Real.sqrt 15 * t * u ∧ Pbar true t u 2 2 = Real.sqrt 15 / 2 * u ^ 2 ∧
    Pbar false t u 1 0 = t ∧ Pbar false t u 1 1 = u ∧ Pbar false t u 2 2 = Real.sqrt 3 / 2 * u ^ 2 := by
  have h4 : Real.sqrt 4 = 2 := by rw [show (4 : ℝ) = 2 ^ 2 by norm_num]; exact Real.sqrt_sq (by norm_num)
  have h15 : Real.sqrt 15 = Real.sqrt 5 * Real.sqrt 3 := by rw [← Real.sqrt_mul (by norm_num)]; norm_num
  have e10 : ∀ f, Pbar f t u 1 0 = legendre f t u 0 1 := fun f => by simp [Pbar]
  have e21 : ∀ f, Pbar f t u 2 1 = legendre f t u 1 1 := fun f => by simp [Pbar]
  have e22 : ∀ f, Pbar f t u 2 2 = legendre f t u 2 0 := fun f => by simp [Pbar]
  rw [e10, e10, e21, e22, e22]
  refine ⟨by simp [Pbar, legendre, sectoral], ?_, by simp [Pbar, legendre, sectoral], ?_, ?_, ?_, by simp [Pbar, legendre, sectoral], ?_⟩
  · simp only [legendre, sectoral, anm]; norm_num
  · simp only [legendre, sectoral, anm]; norm_num; rw [h15]; ring
  · simp only [legendre, sectoral]; norm_num
    rw [h4, h15]; ring
  · simp only [legendre, sectoral, anm]; norm_num
  · simp only [legendre, sectoral]; norm_num
    rw [h4]; ring

/-- `P̄₂₀` exercises both coefficients `anm`, `bnm` of the degree recurrence -/
theorem legendre_P20 (t u : ℝ) : Pbar true t u 2 0 = Real.sqrt 5 / 2 * (3 * t ^ 2 - 1) := by
  have h4 : Real.sqrt 4 = 2 := by rw [show (4 : ℝ) = 2 ^ 2 by norm_num]; exact Real.sqrt_sq (by norm_num)
  have h15 : Real.sqrt 15 = Real.sqrt 5 * Real.sqrt 3 := by rw [← Real.sqrt_mul (by norm_num)]; norm_num
  have h3 : Real.sqrt 3 * Real.sqrt 3 = 3 := Real.mul_self_sqrt (by norm_num)
  have e : Pbar true t u 2 0 = legendre true t u 0 2 := by simp [Pbar]
  rw [e]
  simp only [legendre, sectoral, anm, bnm]
  norm_num
  rw [h4, h15]
  linear_combination (Real.sqrt 5 / 2 * t ^ 2) * h3

/-- **the two normalisations agree**: the Schmidt semi-normalised functions are the fully normalised ones divided by `√(2n+1)` (`n = m + l`), a
    consistency theorem between the two textbook recurrences used in `value_is_series` -/
theorem schmidt_is_full_over_sqrt (t u : ℝ) (m l : ℕ) :
    legendre false t u m l * Real.sqrt (2 * ((m + l : ℕ) : ℝ) + 1) = legendre true t u m l := legendre_schmidt_full t u m l

/-- **`value_is_series`, algebraic form** (no hypothesis at all): the model of `SphericalEngine::Value<false, norm, L>` is
    `(1/scale)·Σ_{m ≤ M} Σ_{n = m … N} (C̃_nm·cos mλ + S̃_nm·sin mλ)·q^(n+1)·P_nm(t, u)` with `n = l + m`, `q = a/r`,
    `C̃ = scale·C` the combined scaled coefficients, `P_nm` the textbook normalised functions in `(t, u) = (cos θ, sin θ)` — `u` as
    clamped by `eps()` in `mkPt` — and `cos mλ`, `sin mλ` the Chebyshev polynomials in `(cl, sl)` -/
theorem value_is_series_alg (full : Bool) (P : Pt ℝ) (N M : ℕ) (cC cS : ℕ → ℕ → ℝ) (sc : ℝ) :
    valuePt full P N M cC cS sc = 1 / sc * ∑ m ∈ Finset.range (M + 1), ∑ l ∈ Finset.range (N + 1 - m),
      (cC (l + m) m * cosm P.cl m + cS (l + m) m * sinm P.cl P.sl m) * P.q ^ (l + m + 1) * legendre full P.t P.u m l := by
  rw [valuePt_outer, outer_is_sum full P.cl P.sl (P.u * P.q) M (fun m => innerSum full P N m cC) fun m => innerSum full P N m cS]
  simp only [innerSum_sum]
  rw [← series_assemble P.q N M cC cS _ _ (cosm P.cl) (sinm P.cl P.sl) _ _ (sect_mul_ratio full P.cl P.sl P.q P.t P.u true)
    (sect_mul_ratio full P.cl P.sl P.q P.t P.u false)]
  ring

/-- **`value_is_series`**: with `cl = cos λ`, `sl = sin λ` the model of `SphericalEngine::Value<false, norm, L>` (`valuePt`, what the
    driver executes against `SphericalHarmonic`, `SphericalHarmonic1`, `SphericalHarmonic2`) is the defining double sum
    `V = (1/scale)·Σ_{m=0}^{M} Σ_{n=m}^{N} (C̃_nm·cos mλ + S̃_nm·sin mλ)·(a/r)^(n+1)·P_nm(cos θ)`, `C̃ = scale·Σ_l f_l C^{(l)}` (`combC`),
    `P_nm` the textbook fully normalised (`full`) or Schmidt semi-normalised associated Legendre functions `Pbar` of
    `Proofs/Harmonic.lean` (sectoral start `sectoral`, degree recurrence with the coefficients `anm`, `bnm`).
    The summation index is `n = l + m`. -/
theorem value_is_series (full : Bool) (P : Pt ℝ) (lam : ℝ) (hc : P.cl = Real.cos lam) (hs : P.sl = Real.sin lam)
    (N M : ℕ) (cC cS : ℕ → ℕ → ℝ) (sc : ℝ) :
    valuePt full P N M cC cS sc = 1 / sc * ∑ m ∈ Finset.range (M + 1), ∑ l ∈ Finset.range (N + 1 - m),
      (cC (l + m) m * Real.cos (m * lam) + cS (l + m) m * Real.sin (m * lam)) * P.q ^ (l + m + 1) * Pbar full P.t P.u (l + m) m := by
  rw [value_is_series_alg, hc, hs]
  congr 1
  refine Finset.sum_congr rfl fun m _ => Finset.sum_congr rfl fun l _ => ?_
  rw [cosm_cos lam m, sinm_sin lam m, Pbar, if_pos (Nat.le_add_left m l), Nat.add_sub_cancel]

/-- `hc` at `cl = 1/2`: `λ = π/3` -/
example : ∃ lam : ℝ, (1 / 2 : ℝ) = Real.cos lam := ⟨Real.pi / 3, Real.cos_pi_div_three.symm⟩

/-- the scale factor drops out: with `C̃ = C·scale`, `S̃ = S·scale` (`combC`, `combS`) and `scale ≠ 0` the value is the unscaled series -/
theorem value_is_series_unscaled (full : Bool) (P : Pt ℝ) (lam : ℝ) (hc : P.cl = Real.cos lam) (hs : P.sl = Real.sin lam)
    (N M : ℕ) (C S : ℕ → ℕ → ℝ) (sc : ℝ) (hsc : sc ≠ 0) :
    valuePt full P N M (fun n m => C n m * sc) (fun n m => S n m * sc) sc = ∑ m ∈ Finset.range (M + 1), ∑ l ∈ Finset.range (N + 1 - m),
      (C (l + m) m * Real.cos (m * lam) + S (l + m) m * Real.sin (m * lam)) * P.q ^ (l + m + 1) * Pbar full P.t P.u (l + m) m := by
  have h1 : 1 / sc * sc = 1 := one_div_mul_cancel hsc
  rw [value_is_series full P lam hc hs, Finset.mul_sum]
  refine Finset.sum_congr rfl fun m _ => ?_
  rw [Finset.mul_sum]
  refine Finset.sum_congr rfl fun l _ => ?_
  linear_combination ((C (l + m) m * Real.cos (m * lam) + S (l + m) m * Real.sin (m * lam)) * P.q ^ (l + m + 1) * Pbar full P.t P.u (l + m) m) * h1

/-- `value` is `valuePt` at the point geometry computed by `mkPt`, with the combined truncated coefficients (so
    `value_is_series` and `truncation_selects` apply to what the driver executes) -/
theorem value_eq_valuePt (full : Bool) (c0 : Coeff ℝ) (f0 : ℝ) (rest : List (Coeff ℝ × ℝ)) (x y z a sc eps : ℝ) (h : 0 ≤ c0.mmx) :
    value full ((c0, f0) :: rest) x y z a sc eps =
      valuePt full (mkPt x y z a eps) c0.nmx.toNat c0.mmx.toNat (combC (RealLike.ofNat 0) ((c0, f0) :: rest) sc)
        (combS (RealLike.ofNat 0) ((c0, f0) :: rest) sc) sc := by
  simp [value, not_lt.mpr h]

/-- non-vacuity of `scale ≠ 0`: `scale() = 2^−614` -/
example : ((2 : ℝ) ^ 614)⁻¹ ≠ 0 := by positivity

theorem outerCG_congr (full : Bool) (cl uq uq2 : ℝ) (M : ℕ) (f g : ℕ → ℝ) (h : ∀ j, j < M → f (j + 1) = g (j + 1)) :
    outerCG full cl uq uq2 M f = outerCG full cl uq uq2 M g := by
  unfold outerCG
  congr 1
  apply List.map_congr_left
  intro j hj
  exact h j (List.mem_range.mp hj)

theorem outerStage_congr (full : Bool) (cl sl r u q sc : ℝ) (M : ℕ) (W W' : ℕ → Inner ℝ)
    (h0 : (W 0).wc = (W' 0).wc ∧ (W 0).wrc = (W' 0).wrc ∧ (W 0).wtc = (W' 0).wtc) (h : ∀ j, j < M → W (j + 1) = W' (j + 1)) :
    outerStage full cl sl r u q sc M W = outerStage full cl sl r u q sc M W' := by
  have key : ∀ g : ℕ → Inner ℝ → ℝ, outerCG full cl (u * q) (RealLike.sq (u * q)) M (fun m => g m (W m)) = outerCG full cl (u * q) (RealLike.sq (u * q)) M fun m => g m (W' m) :=
    fun g => outerCG_congr full cl _ _ M _ _ fun j hj => by rw [h j hj]
  simp only [outerStage]
  rw [h0.1, h0.2.1, h0.2.2, key fun _ I => I.wc, key fun _ I => I.ws, key fun _ I => I.wrc, key fun _ I => I.wrs, key fun _ I => I.wtc, key fun _ I => I.wts,
    key fun m I => RealLike.ofNat m * I.ws, key fun m I => -(RealLike.ofNat m * I.wc)]

/-- the sums `wtc`, `wts` of the inner loop are `Σ_l c_l·∂ratio_l/∂θ` (`clenD_sum`: Clenshaw summation of the differentiated recurrence) -/
theorem innerSumT_eq (full : Bool) (P : Pt ℝ) (N m : ℕ) (cf : ℕ → ℕ → ℝ) :
    innerSumT full P N m cf = ∑ l ∈ Finset.range (N + 1 - m), cf (l + m) m * dratio full P.q P.t P.u m l := by
  unfold innerSumT
  have h := clenD_sum (fun l => innerA full P.q P.t m (l + m)) (fun l1 => innerB full (P.q ^ 2) m (l1 - 1 + m))
    (fun l => P.u * innerAx full P.q m (l + m)) (ratio full P.q P.t m) (dratio full P.q P.t P.u m)
    (fun k => by simp [ratio]) (fun k => by simp [dratio]) (by simp [ratio]) (by simp [dratio, ratio])
    ((List.range (N + 1 - m)).map fun l => cf (l + m) m)
  simp only [ratio, dratio, mul_one, mul_zero, add_zero] at h
  simp only [sq_real, ofNat_real, Nat.cast_zero]
  rw [← h, dsum_range]
  simp

theorem innerSumR_eq (full : Bool) (P : Pt ℝ) (N m : ℕ) (cf : ℕ → ℕ → ℝ) :
    innerSumR full P N m cf = innerSum full P N m fun n m => ((n + 1 : ℕ) : ℝ) * cf n m := rfl

/-- the six inner sums of order `m` as `Value<true>` hands them to the outer loop: the `θ`-sums augmented by `m·tu·wc`, `m·tu·ws` (nothing is added at `m = 0`, and the sine
    sums of order `0` are never read) -/
noncomputable def sphW (full : Bool) (P : Pt ℝ) (N : ℕ) (cC cS : ℕ → ℕ → ℝ) (m : ℕ) : Inner ℝ :=
  ⟨innerSum full P N m cC, innerSum full P N m cS, innerSumR full P N m cC, innerSumR full P N m cS,
   innerSumT full P N m cC + (m : ℝ) * (P.t / P.u) * innerSum full P N m cC, innerSumT full P N m cS + (m : ℝ) * (P.t / P.u) * innerSum full P N m cS⟩

theorem sphPt_eq (full : Bool) (P : Pt ℝ) (N M : ℕ) (cC cS : ℕ → ℕ → ℝ) (sc : ℝ) :
    sphPt full P N M cC cS sc = outerStage full P.cl P.sl P.r P.u P.q sc M (sphW full P N cC cS) := by
  unfold sphPt
  apply outerStage_congr
  · simp [innerAll, sphW]
  · intro j _
    simp [innerAll, augment, sphW, ofNat_real]

/-- the value returned together with the gradient is the value: `Value<true>` and `Value<false>` compute the same number -/
theorem sphPt_v (full : Bool) (P : Pt ℝ) (N M : ℕ) (cC cS : ℕ → ℕ → ℝ) (sc : ℝ) :
    (sphPt full P N M cC cS sc).v = valuePt full P N M cC cS sc := by
  rw [sphPt_eq, valuePt_outer]
  simp only [outerStage, sphW, sq_real]

/-- `∂/∂r`: the radial component as coded is `−1/r` times the value sum with the coefficients `(n + 1)·C_nm`, `(n + 1)·S_nm` -/
theorem grad_r_is_value (full : Bool) (P : Pt ℝ) (N M : ℕ) (cC cS : ℕ → ℕ → ℝ) (sc : ℝ) :
    (sphPt full P N M cC cS sc).vr =
      -(1 / P.r) * valuePt full P N M (fun n m => ((n + 1 : ℕ) : ℝ) * cC n m) (fun n m => ((n + 1 : ℕ) : ℝ) * cS n m) sc := by
  rw [sphPt_eq, valuePt_outer]
  simp only [outerStage, sphW, sq_real, innerSumR_eq]
  ring

/-- **[gradient, `∂/∂r`]** `vr = ∂V/∂r` termwise: `(a/r)^(n+1) ↦ −(n+1)·(a/r)^(n+1)/r` (`q = a/r`; `a_div_pow_hasDerivAt`) -/
theorem grad_r_is_series (full : Bool) (P : Pt ℝ) (N M : ℕ) (cC cS : ℕ → ℕ → ℝ) (sc : ℝ) :
    (sphPt full P N M cC cS sc).vr = 1 / sc * ∑ m ∈ Finset.range (M + 1), ∑ l ∈ Finset.range (N + 1 - m),
      (cC (l + m) m * cosm P.cl m + cS (l + m) m * sinm P.cl P.sl m) * (-((l + m + 1 : ℕ) : ℝ) * P.q ^ (l + m + 1) / P.r) * legendre full P.t P.u m l := by
  rw [grad_r_is_value, value_is_series_alg, ← mul_assoc, mul_comm (-(1 / P.r)), mul_assoc, Finset.mul_sum]
  congr 1
  refine Finset.sum_congr rfl fun m _ => ?_
  rw [Finset.mul_sum]
  exact Finset.sum_congr rfl fun l _ => by ring

/-- `∂/∂λ`: the longitudinal component as coded is `1/(r·u)` times the value sum with the coefficients `(m·S_nm, −m·C_nm)` -/
theorem grad_lambda_is_value (full : Bool) (P : Pt ℝ) (N M : ℕ) (cC cS : ℕ → ℕ → ℝ) (sc : ℝ) :
    (sphPt full P N M cC cS sc).vl =
      1 / (P.r * P.u) * valuePt full P N M (fun n m => (m : ℝ) * cS n m) (fun n m => -((m : ℝ) * cC n m)) sc := by
  rw [sphPt_eq, valuePt_outer]
  simp only [outerStage, sphW, sq_real, ofNat_real, ← neg_mul, innerSum_smul full P N _ (fun m => (m : ℝ)), innerSum_smul full P N _ (fun m => -(m : ℝ))]
  rw [Nat.cast_zero, zero_mul, zero_add]
  ring

/-- **[gradient, `∂/∂λ`]** `vl = (1/(r·u))·∂V/∂λ` termwise: `C cos mλ + S sin mλ ↦ m·(S cos mλ − C sin mλ)` (`cos_sin_comb_hasDerivAt`) -/
theorem grad_lambda_is_series (full : Bool) (P : Pt ℝ) (N M : ℕ) (cC cS : ℕ → ℕ → ℝ) (sc : ℝ) :
    (sphPt full P N M cC cS sc).vl = 1 / (P.r * P.u) * (1 / sc * ∑ m ∈ Finset.range (M + 1), ∑ l ∈ Finset.range (N + 1 - m),
      ((m : ℝ) * (cS (l + m) m * cosm P.cl m - cC (l + m) m * sinm P.cl P.sl m)) * P.q ^ (l + m + 1) * legendre full P.t P.u m l) := by
  rw [grad_lambda_is_value, value_is_series_alg]
  congr 2
  exact Finset.sum_congr rfl fun m _ => Finset.sum_congr rfl fun l _ => by ring

/-- **[gradient, `∂/∂θ`]** `vt = (1/r)·∂V/∂θ` termwise: `P_nm ↦ ∂P_nm/∂θ` (`dlegendre`: the textbook recurrences differentiated by the product rule,
    `legendre_hasDerivAt`); needs `u ≠ 0` (the code divides by `u`; `mkPt` keeps `u ≥ eps()`) -/
theorem grad_theta_is_series (full : Bool) (P : Pt ℝ) (hu : P.u ≠ 0) (N M : ℕ) (cC cS : ℕ → ℕ → ℝ) (sc : ℝ) :
    (sphPt full P N M cC cS sc).vt = 1 / P.r * (1 / sc * ∑ m ∈ Finset.range (M + 1), ∑ l ∈ Finset.range (N + 1 - m),
      (cC (l + m) m * cosm P.cl m + cS (l + m) m * sinm P.cl P.sl m) * P.q ^ (l + m + 1) * dlegendre full P.t P.u m l) := by
  have hw : ∀ (cf : ℕ → ℕ → ℝ) (m : ℕ), innerSumT full P N m cf + (m : ℝ) * (P.t / P.u) * innerSum full P N m cf =
      ∑ l ∈ Finset.range (N + 1 - m), cf (l + m) m * (dratio full P.q P.t P.u m l + (m : ℝ) * (P.t / P.u) * ratio full P.q P.t m l) := by
    intro cf m
    rw [innerSumT_eq, innerSum_sum, Finset.mul_sum, ← Finset.sum_add_distrib]
    exact Finset.sum_congr rfl fun l _ => by ring
  rw [sphPt_eq]
  simp only [outerStage, sq_real]
  rw [outer_is_sum full P.cl P.sl (P.u * P.q) M (fun m => (sphW full P N cC cS m).wtc) fun m => (sphW full P N cC cS m).wts]
  simp only [sphW, hw]
  rw [← series_assemble P.q N M cC cS _ _ (cosm P.cl) (sinm P.cl P.sl) _ _ (sect_mul_dratio full P.cl P.sl P.q P.t P.u hu true)
    (sect_mul_dratio full P.cl P.sl P.q P.t P.u hu false)]
  ring

/-! `x ↦ valuePt …` with one of `r`, `θ`, `λ` varying is differentiable and its derivative is the corresponding component returned by `sphPt`
(`vr = ∂V/∂r`, `r·vt = ∂V/∂θ`, `r·u·vl = ∂V/∂λ`).  Here `u = sin θ` (not clamped: `u ≠ 0` is assumed, as the code divides by `u`), `q = a/r`. -/

theorem hasDerivAt_dsum2 (c x : ℝ) (M N : ℕ) (f : ℕ → ℕ → ℝ → ℝ) (f' : ℕ → ℕ → ℝ) (h : ∀ m l, HasDerivAt (f m l) (f' m l) x) :
    HasDerivAt (fun y => c * ∑ m ∈ Finset.range (M + 1), ∑ l ∈ Finset.range (N + 1 - m), f m l y)
      (c * ∑ m ∈ Finset.range (M + 1), ∑ l ∈ Finset.range (N + 1 - m), f' m l) x :=
  (HasDerivAt.fun_sum fun m _ => HasDerivAt.fun_sum fun l _ => h m l).const_mul c

/-- **`vr = ∂V/∂r`** -/
theorem grad_r_is_derivative (full : Bool) (a r cl sl t u sc : ℝ) (hr : r ≠ 0) (N M : ℕ) (cC cS : ℕ → ℕ → ℝ) :
    HasDerivAt (fun x => valuePt full ⟨cl, sl, x, t, u, a / x⟩ N M cC cS sc) (sphPt full ⟨cl, sl, r, t, u, a / r⟩ N M cC cS sc).vr r := by
  rw [grad_r_is_series]
  simp only [value_is_series_alg]
  exact hasDerivAt_dsum2 (1 / sc) r M N _ _ fun m l =>
    ((a_div_pow_hasDerivAt a r hr (l + m)).const_mul (cC (l + m) m * cosm cl m + cS (l + m) m * sinm cl sl m)).mul_const (legendre full t u m l)

/-- **`r·vt = ∂V/∂θ`** (`t = cos θ`, `u = sin θ ≠ 0`) -/
theorem grad_theta_is_derivative (full : Bool) (q r cl sl th sc : ℝ) (hr : r ≠ 0) (hu : Real.sin th ≠ 0) (N M : ℕ) (cC cS : ℕ → ℕ → ℝ) :
    HasDerivAt (fun x => valuePt full ⟨cl, sl, r, Real.cos x, Real.sin x, q⟩ N M cC cS sc)
      (r * (sphPt full ⟨cl, sl, r, Real.cos th, Real.sin th, q⟩ N M cC cS sc).vt) th := by
  rw [grad_theta_is_series full _ hu]
  simp only [value_is_series_alg]
  refine (hasDerivAt_dsum2 (1 / sc) th M N _ _ fun m l => (legendre_hasDerivAt full m l th).const_mul _).congr_deriv ?_
  rw [← mul_assoc, mul_one_div_cancel hr, one_mul]

/-- **`r·u·vl = ∂V/∂λ`** (`cl = cos λ`, `sl = sin λ`) -/
theorem grad_lambda_is_derivative (full : Bool) (q r t u lam sc : ℝ) (hr : r ≠ 0) (hu : u ≠ 0) (N M : ℕ) (cC cS : ℕ → ℕ → ℝ) :
    HasDerivAt (fun x => valuePt full ⟨Real.cos x, Real.sin x, r, t, u, q⟩ N M cC cS sc)
      (r * u * (sphPt full ⟨Real.cos lam, Real.sin lam, r, t, u, q⟩ N M cC cS sc).vl) lam := by
  rw [grad_lambda_is_series]
  simp only [value_is_series_alg, cosm_cos, sinm_sin]
  refine (hasDerivAt_dsum2 (1 / sc) lam M N _ _ fun m l => ((cos_sin_comb_hasDerivAt (cC (l + m) m) (cS (l + m) m) m lam).mul_const _).mul_const _).congr_deriv ?_
  rw [← mul_assoc (r * u), mul_one_div_cancel (mul_ne_zero hr hu), one_mul]

/-- non-vacuity: `r = 1 ≠ 0`, `sin (π/2) = 1 ≠ 0` -/
example : (1 : ℝ) ≠ 0 ∧ Real.sin (Real.pi / 2) ≠ 0 := by simp

/-- **the Cartesian assembly is the rotation of the spherical frame**: with `cl² + sl² = 1`, `t² + u² = 1` the returned `(gradx, grady, gradz)` has
    the radial, polar and longitudinal components `vr`, `vt`, `vl` along `e_r = (u·cl, u·sl, t)`, `e_θ = (t·cl, t·sl, −u)`, `e_λ = (−sl, cl, 0)`, and
    the same length.  (That `(vr, vt, vl)` are `∂V/∂r`, `(1/r)∂V/∂θ`, `(1/(r u))∂V/∂λ` is `grad_*_is_derivative`; the chain rule from `(r, θ, λ)` to
    `(x, y, z)` itself is not formalised.) -/
theorem rotate_orthogonal (cl sl t u : ℝ) (S : Sph ℝ) (h1 : cl ^ 2 + sl ^ 2 = 1) (h2 : t ^ 2 + u ^ 2 = 1) :
    let g := rotate cl sl t u S
    u * cl * g.1 + u * sl * g.2.1 + t * g.2.2 = S.vr ∧ t * cl * g.1 + t * sl * g.2.1 - u * g.2.2 = S.vt ∧
    -sl * g.1 + cl * g.2.1 = S.vl ∧ g.1 ^ 2 + g.2.1 ^ 2 + g.2.2 ^ 2 = S.vr ^ 2 + S.vt ^ 2 + S.vl ^ 2 := by
  simp only [rotate]
  refine ⟨?_, ?_, ?_, ?_⟩
  · linear_combination (u ^ 2 * S.vr + t * u * S.vt) * h1 + S.vr * h2
  · linear_combination (t * u * S.vr + t ^ 2 * S.vt) * h1 + S.vt * h2
  · linear_combination S.vl * h1
  · linear_combination ((u * S.vr + t * S.vt) ^ 2 + S.vl ^ 2) * h1 + (S.vr ^ 2 + S.vt ^ 2) * h2

example : (3 / 5 : ℝ) ^ 2 + (4 / 5) ^ 2 = 1 := by norm_num

theorem innerAll_lon (full : Bool) (P : Pt ℝ) (cl sl : ℝ) (N m : ℕ) (cC cS : ℕ → ℕ → ℝ) :
    innerAll full { P with cl := cl, sl := sl } N m cC cS = innerAll full P N m cC cS := rfl

/-- **`circle_eq_value` (value and all three gradient components, spherical)**: for every longitude `(cl, sl)` the circle evaluation — inner sums
    precomputed by `SphericalEngine::Circle<true>`, outer Clenshaw in `λ` by `CircularEngine::Value` — is *the same real number* as the point
    evaluation `SphericalEngine::Value<true>` at the point with that longitude -/
theorem circle_eq_value (full : Bool) (P : Pt ℝ) (cl sl : ℝ) (N M : ℕ) (cC cS : ℕ → ℕ → ℝ) (sc : ℝ) :
    circSph full (circlePt full true P N M cC cS) cl sl sc = sphPt full { P with cl := cl, sl := sl } N M cC cS sc := by
  simp only [circSph, circlePt, sphPt]
  apply outerStage_congr
  · simp [augment, innerAll_lon, ofNat_real]
  · intro j hj
    simp [List.getD_eq_getElem?_getD, hj, innerAll_lon]

theorem outerStage_v_congr (full : Bool) (cl sl r u q sc : ℝ) (M : ℕ) (W W' : ℕ → Inner ℝ)
    (h0 : (W 0).wc = (W' 0).wc) (h : ∀ j, j < M → (W (j + 1)).wc = (W' (j + 1)).wc ∧ (W (j + 1)).ws = (W' (j + 1)).ws) :
    (outerStage full cl sl r u q sc M W).v = (outerStage full cl sl r u q sc M W').v := by
  simp only [outerStage]
  rw [h0,
    outerCG_congr full cl (u * q) _ M (fun m => (W m).wc) (fun m => (W' m).wc) (fun j hj => (h j hj).1),
    outerCG_congr full cl (u * q) _ M (fun m => (W m).ws) (fun m => (W' m).ws) (fun j hj => (h j hj).2)]

/-- **`circle_eq_value`, value only**: a `CircularEngine` built without gradient (`Circle<false>`) returns the value of `Value<false>` -/
theorem circle_eq_value_nograd (full : Bool) (P : Pt ℝ) (cl sl : ℝ) (N M : ℕ) (cC cS : ℕ → ℕ → ℝ) (sc : ℝ) :
    (circSph full (circlePt full false P N M cC cS) cl sl sc).v = valuePt full { P with cl := cl, sl := sl } N M cC cS sc := by
  rw [← sphPt_v]
  simp only [circSph, circlePt, sphPt]
  apply outerStage_v_congr
  · simp [innerAll_lon]
  · intro j hj
    simp [List.getD_eq_getElem?_getD, hj, innerAll_lon, augment]

/-- the circle evaluated at the longitude of a point `(x, y, z)` is the point evaluation: `SphericalHarmonic::Circle(hypot(x, y), z, true)` followed by
    `CircularEngine::Value` at `(cos λ, sin λ) = (x/p, y/p)` returns what `SphericalHarmonic::operator()(x, y, z, gradx, grady, gradz)` returns —
    value and Cartesian gradient, as the same real numbers -/
theorem circle_eq_point (full : Bool) (sets : List (Coeff ℝ × ℝ)) (x y z a sc eps : ℝ) (C : Circ ℝ)
    (hC : circle full true sets (RealLike.hypot x y) z a sc eps = some C) :
    circValue full C (mkPt x y z a eps).cl (mkPt x y z a eps).sl sc = valueGrad full sets x y z a sc eps := by
  cases sets with
  | nil => simp [circle] at hC
  | cons c0 rest =>
    obtain ⟨c0, f0⟩ := c0
    by_cases hm : c0.mmx < 0
    · simp [circle, hm] at hC
    · simp only [circle, hm, if_false, Option.some.injEq] at hC
      subst hC
      simp only [circValue, valueGrad, hm, if_false, circle_eq_value]
      rfl

/-- **both are the same double sum**: the circle evaluation at longitude `λ` is the defining series (`value_is_series` through `circle_eq_value`) -/
theorem circle_is_series (full : Bool) (P : Pt ℝ) (lam : ℝ) (N M : ℕ) (cC cS : ℕ → ℕ → ℝ) (sc : ℝ) :
    (circSph full (circlePt full true P N M cC cS) (Real.cos lam) (Real.sin lam) sc).v =
      1 / sc * ∑ m ∈ Finset.range (M + 1), ∑ l ∈ Finset.range (N + 1 - m),
        (cC (l + m) m * Real.cos (m * lam) + cS (l + m) m * Real.sin (m * lam)) * P.q ^ (l + m + 1) * Pbar full P.t P.u (l + m) m := by
  rw [circle_eq_value, sphPt_v, value_is_series full _ lam rfl rfl]

/-- non-vacuity of `circle_eq_point`: a degree-1 set has a circle -/
example : ∃ C : Circ ℝ, circle true true [(⟨1, 1, 1, [1, 2, 3], [4]⟩, (1 : ℝ))] (RealLike.hypot 3 4) 1 1 1 0 = some C := by
  simp [circle]

/-- the (n, m) pairs stored for layout degree `N` and highest order `M ≤ N` -/
def inTri (N M n m : Int) : Prop := 0 ≤ m ∧ m ≤ M ∧ m ≤ n ∧ n ≤ N

/-- **`index` is injective on the stored triangle** -/
theorem index_injective (N M : Int) (hM : M ≤ N) {n m n' m' : Int} (h : inTri N M n m) (h' : inTri N M n' m')
    (e : index N n m = index N n' m') : n = n' ∧ m = m' := by
  obtain ⟨h0, h1, h2, h3⟩ := h
  obtain ⟨h0', h1', h2', h3'⟩ := h'
  rcases lt_trichotomy m m' with hlt | rfl | hgt
  · exact absurd e (index_lt_of_col_lt N hlt (by omega) h3 h2').ne
  · exact ⟨by unfold index at e; omega, rfl⟩
  · exact absurd e (index_lt_of_col_lt N hgt (by omega) h3' h2).ne'

/-- **range**: stored indices lie in `[0, Csize(N, M))` -/
theorem index_range (N M : Int) (hM : M ≤ N) {n m : Int} (h : inTri N M n m) :
    0 ≤ index N n m ∧ index N n m < csize N M := by
  obtain ⟨h0, h1, h2, h3⟩ := h
  constructor
  · have := two_index N n m
    have := mul_nonneg h0 (by omega : (0 : Int) ≤ N - m)
    have := mul_nonneg h0 h0
    linarith
  · rw [csize_eq_index]
    exact index_lt_of_col_lt N (by omega) (by omega) h3 le_rfl

/-- columns are contiguous: the first and last stored entries are `0` and `Csize − 1`, consecutive degrees are adjacent
    and column `m + 1` starts right after column `m` ends (so with injectivity `index` is a bijection onto `[0, Csize)`) -/
theorem index_contiguous (N M n m : Int) :
    index N 0 0 = 0 ∧ index N N M = csize N M - 1 ∧ index N (n + 1) m = index N n m + 1 ∧
    index N (m + 1) (m + 1) = index N N m + 1 := by
  refine ⟨by simp [index], ?_, by unfold index; ring, ?_⟩
  · rw [csize_eq_index, index_next_col, index_col N N M]; ring
  · rw [index_next_col, index_col N N m]; ring

/-- **`index` is onto `[0, Csize(N, M))`** -/
theorem index_surjective (N : Int) (M : ℕ) (hM : (M : Int) ≤ N) (k : Int) (hk : 0 ≤ k ∧ k < csize N M) :
    ∃ n m, inTri N M n m ∧ index N n m = k := by
  induction M with
  | zero =>
    have hc : csize N (0 : ℕ) = N + 1 := by rw [Nat.cast_zero, csize_eq_index, index_next_col]; simp [index]
    exact ⟨k, 0, ⟨le_rfl, le_rfl, hk.1, by omega⟩, by simp [index]⟩
  | succ M ih =>
    push_cast at hM hk
    rw [csize_succ] at hk
    by_cases hlt : k < csize N M
    · obtain ⟨n, m, ⟨a, b, c, d⟩, e⟩ := ih (by omega) ⟨hk.1, hlt⟩
      exact ⟨n, m, ⟨a, by push_cast; omega, c, d⟩, e⟩
    · refine ⟨(M : Int) + 1 + (k - csize N M), (M : Int) + 1, ⟨by omega, by push_cast; omega, by omega, by omega⟩, ?_⟩
      rw [index_col, ← csize_eq_index]
      ring

/-- **`Csize` is the number of stored pairs**: `Csize(N, M) = Σ_{m=0}^{M} (N + 1 − m)` -/
theorem csize_count (N : Int) (M : ℕ) : csize N M = ((List.range (M + 1)).map fun m : ℕ => N + 1 - (m : Int)).sum := by
  induction M with
  | zero => simp [csize]; omega
  | succ M ih =>
    rw [List.range_succ, List.map_append, List.sum_append, ← ih]
    simp only [List.map_cons, List.map_nil, List.sum_cons, List.sum_nil]
    push_cast
    rw [csize_succ]
    ring

/-- `Ssize`: the same count without the `m = 0` column (by definition) -/
theorem ssize_eq (N M : Int) : ssize N M = csize N M - (N + 1) := rfl

example : inTri 6 4 5 3 ∧ index 6 5 3 = 20 ∧ csize 6 4 = 25 := by unfold inTri index csize; norm_num

/-- **`Cv(k, n, m, f)`/`Sv(k, n, m, f)` select exactly the sub-triangle `n ≤ nmx ∧ m ≤ mmx`** of whatever layout
    the set is stored in: inside it the stored coefficient (times `f`) is returned, outside `0` — in particular for
    `nmx < n ≤ N` (coefficients present in storage but excluded from the sum). -/
theorem truncation_selects (c : Coeff ℝ) (n m : Int) (f : ℝ) :
    c.cv 0 (index c.N n m) n m f = (if n ≤ c.nmx ∧ m ≤ c.mmx then c.cv0 0 (index c.N n m) * f else 0) ∧
    c.sv 0 (index c.N n m) n m f = (if n ≤ c.nmx ∧ m ≤ c.mmx then c.sv0 0 (index c.N n m) * f else 0) := by
  have hc : (m > c.mmx ∨ n > c.nmx) ↔ ¬ (n ≤ c.nmx ∧ m ≤ c.mmx) := by omega
  simp only [Coeff.cv, Coeff.sv, Coeff.cv0, Coeff.sv0, Bool.or_eq_true, decide_eq_true_eq, hc, ite_not, and_self]

/-- the statement also holds at the layout boundary: a stored, non-zero coefficient of degree `nmx < n ≤ N` is *not* read -/
example : let c : Coeff ℝ := ⟨2, 1, 1, [1, 2, 3, 4, 5, 6], [7, 8, 9]⟩
    c.cv0 0 (index 2 2 0) = 3 ∧ c.cv 0 (index 2 2 0) 2 0 1 = 0 ∧ c.cv 0 (index 2 1 1) 1 1 1 = 4 := by
  simp [Coeff.cv0, Coeff.cv, index, getI]

/-- the combined coefficient of `Value` (first set unchecked inside its own truncation, further sets checked) is the
    `f`-weighted sum of the truncated sets -/
theorem combC_two (c0 c1 : Coeff ℝ) (f0 f1 sc : ℝ) (n m : ℕ) :
    combC 0 [(c0, f0), (c1, f1)] sc n m =
      (c0.cv0 0 (index c0.N n m) + (if (n : Int) ≤ c1.nmx ∧ (m : Int) ≤ c1.mmx then c1.cv0 0 (index c1.N n m) * f1 else 0)) * sc := by
  simp only [combC, List.foldl_cons, List.foldl_nil]
  rw [(truncation_selects c1 n m f1).1]

/-- **`readcoeffs` stores the sub-triangle `n ≤ N, m ≤ M` of the block, each coefficient at its packed position in the layout of the degree read**: the entry of `C` at
    `index(N; n, m)` is the entry of the file block at `index(N0; n, m)` (`readSelC` lists, in the order stored, the positions in the block's `C` array — the list the driver
    compares exactly with what the implementation read from a block whose entries are their own positions) -/
theorem readcoeffs_selects_C (N0 : Int) (N M n m : ℕ) (hm : m ≤ M) (hmn : m ≤ n) (hn : n ≤ N) (d : Int) :
    (readSelC N0 N M).getD (index N n m).toNat d = index N0 n m := by
  have hpos : (index N n m).toNat = off (colC N0 N) m + (n - m) := by
    have := off_colC N0 N m (by omega)
    have := index_col N n m
    omega
  rw [readSelC_eq, hpos, getD_flatMap_range _ _ _ _ _ (by omega) (by rw [colC_length]; omega), colC, getD_map_range _ _ (by omega)]
  congr 1
  omega

/-- the same for `S` (stored without the `m = 0` column): the entry at `index(N; n, m) − (N + 1)` is the block's entry at `index(N0; n, m) − (N0 + 1)` -/
theorem readcoeffs_selects_S (N0 : Int) (N M n m : ℕ) (h1 : 1 ≤ m) (hm : m ≤ M) (hmn : m ≤ n) (hn : n ≤ N) (d : Int) :
    (readSelS N0 N M).getD (index N n m - ((N : Int) + 1)).toNat d = index N0 n m - (N0 + 1) := by
  obtain ⟨j, rfl⟩ : ∃ j, m = j + 1 := ⟨m - 1, by omega⟩
  have hpos : (index N n ((j + 1 : ℕ) : Int) - ((N : Int) + 1)).toNat = off (colS N0 N) j + (n - (j + 1)) := by
    have := off_colS N0 N j (by omega)
    have := index_col N n ((j : Int) + 1)
    push_cast
    omega
  rw [readSelS_eq, hpos, getD_flatMap_range _ _ _ _ _ (by omega) (by rw [colS_length]; omega), colS, getD_map_range _ _ (by omega)]
  push_cast
  congr 2
  omega

/-- the vectors have exactly the sizes `Csize(N, M)`, `Ssize(N, M)` of the degree and order read (`readDims_spec`) -/
theorem readcoeffs_sizes (N0 : Int) (N M : ℕ) (hM : M ≤ N) :
    ((readSelC N0 N M).length : Int) = csize N M ∧ ((readSelS N0 N M).length : Int) = ssize N M := by
  constructor
  · rw [readSelC_eq, length_flatMap_range, off_colC N0 N (M + 1) (by omega), csize_eq_index]
    push_cast
    rfl
  · rw [readSelS_eq, length_flatMap_range, off_colS N0 N M hM, ssize, csize_eq_index]

/-- the degree and order read: those of the block, or with `truncate` the minimum of block and request; both pairs must be valid -/
theorem readDims_spec (truncate : Bool) (Nreq Mreq N0 M0 N M : Int) (h : readDims truncate Nreq Mreq N0 M0 = some (N, M)) :
    validNM N0 M0 = true ∧ (truncate = false → N = N0 ∧ M = M0) ∧ (truncate = true → validNM Nreq Mreq = true ∧ N = min Nreq N0 ∧ M = min Mreq M0) := by
  unfold readDims at h
  cases truncate <;> simp at h ⊢ <;> (obtain ⟨h1, h2⟩ := h; simp_all)

/-- non-vacuity: a degree-3, order-2 block truncated to degree 2, order 1 -/
example : readDims true 2 1 3 2 = some (2, 1) ∧ readSelC 3 2 1 = [0, 1, 2, 4, 5] ∧ readSelS 3 2 1 = [0, 1] := by decide

theorem epochIndex_spec (k : Int) (nM : ℕ) (h : 1 ≤ nM) :
    (epochIndex k nM : Int) = if k < 0 then 0 else if k ≤ (nM : Int) - 1 then k else (nM : Int) - 1 := by
  unfold epochIndex
  split_ifs <;> omega

/-- **linear in time within an epoch**: with the epoch fixed, the field is `B_n + (t − t₀ − n·Δ)·rate + Bc`, the rate
    being the difference quotient of the neighbouring models (interpolation) or the secular-variation model
    (extrapolation, last epoch); by definition of `fieldAt` -/
theorem time_interp (B : ℕ → ℝ) (Bc t t0 dt0 : ℝ) (k : Int) (nM : ℕ) :
    let n := epochIndex k nM
    let rate := if n + 1 < nM then (B (n + 1) - B n) / dt0 else B (n + 1)
    fieldAt B Bc t t0 dt0 k nM = (B n + (t - t0 - (n : ℝ) * dt0) * rate + Bc, rate) :=
  Prod.ext (add_assoc _ _ _).symm rfl

/-- the field is affine in `t` while the epoch does not change -/
theorem time_linear (B : ℕ → ℝ) (Bc t t' t0 dt0 : ℝ) (k : Int) (nM : ℕ) :
    (fieldAt B Bc t t0 dt0 k nM).1 - (fieldAt B Bc t' t0 dt0 k nM).1 = (t - t') * (fieldAt B Bc t t0 dt0 k nM).2 := by
  simp only [fieldAt, ofNat_real]
  ring

/-- **continuity across epochs**: at the epoch boundary `t = t₀ + (k+1)·Δ` (with `0 ≤ k`, `k + 1 ≤ nM − 1`) the value
    computed in epoch `k` equals the value computed in epoch `k + 1` (whether or not that one interpolates) -/
theorem time_continuous (B : ℕ → ℝ) (Bc t0 dt0 : ℝ) (k nM : ℕ) (hk : k + 1 ≤ nM - 1) (hd : dt0 ≠ 0) :
    (fieldAt B Bc (t0 + ((k : ℝ) + 1) * dt0) t0 dt0 k nM).1 = (fieldAt B Bc (t0 + ((k : ℝ) + 1) * dt0) t0 dt0 (k + 1 : ℕ) nM).1 := by
  have e1 : epochIndex (k : Int) nM = k := by unfold epochIndex; omega
  have e2 : epochIndex ((k + 1 : ℕ) : Int) nM = k + 1 := by unfold epochIndex; omega
  rw [fieldAt_eq_combine, fieldAt_eq_combine, e1, e2]
  exact (epochBranch_boundary B Bc t0 dt0 nM k (by omega) hd _ (by rw [add_sub_cancel_left, mul_div_cancel_right₀ _ hd]; push_cast; rfl)).symm

/-- **extrapolation** before the first epoch uses epoch 0 and after the last one the last model with its secular variation -/
theorem time_extrapolation (nM : ℕ) (h : 1 ≤ nM) (k : Int) :
    (k < 0 → epochIndex k nM = 0) ∧ ((nM : Int) - 1 ≤ k → epochIndex k nM = nM - 1 ∧ ¬ (epochIndex k nM + 1 < nM)) := by
  unfold epochIndex
  omega

example : ∃ nM k : ℕ, k + 1 ≤ nM - 1 := ⟨3, 1, by norm_num⟩

/-- **epoch selection is the clamped floor**: the comparison-only selector the driver executes (`epochSel`: the largest `j ≤ J` with `j ≤ s`) is
    `clamp(⌊s⌋, 0, J)` — `n = max(0, min(⌊(t − t₀)/Δ⌋, N − 1))` as coded in `MagneticModel::FieldGeocentric` and in `MagneticModel::Circle` -/
theorem epochSel_is_clamped_floor (s : ℝ) (J : ℕ) : (epochSel s J : ℤ) = max 0 (min ⌊s⌋ (J : ℤ)) := by
  induction J with
  | zero => simp [epochSel]
  | succ J ih =>
    simp only [epochSel, leb_real, ofNat_real, decide_eq_true_eq]
    split_ifs with h
    · have : ((J + 1 : ℕ) : ℤ) ≤ ⌊s⌋ := Int.le_floor.mpr (by exact_mod_cast h)
      rw [min_eq_right this, max_eq_right (Int.natCast_nonneg _)]
    · have : ⌊s⌋ < (J : ℤ) + 1 := Int.floor_lt.mpr (by push_cast at h ⊢; exact not_le.mp h)
      rw [ih, Nat.cast_succ, min_eq_left this.le, min_eq_left (Int.lt_add_one_iff.mp this)]

/-- the selector agrees with `epochIndex`, which is handed `k = ⌊(t − t₀)/Δ⌋` -/
theorem epochSel_eq_epochIndex (s : ℝ) (nM : ℕ) (h : 1 ≤ nM) : epochSel s (nM - 1) = epochIndex ⌊s⌋ nM := by
  have := epochSel_is_clamped_floor s (nM - 1)
  unfold epochIndex
  have e : ((nM - 1 : ℕ) : ℤ) = (nM : ℤ) - 1 := by omega
  rw [e] at this
  omega

example : ∃ nM : ℕ, 1 ≤ nM := ⟨3, by norm_num⟩

/-- **`epochSplit` is the documented split**: `n = clamp(⌊(t − t₀)/Δ⌋, 0, N − 1)`, `t₁ = t − t₀ − n·Δ`, `interpolate ⇔ n + 1 < N` -/
theorem epochSplit_spec (t t0 dt0 : ℝ) (nM : ℕ) :
    let E := epochSplit t t0 dt0 nM
    (E.n : ℤ) = max 0 (min ⌊(t - t0) / dt0⌋ ((nM - 1 : ℕ) : ℤ)) ∧ E.t1 = t - t0 - (E.n : ℝ) * dt0 ∧ (E.interp = true ↔ E.n + 1 < nM) := by
  refine ⟨epochSel_is_clamped_floor _ _, by simp [epochSplit, ofNat_real], by simp [epochSplit]⟩

/-- the time-dependent field built on `epochSplit` is `fieldAt` at `k = ⌊(t − t₀)/Δ⌋` (so `time_interp`, `time_linear`, `time_continuous`, `time_extrapolation` are theorems
    about what the driver executes) -/
theorem fieldOfTime_eq_fieldAt (B : ℕ → ℝ) (Bc t t0 dt0 : ℝ) (nM : ℕ) (h : 1 ≤ nM) :
    fieldOfTime B Bc t t0 dt0 nM = fieldAt B Bc t t0 dt0 ⌊(t - t0) / dt0⌋ nM := by
  rw [fieldAt_eq_combine, ← epochSel_eq_epochIndex _ nM h]
  simp only [fieldOfTime, epochSplit, ofNat_real]

/-- **the circle's copy is the model's copy**: `MagneticCircle::FieldGeocentric` (`circleField`) applied to the split that
    `MagneticModel::Circle` stores and to the sums of the two neighbouring epochs is `MagneticModel::FieldGeocentric` (`fieldOfTime`);
    by definition, both being `fieldCombine` (that the circle sums are the point values is `circle_eq_value`) -/
theorem circle_copy_is_model_copy (B : ℕ → ℝ) (Bc t t0 dt0 : ℝ) (nM : ℕ) :
    let E := epochSplit t t0 dt0 nM
    circleField E (B E.n) (B (E.n + 1)) Bc dt0 = fieldOfTime B Bc t t0 dt0 nM := rfl

/-- **the field is a continuous function of the time** (piecewise linear, no jump at any epoch boundary), for every number of epochs -/
theorem time_continuous_everywhere (B : ℕ → ℝ) (Bc t0 dt0 : ℝ) (nM : ℕ) (hd : dt0 ≠ 0) :
    Continuous fun t => (fieldOfTime B Bc t t0 dt0 nM).1 := by
  simp only [fieldOfTime_branch]
  cases nM with
  | zero => simpa [epochSel] using epochBranch_continuous B Bc t0 dt0 0 0
  | succ n => exact epochSel_branch_continuous B Bc t0 dt0 (n + 1) hd n (by omega)

example : (5 : ℝ) ≠ 0 := by norm_num

/-- **linear extrapolation before the second epoch** (in particular before the first): with `(t − t₀)/Δ < 1` the field is `B₀ + (t − t₀)·rate + Bc`, the rate being
    the first difference quotient (several epochs) or the secular-variation block (one epoch) -/
theorem time_extrapolation_before (B : ℕ → ℝ) (Bc t t0 dt0 : ℝ) (nM : ℕ) (h : (t - t0) / dt0 < 1) :
    fieldOfTime B Bc t t0 dt0 nM =
      (B 0 + ((t - t0) * (if 1 < nM then (B 1 - B 0) / dt0 else B 1) + Bc), if 1 < nM then (B 1 - B 0) / dt0 else B 1) := by
  simp only [fieldOfTime, epochSplit, epochSel_of_lt_one _ _ h, fieldCombine, ofNat_real, decide_eq_true_eq, Nat.cast_zero, zero_mul, sub_zero, Nat.zero_add]

/-- **linear extrapolation after the last epoch**: with `N − 1 ≤ (t − t₀)/Δ` the field is `B_{N−1} + (t − t₀ − (N−1)·Δ)·B_N + Bc` with the secular variation `B_N` as rate -/
theorem time_extrapolation_after (B : ℕ → ℝ) (Bc t t0 dt0 : ℝ) (nM : ℕ) (h1 : 1 ≤ nM) (h : ((nM - 1 : ℕ) : ℝ) ≤ (t - t0) / dt0) :
    fieldOfTime B Bc t t0 dt0 nM = (B (nM - 1) + ((t - t0 - ((nM - 1 : ℕ) : ℝ) * dt0) * B nM + Bc), B nM) := by
  simp only [fieldOfTime, epochSplit, epochSel_of_ge _ _ h, fieldCombine, ofNat_real, Nat.sub_add_cancel h1, lt_irrefl, decide_false, Bool.false_eq_true, if_false]

example : ∃ (nM : ℕ) (t t0 dt0 : ℝ), 1 ≤ nM ∧ ((nM - 1 : ℕ) : ℝ) ≤ (t - t0) / dt0 := ⟨2, 2030, 2020, 5, by norm_num, by norm_num⟩

/-! ## `MagneticModel::FieldComponents`: H, F, D, I are what they are documented to be; the rates are their time derivatives -/

theorem comps_H_sq (Bx By Bz Bxt Byt Bzt : ℝ) : (fieldComponents Bx By Bz Bxt Byt Bzt).H ^ 2 = Bx ^ 2 + By ^ 2 := by
  simp only [fieldComponents, hypot_real]
  exact Real.sq_sqrt (by positivity)

theorem comps_F_sq (Bx By Bz Bxt Byt Bzt : ℝ) :
    (fieldComponents Bx By Bz Bxt Byt Bzt).F ^ 2 = (fieldComponents Bx By Bz Bxt Byt Bzt).H ^ 2 + Bz ^ 2 ∧
    (fieldComponents Bx By Bz Bxt Byt Bzt).F ^ 2 = Bx ^ 2 + By ^ 2 + Bz ^ 2 := by
  simp only [fieldComponents, hypot_real]
  rw [Real.sq_sqrt (by positivity), Real.sq_sqrt (by positivity)]
  exact ⟨rfl, rfl⟩

/-- **declination** (degrees east of north): `H·sin D = Bx`, `H·cos D = By` (`tan D = Bx/By`: `comps_tan_D`) -/
theorem comps_D (Bx By Bz Bxt Byt Bzt : ℝ) (h : Bx ^ 2 + By ^ 2 ≠ 0) :
    let c := fieldComponents Bx By Bz Bxt Byt Bzt
    c.H * Real.sin (c.D * degree) = Bx ∧ c.H * Real.cos (c.D * degree) = By := by
  have hp := atan2deg_polar By Bx (by rwa [add_comm])
  rw [add_comm (By ^ 2)] at hp
  rw [fieldComponents_of_ne Bx By Bz Bxt Byt Bzt rfl rfl rfl h]
  exact hp

theorem comps_tan_D (Bx By Bz Bxt Byt Bzt : ℝ) (h : By ≠ 0) :
    Real.tan ((fieldComponents Bx By Bz Bxt Byt Bzt).D * degree) = Bx / By := by
  rw [fieldComponents_of_ne Bx By Bz Bxt Byt Bzt rfl rfl rfl (by positivity)]
  exact tan_atan2deg By Bx h

/-- **inclination** (degrees down from horizontal): `F·sin I = −Bz`, `F·cos I = H` (`tan I = −Bz/H`: `comps_tan_I`) -/
theorem comps_I (Bx By Bz Bxt Byt Bzt : ℝ) (h : Bx ^ 2 + By ^ 2 ≠ 0) :
    let c := fieldComponents Bx By Bz Bxt Byt Bzt
    c.F * Real.sin (c.I * degree) = -Bz ∧ c.F * Real.cos (c.I * degree) = c.H := by
  have hH : 0 < Real.sqrt (Bx ^ 2 + By ^ 2) := Real.sqrt_pos.mpr (by positivity)
  have hp := atan2deg_polar (Real.sqrt (Bx ^ 2 + By ^ 2)) (-Bz) (by positivity)
  rw [neg_sq] at hp
  rw [fieldComponents_of_ne Bx By Bz Bxt Byt Bzt rfl rfl rfl h]
  exact hp

theorem comps_tan_I (Bx By Bz Bxt Byt Bzt : ℝ) (h : Bx ^ 2 + By ^ 2 ≠ 0) :
    Real.tan ((fieldComponents Bx By Bz Bxt Byt Bzt).I * degree) = -Bz / (fieldComponents Bx By Bz Bxt Byt Bzt).H := by
  have hH : 0 < Real.sqrt (Bx ^ 2 + By ^ 2) := Real.sqrt_pos.mpr (by positivity)
  rw [fieldComponents_of_ne Bx By Bz Bxt Byt Bzt rfl rfl rfl h]
  exact tan_atan2deg _ (-Bz) hH.ne'

/-- non-vacuity: a field with a horizontal part -/
example : (3 : ℝ) ^ 2 + 4 ^ 2 ≠ 0 := by norm_num

/-- **`Ht` is the time derivative of `H`** along the linear motion `B + s·dB/dt` -/
theorem comps_Ht_is_derivative (Bx By Bz Bxt Byt Bzt : ℝ) (h : Bx ^ 2 + By ^ 2 ≠ 0) :
    HasDerivAt (fun s : ℝ => (fieldComponents (Bx + s * Bxt) (By + s * Byt) (Bz + s * Bzt) Bxt Byt Bzt).H)
      (fieldComponents Bx By Bz Bxt Byt Bzt).Ht 0 := by
  rw [fieldComponents_of_ne Bx By Bz Bxt Byt Bzt rfl rfl rfl h]
  exact hypot_path_hasDerivAt Bx By Bxt Byt h

/-- **`Ft` is the time derivative of `F`** -/
theorem comps_Ft_is_derivative (Bx By Bz Bxt Byt Bzt : ℝ) (h : Bx ^ 2 + By ^ 2 ≠ 0) :
    HasDerivAt (fun s : ℝ => (fieldComponents (Bx + s * Bxt) (By + s * Byt) (Bz + s * Bzt) Bxt Byt Bzt).F)
      (fieldComponents Bx By Bz Bxt Byt Bzt).Ft 0 := by
  rw [fieldComponents_of_ne Bx By Bz Bxt Byt Bzt rfl rfl rfl h]
  have hF := hypot_hasDerivAt (hypot_path_hasDerivAt Bx By Bxt Byt h) (lin_hasDerivAt Bz Bzt) (by simp only [zero_mul, add_zero]; positivity)
  simp only [zero_mul, add_zero] at hF
  exact hF

/-- the branch `arctan(Bx/By)/degree` of the declination along `B + s·dB/dt` has the derivative `Dt` at `s = 0`, for `By ≠ 0` (there
    `D` is this branch up to a constant, `comps_tan_D`).  Not proved: that `D` itself, as returned by `atan2d`, has the derivative
    `Dt` whenever `H ≠ 0` and the field does not point due south; `comps_Dt_is_derivative_north` does it for `By > 0` -/
theorem comps_Dt_is_derivative_partial (Bx By Bz Bxt Byt Bzt : ℝ) (h : By ≠ 0) :
    HasDerivAt (fun s : ℝ => Real.arctan ((Bx + s * Bxt) / (By + s * Byt)) / degree)
      (fieldComponents Bx By Bz Bxt Byt Bzt).Dt 0 := by
  rw [fieldComponents_of_ne Bx By Bz Bxt Byt Bzt rfl rfl rfl (by positivity)]
  refine (arctan_div_hasDerivAt (lin_hasDerivAt Bx Bxt) (lin_hasDerivAt By Byt) (by simp only [zero_mul, add_zero]; exact h)).congr_deriv ?_
  simp only [zero_mul, add_zero]
  rw [Real.sq_sqrt (by positivity), add_comm (By ^ 2)]

/-- **`Dt` is the time derivative of the declination** (as returned) for a field with a northward component, `By > 0` only -/
theorem comps_Dt_is_derivative_north (Bx By Bz Bxt Byt Bzt : ℝ) (h : 0 < By) :
    HasDerivAt (fun s : ℝ => (fieldComponents (Bx + s * Bxt) (By + s * Byt) (Bz + s * Bzt) Bxt Byt Bzt).D)
      (fieldComponents Bx By Bz Bxt Byt Bzt).Dt 0 := by
  refine (comps_Dt_is_derivative_partial Bx By Bz Bxt Byt Bzt h.ne').congr_of_eventuallyEq ?_
  have hc : ContinuousAt (fun s : ℝ => By + s * Byt) 0 := by fun_prop
  have hpos : ∀ᶠ s in nhds (0 : ℝ), 0 < By + s * Byt := hc.eventually (lt_mem_nhds (by simpa using h))
  filter_upwards [hpos] with s hs
  rw [fieldComponents_of_ne _ _ _ Bxt Byt Bzt rfl rfl rfl (by positivity)]
  exact atan2deg_of_pos _ _ hs

example : (0 : ℝ) < 4 := by norm_num

/-- **`It` is the time derivative of the inclination** (as returned; `H > 0` keeps `atan2d(−Bz, H)` on its principal branch) -/
theorem comps_It_is_derivative (Bx By Bz Bxt Byt Bzt : ℝ) (h : Bx ^ 2 + By ^ 2 ≠ 0) :
    HasDerivAt (fun s : ℝ => (fieldComponents (Bx + s * Bxt) (By + s * Byt) (Bz + s * Bzt) Bxt Byt Bzt).I)
      (fieldComponents Bx By Bz Bxt Byt Bzt).It 0 := by
  have hH : 0 < Real.sqrt (Bx ^ 2 + By ^ 2) := Real.sqrt_pos.mpr (by positivity)
  rw [fieldComponents_of_ne Bx By Bz Bxt Byt Bzt rfl rfl rfl h]
  refine ((arctan_div_hasDerivAt (lin_hasDerivAt Bz Bzt).fun_neg (hypot_path_hasDerivAt Bx By Bxt Byt h)
    (by simp only [zero_mul, add_zero]; exact hH.ne')).congr_of_eventuallyEq ?_).congr_deriv ?_
  · have hc : ContinuousAt (fun s : ℝ => (Bx + s * Bxt) ^ 2 + (By + s * Byt) ^ 2) 0 := by fun_prop
    filter_upwards [hc.eventually (lt_mem_nhds (by simp only [zero_mul, add_zero]; positivity))] with s hs
    rw [fieldComponents_of_ne _ _ _ Bxt Byt Bzt rfl rfl rfl hs.ne']
    exact atan2deg_of_pos _ _ (Real.sqrt_pos.mpr hs)
  · simp only [zero_mul, add_zero]
    rw [neg_sq, Real.sq_sqrt (by positivity), Real.sq_sqrt (by positivity)]
    congr 2
    ring

/-- **the normal potential is constant on the reference ellipsoid** `u = b`: for every reduced latitude `β`
    `U(b, β) = GM/E·atan(E/b) + ω²a²/3` (H+M 2-61) -/
theorem normal_U_const (GM omega a b E sbet cbet : ℝ) (h : sbet ^ 2 + cbet ^ 2 = 1) (hE : a ^ 2 = b ^ 2 + E ^ 2)
    (hq : qfun E b ≠ 0) :
    normalU GM omega a b E b sbet cbet = GM / E * Real.arctan (E / b) + omega ^ 2 * a ^ 2 / 3 := by
  unfold normalU
  rw [div_self hq]
  simp only [sq_real, lit_real, RealLike.atan]
  push_cast
  have hc : cbet ^ 2 = 1 - sbet ^ 2 := by linear_combination h
  rw [← hE, hc]
  ring

/-- non-vacuity of `qfun E b ≠ 0`: `q(1, 1) = (π − 3)/2 > 0` -/
example : qfun (1 : ℝ) 1 ≠ 0 := by
  have h : qfun (1 : ℝ) 1 = (Real.pi - 3) / 2 := by
    unfold qfun
    simp only [sq_real, lit_real, RealLike.atan]
    push_cast
    rw [div_one, Real.arctan_one]
    ring
  rw [h]
  have := Real.pi_gt_three
  intro h0
  linarith

/-- **`FlatteningToJ2` is H+M eq. 2-90**: with `e′ = √(e²/(1−f)²)`, `m = ω²a²b/GM`, `q₀ = ½[(1 + 3/e′²)·atan e′ − 3/e′]`
    the coded expression `(e² − K(1−f)³/Q(e′))/3`, `K = 2a³ω²/(15 GM)`, equals `e²/3·(1 − (2/15)·m·e′/q₀)` -/
theorem flatteningToJ2_is_HM (a GM omega f : ℝ) (hf0 : 0 < f) (hf1 : f < 1) (hGM : GM ≠ 0)
    (hq : ((1 + 3 / (Real.sqrt (f * (2 - f) / (1 - f) ^ 2)) ^ 2) * Real.arctan (Real.sqrt (f * (2 - f) / (1 - f) ^ 2))
            - 3 / Real.sqrt (f * (2 - f) / (1 - f) ^ 2)) / 2 ≠ 0) :
    let e2 := f * (2 - f)
    let ep := Real.sqrt (e2 / (1 - f) ^ 2)
    let m := omega ^ 2 * a ^ 2 * (a * (1 - f)) / GM
    let q0 := ((1 + 3 / ep ^ 2) * Real.arctan ep - 3 / ep) / 2
    flatteningToJ2 a GM omega f = e2 / 3 * (1 - 2 / 15 * m * ep / q0) := by
  intro e2 ep m q0
  have h1f : 1 - f ≠ 0 := (sub_pos.mpr hf1).ne'
  have hx : 0 < e2 / (1 - f) ^ 2 := div_pos (mul_pos hf0 (by linarith)) (pow_pos (sub_pos.mpr hf1) 2)
  have hep : ep ≠ 0 := (Real.sqrt_pos.mpr hx).ne'
  have hep2 : ep ^ 2 * (1 - f) ^ 2 = e2 := by rw [Real.sq_sqrt hx.le, div_mul_cancel₀ _ (pow_ne_zero 2 h1f)]
  have hq0 : q0 ≠ 0 := hq
  unfold flatteningToJ2 Qz
  simp only [sq_real, lit_real, RealLike.atan, sqrt_real]
  push_cast
  change (e2 - 2 * (a * omega) ^ 2 * a / (15 * GM) * (1 - f) * (1 - f) ^ 2 / (q0 / (ep * ep ^ 2))) / 3
    = e2 / 3 * (1 - 2 / 15 * (omega ^ 2 * a ^ 2 * (a * (1 - f)) / GM) * ep / q0)
  field_simp
  linear_combination (-(2 * a ^ 3 * omega ^ 2 * ep * (1 - f))) * hep2

/-- **the normal potential is constant on a prolate reference ellipsoid** `u = b` (`a² = b² − E²`): `U(b, β) = GM/E·atanh(E/b) + ω²a²/3` for every `β` -/
theorem normal_U_const_prolate (GM omega a b E sbet cbet : ℝ) (h : sbet ^ 2 + cbet ^ 2 = 1) (hE : a ^ 2 = b ^ 2 - E ^ 2) (hb : b ≠ 0)
    (hq : QzAlt (E / b) ≠ 0) :
    normalUProlate GM omega a b E b sbet cbet = GM / E * RealLike.atanh (E / b) + omega ^ 2 * a ^ 2 / 3 := by
  unfold normalUProlate
  rw [div_self hq, div_self hb]
  simp only [sq_real, lit_real]
  push_cast
  have hc : cbet ^ 2 = 1 - sbet ^ 2 := by linear_combination h
  rw [← hE, hc]
  ring

/-- non-vacuity of `QzAlt (E/b) ≠ 0`: at `E/b = 9/10`, `Q = (100/162)·(219·(10/18)·log 19 − 300)/81 > 0` since `log 19 > log 16 = 4 log 2 > 2.77` -/
example : QzAlt (9 / 10 : ℝ) ≠ 0 := by
  have hl : Real.log 19 > 2.77 := by
    have h16 : Real.log 16 = 4 * Real.log 2 := by
      rw [show (16 : ℝ) = 2 ^ 4 by norm_num, Real.log_pow]; norm_num
    have hlt : Real.log 16 < Real.log 19 := Real.log_lt_log (by norm_num) (by norm_num)
    have := Real.log_two_gt_d9
    linarith
  have hval : QzAlt (9 / 10 : ℝ) = (219 * (10 / 18) * Real.log 19 - 300) / 81 * (100 / 162) := by
    unfold QzAlt
    simp only [sq_real, lit_real, RealLike.atanh]
    push_cast
    rw [show ((1 : ℝ) + 9 / 10) / (1 - 9 / 10) = 19 by norm_num]
    ring
  rw [hval]
  have : 0 < 219 * (10 / 18) * Real.log 19 - 300 := by linarith
  exact (mul_pos (div_pos this (by norm_num)) (by norm_num)).ne'

/-- non-vacuity of `a² = b² − E²`, `b ≠ 0`: `(a, b, E) = (3, 5, 4)` -/
example : (3 : ℝ) ^ 2 = 5 ^ 2 - 4 ^ 2 ∧ (5 : ℝ) ≠ 0 := by norm_num

/-- **the normal potential is constant on a spherical reference body** `u = a` (`f = 0`): `U(a, β) = GM/a + ω²a²/3` -/
theorem normal_U_const_sphere (GM omega a sbet cbet : ℝ) (h : sbet ^ 2 + cbet ^ 2 = 1) (ha : a ≠ 0) :
    normalUSphere GM omega a a sbet cbet = GM / a + omega ^ 2 * a ^ 2 / 3 := by
  unfold normalUSphere
  rw [div_self ha]
  simp only [sq_real, lit_real]
  push_cast
  have hc : cbet ^ 2 = 1 - sbet ^ 2 := by linear_combination h
  rw [hc]
  ring

theorem newton_fixed_point (e2 h dh : ℝ) (hd : dh ≠ 0) (hfix : j2NewtonStep e2 h dh = e2) : h = 0 := by
  unfold j2NewtonStep at hfix
  have : h / dh = 0 := by linarith
  rcases div_eq_zero_iff.mp this with h0 | h0
  · exact h0
  · exact absurd h0 hd

/-- non-vacuity: with `h = 0` every `e²` is a fixed point -/
example : j2NewtonStep (1 / 2 : ℝ) 0 1 = 1 / 2 ∧ (1 : ℝ) ≠ 0 := by unfold j2NewtonStep; norm_num

theorem j2Flattening_spec (e2 : ℝ) (h1 : e2 < 1) :
    1 - j2Flattening e2 = Real.sqrt (1 - e2) ∧ j2Flattening e2 * (2 - j2Flattening e2) = e2 := by
  have hs : 0 < Real.sqrt (1 - e2) := Real.sqrt_pos.mpr (by linarith)
  have hs2 : Real.sqrt (1 - e2) ^ 2 = 1 - e2 := Real.sq_sqrt (by linarith)
  have hne : 1 + Real.sqrt (1 - e2) ≠ 0 := by positivity
  unfold j2Flattening
  simp only [sqrt_real, lit_real]
  push_cast
  constructor
  · field_simp
    linear_combination (-1 : ℝ) * hs2
  · field_simp
    linear_combination (-e2) * hs2

/-- **`FlatteningToJ2 (J2ToFlattening J₂) = J₂` at the level of the fixed-point equation**: if `e² < 1` is a zero of the residual `h` that
    `J2ToFlattening` drives to zero (in particular a fixed point of its Newton step, `newton_fixed_point`), the flattening it returns,
    `f = e²/(1 + √(1 − e²))`, satisfies the Heiskanen–Moritz relation: `FlatteningToJ2(a, GM, ω, f) = J₂` (with `flatteningToJ2_is_HM`: H+M 2-90) -/
theorem j2_fixed_point_inverts (a GM omega J2 e2 : ℝ) (h1 : e2 < 1) (hres : j2Residual a GM omega J2 e2 = 0) :
    flatteningToJ2 a GM omega (j2Flattening e2) = J2 := by
  obtain ⟨hf1, hf2⟩ := j2Flattening_spec e2 h1
  have hs2 : Real.sqrt (1 - e2) ^ 2 = 1 - e2 := Real.sq_sqrt (by linarith)
  unfold flatteningToJ2
  unfold j2Residual at hres
  simp only [sq_real, lit_real, sqrt_real] at hres ⊢
  push_cast at hres ⊢
  rw [hf1, hf2, hs2]
  linear_combination (1 / 3 : ℝ) * hres

/-- the same from the Newton step as coded: a fixed point of `e² ← e² − h(e²)/dh` with `dh ≠ 0` -/
theorem j2_newton_fixed_point_inverts (a GM omega J2 e2 dh : ℝ) (h1 : e2 < 1) (hd : dh ≠ 0)
    (hfix : j2NewtonStep e2 (j2Residual a GM omega J2 e2) dh = e2) :
    flatteningToJ2 a GM omega (j2Flattening e2) = J2 :=
  j2_fixed_point_inverts a GM omega J2 e2 h1 (newton_fixed_point e2 _ dh hd hfix)

/-- non-vacuity: for every `e² < 1` there is a `J₂` with zero residual (the residual is `… − 3·J₂`) -/
example : ∃ J2 : ℝ, j2Residual 1 1 1 J2 (1 / 2) = 0 := by
  refine ⟨((1 / 2 : ℝ) - RealLike.sqrt (1 - 1 / 2 : ℝ) * (1 - 1 / 2) * (2 * RealLike.sq ((1 : ℝ) * 1) * 1 / (15 * 1)) / Qz (RealLike.sqrt ((1 / 2 : ℝ) / (1 - 1 / 2)))) / 3, ?_⟩
  unfold j2Residual
  simp only [lit_real]
  push_cast
  ring

/-- **`U = V₀ + Φ`** in ellipsoidal-harmonic coordinates: with `p² = X² + Y² = (u² + E²)·cos²β` (H+M 1-103) the closed form of `U` is the gravitational part `V₀` plus the
    centrifugal potential `Φ = ω²(X² + Y²)/2` as `NormalGravity::Phi` computes it -/
theorem normalU_eq_V0_add_Phi (GM omega a b E u sbet cbet X Y : ℝ) (hp : X ^ 2 + Y ^ 2 = (u ^ 2 + E ^ 2) * cbet ^ 2) :
    normalU GM omega a b E u sbet cbet = normalV0 GM omega a b E u sbet + phiRot omega X Y := by
  unfold normalU normalV0 phiRot
  simp only [sq_real, lit_real]
  push_cast
  linear_combination (-(omega ^ 2 / 2)) * hp

/-- the same for a prolate body (`p² = (u² − E²)·cos²β`) and a sphere (`p² = u²·cos²β`) -/
theorem normalU_eq_V0_add_Phi_prolate (GM omega a b E u sbet cbet X Y : ℝ) (hp : X ^ 2 + Y ^ 2 = (u ^ 2 - E ^ 2) * cbet ^ 2) :
    normalUProlate GM omega a b E u sbet cbet = normalV0Prolate GM omega a b E u sbet + phiRot omega X Y := by
  unfold normalUProlate normalV0Prolate phiRot
  simp only [sq_real, lit_real]
  push_cast
  linear_combination (-(omega ^ 2 / 2)) * hp

theorem normalU_eq_V0_add_Phi_sphere (GM omega a u sbet cbet X Y : ℝ) (hp : X ^ 2 + Y ^ 2 = u ^ 2 * cbet ^ 2) :
    normalUSphere GM omega a u sbet cbet = normalV0Sphere GM omega a u sbet + phiRot omega X Y := by
  unfold normalUSphere normalV0Sphere phiRot
  simp only [sq_real, lit_real]
  push_cast
  linear_combination (-(omega ^ 2 / 2)) * hp

/-- non-vacuity: `(X, Y) = (5, 0)`, `u = 3`, `E = 4`, `β = 0` -/
example : (5 : ℝ) ^ 2 + 0 ^ 2 = (3 ^ 2 + 4 ^ 2) * 1 ^ 2 := by norm_num

/-- `Φ` is `ω²(X² + Y²)/2` and its gradient `(ω²X, ω²Y)` is its derivative -/
theorem phiRot_gradient (omega X Y : ℝ) :
    phiRot omega X Y = omega ^ 2 * (X ^ 2 + Y ^ 2) / 2 ∧ HasDerivAt (fun x => phiRot omega x Y) (omega ^ 2 * X) X ∧ HasDerivAt (fun y => phiRot omega X y) (omega ^ 2 * Y) Y := by
  have hphi : ∀ x y : ℝ, phiRot omega x y = omega ^ 2 * (x ^ 2 + y ^ 2) / 2 := fun x y => by simp only [phiRot, sq_real, lit_real]
  refine ⟨hphi X Y, ?_, ?_⟩
  · simp only [hphi]
    exact ((((hasDerivAt_pow 2 X).add_const (Y ^ 2)).const_mul (omega ^ 2)).div_const 2).congr_deriv (by simp; ring)
  · simp only [hphi]
    exact ((((hasDerivAt_pow 2 Y).const_add (X ^ 2)).const_mul (omega ^ 2)).div_const 2).congr_deriv (by simp; ring)

/-- **prolate branch of `J2ToFlattening`** (`e² < 0`, the branch the seeded change `/verif/seeded/C19E` alters: `Qf(−e², true)`, closed form
    `QzAlt(√(−e²/(1 − e²)))`): a zero of the residual its Newton iteration drives to zero gives a flattening
    `f = e²/(1 + √(1 − e²)) < 0` with `FlatteningToJ2(a, GM, ω, f) = J₂` (prolate closed form of `FlatteningToJ2`).
    The proof is that of the oblate case `j2_fixed_point_inverts`, with `QzAlt` for `Qz` -/
theorem j2_fixed_point_inverts_prolate (a GM omega J2 e2 : ℝ) (h1 : e2 < 1) (hres : j2ResidualProlate a GM omega J2 e2 = 0) :
    flatteningToJ2Prolate a GM omega (j2Flattening e2) = J2 := by
  obtain ⟨hf1, hf2⟩ := j2Flattening_spec e2 h1
  have hs2 : Real.sqrt (1 - e2) ^ 2 = 1 - e2 := Real.sq_sqrt (by linarith)
  unfold flatteningToJ2Prolate
  unfold j2ResidualProlate at hres
  simp only [sq_real, lit_real, sqrt_real] at hres ⊢
  push_cast at hres ⊢
  rw [hf1, hf2, hs2]
  linear_combination (1 / 3 : ℝ) * hres

/-- the same from the Newton step as coded -/
theorem j2_newton_fixed_point_inverts_prolate (a GM omega J2 e2 dh : ℝ) (h1 : e2 < 1) (hd : dh ≠ 0)
    (hfix : j2NewtonStep e2 (j2ResidualProlate a GM omega J2 e2) dh = e2) :
    flatteningToJ2Prolate a GM omega (j2Flattening e2) = J2 :=
  j2_fixed_point_inverts_prolate a GM omega J2 e2 h1 (newton_fixed_point e2 _ dh hd hfix)

theorem j2Flattening_neg (e2 : ℝ) (h : e2 < 0) : j2Flattening e2 < 0 := by
  unfold j2Flattening
  simp only [sqrt_real, lit_real]
  push_cast
  have : 0 < 1 + Real.sqrt (1 - e2) := by positivity
  exact div_neg_of_neg_of_pos h this

/-- non-vacuity: for every `e² < 0` there is a `J₂` with zero residual -/
example : ∃ J2 : ℝ, j2ResidualProlate 1 1 1 J2 (-1 / 2) = 0 := by
  refine ⟨((-1 / 2 : ℝ) - RealLike.sqrt (1 - -1 / 2 : ℝ) * (1 - -1 / 2) * (2 * RealLike.sq ((1 : ℝ) * 1) * 1 / (15 * 1)) / QzAlt (RealLike.sqrt (-(-1 / 2 : ℝ) / (1 - -1 / 2)))) / 3, ?_⟩
  unfold j2ResidualProlate
  simp only [lit_real]
  push_cast
  ring

/-- **the table `_zonal` assembled by the `GravityModel` constructor**: entry 0 is `1` (cancels the `1/r` term), odd degrees are `0`, and the even degree `n = 2j` present in the
    table holds `−(GMref/GMmodel)·(aref/amodel)^n·J_n/√(2n+1)` for fully normalised models and `−(GMref/GMmodel)·(aref/amodel)^n·J_n` for Schmidt ones (`zonalCoef`:
    the divisor depends on the normalisation, c2871c3).  The default `7` of `getD` is arbitrary: the indices are in range -/
theorem zonal_table_entries (full : Bool) (mult amult : ℝ) (Jn cC : ℕ → ℝ) (nmx : ℕ) :
    let Z := zonalTable full mult amult Jn cC nmx
    Z.getD 0 7 = 1 ∧ ∀ j, 1 ≤ j → 2 * j < Z.length → Z.getD (2 * j - 1) 7 = 0 ∧ Z.getD (2 * j) 7 = zonalCoef full mult amult Jn j := by
  intro Z
  obtain ⟨k, hk, -⟩ := zonalTail_shape full amult Jn cC nmx mult (nmx / 2 + 1) 0
  obtain ⟨hl, hg⟩ := flatMap_pairs (zonalCoef full mult amult Jn) 7 k 1
  have hZ : Z = 1 :: (List.range' 1 k).flatMap fun i => [0, zonalCoef full mult amult Jn i] := by
    rw [← hk, pow_zero, mul_one]
    simp only [Z, zonalTable, ofNat_real, Nat.cast_one]
  rw [hZ]
  refine ⟨rfl, fun j hj hlen => ?_⟩
  obtain ⟨i, rfl⟩ : ∃ i, j = i + 1 := ⟨j - 1, by omega⟩
  rw [List.length_cons, hl] at hlen
  have h := hg i (by omega)
  rw [Nat.add_comm 1 i] at h
  exact h

/-- **the loop ends only beyond the model degree or at a normal term that vanishes**: over ℝ the exit test `t == r` (`r − s = r`) is `s = 0`, so every non-zero normal zonal
    term up to the first vanishing one is subtracted; the table has odd length `2k + 1` (`nmx1 = 2k` is even) -/
theorem zonal_table_stops_only_at_zero (full : Bool) (mult amult : ℝ) (Jn cC : ℕ → ℝ) (nmx : ℕ) :
    ∃ k, (zonalTable full mult amult Jn cC nmx).length = 2 * k + 1 ∧ (nmx < 2 * (k + 1) ∨ zonalCoef full mult amult Jn (k + 1) = 0) := by
  obtain ⟨k, hk, hor⟩ := zonalTail_shape full amult Jn cC nmx mult (nmx / 2 + 1) 0
  rw [pow_zero, mul_one] at hk
  refine ⟨k, ?_, ?_⟩
  · rw [zonalTable, List.length_cons, hk, (flatMap_pairs _ 7 k 1).1]
  · rw [show 0 + 1 + k = k + 1 by omega] at hor
    rcases hor with h | h | h
    · exact Or.inl (by omega)
    · exact Or.inl h
    · exact Or.inr h

/-- non-vacuity: a Schmidt-normalised degree-2 model with `C₂₀ = 0` and `J₂ = 1`: the table is `[1, 0, −1]` -/
example : zonalTable false (1 : ℝ) 1 (fun _ => 1) (fun _ => 0) 2 = [1, 0, -1] := by
  simp [zonalTable, zonalTail, zonalNorm, ofNat_real]

/-- the second coefficient set of `_disturbing`: `SphericalHarmonic1(_cCx, _sSx, N, nmx, mmx, _zonal, _zonal, nmx1, nmx1, 0, …)`, `nmx1 = |_zonal| − 1` (its `S` "is not accessed") -/
def zonalSet (Z : List ℝ) : Coeff ℝ := ⟨(Z.length : Int) - 1, (Z.length : Int) - 1, 0, Z, Z⟩

/-- **coefficient level**: evaluated with `tau = −1` the combined coefficients of `_disturbing` are `C_nm − δ_{m0}·Z_n` (for `n` within the table) and `S_nm` untouched -/
theorem disturbing_coeff (c0 : Coeff ℝ) (Z : List ℝ) (sc : ℝ) (n m : ℕ) :
    combC 0 [(c0, 1), (zonalSet Z, -1)] sc n m = (c0.cv0 0 (index c0.N n m) - (if m = 0 ∧ n < Z.length then Z.getD n 0 else 0)) * sc ∧
    (1 ≤ m → combS 0 [(c0, 1), (zonalSet Z, -1)] sc n m = c0.sv0 0 (index c0.N n m) * sc) := by
  constructor
  · have hc : ((n : Int) ≤ (zonalSet Z).nmx ∧ (m : Int) ≤ (zonalSet Z).mmx) ↔ (m = 0 ∧ n < Z.length) := by simp only [zonalSet]; omega
    rw [combC_two, if_congr hc rfl rfl]
    split_ifs with h
    · obtain ⟨rfl, hn⟩ := h
      have h2 : ¬ ((n : Int) < 0) := by omega
      simp [Coeff.cv0, index, getI, zonalSet, h2, sub_eq_add_neg]
    · ring
  · intro hm
    have hgt : (m : Int) > (zonalSet Z).mmx := by simp only [zonalSet]; omega
    simp [combS, Coeff.sv, hgt]

/-- **series level**: the harmonic sum is linear in the cosine coefficients — the sum with `C − Z` is the sum with `C` minus the (zonal) sum with `Z`:
    `T-sum = V-sum − normal zonal sum`, for `FULL` and `SCHMIDT` alike -/
theorem disturbing_is_V_minus_normal (full : Bool) (P : Pt ℝ) (N M : ℕ) (cC cZ cS : ℕ → ℕ → ℝ) (sc : ℝ) :
    valuePt full P N M (fun n m => cC n m - cZ n m) cS sc = valuePt full P N M cC cS sc - valuePt full P N M cZ (fun _ _ => 0) sc := by
  simp only [value_is_series_alg]
  rw [← mul_sub, ← Finset.sum_sub_distrib]
  congr 1
  apply Finset.sum_congr rfl
  intro m _
  rw [← Finset.sum_sub_distrib]
  apply Finset.sum_congr rfl
  intro l _
  ring

/-! ## `GravityCircle`: the capability masks are honoured -/

/-- **an enabled member reads only what `Circle(lat, h, caps)` built**: for every mask `caps < 64`, for `h = 0` and `h ≠ 0`, a member that passes its own test
    `(_caps & X) == X` finds the circular engines / `gamma`, `gamma0` it uses constructed (and a member that fails it returns NaN as coded: `gcEnabled` is the
    test the driver compares with the implementation for all 128 combinations) -/
theorem caps_enabled_reads_built : ∀ caps < 64, ∀ hz : Bool, ∀ m : GcMember,
    gcEnabled capTableDoc (gcEffCaps capTableDoc caps hz) m = true → gcReads m (gcBuilt capTableDoc (gcEffCaps capTableDoc caps hz)) = true := by
  decide +kernel

/-- each documented mask enables exactly the members it is documented for (at `h = 0`); `GEOID_HEIGHT` is never enabled for `h ≠ 0`; `ALL` enables everything at `h = 0` -/
theorem caps_documented_masks :
    (∀ m : GcMember, gcEnabled capTableDoc (gcEffCaps capTableDoc capTableDoc.all true) m = true) ∧
    (∀ caps < 64, gcEnabled capTableDoc (gcEffCaps capTableDoc caps false) .geoidHeight = false) ∧
    (∀ m : GcMember, gcEnabled capTableDoc capTableDoc.gravity m = decide (m = .gravity ∨ m = .w ∨ m = .v)) ∧
    (∀ m : GcMember, gcEnabled capTableDoc capTableDoc.disturbance m = decide (m = .disturbance ∨ m = .tGrad ∨ m = .t)) ∧
    (∀ m : GcMember, gcEnabled capTableDoc capTableDoc.disturbingPotential m = decide (m = .t)) ∧
    (∀ m : GcMember, gcEnabled capTableDoc capTableDoc.sphericalAnomaly m = decide (m = .sphericalAnomaly ∨ m = .disturbance ∨ m = .tGrad ∨ m = .t)) ∧
    (∀ m : GcMember, gcEnabled capTableDoc capTableDoc.geoidHeight m = decide (m = .geoidHeight ∨ m = .t)) := by
  decide +kernel

/-- enabling is monotone in the mask: more capabilities never disable a member (`gcEnabled_mono`; the bounds `< 64` are not needed) -/
theorem caps_monotone : ∀ caps < 64, ∀ caps' < 64, caps &&& caps' = caps → ∀ m : GcMember,
    gcEnabled capTableDoc caps m = true → gcEnabled capTableDoc caps' m = true :=
  fun _ _ _ _ h m hm => gcEnabled_mono capTableDoc h m hm

/-- **lookup order of the model files**: an explicit (non-empty) path wins; otherwise the kind's own variable if set and non-empty; otherwise `$GEOGRAPHICLIB_DATA/<kind>` if set and
    non-empty; otherwise the compile-time default directory with `/<kind>` appended -/
theorem lookup_order (explicit s d builtin sub : String) (spec data : Option String) :
    (explicit.isEmpty = false → lookupDir explicit spec data builtin sub = explicit) ∧
    (s.isEmpty = false → lookupDir "" (some s) data builtin sub = s) ∧
    (d.isEmpty = false → lookupDir "" none (some d) builtin sub = d ++ "/" ++ sub ∧ lookupDir "" (some "") (some d) builtin sub = d ++ "/" ++ sub) ∧
    lookupDir "" none none builtin sub = builtin ++ "/" ++ sub ∧ lookupDir "" (some "") (some "") builtin sub = builtin ++ "/" ++ sub := by
  have ne : ∀ x : String, x.isEmpty = false → x ≠ "" := by
    intro x hx h0; simp [h0] at hx
  refine ⟨fun h => by simp [lookupDir, h], fun h => by simp [lookupDir, defaultPath, nonEmpty?, ne s h],
    fun h => ⟨by simp [lookupDir, defaultPath, nonEmpty?, ne d h], by simp [lookupDir, defaultPath, nonEmpty?, ne d h]⟩,
    by simp [lookupDir, defaultPath, nonEmpty?], by simp [lookupDir, defaultPath, nonEmpty?]⟩

example : ("/data".isEmpty = false) := by decide

/-- the capability table read from `GravityModel.hpp` -/
def capTableGen : CapTable :=
  { capG := Gen.C19Glue.CAP_G, capT := Gen.C19Glue.CAP_T, capDelta := Gen.C19Glue.CAP_DELTA, capC := Gen.C19Glue.CAP_C, capGamma0 := Gen.C19Glue.CAP_GAMMA0,
    capGamma := Gen.C19Glue.CAP_GAMMA, gravity := Gen.C19Glue.mask_GRAVITY, disturbance := Gen.C19Glue.mask_DISTURBANCE,
    disturbingPotential := Gen.C19Glue.mask_DISTURBING_POTENTIAL, sphericalAnomaly := Gen.C19Glue.mask_SPHERICAL_ANOMALY, geoidHeight := Gen.C19Glue.mask_GEOID_HEIGHT,
    all := Gen.C19Glue.mask_ALL }

/-- *Gen*: the enums `captype` / `mask` of `GravityModel.hpp` are the documented ones the capability theorems are about -/
theorem caps_table_extracted : capTableGen = capTableDoc := by decide +kernel

/-- *Gen*: each `GravityCircle` member tests exactly the mask of the capability model (`V` ← `Gravity`, `W`; `InternalT` ← `Disturbance`, `T`, `SphericalAnomaly`,
    `GeoidHeight` with `gradp` choosing `DISTURBANCE` / `DISTURBING_POTENTIAL`), and `GravityModel::Circle` clears `CAP_GAMMA0 | CAP_C` for `h ≠ 0` and builds each part under
    the capability bit `gcBuilt` assumes -/
theorem caps_tests_extracted :
    Gen.C19Glue.memberTests = [("Gravity", []), ("Disturbance", []), ("GeoidHeight", [gcNeeds capTableDoc .geoidHeight]),
      ("SphericalAnomaly", [gcNeeds capTableDoc .sphericalAnomaly]), ("W", []), ("V", [gcNeeds capTableDoc .v]),
      ("InternalT", [gcNeeds capTableDoc .tGrad, gcNeeds capTableDoc .t])] ∧
    Gen.C19Glue.heightClears = capTableDoc.capGamma0 ||| capTableDoc.capC ∧
    Gen.C19Glue.built_grav = capTableDoc.capG ∧ Gen.C19Glue.built_dist = capTableDoc.capT ∧ Gen.C19Glue.built_distGrad = capTableDoc.capDelta ∧
    Gen.C19Glue.built_corr = capTableDoc.capC ∧ Gen.C19Glue.built_gamma0 = capTableDoc.capGamma0 ∧ Gen.C19Glue.built_gamma = capTableDoc.capGamma := by
  decide +kernel

/-- *Gen*: the environment variables are consulted in the order of `defaultPath` (the kind's own variable first and returned as it is, then `GEOGRAPHICLIB_DATA` with the
    sub-directory appended), with the documented default names -/
theorem lookup_env_extracted :
    Gen.C19Glue.gravityPathEnv = ["GEOGRAPHICLIB_GRAVITY_PATH", "GEOGRAPHICLIB_DATA"] ∧ Gen.C19Glue.gravitySub = "/gravity" ∧
    Gen.C19Glue.gravityNameEnv = "GEOGRAPHICLIB_GRAVITY_NAME" ∧ Gen.C19Glue.gravityNameDefault = "egm96" ∧
    Gen.C19Glue.magneticPathEnv = ["GEOGRAPHICLIB_MAGNETIC_PATH", "GEOGRAPHICLIB_DATA"] ∧ Gen.C19Glue.magneticSub = "/magnetic" ∧
    Gen.C19Glue.magneticNameEnv = "GEOGRAPHICLIB_MAGNETIC_NAME" ∧ Gen.C19Glue.magneticNameDefault = "wmm2025" ∧
    Gen.C19Glue.gravityDataDefault = Gen.C19Glue.magneticDataDefault := by
  decide +kernel

/-- *Gen*: the metadata keys the synthetic files of the harness exercise are the keys the readers recognise -/
theorem metadata_keys_extracted :
    Gen.C19Glue.gravityKeys = ["Name", "Description", "ReleaseDate", "ModelRadius", "ModelMass", "AngularVelocity", "ReferenceRadius", "ReferenceMass", "Flattening",
      "DynamicalFormFactor", "HeightOffset", "CorrectionMultiplier", "Normalization", "ByteOrder", "ID"] ∧
    Gen.C19Glue.magneticKeys = ["Name", "Description", "ReleaseDate", "Radius", "Type", "Epoch", "DeltaEpoch", "NumModels", "NumConstants", "MinTime", "MaxTime", "MinHeight",
      "MaxHeight", "Normalization", "ByteOrder", "ID"] := by
  decide +kernel

end GeoVerif.Props.C19
