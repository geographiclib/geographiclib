import GeoVerif.Model.VPTree
import GeoVerif.Model.GeodProj
import GeoVerif.Model.IntersectFix
import GeoVerif.Spec.RealInst
import GeoVerif.Proofs.VPTree
import GeoVerif.Proofs.VPTreeInit
import GeoVerif.Proofs.IntersectCover
import Mathlib.Tactic.Ring
import Mathlib.Tactic.LinearCombination
import Mathlib.Tactic.FieldSimp
import Mathlib.Tactic.Positivity
import Mathlib.Tactic.Linarith
/-!
C17, constructions on geodesics.  Projections: the wrapper formulas of `Model/GeodProj.lean` around an arbitrary geodesic kernel.
`Intersect`: the search bookkeeping of `Model/IntersectSearch.lean` for *every* kernel `Basic`, and completeness under a stated
contract of `Basic`.  Nearest neighbour: `Search ∘ Initialize` of `Model/VPTree.lean` = brute force for every metric; `Save`/`Load`.
-/
namespace GeoVerif.Props.C17
open GeoVerif GeoVerif.GeodProj

/-- the projected point lies at distance `s12` from the origin (for a unit direction vector) -/
theorem azeq_radius (K : Kern ℝ) (eps : ℝ) (h : K.salp1 ^ 2 + K.calp1 ^ 2 = 1) :
    (azeqForward K eps).x ^ 2 + (azeqForward K eps).y ^ 2 = K.s12 ^ 2 := by
  simp only [azeqForward]
  linear_combination (K.s12 ^ 2) * h

/-- … in the direction of the azimuth at the centre; the returned azimuth is the geodesic's azimuth at the point -/
theorem azeq_direction (K : Kern ℝ) (eps : ℝ) :
    (azeqForward K eps).x = K.s12 * K.salp1 ∧ (azeqForward K eps).y = K.s12 * K.calp1 ∧ (azeqForward K eps).azi = K.azi2 := by
  simp only [azeqForward]
  exact ⟨by ring, by ring, trivial⟩

/-- reciprocal azimuthal scale: `m12/s12`, and 1 in the limit of coincident points -/
theorem azeq_rk (K : Kern ℝ) (eps : ℝ) :
    (azeqForward K eps).rk = if K.sig ≤ eps ∨ K.s12 = 0 then 1 else K.m12 / K.s12 := by
  simp [azeqForward, azeqRk, ofNat_real]

/-- `Math::atan2d` over the reals -/
noncomputable def atan2dR (x y : ℝ) : ℝ := RealLike.atan2 x y * 180 / Real.pi

/-- `Reverse ∘ Forward = id` up to the kernel contract: for a point at distance `s12 > 0` and azimuth `azi1 ∈ (−180, 180]`
    (degrees) the arguments `Reverse` hands to `Direct` are exactly `(azi1, s12)`, so whenever `Direct(azi1, s12)`
    returns the end point of the geodesic `Inverse` described, `Reverse(Forward(p)) = p` -/
theorem azeq_reverse_forward (K : Kern ℝ) (eps azi1 : ℝ) (hs : 0 < K.s12) (h1 : -180 < azi1) (h2 : azi1 ≤ 180)
    (hsin : K.salp1 = Real.sin (azi1 * Real.pi / 180)) (hcos : K.calp1 = Real.cos (azi1 * Real.pi / 180)) :
    azeqReverseArgs atan2dR (azeqForward K eps).x (azeqForward K eps).y = (azi1, K.s12) := by
  have hpi := Real.pi_pos
  set θ := azi1 * Real.pi / 180 with hθ
  have hθ1 : -Real.pi < θ := by
    have := div_lt_div_of_pos_right (mul_lt_mul_of_pos_right h1 hpi) (by norm_num : (0 : ℝ) < 180)
    rwa [show -180 * Real.pi / 180 = -Real.pi by ring] at this
  have hθ2 : θ ≤ Real.pi := by
    have := div_le_div_of_nonneg_right (mul_le_mul_of_nonneg_right h2 hpi.le) (by norm_num : (0 : ℝ) ≤ 180)
    rwa [show 180 * Real.pi / 180 = Real.pi by ring] at this
  simp only [azeqReverseArgs, azeqForward, atan2dR, Prod.mk.injEq]
  constructor
  · have harg : Complex.arg ⟨K.calp1 * K.s12, K.salp1 * K.s12⟩ = θ := by
      have : (⟨K.calp1 * K.s12, K.salp1 * K.s12⟩ : ℂ) = (K.s12 : ℂ) * (Complex.cos (θ : ℂ) + Complex.sin (θ : ℂ) * Complex.I) := by
        apply Complex.ext
        · simp [hcos, ← Complex.ofReal_cos, ← Complex.ofReal_sin, mul_comm]
        · simp [hsin, ← Complex.ofReal_cos, ← Complex.ofReal_sin, mul_comm]
      rw [this]
      exact Complex.arg_mul_cos_add_sin_mul_I hs ⟨hθ1, hθ2⟩
    show Complex.arg ⟨K.calp1 * K.s12, K.salp1 * K.s12⟩ * 180 / Real.pi = azi1
    rw [harg, hθ]
    field_simp
  · rw [hypot_real]
    have : (K.salp1 * K.s12) ^ 2 + (K.calp1 * K.s12) ^ 2 = K.s12 ^ 2 := by
      have h := Real.sin_sq_add_cos_sq θ
      rw [hsin, hcos]; linear_combination (K.s12 ^ 2) * h
    rw [this, Real.sqrt_sq hs.le]

/-- `x = y = NaN` exactly beyond the horizon (`M12 ≤ 0`) -/
theorem gnom_nan_iff (K : Kern ℝ) : gnomForwardXY K = none ↔ K.M12 ≤ 0 := by
  simp only [gnomForwardXY, leb_real, ofNat_real, Nat.cast_zero]
  by_cases h : K.M12 ≤ 0 <;> simp [h]

/-- inside the horizon the point lies at radius `ρ = m12/M12` along the azimuth at the centre -/
theorem gnom_radius (K : Kern ℝ) (hM : 0 < K.M12) (h : K.salp1 ^ 2 + K.calp1 ^ 2 = 1) :
    ∃ x y, gnomForwardXY K = some (x, y) ∧ x = K.m12 / K.M12 * K.salp1 ∧ y = K.m12 / K.M12 * K.calp1 ∧
      x ^ 2 + y ^ 2 = (K.m12 / K.M12) ^ 2 := by
  refine ⟨K.salp1 * (K.m12 / K.M12), K.calp1 * (K.m12 / K.M12), ?_, by ring, by ring, ?_⟩
  · simp [gnomForwardXY, ofNat_real, not_le.mpr hM]
  · linear_combination ((K.m12 / K.M12) ^ 2) * h

/-- the returned scale and azimuth are those of the geodesic -/
theorem gnom_rk_azi (K : Kern ℝ) : (gnomForward K).rk = K.M12 ∧ (gnomForward K).azi = K.azi2 := by
  unfold gnomForward; split <;> exact ⟨rfl, rfl⟩

/-- the Newton iteration of `Reverse` is stationary exactly at solutions of the defining equation `ρ = m/M`
    (and of `1/ρ = M/m` in the far branch) -/
theorem gnom_newton_fixed (rho m M : ℝ) (hM : M ≠ 0) (hm : m ≠ 0) :
    (gnomNewtonDs true rho m M = 0 ↔ rho = m / M) ∧ (gnomNewtonDs false rho m M = 0 ↔ rho = M / m) := by
  simp only [gnomNewtonDs, if_true, Bool.false_eq_true, if_false, mul_eq_zero, hM, hm, or_false]
  constructor
  · rw [eq_div_iff hM]; constructor <;> intro h <;> linarith
  · rw [eq_div_iff hm]; constructor <;> intro h <;> linarith

theorem ofDec_half : (RealLike.ofDec 5 1 : ℝ) = 1 / 2 := by
  show ((5 : ℕ) : ℝ) / 10 ^ 1 = 1 / 2; norm_num

/-- `x` is half the length of the symmetric geodesic `(lat, −|dlon|) → (lat, |dlon|)` (i.e. the distance from the central
    meridian, which that geodesic crosses at right angles by symmetry), negative to the west -/
theorem cass_x (dlon sig12 s12 azi1 azi2 da : ℝ) (neg : Bool) :
    (cassForwardXA dlon neg sig12 s12 azi1 azi2 da).1 = if neg then -(s12 / 2) else s12 / 2 := by
  cases neg <;> simp [cassForwardXA, ofDec_half] <;> ring

/-- mirror symmetry in the central meridian: `x ↦ −x`, and the azimuths of the two mirror images are those at the two ends
    of the same symmetric geodesic -/
theorem cass_mirror (dlon sig12 s12 azi1 azi2 da : ℝ) (hs : s12 ≠ 0) :
    (cassForwardXA dlon true sig12 s12 azi1 azi2 da).1 = -(cassForwardXA dlon false sig12 s12 azi1 azi2 da).1 ∧
    (cassForwardXA dlon true sig12 s12 azi1 azi2 da).2.1 = azi1 ∧ (cassForwardXA dlon false sig12 s12 azi1 azi2 da).2.1 = azi2 := by
  simp [cassForwardXA, ofDec_half, ofNat_real, hs]

/-- on the central meridian (`s12 = 0`) the returned azimuth is `±90° ∓ da` resp. `±90° ± da`: east for `|dlon| ≤ 90`, west
    on the far side of the pole -/
theorem cass_on_meridian (dlon sig12 azi1 azi2 da : ℝ) (neg : Bool) :
    (cassForwardXA dlon neg sig12 0 azi1 azi2 da).2.1 =
      (if |dlon| ≤ 90 then (if neg then 90 - da else 90 + da) else (if neg then -90 - da else -90 + da)) := by
  by_cases h : |dlon| ≤ 90 <;> cases neg <;> simp [cassForwardXA, ofNat_real, h]

open GeoVerif.IntersectFix

/-- `fixcoincident` moves an intersection `p` of coincident geodesics (orientation `c = ±1`) along the line of coincident
    intersections `{p + (t, c t)}` to the point centred on `p0` (`Δx = −c Δy`), which minimises the documented L1 distance
    to `p0` among all points of that line -/
theorem fixcoincident_spec (p0 p : XP ℝ) (c : Int) (hc : c = 1 ∨ c = -1) :
    (fixcoincident p0 p c).y - p.y = c * ((fixcoincident p0 p c).x - p.x) ∧
    (fixcoincident p0 p c).x - p0.x = -(c * ((fixcoincident p0 p c).y - p0.y)) ∧
    (fixcoincident p0 p c).c = p.c ∧
    ∀ t : ℝ, |(fixcoincident p0 p c).x - p0.x| + |(fixcoincident p0 p c).y - p0.y| ≤ |p.x + t - p0.x| + |p.y + c * t - p0.y| := by
  have hcc : (c : ℝ) * c = 1 := by rcases hc with rfl | rfl <;> norm_num
  have habs : |(c : ℝ)| = 1 := by rcases hc with rfl | rfl <;> norm_num
  have hc0 : c ≠ 0 := by omega
  simp only [fixcoincident, if_neg hc0, IntersectSearch.ofC_real, ofNat_real, Nat.cast_ofNat]
  -- in the rotated coordinate `K = Δx − c Δy`, constant along the line, the centred point is `(K/2, −c K/2)`
  have ex : p.x + (p0.x + c * p0.y - (p.x + c * p.y)) / 2 - p0.x = (p.x - p0.x - c * (p.y - p0.y)) / 2 := by ring
  have ey : p.y + c * ((p0.x + c * p0.y - (p.x + c * p.y)) / 2) - p0.y = -(c * ((p.x - p0.x - c * (p.y - p0.y)) / 2)) := by
    linear_combination (-(p.y - p0.y)) * hcc
  refine ⟨by ring, by rw [ex, ey]; linear_combination (-((p.x - p0.x - c * (p.y - p0.y)) / 2)) * hcc, trivial, fun t => ?_⟩
  rw [ex, ey, abs_neg, abs_mul, habs, one_mul]
  have hK : p.x - p0.x - c * (p.y - p0.y) = (p.x + t - p0.x) - c * (p.y + c * t - p0.y) := by
    linear_combination t * hcc
  have tri := abs_sub (p.x + t - p0.x) (c * (p.y + c * t - p0.y))
  rw [← hK, abs_mul, habs, one_mul] at tri
  rwa [abs_div, abs_two, add_halves]

theorem segside_zero_iff (v sv : ℝ) : (if v < 0 then (-1 : Int) else if v ≤ sv then 0 else 1) = 0 ↔ 0 ≤ v ∧ v ≤ sv := by
  split_ifs with h1 h2
  · simp only [false_iff, not_and]; intro h; linarith
  · simp only [true_iff]; exact ⟨not_lt.mp h1, h2⟩
  · simp only [one_ne_zero, false_iff, not_and]; intro _; exact h2

theorem segside_range (v sv : ℝ) :
    -1 ≤ (if v < 0 then (-1 : Int) else if v ≤ sv then 0 else 1) ∧ (if v < 0 then (-1 : Int) else if v ≤ sv then 0 else 1) ≤ 1 := by
  split_ifs <;> omega

/-- the documented segment indicator `3 kx + ky` vanishes exactly when the intersection lies within both segments -/
theorem segmentmode_zero_iff (sx sy : ℝ) (p : XP ℝ) :
    segmentmode sx sy p = 0 ↔ (0 ≤ p.x ∧ p.x ≤ sx) ∧ (0 ≤ p.y ∧ p.y ≤ sy) := by
  simp only [segmentmode, ltb_real, leb_real, ofNat_real, decide_eq_true_eq, Nat.cast_zero]
  rw [← segside_zero_iff p.x sx, ← segside_zero_iff p.y sy]
  have hx := segside_range p.x sx
  have hy := segside_range p.y sy
  omega

open GeoVerif.IntersectSearch

/-- the defining expressions extracted from the current `Intersect.cpp` are the ones the model uses: pruning thresholds
    `2 t1 − d − δ` (Closest: `d = _d1`, Next: `_d2`, All: `d3`), early-exit radius `_t1`, corner exclusion radius `2 _t1`,
    `maxdistx = maxdist + δ`, `_d1 = _t2/2`, `_d2 = 2 _t3/3`, `_d3 = _t4 − δ`, the constructor's check
    `_d1 < _d3 ∧ _d2 < _d3 ∧ _d2 < 2 _t1`, `_eps = 3 ε`, `_tol = d ε^(3/4)`, `δ = d ε^(1/5)`; five starts for Closest, eight for
    Next, a positive iteration cap -/
theorem intersect_constants_of_source :
    Gen.IntersectC.closestSkip = [2, -1, -1] ∧ Gen.IntersectC.nextSkip = [2, -1, -1] ∧ Gen.IntersectC.allSkip = [2, -1, -1] ∧
    Gen.IntersectC.closestStop = [1] ∧ Gen.IntersectC.segCorner = [2] ∧ Gen.IntersectC.allMaxdistx = [1, 1] ∧
    Gen.IntersectC.d1def = [1 / 2] ∧ Gen.IntersectC.d2def = [2 / 3] ∧ Gen.IntersectC.d3def = [1, -1] ∧
    Gen.IntersectC.ctorChecks = [([0, 1, 0, 0], [0, 0, 0, 1]), ([0, 0, 1, 0], [0, 0, 0, 1]), ([0, 0, 1, 0], [2, 0, 0, 0])] ∧
    Gen.IntersectC.epsMul = 3 ∧ Gen.IntersectC.tolExp = 3 / 4 ∧ Gen.IntersectC.deltaExp = 1 / 5 ∧
    Gen.IntersectC.closestIx.length = 5 ∧ Gen.IntersectC.closestIy.length = 5 ∧
    Gen.IntersectC.nextIx.length = 8 ∧ Gen.IntersectC.nextIy.length = 8 ∧ 0 < Gen.IntersectC.numit := by
  decide +kernel

/-- the first start of `ClosestInt` is `p0` itself and the eight starts of `NextInt` all lie at L1 distance `2 d2` from the
    origin (so the origin's own tile is never a start) -/
theorem intersect_start_tables :
    (Gen.IntersectC.closestIx.head?, Gen.IntersectC.closestIy.head?) = (some 0, some 0) ∧
    ((Gen.IntersectC.nextIx.zip Gen.IntersectC.nextIy).all fun o => o.1.natAbs + o.2.natAbs == 2) = true := by
  decide

/-- **incomparability of `SetComp::operator()` is `SetComp::eq`** (the tolerance relation `Dist(p, q) ≤ δ`), for the repaired
    comparator (d3a4710) … -/
theorem setcomp_incomparable_iff_eq (δ : ℝ) (hδ : 0 ≤ δ) (p q : XP ℝ) :
    (clt δ p q = false ∧ clt δ q p = false) ↔ ceq δ p q = true := clt_incomparable_iff δ hδ p q

/-- … and for the comparator before the repair: what finding F58 was about is *transitivity*, not the equivalence -/
theorem setcomp_old_incomparable_iff_eq (δ : ℝ) (hδ : 0 ≤ δ) (p q : XP ℝ) :
    (cltOld δ p q = false ∧ cltOld δ q p = false) ↔ ceq δ p q = true := by
  constructor
  · rintro ⟨h1, h2⟩
    by_contra hne
    rw [Bool.not_eq_true, ceq_false_iff] at hne
    rw [← Bool.not_eq_true, cltOld_iff] at h1 h2
    rw [dist_symm q p] at h2
    rcases lt_trichotomy p.x q.x with h | h | h
    · exact h1 ⟨hne, Or.inl ⟨ne_of_lt h, h⟩⟩
    · rcases lt_trichotomy p.y q.y with g | g | g
      · exact h1 ⟨hne, Or.inr ⟨h, g⟩⟩
      · rw [dist_real, h, g] at hne; simp at hne; linarith
      · exact h2 ⟨hne, Or.inr ⟨h.symm, g⟩⟩
    · exact h2 ⟨hne, Or.inl ⟨ne_of_lt h, h⟩⟩
  · intro h
    rw [ceq_iff] at h
    constructor
    · rw [← Bool.not_eq_true, cltOld_iff]; rintro ⟨a, _⟩; linarith
    · rw [← Bool.not_eq_true, cltOld_iff, dist_symm]; rintro ⟨a, _⟩; linarith

/-- `RankPoint` refines the distance from `p0`: what `std::sort` is given is a lexicographic order on `(Dist, x, y)` -/
theorem rankpoint_refines_dist (p0 p q : XP ℝ) :
    (rlt p0 p q = true → dist p p0 ≤ dist q p0) ∧ (rlt p0 p q = false → dist q p0 ≤ dist p p0) :=
  ⟨rlt_key_le p0 p q, rlt_false_key_le p0 p q⟩

/--
**The repaired `SetComp` is a strict weak order, with `SetComp::eq` as its incomparability, on every point set `S` that is
`Consistent`**: "x within δ" and "L1 within δ" are transitive on `S` and, inside a class of x-close points, the δ-classes are
convex in `y`.  Irreflexive, asymmetric, transitive, and incomparability (= `eq`, previous theorem) is transitive.
(This is what `std::set<XPoint, SetComp>` needs of its comparator; it is the hypothesis of `all_duplicate_free`.)
-/
theorem setcomp_strict_weak_order (δ : ℝ) (hδ : 0 ≤ δ) (S : XP ℝ → Prop) (hS : Consistent δ S) :
    (∀ p, clt δ p p = false) ∧ (∀ p q, clt δ p q = true → clt δ q p = false) ∧
    (∀ p q r, S p → S q → S r → clt δ p q = true → clt δ q r = true → clt δ p r = true) ∧
    (∀ p q r, S p → S q → S r → ceq δ p q = true → ceq δ q r = true → ceq δ p r = true) :=
  ⟨clt_irrefl δ hδ, clt_asymm δ, fun _ _ _ hp hq hr => clt_trans_on hS hp hq hr, fun _ _ _ hp hq hr => ceq_trans_on hS hp hq hr⟩

/-- a sufficient, easily checked condition: every coordinate difference within `S` is either at most `η` or larger than
    `δ + η`, with `2 η ≤ δ` (intersections known to `η`, distinct ones separated by more than `δ + η` in each coordinate in which
    they differ at all — e.g. the lattice of intersections of two great circles, or the intersections `(x₀ ± ε, y_k)` of a line
    through a pole with a closed geodesic, the configuration of finding F58) -/
theorem setcomp_consistent_of_gapped (δ η : ℝ) (hη : 0 ≤ η) (h2 : 2 * η ≤ δ) (S : XP ℝ → Prop) (hg : Gapped δ η S) :
    Consistent δ S := by
  have small : ∀ v : ℝ, (v ≤ η ∨ δ + η < v) → v ≤ δ → v ≤ η := by
    intro v h hv; rcases h with h | h
    · exact h
    · linarith
  refine ⟨?_, ?_, ?_⟩
  · intro p q r hp hq hr h1 h2'
    have a := small _ (hg p q hp hq).1 h1
    have b := small _ (hg q r hq hr).1 h2'
    have := abs_sub_le p.x q.x r.x
    linarith
  · intro p q r hp hq hr h1 h2'
    have ax := small _ (hg p q hp hq).1 (le_trans (abs_x_le_dist p q) h1)
    have ay := small _ (hg p q hp hq).2 (le_trans (abs_y_le_dist p q) h1)
    have bx := small _ (hg q r hq hr).1 (le_trans (abs_x_le_dist q r) h2')
    have by' := small _ (hg q r hq hr).2 (le_trans (abs_y_le_dist q r) h2')
    have tx := abs_sub_le p.x q.x r.x
    have ty := abs_sub_le p.y q.y r.y
    have cx := small _ (hg p r hp hr).1 (by linarith)
    have cy := small _ (hg p r hp hr).2 (by linarith)
    rw [dist_real]; linarith
  · intro p q r hp hq hr h1 _ hy1 hy2 h3
    have ax := small _ (hg p q hp hq).1 h1
    have cy := small _ (hg p r hp hr).2 (le_trans (abs_y_le_dist p r) h3)
    have : |p.y - q.y| ≤ |p.y - r.y| := by
      rw [abs_sub_comm p.y q.y, abs_sub_comm p.y r.y, abs_of_nonneg (by linarith), abs_of_nonneg (by linarith)]; linarith
    rw [dist_real]; linarith

def exP : XP ℝ := ⟨1, 0, 0⟩
def exQ : XP ℝ := ⟨0, 1, 0⟩
noncomputable def exR : XP ℝ := ⟨1 / 2, 100, 0⟩
def exS (p : XP ℝ) : Prop := p = exP ∨ p = exQ ∨ p = exR

/-- non-vacuity of `Gapped` -/
theorem exS_gapped : Gapped 10 1 exS := by
  intro p q hp hq
  rcases hp with rfl | rfl | rfl <;> rcases hq with rfl | rfl | rfl <;> norm_num [exP, exQ, exR, abs_le]

/--
**The comparator before d3a4710 was not a strict weak order even on such a set**: on `{P, Q, R}` (x-coordinates equal to
round-off, the configuration of finding F58) it has `P ~ Q` (equal in the sense of `eq`), `Q < R` and `R < P`: an element
equivalent to `Q` compares the other way round — `set::find` misses existing members.  The repaired comparator orders the
same three points consistently (`P ~ Q`, `P < R`, `Q < R`).
-/
theorem setcomp_old_not_strict_weak_order :
    ceq 10 exP exQ = true ∧ cltOld 10 exQ exR = true ∧ cltOld 10 exR exP = true ∧
    (ceq 10 exP exQ = true ∧ clt 10 exP exR = true ∧ clt 10 exQ exR = true ∧ clt 10 exR exP = false) := by
  have hPQ : ceq 10 exP exQ = true := by rw [ceq_iff, dist_real]; norm_num [exP, exQ, abs_le]
  refine ⟨hPQ, ?_, ?_, hPQ, ?_, ?_, ?_⟩
  · rw [cltOld_iff, dist_real]; norm_num [exQ, exR]
  · rw [cltOld_iff, dist_real]; norm_num [exP, exR]
  · rw [clt_iff, dist_real]; norm_num [exP, exR]
  · rw [clt_iff, dist_real]; norm_num [exQ, exR]
  · rw [← Bool.not_eq_true, clt_iff, dist_real]; norm_num [exP, exR]

/--
**The repaired comparator is still not transitive on arbitrary point sets** (residual weakness, not reachable from the
sampled geometries): for `δ = 10` the pairwise distinct points `(12, 0)`, `(6, 50)`, `(0, 100)` form a cycle
`p < q < r < p` — their x-coordinates differ by more than `δ/2` but less than `δ` from one to the next.  `Consistent` excludes it.
-/
theorem setcomp_not_transitive_in_general :
    clt 10 (⟨12, 0, 0⟩ : XP ℝ) ⟨6, 50, 0⟩ = true ∧ clt 10 (⟨6, 50, 0⟩ : XP ℝ) ⟨0, 100, 0⟩ = true ∧
    clt 10 (⟨0, 100, 0⟩ : XP ℝ) ⟨12, 0, 0⟩ = true := by
  refine ⟨?_, ?_, ?_⟩ <;> rw [clt_iff, dist_real] <;> norm_num

/-- `Basic` calls the kernel at most `numit_` times; if it stops before the cap then either a coincidence
    was flagged (`c ≠ 0`) or the last Newton step was within the tolerance — for every kernel `Spherical` -/
theorem basic_converged_unless_capped (sph : XP ℝ → XP ℝ) (tol : ℝ) (p0 : XP ℝ) :
    (basic sph tol p0).2 ≤ Gen.IntersectC.numit ∧
    ((basic sph tol p0).2 < Gen.IntersectC.numit →
      (basic sph tol p0).1.c ≠ 0 ∨ ∃ q, (basic sph tol p0).1 = XP.add q (sph q) ∧ dist0 (sph q) ≤ tol) := by
  obtain ⟨h1, _, h3⟩ := basicLoop_spec sph tol Gen.IntersectC.numit p0 0
  exact ⟨by simpa [basic] using h1, fun h => h3 (by simpa [basic] using h)⟩

/-- a kernel whose Newton step flips between `x = 0` and `x = 1` -/
noncomputable def oscSph (q : XP ℝ) : XP ℝ := ⟨1 - 2 * q.x, 0, 0⟩

theorem oscLoop (tol : ℝ) (ht : tol < 1) : ∀ (fuel n : Nat) (q : XP ℝ), q.c = 0 → q.y = 0 → (q.x = 0 ∨ q.x = 1) →
    (basicLoop oscSph tol fuel q n).2 = n + fuel ∧ (basicLoop oscSph tol fuel q n).1.c = 0 ∧
    (basicLoop oscSph tol fuel q n).1.y = 0 ∧ ((basicLoop oscSph tol fuel q n).1.x = 0 ∨ (basicLoop oscSph tol fuel q n).1.x = 1) := by
  intro fuel
  induction fuel with
  | zero => intro n q hc hy hx; exact ⟨rfl, hc, hy, hx⟩
  | succ k ih =>
    intro n q hc hy hx
    simp only [basicLoop]
    have hstep : dist0 (oscSph q) = 1 := by
      rcases hx with h | h <;> norm_num [dist0_real, oscSph, h]
    have hc1 : (XP.add q (oscSph q)).c = 0 := by simp [XP.add, oscSph, hc]
    have hc2 : RealLike.ltb tol (dist0 (oscSph q)) = true := by rw [hstep]; simp [ht]
    have hcont : ((XP.add q (oscSph q)).c != 0 || !RealLike.ltb tol (dist0 (oscSph q))) = false := by
      rw [hc1, hc2]; rfl
    rw [hcont]
    simp only [Bool.false_eq_true, if_false]
    obtain ⟨a, b, c, d⟩ := ih (n + 1) (XP.add q (oscSph q)) (by simp [XP.add, oscSph, hc]) (by simp [XP.add, oscSph, hy])
      (by rcases hx with h | h <;> norm_num [XP.add, oscSph, h])
    exact ⟨by omega, b, c, d⟩

/--
**`Basic` can fail silently** (the mechanism of finding F57): there is a kernel for which the iteration runs into the cap
`numit_` and returns a point with `c = 0` from which the next Newton step is still larger than the tolerance — nothing in the
returned `XPoint` distinguishes it from a converged intersection (`GEOGRAPHICLIB_PANIC` is `false` for `double`).  The number
of kernel calls (`NumInverse`) is the only trace; the harness uses it to tag such queries (`basic-not-converged`).
-/
theorem basic_can_fail_silently : ∃ (sph : XP ℝ → XP ℝ) (tol : ℝ) (p0 : XP ℝ),
    (basic sph tol p0).2 = Gen.IntersectC.numit ∧ (basic sph tol p0).1.c = 0 ∧ tol < dist0 (sph (basic sph tol p0).1) := by
  refine ⟨oscSph, 1 / 2, ⟨0, 0, 0⟩, ?_⟩
  obtain ⟨a, b, c, d⟩ := oscLoop (1 / 2) (by norm_num) Gen.IntersectC.numit 0 ⟨0, 0, 0⟩ rfl rfl (Or.inl rfl)
  refine ⟨by simpa [basic] using a, b, ?_⟩
  have : dist0 (oscSph (basic oscSph (1 / 2) ⟨0, 0, 0⟩).1) = 1 := by
    show dist0 (oscSph (basicLoop oscSph (1 / 2) Gen.IntersectC.numit ⟨0, 0, 0⟩ 0).1) = 1
    simp only [dist0_real, oscSph]
    rcases d with h | h
    · rw [h]; norm_num
    · rw [h]; norm_num
  rw [this]; norm_num

/--
**`Closest` returns a kernel answer that minimises the distance from `p0` among the answers of the starts it visited**, for every
kernel `Basic` and every `p0`, up to the equality tolerance: the result is `fixcoincident(p0, Basic(s))` for a visited start
`s`; every visited start is one of the five of the table; and for every visited start `s`
`Dist(result, p0) ≤ Dist(fixcoincident(p0, Basic(s)), p0) + δ` (the `δ` is the price of `_comp.eq(q, qx)`, which discards an
answer in the δ-class of the best point before comparing distances; after the early exit `Dist < _t1` the earlier answers are
at least `_t1` away).  The result is never the unset (NaN) point.
-/
theorem closest_minimal_among_visited (C : Consts ℝ) (hδ : 0 ≤ C.delta) (basic : XP ℝ → XP ℝ) (p0 : XP ℝ) :
    ∃ b, (closestInt C basic p0).q = some b ∧
      (∃ s ∈ (closestInt C basic p0).visited, b = fixc p0 (basic s)) ∧
      (∀ s ∈ (closestInt C basic p0).visited, s ∈ closestStarts C p0 ∧ dist b p0 ≤ dist (fixc p0 (basic s)) p0 + C.delta) := by
  obtain ⟨post, hvis, hsome⟩ := closestInt_spec C hδ basic p0
  cases hq : (closestInt C basic p0).q with
  | none => exact absurd hq (hsome (closestStarts_ne_nil C p0))
  | some b =>
    refine ⟨b, rfl, post.isans b hq, fun s hs => ⟨hvis s hs, ?_⟩⟩
    obtain ⟨b', hb', hm⟩ := post.min s hs
    rw [hq] at hb'; cases hb'; exact hm

/--
**Completeness of `Closest` under the contract of `Basic`** (the covering argument).  Let `I` be the set of intersections and
suppose the kernel never reports coincidence, every answer is within `ε ≤ δ` of an intersection, distinct intersections are at
least `2 _t1` apart (L1), and a start within `_d1` (the tile radius; the constructor checks `_d1 < _d3 = _t4 − δ`, `_t4` being
the capture radius) of an intersection converges to it.  Then the returned point is within `ε` of an intersection and **no
intersection within `2 _d1 = _t2` of `p0` is closer to `p0` than the returned point by more than `ε + δ`** — whatever the
pruning flags skipped and whether or not the loop left early.  (The five starts of the table of the current source cover the
L1 ball of radius `2 _d1`: `closestStarts_cover`.)
-/
theorem closest_complete (C : Consts ℝ) (basic : XP ℝ → XP ℝ) (p0 : XP ℝ) (I : XP ℝ → Prop) (ε : ℝ)
    (hδ : 0 ≤ C.delta) (hεδ : ε ≤ C.delta) (K : Contract C basic I ε C.d1) :
    ∃ b, (closestInt C basic p0).q = some b ∧ (∃ a, I a ∧ dist b a ≤ ε) ∧
      ∀ a, I a → dist a p0 ≤ 2 * C.d1 → dist b p0 ≤ dist a p0 + ε + C.delta := by
  obtain ⟨post, _, hsome⟩ := closestInt_spec C hδ basic p0
  have hans : ∀ t, ans basic p0 t = basic t := fun t => fixc_c0 p0 _ (K.c0 t)
  obtain ⟨b, hb⟩ : ∃ b, (closestInt C basic p0).q = some b := by
    cases hq : (closestInt C basic p0).q with
    | none => exact absurd hq (hsome (closestStarts_ne_nil C p0))
    | some b => exact ⟨b, rfl⟩
  obtain ⟨tb, _, hbt⟩ := post.isans b hb
  rw [hans] at hbt
  refine ⟨b, hb, by rw [hbt]; obtain ⟨a, ha, h⟩ := K.snd tb; exact ⟨a, ha, h⟩, ?_⟩
  intro a ha hda
  obtain ⟨s, hs, hds⟩ := closestStarts_cover C p0 a hda
  have hcov := closestInt_cover C hδ basic p0 s hs
  have viaVisited : ∀ t ∈ (closestInt C basic p0).visited, dist (basic t) a ≤ ε → dist b p0 ≤ dist a p0 + ε + C.delta := by
    intro t ht hta
    obtain ⟨b', hb', hmin⟩ := post.min t ht
    rw [hb] at hb'; cases hb'
    rw [hans] at hmin
    have := IntersectSearch.dist_triangle (basic t) a p0
    linarith
  -- the start `s` that covers `a` was visited, or pruned by the answer of a visited start, or the loop left early
  rcases hcov with hv | ⟨t, ht, hlt⟩ | ⟨b', hb', hlt⟩
  · exact viaVisited s hv (K.cap a ha s hds)
  · rw [hans, closestThr, two_real] at hlt
    exact viaVisited t ht (close_of_pruned K hεδ ha hds t hlt)
  · -- the result is within `t1` of `p0`: it belongs to `a`, or it is `2 t1 − ε` from `a`, which is then farther from `p0`
    rw [hb] at hb'; cases hb'
    by_cases hz : dist b a < 2 * C.t1 - ε
    · have h1 : dist b a ≤ ε := by rw [hbt] at hz ⊢; exact K.close_of_near ha tb hz
      have := IntersectSearch.dist_triangle b a p0
      linarith
    · have := IntersectSearch.dist_triangle b p0 a
      rw [IntersectSearch.dist_symm p0 a] at this
      linarith [not_lt.mp hz]

/--
**`Next` returns a candidate of minimal L1 norm among the candidates of the starts it visited, the origin class excluded**, for
every kernel: the result is the initial `(big, 0)` (`big` = ∞ in the code: nothing found) or a candidate of a visited start;
it is not farther from the origin than any candidate of any visited start; the candidates of a start (`candsOf`) are: nothing
if `Basic` lands in the δ-class of the origin with `c = 0`, the two conjugate points `(s, c s)` if it reports coincident lines
there, and the centred answer otherwise; every visited start is one of the eight of the table.
-/
theorem next_minimal_among_candidates (C : Consts ℝ) (basic : XP ℝ → XP ℝ) (conj : ℝ → ℝ) (big : ℝ) :
    ((nextInt C basic conj big).q = mk0 big zero ∨
      ∃ s ∈ (nextInt C basic conj big).visited, (nextInt C basic conj big).q ∈ candsOf C basic conj s) ∧
    (∀ s ∈ (nextInt C basic conj big).visited, s ∈ nextStarts C ∧
      ∀ a ∈ candsOf C basic conj s, dist0 (nextInt C basic conj big).q ≤ dist0 a) ∧
    (nextInt C basic conj big).nan = false := by
  obtain ⟨inv, hvis⟩ := nextInt_spec C basic conj big
  exact ⟨inv.src, fun s hs => ⟨hvis s hs, inv.min s hs⟩, inv.nonan⟩

/-- no candidate is in the origin class with `c = 0` (what "excluding p = [0,0]" means in the code) -/
theorem next_excludes_origin (C : Consts ℝ) (basic : XP ℝ → XP ℝ) (conj : ℝ → ℝ) (s a : XP ℝ) (ha : a ∈ candsOf C basic conj s)
    (hb : (fixc (mk0 zero zero) (basic s)).c = 0) : ceq C.delta (mk0 zero zero) a = false := by
  unfold candsOf at ha
  simp only at ha
  by_cases hz : ceq C.delta (mk0 zero zero) (fixc (mk0 zero zero) (basic s)) = true
  · simp [hb, hz] at ha
  · simp [hb, hz] at ha; rw [ha]; simpa using hz

/--
**Completeness of `Next` under the contract of `Basic`** with capture radius `_d2`: for every intersection `a` outside the
origin class (`δ + ε < |a|₁`) with `_d2 ≤ |a|₁ ≤ 3 _d2 = 2 _t3` the returned point is at most `ε` farther from the origin than
`a`.  (The eight starts of the table of the current source cover that annulus, `nextStarts_cover`; the hole `|a|₁ < _d2` holds
no other intersection because `_d2 < 2 _t1` — the constructor's third check.)
-/
theorem next_complete (C : Consts ℝ) (basic : XP ℝ → XP ℝ) (conj : ℝ → ℝ) (big : ℝ) (I : XP ℝ → Prop) (ε : ℝ)
    (hεδ : ε ≤ C.delta) (K : Contract C basic I ε C.d2) :
    ∀ a, I a → C.delta + ε < dist0 a → C.d2 ≤ dist0 a → dist0 a ≤ 3 * C.d2 →
      dist0 (nextInt C basic conj big).q ≤ dist0 a + ε := by
  intro a ha horig hlo hhi
  obtain ⟨inv, _⟩ := nextInt_spec C basic conj big
  obtain ⟨s, hs, hds⟩ := nextStarts_cover C a hlo hhi
  have hcov := nextInt_cover C basic conj big K.c0 s hs
  -- an answer that is ε-close to `a` is outside the origin class, hence a candidate of its start, and bounds the result
  have viaAns : ∀ t ∈ (nextInt C basic conj big).visited, dist (basic t) a ≤ ε →
      dist0 (nextInt C basic conj big).q ≤ dist0 a + ε := by
    intro t ht hta
    have hz : ceq C.delta (mk0 zero zero) (basic t) = false := by
      rw [ceq_false_iff, IntersectSearch.dist_symm, ← dist0_eq_dist]
      have tr := IntersectSearch.dist_triangle a (basic t) (mk0 zero zero)
      rw [← dist0_eq_dist, ← dist0_eq_dist, IntersectSearch.dist_symm] at tr
      linarith
    have := inv.min t ht (basic t) (by simp [candsOf_c0 C basic conj t (K.c0 t), hz])
    have tr := IntersectSearch.dist_triangle (basic t) a (mk0 zero zero)
    rw [← dist0_eq_dist, ← dist0_eq_dist] at tr
    linarith
  rcases hcov with hv | ⟨t, ht, p, hp, hlt⟩
  · exact viaAns s hv (K.cap a ha s hds)
  · have hpt : p = basic t := by
      rw [candsOf_c0 C basic conj t (K.c0 t)] at hp
      split at hp
      · cases hp
      · exact List.mem_singleton.mp hp
    rw [hpt, nextThr, two_real] at hlt
    exact viaAns t ht (close_of_pruned K hεδ ha hds t hlt)

/-- **`segmode = 0` ⇔ the returned point lies within both segments**, for the full function (every kernel, including the corner
    override) -/
theorem segment_segmode_zero_iff (C : Consts ℝ) (basic : XP ℝ → XP ℝ) (sx sy : ℝ) (o : SOut ℝ)
    (h : segmentInt C basic sx sy = some o) :
    o.segmode = 0 ↔ (0 ≤ o.q.x ∧ o.q.x ≤ sx) ∧ (0 ≤ o.q.y ∧ o.q.y ≤ sy) := by
  rw [segmentInt_segmode C basic sx sy o h]; exact segmentmode_zero_iff sx sy o.q

/-- the returned `segmode` encodes the side of each segment as documented: `segmode = 3 kx + ky` with `kx = −1, 0, 1` for
    `x < 0`, `0 ≤ x ≤ sx`, `sx < x`, and `ky` likewise -/
theorem segment_segmode_sides (C : Consts ℝ) (basic : XP ℝ → XP ℝ) (sx sy : ℝ) (o : SOut ℝ)
    (h : segmentInt C basic sx sy = some o) :
    ∃ kx ky : Int, o.segmode = 3 * kx + ky ∧
      ((kx = -1 ∧ o.q.x < 0) ∨ (kx = 0 ∧ 0 ≤ o.q.x ∧ o.q.x ≤ sx) ∨ (kx = 1 ∧ sx < o.q.x)) ∧
      ((ky = -1 ∧ o.q.y < 0) ∨ (ky = 0 ∧ 0 ≤ o.q.y ∧ o.q.y ≤ sy) ∨ (ky = 1 ∧ sy < o.q.y)) := by
  rw [segmentInt_segmode C basic sx sy o h]
  simp only [segmentmode, ltb_real, leb_real, ofNat_real, decide_eq_true_eq, Nat.cast_zero]
  have side : ∀ v sv : ℝ, ∃ k : Int, (if v < 0 then (-1 : Int) else if v ≤ sv then 0 else 1) = k ∧
      ((k = -1 ∧ v < 0) ∨ (k = 0 ∧ 0 ≤ v ∧ v ≤ sv) ∨ (k = 1 ∧ sv < v)) := by
    intro v sv
    by_cases h1 : v < 0
    · exact ⟨-1, by simp [h1], Or.inl ⟨rfl, h1⟩⟩
    · by_cases h2 : v ≤ sv
      · exact ⟨0, by simp [h1, h2], Or.inr (Or.inl ⟨rfl, not_lt.mp h1, h2⟩)⟩
      · exact ⟨1, by simp [h1, h2], Or.inr (Or.inr ⟨rfl, not_le.mp h2⟩)⟩
  obtain ⟨kx, ex, px⟩ := side o.q.x sx
  obtain ⟨ky, ey, py⟩ := side o.q.y sy
  rw [ex, ey]
  exact ⟨kx, ky, by ring, px, py⟩

/-- **`All` is sorted by the L1 distance from `p0` and contains only points within `maxdist`** — for every kernel, every radius,
    every number of tiles and every fuel -/
theorem all_sorted_within_maxdist (C : Consts ℝ) (basic : XP ℝ → XP ℝ) (conj2 : ℝ → ℝ → ℝ) (maxdist : ℝ) (p0 : XP ℝ) (m fuel : Nat) :
    (allInt0 C basic conj2 maxdist p0 m fuel).res.Pairwise (fun a b => dist a p0 ≤ dist b p0) ∧
    ∀ r ∈ (allInt0 C basic conj2 maxdist p0 m fuel).res, dist r p0 ≤ maxdist := by
  rw [allInt0_res]
  refine ⟨sortBy_sorted (fun a => dist a p0) (rlt_key_le p0) (rlt_false_key_le p0) _, fun r hr => ?_⟩
  rw [mem_sortBy, List.mem_filter] at hr
  exact of_decide_eq_true hr.2

/--
**`All` is duplicate-free with respect to the tolerance equivalence** (no two listed points have `Dist(p, q) ≤ δ`) for every
kernel whose answers stay in a set `S` on which the repaired comparator is transitive (e.g. a `Consistent` set, by
`setcomp_strict_weak_order`): the raw answers `Basic(s)`, their centred images when `c ≠ 0`, and the points of the line of
coincident intersections through them.  (The hypothesis is about the comparator, not about the search; without it
`std::set` itself has no specified behaviour — `setcomp_not_transitive_in_general`.)
-/
theorem all_duplicate_free (C : Consts ℝ) (basic : XP ℝ → XP ℝ) (conj2 : ℝ → ℝ → ℝ) (maxdist : ℝ) (p0 : XP ℝ) (m fuel : Nat)
    (S : XP ℝ → Prop)
    (htr : ∀ p q r, S p → S q → S r → clt C.delta p q = true → clt C.delta q r = true → clt C.delta p r = true)
    (hb : ∀ s, S (basic s)) (hf : ∀ s, (basic s).c ≠ 0 → S (fixc p0 (basic s)))
    (hc : ∀ s sa, (basic s).c ≠ 0 → S (XP.add (fixc p0 (basic s)) (mk0 sa (ofC (basic s).c * sa)))) :
    (allInt0 C basic conj2 maxdist p0 m fuel).res.Pairwise (fun a b => ceq C.delta a b = false) := by
  rw [allInt0_res]
  apply pairwise_sortBy (fun a b hab => by rw [ceq_symm]; exact hab)
  have h := allLoop_inv C basic conj2 p0 (maxdist + C.delta) ((maxdist + C.delta) / m) fuel S htr hb hf hc
    (allStarts p0 ((maxdist + C.delta) / m) m) allInit ⟨List.Pairwise.nil, nofun⟩
  exact (h.sorted.sublist List.filter_sublist).imp (fun hab => clt_not_ceq _ _ _ hab)

/--
**Completeness of `All` under the contract of `Basic`** (the covering argument: the start grid spacing against the capture
radius).  For `m ≥ 1` tiles per side (the code takes `m = ⌈maxdistx / _d3⌉`, so that the tile radius `maxdistx / m` is at most
`_d3 = _t4 − δ`), a kernel that never reports coincidence, whose answers are within `ε ≤ δ` of intersections, with distinct
intersections `2 _t1` apart and `2 ε + δ < 2 _t1`, and which converges to an intersection from every start within the tile
radius of it: **every intersection `a` with `Dist(a, p0) + ε ≤ maxdist` is listed** (a point within `ε` of it is in the
result).  The proof is the covering lemma `allStarts_cover` (the `m²` or `m² + 1` starts cover the L1 ball of radius
`maxdistx` by L1 balls of the tile radius) and the soundness of the pruning test `Dist(q, start) < 2 _t1 − d3 − δ` (a skipped
start can only lead to an intersection that is already listed) and of the de-duplication (`find` succeeds only on a point of
the same δ-class, which is the same intersection).
Not covered: kernels that report coincident lines (`c ≠ 0`: the conjugate-point loop and the
erasure of earlier answers on the coincidence line), for which only `all_sorted_within_maxdist` / `all_duplicate_free` hold.
-/
theorem all_complete_partial (C : Consts ℝ) (basic : XP ℝ → XP ℝ) (conj2 : ℝ → ℝ → ℝ) (maxdist : ℝ) (p0 : XP ℝ) (m fuel : Nat)
    (I : XP ℝ → Prop) (ε : ℝ) (hm : 1 ≤ m) (hmax : 0 ≤ maxdist) (hδ : 0 ≤ C.delta) (hε : 0 ≤ ε) (hεδ : ε ≤ C.delta)
    (hnum : 2 * ε + C.delta < 2 * C.t1) (K : Contract C basic I ε ((maxdist + C.delta) / m)) :
    ∀ a, I a → dist a p0 + ε ≤ maxdist → ∃ e ∈ (allInt0 C basic conj2 maxdist p0 m fuel).res, dist e a ≤ ε := by
  intro a ha hda
  have hmpos : (0 : ℝ) < m := by exact_mod_cast hm
  have hd3 : 0 ≤ (maxdist + C.delta) / m := by positivity
  obtain ⟨s, hs, hds⟩ := allStarts_cover p0 ((maxdist + C.delta) / m) m hm hd3 a (by
    rw [mul_div_cancel₀ _ (ne_of_gt hmpos)]; linarith)
  obtain ⟨_, _, hcov⟩ := allLoop_complete C basic conj2 p0 (maxdist + C.delta) ((maxdist + C.delta) / m) fuel I ε K hδ hεδ hnum
    (allStarts p0 ((maxdist + C.delta) / m) m) allInit ⟨rfl, nofun, nofun, nofun⟩
  obtain ⟨e, he, hde⟩ := hcov s hs a ha hds
  refine ⟨e, ?_, hde⟩
  rw [allInt0_res, mem_sortBy, List.mem_filter, decide_eq_true_eq]
  have := IntersectSearch.dist_triangle e a p0
  exact ⟨he, by linarith⟩

/-- the start grid of `All` has exactly the `m2 = m*m + (m - 1) % 2` points the code allocates (`vector<XPoint> start(m2)` is
    filled exactly; the commented-out `assert(h == m2)` of the source holds), for every `m ≥ 1` -/
theorem all_starts_count (p0 : XP ℝ) (d3 : ℝ) (m : Nat) (hm : 1 ≤ m) : (allStarts p0 d3 m).length = m * m + (m - 1) % 2 := by
  have hpar : 1 = m % 2 + (m - 1) % 2 := by omega
  unfold allStarts
  simp only [List.length_cons, List.length_flatMap]
  -- the row `i = 0` lacks the entries `j = 0`, of which there is one iff `m` is odd
  have hrow : ∀ i : Int, ((grid m).filterMap fun j => if i == 0 && j == 0 then none
      else some (XP.add p0 (mk0 (d3 * ofC (i + j) / two) (d3 * ofC (i - j) / two)))).length + (if i = 0 then m % 2 else 0) = m := by
    intro i
    have := length_filterMap_add_countP (fun j : Int => i == 0 && j == 0)
      (fun j => XP.add p0 (mk0 (d3 * ofC (i + j) / two) (d3 * ofC (i - j) / two))) (grid m)
    have hc : (grid m).countP (fun j : Int => i == 0 && j == 0) = if i = 0 then m % 2 else 0 := by
      by_cases hi : i = 0 <;> simp [hi, ← grid_count_zero, List.count]
    rw [grid_length, hc] at this
    exact this
  have := sum_rows _ m (m % 2) hrow (grid m)
  have hsq : m % 2 * (m % 2) = m % 2 := by
    rcases Nat.mod_two_eq_zero_or_one m with h | h <;> rw [h]
  rw [grid_length, grid_count_zero, hsq] at this
  rw [← this, Nat.add_assoc, ← hpar]

/-! non-vacuity of the contract: two intersections `A = (0, 0)`, `B = (70, 0)` (`2 t1 = 60`), the kernel "nearer of the two" -/
def exC : Consts ℝ := { d := 100, t1 := 30, delta := 1, d1 := 20, d2 := 25, d3 := 30, tol := 0 }
def exA : XP ℝ := ⟨0, 0, 0⟩
def exB : XP ℝ := ⟨70, 0, 0⟩
noncomputable def exBasic (s : XP ℝ) : XP ℝ := if dist s exA ≤ dist s exB then exA else exB
def exI (a : XP ℝ) : Prop := a = exA ∨ a = exB

theorem dist_exA_exB : IntersectSearch.dist exA exB = 70 := by rw [dist_real]; norm_num [exA, exB]

theorem exContract : Contract exC exBasic exI 0 30 := by
  have hAB := dist_exA_exB
  refine ⟨?_, ?_, ?_, ?_⟩
  · intro s; unfold exBasic; split <;> rfl
  · intro s; unfold exBasic; split
    · exact ⟨exA, Or.inl rfl, by rw [IntersectSearch.dist_self]⟩
    · exact ⟨exB, Or.inr rfl, by rw [IntersectSearch.dist_self]⟩
  · intro a b ha hb hlt
    rcases ha with rfl | rfl <;> rcases hb with rfl | rfl
    · exact IntersectSearch.dist_self _
    · rw [hAB] at hlt; norm_num [exC] at hlt
    · rw [IntersectSearch.dist_symm, hAB] at hlt; norm_num [exC] at hlt
    · exact IntersectSearch.dist_self _
  · intro a ha s hs
    have t := IntersectSearch.dist_triangle exA s exB
    have e1 := IntersectSearch.dist_symm s exA
    have e2 := IntersectSearch.dist_symm s exB
    rw [hAB] at t
    rcases ha with rfl | rfl
    · have : IntersectSearch.dist s exA ≤ IntersectSearch.dist s exB := by linarith
      unfold exBasic; rw [if_pos this, IntersectSearch.dist_self]
    · have : ¬ IntersectSearch.dist s exA ≤ IntersectSearch.dist s exB := by intro hc; linarith
      unfold exBasic; rw [if_neg this, IntersectSearch.dist_self]

/-- … so the three completeness theorems have non-trivial instances, e.g. `All(maxdist = 119, p0 = A, m = 4)` lists `B` -/
example : ∃ e ∈ (allInt0 exC exBasic (fun _ s => s) 119 exA 4 7).res, IntersectSearch.dist e exB ≤ 0 :=
  all_complete_partial exC exBasic (fun _ s => s) 119 exA 4 7 exI 0 (by norm_num) (by norm_num) (by norm_num [exC]) (le_refl _)
    (by norm_num [exC]) (by norm_num [exC])
    (by rw [show ((119 : ℝ) + exC.delta) / ((4 : ℕ) : ℝ) = 30 by norm_num [exC]]; exact exContract) exB (Or.inr rfl)
    (by rw [IntersectSearch.dist_symm, dist_exA_exB]; norm_num)

theorem contract_mono {C : Consts ℝ} {basic : XP ℝ → XP ℝ} {I : XP ℝ → Prop} {ε ρ ρ' : ℝ} (h : ρ' ≤ ρ)
    (K : Contract C basic I ε ρ) : Contract C basic I ε ρ' :=
  ⟨K.c0, K.snd, K.sep, fun a ha s hs => K.cap a ha s (le_trans hs h)⟩

/-- `ctorOk` models the constructor's `if (!(_d1 < _d3 && _d2 < _d3 && _d2 < 2 * _t1)) throw` -/
theorem ctor_check_spec (t1 d1 d2 d3 : ℝ) : ctorOk t1 d1 d2 d3 = true ↔ d1 < d3 ∧ d2 < d3 ∧ d2 < 2 * t1 := by
  simp [ctorOk, ltb_real, two_real, and_assoc]

/--
**One contract, three searches.**  On an object that passed the constructor's check, a kernel `Basic` that satisfies the
contract with capture radius `_d3` (= `_t4 − δ`: every start within `_d3` of an intersection converges to it; never reports
coincidence; answers within `ε ≤ δ` of intersections; intersections `2 _t1` apart; `2 ε + δ < 2 _t1`) makes

* `Closest` return a point within `ε` of an intersection such that no intersection within `2 _d1` of `p0` is closer by more
  than `ε + δ`,
* `Next` return a point at most `ε` farther from the origin than any intersection `a` outside the origin class with
  `_d2 ≤ |a|₁ ≤ 3 _d2`,
* `All(maxdist)` list (within `ε`) every intersection with `Dist(a, p0) + ε ≤ maxdist`, for every number of tiles `m ≥ 1`
  with `maxdist + δ ≤ m _d3` — in particular for `m = ⌈(maxdist + δ) / _d3⌉`, the value the code uses.

This is the covering argument of the class in one statement: the tile radii `_d1`, `_d2`, `maxdistx / m` never exceed the
capture radius because the constructor checked `_d1 < _d3`, `_d2 < _d3` and the code chooses `m` accordingly.
-/
theorem intersect_complete_of_capture (C : Consts ℝ) (basic : XP ℝ → XP ℝ) (I : XP ℝ → Prop) (ε : ℝ)
    (hctor : ctorOk C.t1 C.d1 C.d2 C.d3 = true) (hδ : 0 ≤ C.delta) (hε : 0 ≤ ε) (hεδ : ε ≤ C.delta)
    (hnum : 2 * ε + C.delta < 2 * C.t1) (K : Contract C basic I ε C.d3) :
    (∀ p0, ∃ b, (closestInt C basic p0).q = some b ∧ (∃ a, I a ∧ dist b a ≤ ε) ∧
        ∀ a, I a → dist a p0 ≤ 2 * C.d1 → dist b p0 ≤ dist a p0 + ε + C.delta) ∧
    (∀ conj big a, I a → C.delta + ε < dist0 a → C.d2 ≤ dist0 a → dist0 a ≤ 3 * C.d2 →
        dist0 (nextInt C basic conj big).q ≤ dist0 a + ε) ∧
    (∀ conj2 maxdist p0 (m fuel : Nat), 1 ≤ m → 0 ≤ maxdist → maxdist + C.delta ≤ m * C.d3 →
        ∀ a, I a → dist a p0 + ε ≤ maxdist → ∃ e ∈ (allInt0 C basic conj2 maxdist p0 m fuel).res, dist e a ≤ ε) := by
  obtain ⟨h1, h2, _⟩ := (ctor_check_spec _ _ _ _).mp hctor
  refine ⟨fun p0 => closest_complete C basic p0 I ε hδ hεδ (contract_mono h1.le K),
    fun conj big => next_complete C basic conj big I ε hεδ (contract_mono h2.le K), ?_⟩
  intro conj2 maxdist p0 m fuel hm hmax hmd
  have hmpos : (0 : ℝ) < m := by exact_mod_cast hm
  have : (maxdist + C.delta) / m ≤ C.d3 := by rw [div_le_iff₀ hmpos]; linarith
  exact all_complete_partial C basic conj2 maxdist p0 m fuel I ε hm hmax hδ hε hεδ hnum (contract_mono this K)

/-- non-vacuity: the two-intersection example passes the constructor check and satisfies the contract with capture radius `_d3`,
    so all three conclusions hold for it; e.g. `Closest(p0 = (10, 0))` returns a point not farther from `p0` than `A` by more than `δ`,
    and `Next` a point not farther from the origin than `B` -/
example : ctorOk exC.t1 exC.d1 exC.d2 exC.d3 = true := by rw [ctor_check_spec]; norm_num [exC]
example : ∃ b, (closestInt exC exBasic ⟨10, 0, 0⟩).q = some b ∧
    IntersectSearch.dist b ⟨10, 0, 0⟩ ≤ IntersectSearch.dist exA ⟨10, 0, 0⟩ + 0 + exC.delta := by
  obtain ⟨h, _, _⟩ := intersect_complete_of_capture exC exBasic exI 0 (by rw [ctor_check_spec]; norm_num [exC]) (by norm_num [exC]) (le_refl _)
    (by norm_num [exC]) (by norm_num [exC]) exContract
  obtain ⟨b, hb, _, h'⟩ := h ⟨10, 0, 0⟩
  exact ⟨b, hb, h' exA (Or.inl rfl) (by rw [dist_real]; norm_num [exA, exC])⟩
example (conj : ℝ → ℝ) (big : ℝ) : dist0 (nextInt exC exBasic conj big).q ≤ dist0 exB + 0 := by
  obtain ⟨_, h, _⟩ := intersect_complete_of_capture exC exBasic exI 0 (by rw [ctor_check_spec]; norm_num [exC]) (by norm_num [exC]) (le_refl _)
    (by norm_num [exC]) (by norm_num [exC]) exContract
  exact h conj big exB (Or.inr rfl) (by rw [dist0_real]; norm_num [exB, exC]) (by rw [dist0_real]; norm_num [exB, exC])
    (by rw [dist0_real]; norm_num [exB, exC])

/-- non-vacuity of `setcomp_strict_weak_order` and `all_duplicate_free`: the gapped three-point set is `Consistent`; the answers of
    the two-intersection kernel stay in `{A, B}`, a gapped (hence `Consistent`) set for `δ = 1`, so `All` lists no point twice -/
example : Consistent 10 exS := setcomp_consistent_of_gapped 10 1 (by norm_num) (by norm_num) exS exS_gapped
example (conj2 : ℝ → ℝ → ℝ) (maxdist : ℝ) (p0 : XP ℝ) (m fuel : Nat) :
    (allInt0 exC exBasic conj2 maxdist p0 m fuel).res.Pairwise (fun a b => ceq exC.delta a b = false) := by
  have hg : Gapped exC.delta 0 exI := by
    intro p q hp hq
    rcases hp with rfl | rfl <;> rcases hq with rfl | rfl <;> norm_num [exA, exB, exC]
  have hS := setcomp_consistent_of_gapped exC.delta 0 (le_refl _) (by norm_num [exC]) exI hg
  have hb : ∀ s, exI (exBasic s) := by
    intro s
    unfold exBasic
    split
    · exact Or.inl rfl
    · exact Or.inr rfl
  have hc0 : ∀ s, (exBasic s).c = 0 := exContract.c0
  exact all_duplicate_free exC exBasic conj2 maxdist p0 m fuel exI (fun _ _ _ hp hq hr => clt_trans_on hS hp hq hr) hb
    (fun s h => absurd (hc0 s) h) (fun s _ h => absurd (hc0 s) h)

open GeoVerif.VPTree

/-- `Load(Save(t)) = t` on the text layout (as integer tokens; whatever follows the tree in the stream is ignored), for
    every tree `Save` can be given by `Initialize`/`Load` (`WellFormed`: what `Node::Check` demands) -/
theorem save_load_roundtrip (realspec maxbucket : Int) (t : Tree) (extra : List Int) (h : WellFormed maxbucket t) :
    load realspec maxbucket (save realspec t ++ extra) = .ok t :=
  load_eq_ok_iff.mpr ⟨t.nodes.length, saveNodes t.nodes ++ extra, rfl, h.bucket_lo, h.bucket_hi, Int.natCast_nonneg _, h.size,
    h.cost, by rw [Int.toNat_natCast]; exact loadNodes_saveNodes _ _ extra t.nodes 0 [] h.nodes h.noshare (by simp)⟩

/-- a concrete three-point tree (bucket 2) satisfies the hypothesis -/
def exTree : Tree := { bucket := 2, numpoints := 3, cost := 2, nodes := [.leaf [1, 2], .inner 0 0 0 (-1) 1 2 0] }
example : WellFormed 10 exTree :=
  ⟨by decide, by decide, by decide, by decide,
   ⟨⟨by decide, by intro ls h; cases h; rfl⟩, ⟨⟨by decide, by intro ls h; cases h⟩, trivial⟩⟩, by decide⟩
example : load (-63) 10 (save (-63) exTree) = .ok exTree := by decide +kernel

/-- `Load(Save(t)) = t` on the binary layout as bytes (magic string, six 32-bit header words, per node the index and either
    `lower[2]`, `upper[2]` (64 bit each), `child[2]` or the `bucket` leaf slots; little endian two's complement), for every
    well-formed tree whose fields fit their C++ types -/
theorem save_load_roundtrip_binary (realspec maxbucket : Int) (t : Tree) (extra : List Nat) (h : WellFormed maxbucket t)
    (hrs : In32 realspec) (hnp : In32 t.numpoints) (hcost : In32 t.cost) (hmb : In32 maxbucket) (hr : NodesRange t.nodes) :
    loadBin realspec maxbucket (saveBin realspec t ++ extra) = .ok t := by
  obtain ⟨h1, h2, h3, h4, h5, h6⟩ := h
  have hrange : ∀ x ∈ [version, realspec, t.bucket, t.numpoints, (t.nodes.length : Int), t.cost], In32 x := by
    unfold In32 at *
    simp only [List.mem_cons, List.not_mem_nil, or_false, version]
    rintro x (rfl | rfl | rfl | rfl | rfl | rfl) <;> omega
  have e := readInts4 _ (saveNodesBin t.nodes ++ extra) hrange
  have hn := loadNodesBin_saveNodesBin t.bucket.toNat t.numpoints extra t.nodes 0 [] h5 hr h6 (by simp)
  simp only [List.length_cons, List.length_nil] at e
  unfold loadBin saveBin
  rw [List.append_assoc, List.append_assoc, List.take_left' (by rfl), List.drop_left' (by rfl), e]
  simp [h1, h2, h3, h4, hn]
example : loadBin (-63) 10 (saveBin (-63) exTree) = .ok exTree := by decide +kernel

/-- everything `Load` accepts passes the header checks, `Node::Check` *with the node's own position as the bound on
    its child pointers* (fix 49e729b): in particular children are stored before their parents, so the child pointers of
    an accepted file cannot form a cycle — and (fix 90dea91) no node index is named twice as a child -/
theorem load_rejects (realspec maxbucket : Int) (toks : List Int) (t : Tree) (h : load realspec maxbucket toks = .ok t) :
    0 ≤ t.bucket ∧ t.bucket ≤ maxbucket ∧ (t.nodes.length : Int) ≤ t.numpoints ∧ 0 ≤ t.cost ∧
    (∀ (j : Nat) (n : Node), t.nodes[j]? = some n → nodeCheck t.numpoints (j : Int) n = true) ∧
    (∀ (j : Nat) v lo0 up0 c0 lo1 up1 c1, t.nodes[j]? = some (Node.inner v lo0 up0 c0 lo1 up1 c1) → c0 < j ∧ c1 < j ∧ (v : Int) < t.numpoints) ∧
    (children t.nodes).Nodup := by
  obtain ⟨treesize, rest, rfl, hb0, hb1, hs0, hs1, hc, hns⟩ := load_eq_ok_iff.mp h
  obtain ⟨hlen, hall, hnd, _⟩ := loadNodes_ok _ _ _ 0 [] rest t.nodes hns
  have hnode : ∀ (j : Nat) (n : Node), t.nodes[j]? = some n → nodeCheck t.numpoints (j : Int) n = true := by
    intro j n hj; simpa using hall j n hj
  refine ⟨hb0, hb1, by omega, hc, hnode, fun j v lo0 up0 c0 lo1 up1 c1 hj => ?_, hnd⟩
  have := hnode j _ hj
  simp only [nodeCheck, Bool.and_eq_true, decide_eq_true_eq] at this
  omega

/-- **every accepted file is a forest**: in the directed graph "node `j` → its non-negative child pointers" of a file that
    `Load` accepts, (i) every edge goes to a *smaller* index inside the file (so there is no cycle), (ii) no node has two
    parents, and (iii) the two child pointers of a node are different.  (Hence the nodes reachable from the root — the last
    node — form a tree and `Search` looks at each of them at most once: the exponential blow-up of finding F53 is excluded
    for every accepted file.)
    What is still missing for "`Load` ⇒ `TreeInv`" — and cannot be decided by `Load`, which does not see the points:
    that the bounds enclose the distances (`lower[l] ≤ d(v, p) ≤ upper[l]` for the points `p` below child `l`), that every
    point index `0 … numpoints−1` occurs exactly once (indices may repeat or be absent in an accepted file, and nodes not
    reachable from the root may exist), and that a bucket node of a file with `bucket = 0` is never empty. -/
theorem load_is_forest (realspec maxbucket : Int) (toks : List Int) (t : Tree) (h : load realspec maxbucket toks = .ok t) :
    (∀ (j : Nat) (n : Node) (c : Int), t.nodes[j]? = some n → c ∈ kids n → 0 ≤ c ∧ c < j) ∧
    (∀ (j1 j2 : Nat) (n1 n2 : Node) (c : Int), t.nodes[j1]? = some n1 → t.nodes[j2]? = some n2 → c ∈ kids n1 → c ∈ kids n2 → j1 = j2) ∧
    (∀ (j : Nat) v lo0 up0 c0 lo1 up1 c1, t.nodes[j]? = some (Node.inner v lo0 up0 c0 lo1 up1 c1) → 0 ≤ c0 → c0 ≠ c1) := by
  obtain ⟨_, _, _, _, _, hlt, hnd⟩ := load_rejects realspec maxbucket toks t h
  refine ⟨fun j n c hj hc => ?_, fun j1 j2 n1 n2 c h1 h2 c1 c2 => parent_unique hnd h1 h2 c1 c2,
    fun j v lo0 up0 c0 lo1 up1 c1 hj h0 e => ?_⟩
  · cases n with
    | leaf ls => simp [kids] at hc
    | inner v lo0 up0 c0 lo1 up1 c1 =>
      have := hlt j v lo0 up0 c0 lo1 up1 c1 hj
      obtain ⟨hc0, rfl | rfl⟩ := mem_kids_inner.mp hc <;> omega
  · have hk := kids_nodup hnd hj
    have h0' : ¬ c0 < 0 := by omega
    simp [kids, h0', ← e] at hk

/-- a file in which two nodes name the same child is rejected (the DAG image of finding F53, 3 nodes) -/
example : load (-63) 10 [1, -63, 0, 3, 3, 0,  0, 0, 0, -1, 0, 0, -1,  1, 0, 5, 0, 5, 9, -1,  2, 0, 5, 0, 5, 9, 1] =
    .error "Bad child pointers" := by decide +kernel

/-- the executable invariant check the driver runs on every dumped tree (built by `Initialize`, or reloaded) implies
    `TreeInv`, the hypothesis of `search_is_bruteforce` -/
theorem checkInv_sound (tree : Array Node) (numpoints bucket : Nat) (d : Nat → Nat → Int)
    (h : checkInv tree numpoints bucket d = true) : TreeInv tree bucket numpoints d := by
  unfold checkInv at h
  split at h
  · rename_i pts hs
    obtain ⟨t, hr, hb, rfl⟩ := checkSub_sound tree bucket d _ _ _ hs
    exact ⟨t, hr, hb, (beq_iff_eq.mp h) ▸ (foldr_insNat_perm t.pts).symm⟩
  · cases h

/--
**`Search` = brute force.**  For any metric space `(α, dist)` (`dist x x = 0`, symmetric, triangle inequality; values in an
ordered ring — here `ℤ`, the harness instantiates `dist_t = long long`), any points `pt 0 … pt (numpoints−1)`, any stored
tree satisfying `TreeInv` (the last node is the root of a finite tree of nodes in which every point index occurs exactly
once and, for an internal node with vantage point `v`, every point `p` below child `l` has
`lower[l] ≤ dist v p ≤ upper[l]`), any query point `q`, any `k`, `maxdist`, `mindist` (no side condition: for `k ≤ 0`,
`maxdist ≤ mindist` or an empty set both sides are empty), `exhaustive = true`, `tol = 0`:
the model of `NearestNeighbor::Search` (the definitions of `Model/VPTree.lean` that the driver runs against the
implementation) terminates within its fuel (`numpoints` pops of `todo`) and returns, in ascending order, exactly the
distances of the `k` nearest points a brute-force scan finds in the window `mindist < d ≤ maxdist`.
The three pruning tests are sound by the triangle inequality (`pushChild_spec` — false for the seeded change that tests `lower`
instead of `upper`).
-/
theorem search_is_bruteforce {α : Type} (dist : α → α → Int) (pt : Nat → α) (q : α)
    (h0 : ∀ x, dist x x = 0) (hsymm : ∀ x y, dist x y = dist y x) (htri : ∀ x y z, dist x z ≤ dist x y + dist y z)
    (tree : Array Node) (numpoints bucket : Nat) (Q : Query) (hex : Q.exhaustive = true) (htol : Q.tol = 0)
    (hinv : TreeInv tree bucket numpoints (fun i j => dist (pt i) (pt j))) :
    ∃ res, search tree numpoints bucket (fun i => dist (pt i) q) Q = some res ∧
      res.map (·.1) = bruteforce numpoints (fun i => dist (pt i) q) Q := by
  obtain ⟨res, hs, _, _, hb⟩ := search_gen (MetricQ.of_metric dist pt q h0 hsymm htri) Q htol hinv
  exact ⟨res, hs, hb (Or.inl hex)⟩

/-- `exhaustive = false` (`tol = 0`): at most `k` results, all inside the window `(mindist, maxdist]` (distinct points by
    `search_returns_points`); and — the documented "if less than k results are returned then the search was exhaustive" —
    fewer than `k` results are *all* the points of the window, ascending -/
theorem search_nonexhaustive {α : Type} (dist : α → α → Int) (pt : Nat → α) (q : α)
    (h0 : ∀ x, dist x x = 0) (hsymm : ∀ x y, dist x y = dist y x) (htri : ∀ x y z, dist x z ≤ dist x y + dist y z)
    (tree : Array Node) (numpoints bucket : Nat) (Q : Query) (hex : Q.exhaustive = false) (htol : Q.tol = 0)
    (hinv : TreeInv tree bucket numpoints (fun i j => dist (pt i) (pt j))) :
    ∃ res, search tree numpoints bucket (fun i => dist (pt i) q) Q = some res ∧ res.length ≤ Q.k.toNat ∧
      (∀ x ∈ res.map (·.1), inWindow Q x = true) ∧
      (res.length < Q.k.toNat →
        res.map (·.1) = sortAsc (((List.range numpoints).map (fun i => dist (pt i) q)).filter (inWindow Q))) := by
  obtain ⟨res, hs, hl, hw, hb⟩ := search_gen (MetricQ.of_metric dist pt q h0 hsymm htri) Q htol hinv
  refine ⟨res, hs, hl, hw, fun hlt => ?_⟩
  have e : res.map (·.1) = kbest Q.k.toNat (((List.range numpoints).map fun i => dist (pt i) q).filter (inWindow Q)) :=
    hb (Or.inr hlt)
  rw [e]
  exact kbest_eq_sortAsc (by rw [← e]; simpa using hlt)

/-- the items returned are *points of the set*: pairs `(dist(pt i, q), i)` for pairwise distinct indices `i < numpoints`
    (for every query, also non-exhaustive or approximate ones, and every distance function); with
    `search_is_bruteforce`: the returned indices are `k` distinct points whose distances are exactly those of the `k`
    nearest in the window -/
theorem search_returns_points {α : Type} (dist : α → α → Int) (pt : Nat → α) (q : α)
    (tree : Array Node) (numpoints bucket : Nat) (Q : Query)
    (hinv : TreeInv tree bucket numpoints (fun i j => dist (pt i) (pt j)))
    (res : List Item) (h : search tree numpoints bucket (fun i => dist (pt i) q) Q = some res) :
    (res.map (·.2)).Nodup ∧ ∀ it ∈ res, ∃ p, p < numpoints ∧ it = (dist (pt p) q, (p : Int)) :=
  search_items Q hinv res h

/-- non-vacuity: the integers with `|x − y|` are a metric space, and a concrete stored tree (three points 0, 1, 3 on a
    line, bucket size 2) satisfies `TreeInv` -/
example : (∀ x : Int, ((x - x).natAbs : Int) = 0) ∧ (∀ x y : Int, ((x - y).natAbs : Int) = (y - x).natAbs) ∧
    (∀ x y z : Int, ((x - z).natAbs : Int) ≤ (x - y).natAbs + (y - z).natAbs) := by
  refine ⟨fun x => by rw [Int.sub_self]; rfl, fun x y => by rw [← Int.natAbs_neg, Int.neg_sub], fun x y z => ?_⟩
  rw [show x - z = (x - y) + (y - z) by omega]
  exact_mod_cast Int.natAbs_add_le _ _
def exPt (i : Nat) : Int := if i = 0 then 0 else if i = 1 then 1 else 3
example : TreeInv #[.leaf [1, 2], .inner 0 0 0 (-1) 1 3 0] 2 3 (fun i j => ((exPt i - exPt j).natAbs : Int)) :=
  checkInv_sound _ _ _ _ (by decide +kernel)
example : search #[.leaf [1, 2], .inner 0 0 0 (-1) 1 3 0] 3 2 (fun i => ((exPt i - 2).natAbs : Int))
    { k := 2, maxdist := 100, mindist := 0, exhaustive := true, tol := 0 } = some [(1, 1), (1, 2)] := by decide +kernel

/-- the full sort the driver uses for `std::nth_element` meets the post-condition `NthSpec` of `std::nth_element`
    (a permutation of the range; nothing before position `nth` is greater than anything from it on; the element at `nth`
    is not greater than any later one) — so the hypothesis of the next theorems is not vacuous -/
theorem nth_element_sort_spec : NthSpec nthSort := by
  refine ⟨fun k l => sortId_perm l, fun k l x hx y hy => ?_, fun k l p hp y hy => ?_⟩
  · have hs := sortId_sorted l
    rw [← List.take_append_drop k (sortId l)] at hs
    exact (List.pairwise_append.mp hs).2.2 x hx y hy
  · -- `p` is the head of the sorted tail from position `k` on
    simp only [nthSort] at hp hy
    have hk : k < (sortId l).length := (List.getElem?_eq_some_iff.mp hp).1
    have hs := (sortId_sorted l).sublist (List.drop_sublist k _)
    rw [List.drop_eq_getElem_cons hk, (List.getElem?_eq_some_iff.mp hp).2] at hs hy
    rcases List.mem_cons.mp hy with rfl | hy
    · simp [ltId]
    · exact (List.pairwise_cons.mp hs).1 y hy

/--
**`Initialize` establishes `TreeInv`.**  For every distance function `d` (no metric property is needed here), every bucket
size (0 included) and every number of points `n`, and for every function `nth` that meets the post-condition of
`std::nth_element` (`NthSpec`; the concrete `nthSort` does: `nth_element_sort_spec`), the node array produced by the
model `init` of `NearestNeighbor::Initialize`/`init` (`Model/VPTree.lean`: vantage point swapped to the front, distances
to it, partition at the median by `nth`, `lower/upper[0]` = min/max of the inner half, `lower[1]` = the distance at the
median position, `upper[1]` = max of the outer half, the farthest point of each half as its vantage point, children stored
before the parent, bucket leaves sorted and padded with −1, the `bucket = 0` single-point nodes) satisfies `TreeInv`:
the last node is the root of a finite tree of nodes in which every point index `0 … n−1` occurs exactly once and, for each
internal node with vantage point `v` and each child `l`, every point `p` below that child has
`lower[l] ≤ d v p ≤ upper[l]`.  (That children are stored before their parents, with the other demands of `Node::Check`,
is `init_wellformed`.)  The driver compares this `init` (with `nth = nthSort`) with the tree `Initialize` really
builds (op `nn_init`).
-/
theorem init_establishes_inv (nth : Nat → List IdItem → List IdItem) (hn : NthSpec nth) (d : Nat → Nat → Int)
    (bucket n : Nat) : TreeInv (init nth d bucket n).nodes.toArray bucket n d := by
  cases n with
  | zero =>
    -- no points: no node is stored and the root index is −1
    exact ⟨.nil, Rep.nil (show ((#[] : Array Node).size : Int) - 1 < 0 by decide), trivial, List.Perm.refl _⟩
  | succ n =>
    obtain ⟨_, root, t, hrep, hb, hp⟩ := initAux_spec hn d bucket (n + 1) #[] 0
      ((List.range (n + 1)).map fun k => ((0 : Int), k)) ((n + 1) / 2) (by simp)
    rw [root (by simp)] at hrep
    refine ⟨t, ?_, hb, ?_⟩
    · simpa only [init, Array.toArray_toList] using hrep
    · simpa [List.map_map, Function.comp_def] using hp

/--
**`Initialize` writes only what `Load` accepts.**  If no distance is negative (`bucket ≤ maxbucket` is tested by
`Initialize` itself), the tree built by `init` is `WellFormed`: at most one node per point, every node passes
`Node::Check` *with its own position as the bound on the child pointers* (children are stored before their parents;
vantage and leaf indices `< n`; `0 ≤ lower[0] ≤ upper[0] ≤ lower[1] ≤ upper[1]` — the middle inequality is the partition
property of `nth_element`; bucket nodes hold at least one index followed by −1 only), and no node is named twice as a child.
Hence `save_load_roundtrip(_binary)` applies to every tree `Initialize` builds: `Load(Save(init …)) = init …`.
-/
theorem init_wellformed (nth : Nat → List IdItem → List IdItem) (hn : NthSpec nth) (d : Nat → Nat → Int)
    (hd : ∀ i j, 0 ≤ d i j) (bucket n : Nat) (maxbucket : Int) (hb : (bucket : Int) ≤ maxbucket) :
    WellFormed maxbucket (init nth d bucket n) := by
  have hids : ∀ it ∈ (List.range n).map fun k => ((0 : Int), k), (it.2 : Int) < n := by
    intro it hit
    obtain ⟨k, hk, rfl⟩ := List.mem_map.mp hit
    exact Int.ofNat_lt.mpr (List.mem_range.mp hk)
  obtain ⟨ext, e, len, _, ok, nd, _⟩ := initAux_wf hn d hd (n : Int) bucket n #[] 0
    ((List.range n).map fun k => ((0 : Int), k)) (n / 2) (by simp) hids
  simp only [List.nil_append, List.length_map, List.length_range] at e len
  simp only [init, e]
  exact ⟨Int.natCast_nonneg _, hb, Int.ofNat_le.mpr len, Int.natCast_nonneg _, ok, nd⟩

/-- `Load ∘ Save ∘ Initialize = Initialize` on the text layout -/
theorem init_save_load (nth : Nat → List IdItem → List IdItem) (hn : NthSpec nth) (d : Nat → Nat → Int)
    (hd : ∀ i j, 0 ≤ d i j) (bucket n : Nat) (realspec maxbucket : Int) (hb : (bucket : Int) ≤ maxbucket) (extra : List Int) :
    load realspec maxbucket (save realspec (init nth d bucket n) ++ extra) = .ok (init nth d bucket n) :=
  save_load_roundtrip realspec maxbucket _ extra (init_wellformed nth hn d hd bucket n maxbucket hb)

/-- the instance the driver executes -/
example (d : Nat → Nat → Int) (bucket n : Nat) : TreeInv (init nthSort d bucket n).nodes.toArray bucket n d :=
  init_establishes_inv nthSort nth_element_sort_spec d bucket n

/--
**Nearest-neighbour search is correct, end to end** — no hypothesis about the tree.  For any metric space `(α, dist)`
(`dist x x = 0`, symmetric, triangle inequality; `ℤ`-valued), any points `pt 0 … pt (n−1)`, any bucket size, any
`nth_element` meeting its post-condition, any query point `q`, any `k`, `maxdist`, `mindist`, `exhaustive = true`,
`tol = 0`: `Search` on the tree built by `Initialize` (both as modelled in `Model/VPTree.lean` and run by the driver
against the implementation) terminates and returns, ascending, exactly the distances of the `k` nearest points of the
window `mindist < d ≤ maxdist` that a brute-force scan finds.
-/
theorem nearest_neighbor_correct {α : Type} (dist : α → α → Int) (pt : Nat → α) (q : α)
    (h0 : ∀ x, dist x x = 0) (hsymm : ∀ x y, dist x y = dist y x) (htri : ∀ x y z, dist x z ≤ dist x y + dist y z)
    (nth : Nat → List IdItem → List IdItem) (hn : NthSpec nth) (n bucket : Nat) (Q : Query)
    (hex : Q.exhaustive = true) (htol : Q.tol = 0) :
    ∃ res, search (init nth (fun i j => dist (pt i) (pt j)) bucket n).nodes.toArray n bucket (fun i => dist (pt i) q) Q = some res ∧
      res.map (·.1) = bruteforce n (fun i => dist (pt i) q) Q :=
  search_is_bruteforce dist pt q h0 hsymm htri _ n bucket Q hex htol
    (init_establishes_inv nth hn (fun i j => dist (pt i) (pt j)) bucket n)

/-- … and the returned indices are distinct points of the set at exactly those distances -/
theorem nearest_neighbor_returns_points {α : Type} (dist : α → α → Int) (pt : Nat → α) (q : α)
    (nth : Nat → List IdItem → List IdItem) (hn : NthSpec nth) (n bucket : Nat) (Q : Query) (res : List Item)
    (h : search (init nth (fun i j => dist (pt i) (pt j)) bucket n).nodes.toArray n bucket (fun i => dist (pt i) q) Q = some res) :
    (res.map (·.2)).Nodup ∧ ∀ it ∈ res, ∃ p, p < n ∧ it = (dist (pt p) q, (p : Int)) :=
  search_returns_points dist pt q _ n bucket Q (init_establishes_inv nth hn (fun i j => dist (pt i) (pt j)) bucket n) res h

/-- a concrete run: the five points 0, 3, 6, 2, 5 on a line, bucket 2 — the tree, and a search on it -/
def exD (i j : Nat) : Int := (((i : Int) * 3 % 7 - (j : Int) * 3 % 7).natAbs : Int)
example : (init nthSort exD 2 5).nodes = [.leaf [4, 1], .leaf [3, 0], .inner 2 1 3 0 4 6 1] := by decide +kernel
example : search (init nthSort exD 2 5).nodes.toArray 5 2 (fun i => (((i : Int) * 3 % 7 - 4).natAbs : Int))
    { k := 2, maxdist := 100, mindist := 0, exhaustive := true, tol := 0 } = some [(1, 1), (1, 4)] := by decide +kernel

end GeoVerif.Props.C17
