import GeoVerif.Model.GridCodes
import GeoVerif.Proofs.F64Round
import GeoVerif.Proofs.Digits
import GeoVerif.Proofs.GeohashBits
import GeoVerif.Proofs.GeohashScale
import GeoVerif.Proofs.GeorefLoop
import GeoVerif.Proofs.OSGBInt
import GeoVerif.Proofs.OSGBScale
import GeoVerif.Proofs.GridHelpers
import GeoVerif.Proofs.GeohashDecode
import GeoVerif.Proofs.OSGBReverse
import GeoVerif.Gen.OSGBC
import GeoVerif.Props.C16
/-!
# C18 — property theorems (grid codes): tables, integer codecs, the binary64 scale steps, helper functions

The tables are the ones re-extracted from the sources (`Gen.Grid`), so each
`decide` below is re-checked against what the code says now.
-/
namespace GeoVerif.Props.C18
open GeoVerif GeoVerif.Grid Gen.Grid

/-! ### every table letter is found again at its own index (decode inverts encode letter-wise) -/
theorem gars_digits_lookup : ∀ k < 10, lookup GARS.digits (chr GARS.digits k).toNat = some k := by decide +kernel
theorem gars_letters_lookup : ∀ k < 24, lookup GARS.letters (chr GARS.letters k).toNat = some k := by decide +kernel
theorem geohash_lookup : ∀ k < 32, lookup Geohash.uc (chr Geohash.lc k).toNat = some k := GeohashBits.lookup32
theorem georef_lontile_lookup : ∀ k < 24, lookup Georef.lontile (chr Georef.lontile k).toNat = some k := by decide +kernel
theorem georef_lattile_lookup : ∀ k < 12, lookup Georef.lattile (chr Georef.lattile k).toNat = some k := by decide +kernel
theorem georef_degrees_lookup : ∀ k < 15, lookup Georef.degrees (chr Georef.degrees k).toNat = some k := by decide +kernel
theorem osgb_letters_lookup : ∀ k < 25, lookup OSGB.letters (chr OSGB.letters k).toNat = some k :=
  OSGBInt.letters_chr_lookup
theorem georef_digits_lookup : ∀ k < 10, lookup Georef.digits (chr Georef.digits k).toNat = some k := by decide +kernel

/-- table sizes are what the index arithmetic assumes (an index ≥ size would read the terminator: finding F5) -/
theorem table_sizes :
    GARS.digits.length = 10 ∧ GARS.letters.length = 24 ∧ Geohash.lc.length = 32 ∧ Geohash.uc.length = 32 ∧
    Georef.lontile.length = 24 ∧ Georef.lattile.length = 12 ∧ Georef.degrees.length = 15 ∧
    OSGB.letters.length = 25 ∧ OSGB.digits.length = 10 := by decide +kernel

/-- no table contains a NUL, a letter twice, or (GARS/Georef/OSGB) the excluded letter I; Geohash has no a, i, l, o -/
theorem tables_wf :
    GARS.letters.Nodup ∧ Geohash.lc.Nodup ∧ Georef.lontile.Nodup ∧ Georef.degrees.Nodup ∧ OSGB.letters.Nodup ∧
    'I' ∉ GARS.letters ∧ 'O' ∉ GARS.letters ∧ 'I' ∉ Georef.lontile ∧ 'O' ∉ Georef.lontile ∧ 'I' ∉ OSGB.letters ∧
    'a' ∉ Geohash.lc ∧ 'i' ∉ Geohash.lc ∧ 'l' ∉ Geohash.lc ∧ 'o' ∉ Geohash.lc := by decide +kernel

/-- the NUL byte is never accepted by `lookup` (finding F6) -/
theorem lookup_nul (tbl : List Char) : lookup tbl 0 = none := by
  unfold lookup; simp

/-- `lookup` is case-insensitive on ASCII letters -/
theorem lookup_case (tbl : List Char) (c : Nat) (h : 97 ≤ c ∧ c ≤ 122) : lookup tbl c = lookup tbl (c - 32) := by
  rw [← OSGBInt.lookup_upper tbl c, upper, if_pos h]

/-! ### prefix laws (integer level) -/

/-- GARS: the code at precision `p` is a prefix of the code at precision `p + 1` -/
theorem gars_prefix (X Y : Int) (p : Nat) : (GARS.encodeInt X Y p) <+: (GARS.encodeInt X Y (p + 1)) := by
  unfold GARS.encodeInt
  rcases p with _ | _ | p <;> simp [List.prefix_append]

/-- fixed-width digits: the width-`w` string of `n / b` is a prefix of the width-`w+1` string of `n` -/
theorem digitsW_prefix (tbl : List Char) (b w n : Nat) : digitsW tbl b w (n / b) <+: digitsW tbl b (w + 1) n :=
  Digits.digitsW_prefix tbl b w n

theorem digitsW_length (tbl : List Char) (b w n : Nat) : (digitsW tbl b w n).length = w :=
  Digits.digitsW_length tbl b w n

/-- Geohash prefix law: the hash of length `n` is a prefix of the hash of length `n + 1` (any cell) -/
theorem geohash_prefix (ulon ulat n : Nat) :
    Geohash.encodeInt ulon ulat n <+: Geohash.encodeInt ulon ulat (n + 1) := by
  unfold Geohash.encodeInt
  simp only [GeohashBits.chunks5_take]
  exact List.IsPrefix.map _ (List.take_prefix_take_left (Nat.le_succ n))

/-- Geohash output length -/
theorem chunks5_length (l : List Bool) : (Geohash.chunks5 l).length = l.length / 5 :=
  GeohashBits.chunks5_length l

/-! ### `scale_contains` (GARS, Georef): the one rounding in front of the integer codec

The floating part of `GARS::Forward` / `Georef::Forward` is: normalise the longitude, move the pole inside, then
per coordinate **one rounded multiplication by the integer `m` and a `floor`**.  Using the rounding theory of
`Proofs/Round53.lean` (monotonicity of `round53`, integers up to 2^53 are fixed points, error bound) the coded cell
index is related to the exact one for *all* inputs. -/

/-- longitude argument of the scale multiplication, as prepared by `GARS::Forward`/`Georef::Forward` -/
def prepLon (lon : F64) : F64 :=
  let lon := MathF.angNormalize lon
  if F64.eq lon MathF.hd then F64.neg MathF.hd else lon
/-- latitude argument: `lat·(1 − ε/2)` at the pole -/
def prepLat (lat : F64) : F64 :=
  if F64.eq lat MathF.qd then lat * (.fin false (2 ^ 53 - 1) (-53)) else lat

theorem gars_scaleWith_eq (mulf : F64 → F64 → Int) (lat lon : F64) :
    GARS.scaleWith mulf lat lon =
      if F64.gt (F64.abs lat) MathF.qd then .error "lat" else
      if lat.isNaN || !lon.isFinite then .ok none else
      .ok (some (mulf (prepLon lon) (F64.ofInt GARS.m) - gars_lonorig * GARS.m,
                 mulf (prepLat lat) (F64.ofInt GARS.m) - gars_latorig * GARS.m)) := rfl

theorem georef_scaleWith_eq (mulf : F64 → F64 → Int) (lat lon : F64) :
    Georef.scaleWith mulf lat lon =
      if F64.gt (F64.abs lat) MathF.qd then .error "lat" else
      if lat.isNaN || !lon.isFinite then .ok none else
      .ok (some (mulf (prepLon lon) (F64.ofInt Georef.m) - georef_lonorig * Georef.m,
                 mulf (prepLat lat) (F64.ofInt Georef.m) - georef_latorig * Georef.m)) := rfl

theorem gars_scale_eq : GARS.scale = GARS.scaleWith F64.mulFloorCoded := rfl
theorem gars_scaleExact_eq : GARS.scaleExact = GARS.scaleWith F64.mulFloorExact := rfl

theorem hd_val : MathF.hd.val = 180 := by rw [C16.hd_eq, F64.val_fin]; simp
theorem qd_val : MathF.qd.val = 90 := by rw [C16.qd_eq, F64.val_fin]; simp

theorem finite_of_accepted {lat lon : F64} (h2 : (lat.isNaN || !lon.isFinite) = false) :
    lat.isNaN = false ∧ lon.isFinite = true := by
  cases h : lat.isNaN <;> cases h' : lon.isFinite <;> simp_all

theorem prepLon_spec (lon : F64) (hf : lon.isFinite = true) :
    (prepLon lon).isFinite = true ∧ -180 ≤ (prepLon lon).val ∧ (prepLon lon).val < 180 ∧
      ∃ n : ℤ, (prepLon lon).val = lon.val - 360 * n := by
  obtain ⟨sx, mx, ex, rfl⟩ := F64.exists_fin_of_isFinite lon hf
  obtain ⟨hfin, ⟨n, hn⟩, hb, _⟩ := C16.angNormalize_spec sx mx ex
  unfold prepLon
  simp only []
  set y := MathF.angNormalize (F64.fin sx mx ex) with hy
  have hbb := abs_le.mp hb
  by_cases hE : F64.eq y MathF.hd = true
  · rw [if_pos hE]
    have hyv : y.val = 180 := by rw [(F64.eq_fin_iff _ _ hfin rfl).mp hE, hd_val]
    have hv : (F64.neg MathF.hd).val = -180 := by
      show (F64.fin true 180 0).val = -180
      rw [F64.val_fin]; simp
    rw [hv]
    exact ⟨rfl, le_refl _, by norm_num, n + 1, by push_cast; linarith⟩
  · rw [if_neg hE]
    have hne : y.val ≠ 180 := fun hc => hE ((F64.eq_fin_iff _ _ hfin rfl).mpr (by rw [hc, hd_val]))
    exact ⟨hfin, hbb.1, lt_of_le_of_ne hbb.2 hne, n, hn⟩

theorem lat_accepted (lat : F64) (h1 : F64.gt (F64.abs lat) MathF.qd = false) (h2 : lat.isNaN = false) :
    lat.isFinite = true ∧ |lat.val| ≤ 90 := by
  cases lat with
  | nan => simp [F64.isNaN] at h2
  | inf s => cases s <;> exact absurd h1 (by decide)
  | fin s m e =>
    refine ⟨rfl, ?_⟩
    have h3 : Dy.lt MathF.qd.toDy (F64.abs (F64.fin s m e)).toDy = false := h1
    have h4 : ¬ (MathF.qd.val < (F64.abs (F64.fin s m e)).val) := by
      show ¬ (MathF.qd.toDy.val < (F64.abs (F64.fin s m e)).toDy.val)
      rw [← Dy.lt_iff, h3]; simp
    rw [qd_val, F64.val_abs_fin] at h4
    exact not_lt.mp h4

theorem pole_round :
    (Dy.round53 ⟨90 * (2 ^ 53 - 1), -53⟩).m = 90 * 2 ^ 46 - 1 ∧ (Dy.round53 ⟨90 * (2 ^ 53 - 1), -53⟩).e = -46 := by
  decide +kernel

theorem prepLat_spec (lat : F64) (h1 : F64.gt (F64.abs lat) MathF.qd = false) (h2 : lat.isNaN = false) :
    (prepLat lat).isFinite = true ∧ -90 ≤ (prepLat lat).val ∧ (prepLat lat).val < 90 ∧
      (lat.val ≠ 90 → prepLat lat = lat) := by
  obtain ⟨hfin, hb⟩ := lat_accepted lat h1 h2
  have hbb := abs_le.mp hb
  unfold prepLat
  by_cases hE : F64.eq lat MathF.qd = true
  · -- the pole: `90·(1 − 2^(−53))` rounds to `90 − 2^(−46)`
    rw [if_pos hE]
    have hv : lat.val = 90 := by rw [(F64.eq_fin_iff _ _ hfin rfl).mp hE, qd_val]
    obtain ⟨r, hr, hfr⟩ := F64.hasVal_mul_rn (⟨hfin, hv⟩ : F64.HasVal lat 90) (F64.hasVal_fin false (2 ^ 53 - 1) (-53))
    have hz : (90:ℚ) * (F64.fin false (2 ^ 53 - 1) (-53)).val = (⟨90 * (2 ^ 53 - 1), -53⟩ : Dy).val := by
      rw [F64.val_fin]; simp [Dy.val]; ring
    rw [hz] at hr
    have hre : r = 90 - (2:ℚ) ^ (-46 : ℤ) := by
      rw [IsRN.unique (by norm_num) hr (roundTo_isRN 53 (-1074) ⟨90 * (2 ^ 53 - 1), -53⟩)]
      show (Dy.round53 ⟨90 * (2 ^ 53 - 1), -53⟩).val = _
      unfold Dy.val
      rw [pole_round.1, pole_round.2]; push_cast
      have : (2:ℚ) ^ (46:ℕ) * (2:ℚ) ^ (-46:ℤ) = 1 := by
        rw [← zpow_natCast, ← Dy.two_zpow_split]; norm_num
      linear_combination 90 * this
    have hpos := Dy.two_zpow_pos (-46)
    have hsmall : (2:ℚ) ^ (-46 : ℤ) ≤ 1 := by
      have := Dy.two_zpow_le (show (-46:ℤ) ≤ 0 by norm_num); simpa using this
    have hval := hfr (F64.big_of_le (by
      rw [hre, abs_of_nonneg (by linarith)]
      have : (90:ℚ) ≤ 2 ^ 52 := by norm_num
      linarith))
    rw [hval.2, hre]
    exact ⟨hval.1, by linarith, by linarith, fun hne => absurd hv hne⟩
  · rw [if_neg hE]
    have hne : lat.val ≠ 90 := fun hc => hE ((F64.eq_fin_iff _ _ hfin rfl).mpr (by rw [hc, qd_val]))
    exact ⟨hfin, hbb.1, lt_of_le_of_ne hbb.2 hne, fun _ => rfl⟩

/-- relation between the exact cell index `n = ⌊a·b⌋` and the coded one `c = ⌊rnd(a·b)⌋`: `n` is the cell of the
exact product, and `c` is `n`, or `n + 1` when the rounded product is exactly the integer `n + 1` (then the exact
product is within the rounding error `max(|a·b|·2⁻⁵³, 2⁻¹⁰⁷⁵)` below that integer) — finding F2. -/
def CellRel (a b : F64) (n c : ℤ) : Prop :=
  ((n:ℚ) ≤ a.val * b.val ∧ a.val * b.val < (n:ℚ) + 1) ∧
  (c = n ∨ (c = n + 1 ∧ (a * b).val = (n:ℚ) + 1 ∧
    (n:ℚ) + 1 - a.val * b.val ≤ max (|a.val * b.val| * (2:ℚ) ^ (-(53:ℤ))) ((2:ℚ) ^ (-(1075:ℤ)))))

theorem coord_contains (a : F64) (hfin : a.isFinite = true) (B : ℤ) (hlo : -(B:ℚ) ≤ a.val) (hhi : a.val < B)
    (k : ℕ) (hk1 : 1 ≤ k) (hk : (B:ℚ) * k ≤ 2 ^ 52) :
    let b : F64 := .fin false k 0
    CellRel a b (F64.mulFloorExact a b) (F64.mulFloorCoded a b) ∧
    -B * (k:ℤ) ≤ F64.mulFloorExact a b ∧ F64.mulFloorExact a b < B * (k:ℤ) := by
  intro b
  have hb : b.val = k := (F64.hasVal_nat k).2
  have hk0 : (0:ℚ) < k := by exact_mod_cast hk1
  have h1 := mul_le_mul_of_nonneg_right hlo hk0.le
  have h2 := mul_lt_mul_of_pos_right hhi hk0
  have hc : CellRel a b (F64.mulFloorExact a b) (F64.mulFloorCoded a b) :=
    F64.mulFloor_cellRel hfin rfl (by rw [hb, abs_le]; constructor <;> linarith)
  obtain ⟨c1, c2⟩ := hc.1
  rw [hb] at c1 c2
  exact ⟨hc, (F64.floor_bounds c1 c2 _ 0).1 (by push_cast; linarith), (F64.floor_bounds c1 c2 0 _).2 (by push_cast; linarith)⟩

/-- the clause for an infinite longitude is there because the statements below carry it; `h2` excludes the case -/
theorem scale_contains_gen (k : ℕ) (hk1 : 1 ≤ k) (hk : (180:ℚ) * k ≤ 2 ^ 52) (lat lon : F64)
    (h1 : F64.gt (F64.abs lat) MathF.qd = false) (h2 : (lat.isNaN || !lon.isFinite) = false) :
    let b : F64 := .fin false k 0
    let X := F64.mulFloorExact (prepLon lon) b - (-180) * (k:ℤ)
    let X' := F64.mulFloorCoded (prepLon lon) b - (-180) * (k:ℤ)
    let Y := F64.mulFloorExact (prepLat lat) b - (-90) * (k:ℤ)
    let Y' := F64.mulFloorCoded (prepLat lat) b - (-90) * (k:ℤ)
    (lon.isFinite = true → CellRel (prepLon lon) b (X + (-180) * (k:ℤ)) (X' + (-180) * (k:ℤ)) ∧ 0 ≤ X ∧ X < 360 * (k:ℤ)) ∧
    (lon.isFinite = false → X' = X) ∧
    CellRel (prepLat lat) b (Y + (-90) * (k:ℤ)) (Y' + (-90) * (k:ℤ)) ∧ 0 ≤ Y ∧ Y < 180 * (k:ℤ) := by
  intro b X X' Y Y'
  obtain ⟨hnan, hf⟩ := finite_of_accepted h2
  obtain ⟨hpf, hlo, hhi, _⟩ := prepLon_spec lon hf
  obtain ⟨hqf, hlo', hhi', _⟩ := prepLat_spec lat h1 hnan
  obtain ⟨a1, a2, a3⟩ := coord_contains (prepLon lon) hpf 180 (by push_cast; exact hlo) (by push_cast; exact hhi) k hk1
    (by push_cast; exact hk)
  obtain ⟨b1, b2, b3⟩ := coord_contains (prepLat lat) hqf 90 (by push_cast; exact hlo') (by push_cast; exact hhi') k hk1
    (by push_cast; linarith)
  refine ⟨fun _ => ⟨?_, ?_, ?_⟩, fun h => ?_, ?_, ?_, ?_⟩
  · simp only [X, X', Int.sub_add_cancel]; exact a1
  · simp only [X, b]; omega
  · simp only [X, b]; omega
  · rw [hf] at h; cases h
  · simp only [Y, Y', Int.sub_add_cancel]; exact b1
  · simp only [Y, b]; omega
  · simp only [Y, b]; omega

/-- **`scale_contains`, GARS** (every accepted, non-NaN input).  `scaleExact` and `scale` both succeed; in each
coordinate the exact cell index is the cell of the prepared point `(prepLon lon, prepLat lat)` — `X ≤ (lon+180)·m < X+1`
in the form `CellRel.1` — it lies in the valid range, and the coded index is the exact one or its upper neighbour in
the precise circumstance of `CellRel` (finding F2).  For an infinite longitude both give the same column. -/
theorem gars_scale_contains (lat lon : F64) (h1 : F64.gt (F64.abs lat) MathF.qd = false)
    (h2 : (lat.isNaN || !lon.isFinite) = false) :
    ∃ X Y X' Y' : ℤ, GARS.scaleExact lat lon = .ok (some (X, Y)) ∧ GARS.scale lat lon = .ok (some (X', Y')) ∧
      (lon.isFinite = true →
        CellRel (prepLon lon) (F64.ofInt GARS.m) (X + gars_lonorig * GARS.m) (X' + gars_lonorig * GARS.m) ∧
        0 ≤ X ∧ X < 360 * GARS.m) ∧
      (lon.isFinite = false → X' = X) ∧
      CellRel (prepLat lat) (F64.ofInt GARS.m) (Y + gars_latorig * GARS.m) (Y' + gars_latorig * GARS.m) ∧
      0 ≤ Y ∧ Y < 180 * GARS.m := by
  refine ⟨_, _, _, _, ?_, ?_, scale_contains_gen 12 (by norm_num) (by norm_num) lat lon h1 h2⟩
  · rw [gars_scaleExact_eq, gars_scaleWith_eq, h1, h2]; rfl
  · rw [gars_scale_eq, gars_scaleWith_eq, h1, h2]; rfl

/-- `scale` and `scaleExact` reject / return "INVALID" on exactly the same inputs (GARS) -/
theorem gars_scale_shape (lat lon : F64) :
    (∀ e, GARS.scale lat lon = .error e ↔ GARS.scaleExact lat lon = .error e) ∧
    (GARS.scale lat lon = .ok none ↔ GARS.scaleExact lat lon = .ok none) := by
  rw [gars_scale_eq, gars_scaleExact_eq, gars_scaleWith_eq, gars_scaleWith_eq]
  by_cases h1 : F64.gt (F64.abs lat) MathF.qd = true
  · simp [h1]
  · by_cases h2 : (lat.isNaN || !lon.isFinite) = true
    · simp only [h1, h2, if_true, Bool.false_eq_true, if_false]; simp
    · simp only [h1, h2, Bool.false_eq_true, if_false]
      constructor
      · intro e; constructor <;> intro h <;> cases h
      · constructor <;> intro h <;> cases h

/-- **`scale = scaleExact` whenever both products are representable** (GARS) -/
theorem gars_scale_exact_of_representable (lat lon : F64) (h1 : F64.gt (F64.abs lat) MathF.qd = false)
    (h2 : (lat.isNaN || !lon.isFinite) = false) (hf : lon.isFinite = true)
    (hx : (Dy.round53 (Dy.mul (prepLon lon).toDy (F64.ofInt GARS.m).toDy)).val = (prepLon lon).val * (F64.ofInt GARS.m).val)
    (hy : (Dy.round53 (Dy.mul (prepLat lat).toDy (F64.ofInt GARS.m).toDy)).val = (prepLat lat).val * (F64.ofInt GARS.m).val) :
    GARS.scale lat lon = GARS.scaleExact lat lon := by
  have hb : (F64.ofInt GARS.m).val = 12 := (F64.hasVal_ofInt 12).2
  rw [gars_scale_eq, gars_scaleExact_eq, gars_scaleWith_eq, gars_scaleWith_eq, h1, h2]
  simp only [Bool.false_eq_true, if_false]
  have key : ∀ a : F64, a.isFinite = true → -180 ≤ a.val → a.val < 180 →
      (Dy.round53 (Dy.mul a.toDy (F64.ofInt GARS.m).toDy)).val = a.val * (F64.ofInt GARS.m).val →
      F64.mulFloorCoded a (F64.ofInt GARS.m) = F64.mulFloorExact a (F64.ofInt GARS.m) := by
    intro a ha hlo hhi hrep
    obtain ⟨s, m, e, rfl⟩ := F64.exists_fin_of_isFinite a ha
    exact F64.mulFloor_exact_of_representable s false m 12 e 0
      (by rw [show (F64.fin false 12 0).val = 12 from hb, abs_le]; constructor <;> norm_num <;> linarith) hrep
  obtain ⟨hpf, hlo, hhi, _⟩ := prepLon_spec lon hf
  obtain ⟨hqf, hlo', hhi', _⟩ := prepLat_spec lat h1 (finite_of_accepted h2).1
  rw [key _ hpf hlo hhi hx, key _ hqf (by linarith) (by linarith) hy]

/-- **`scale_contains`, Georef** — the same statement; `m = 6·10¹⁰` -/
theorem georef_scale_contains (lat lon : F64) (h1 : F64.gt (F64.abs lat) MathF.qd = false)
    (h2 : (lat.isNaN || !lon.isFinite) = false) :
    ∃ X Y X' Y' : ℤ, Georef.scaleExact lat lon = .ok (some (X, Y)) ∧ Georef.scale lat lon = .ok (some (X', Y')) ∧
      (lon.isFinite = true →
        CellRel (prepLon lon) (F64.ofInt Georef.m) (X + georef_lonorig * Georef.m) (X' + georef_lonorig * Georef.m) ∧
        0 ≤ X ∧ X < 360 * Georef.m) ∧
      (lon.isFinite = false → X' = X) ∧
      CellRel (prepLat lat) (F64.ofInt Georef.m) (Y + georef_latorig * Georef.m) (Y' + georef_latorig * Georef.m) ∧
      0 ≤ Y ∧ Y < 180 * Georef.m := by
  refine ⟨_, _, _, _, ?_, ?_, scale_contains_gen 60000000000 (by norm_num) (by norm_num) lat lon h1 h2⟩
  · show Georef.scaleWith F64.mulFloorExact lat lon = _
    rw [georef_scaleWith_eq, h1, h2]; rfl
  · show Georef.scaleWith F64.mulFloorCoded lat lon = _
    rw [georef_scaleWith_eq, h1, h2]; rfl

/-! non-vacuity: the F2 witness `GARS::Forward(-89.916666666666671, 0.5)` — accepted, exact row 0, coded row 1 -/
example : F64.gt (F64.abs (.fin true 6327322913974955 (-46))) MathF.qd = false := by decide +kernel
example : (match GARS.scaleExact (.fin true 6327322913974955 (-46)) (.fin false 1 (-1)),
                 GARS.scale (.fin true 6327322913974955 (-46)) (.fin false 1 (-1)) with
    | .ok (some (X, Y)), .ok (some (X', Y')) => decide (X = 2166 ∧ Y = 0 ∧ X' = 2166 ∧ Y' = 1)
    | _, _ => false) = true := by decide +kernel
/-- a representable product: `lat = 45.5`, `lon = 0.25` -/
example : (Dy.round53 (Dy.mul (prepLat (.fin false 91 (-1))).toDy (F64.ofInt GARS.m).toDy)).m = 1092 := by decide +kernel

/-! ### `scale_contains` (Geohash): one rounded *division*, `floor`, and an exact addition

`Dy.divTo` is proved to be the correctly rounded quotient (`Proofs/DivTo.lean`), so the same statement holds. -/
section GeohashScale
open F64

/-- one Geohash coordinate, `k = 180` or `90`: `eps = k / 2^45` is exact, and so is the binary64 addition `floor(x/eps) + 2^45` -/
theorem geohash_coord {x : F64} {v : ℚ} (hx : HasVal x v) (k : ℕ) (hk0 : k ≠ 0) (hk : (k:ℤ) ≤ 2 ^ 53) (hv : |v| ≤ k) :
    let eps := (F64.fin false k 0) / shift45
    CellRelQ (v * (2:ℚ) ^ (45:ℕ) / k) (x / eps).val (flExact x.toDy k) (divFloorCoded x eps) ∧
    Dy.floor (F64.floor (x / eps) + shift45).toDy = divFloorCoded x eps + 2 ^ 45 ∧
    -(2:ℤ) ^ 45 ≤ flExact x.toDy k ∧ flExact x.toDy k ≤ 2 ^ 45 ∧ (v < k → flExact x.toDy k < 2 ^ 45) := by
  intro eps
  have heps : HasVal eps ((k:ℚ) / (2:ℚ) ^ (45:ℕ)) := hasVal_eps k hk
  have hkq : (0:ℚ) < k := by exact_mod_cast Nat.pos_of_ne_zero hk0
  have hq : v / ((k:ℚ) / (2:ℚ) ^ (45:ℕ)) = v * (2:ℚ) ^ (45:ℕ) / k := by field_simp
  obtain ⟨n1, n2⟩ := flExact_spec x.toDy k (by exact_mod_cast Nat.pos_of_ne_zero hk0)
  rw [show x.toDy.val = v from hx.2] at n1 n2
  push_cast at n1 n2
  set n := flExact x.toDy k with hn
  have hvb := abs_le.mp hv
  have e45 : (0:ℚ) < (2:ℚ) ^ (45:ℕ) := by positivity
  have zlo : -(2:ℚ) ^ (45:ℕ) ≤ v * (2:ℚ) ^ (45:ℕ) / k := by
    rw [le_div_iff₀ hkq]; linarith
  have zhi : v * (2:ℚ) ^ (45:ℕ) / k ≤ (2:ℚ) ^ (45:ℕ) := by
    rw [div_le_iff₀ hkq]; linarith
  have e52 : (2:ℚ) ^ 52 = 128 * (2:ℚ) ^ (45:ℕ) := by norm_num
  have e51 : (2:ℚ) ^ 51 = 64 * (2:ℚ) ^ (45:ℕ) := by norm_num
  have hz52 : |v * (2:ℚ) ^ (45:ℕ) / k| ≤ 2 ^ 52 := by
    rw [e52, abs_le]; constructor <;> linarith
  rw [← hq] at hz52 n1 n2
  obtain ⟨_, hcr⟩ := divFloor_cellRel hx heps (by positivity) n hz52 n1 n2
  rw [hq] at hz52 n1 n2 hcr
  have nlo : -(2:ℤ) ^ 45 ≤ n := (floor_bounds n1 n2 _ 0).1 (by push_cast; exact zlo)
  have nhi : n < 2 ^ 45 + 1 := (floor_bounds n1 n2 0 _).2 (by push_cast; linarith)
  refine ⟨hcr, ?_, nlo, by omega, fun hlt => (floor_bounds n1 n2 0 _).2 ?_⟩
  · -- the rounded quotient is bounded by `2^45` like the exact one, so adding the shift to its floor is exact
    obtain ⟨r, hr, hrv⟩ := (hasVal_div_rn hx heps (by positivity)).small (by rw [hq]; exact hz52)
    rw [hq] at hr
    have r1 := hr.int_le (-(2 ^ 45)) (by norm_num) (by push_cast; exact zlo)
    have r2 := hr.le_int (2 ^ 45) (by norm_num) (by push_cast; exact zhi)
    push_cast at r1 r2
    exact floor_add_shift hrv (by rw [e51, abs_le]; constructor <;> linarith)
  · push_cast
    rw [div_lt_iff₀ hkq]; linarith

/-- the pole: `lat = 90` is first moved to `90 − lateps/2` (exact), whose cell is the last one, `2^46 − 1` -/
theorem geohash_pole {lat : F64} (hlat : HasVal lat 90) :
    let eps := (F64.fin false 90 0) / shift45
    Dy.floor (F64.floor ((lat - eps / 2) / eps) + shift45).toDy = 2 ^ 46 - 1 := by
  intro eps
  have heps : HasVal eps (((90:ℕ):ℚ) / (2:ℚ) ^ (45:ℕ)) := hasVal_eps 90 (by norm_num)
  push_cast at heps
  -- h = eps / 2, x' = lat − h, q = x' / eps: all exact
  have hh : HasVal (eps / 2) (45 / (2:ℚ) ^ (45:ℕ)) := by
    have := (hasVal_div_rn heps hasVal_two (by norm_num)).exact 45 (-45) (by norm_num) (by norm_num)
      (by rw [zpow_neg]; norm_num) (by norm_num [abs_le])
    convert this using 1; norm_num
  have hx' : HasVal (lat - eps / 2) (90 - 45 / (2:ℚ) ^ (45:ℕ)) :=
    (hasVal_sub_rn hlat hh).exact (45 * (2 ^ 46 - 1)) (-45) (by norm_num) (by norm_num)
      (by rw [zpow_neg]; norm_num) (by norm_num [abs_le])
  have hq : HasVal ((lat - eps / 2) / eps) (((2:ℚ) ^ 46 - 1) / 2) := by
    have := (hasVal_div_rn hx' heps (by norm_num)).exact (2 ^ 46 - 1) (-1) (by norm_num) (by norm_num)
      (by rw [zpow_neg]; norm_num) (by norm_num [abs_le])
    convert this using 1; norm_num
  rw [floor_add_shift hq (by norm_num [abs_le])]
  have : Dy.floor (F64.floor ((lat - eps / 2) / eps)).toDy = 2 ^ 45 - 1 :=
    (hasVal_floor hq (2 ^ 45 - 1) (by norm_num) (by norm_num)).2
  rw [this]; norm_num

/-- latitude argument of the Geohash scale division: the pole is moved inside by half a cell -/
def ghLat (lat : F64) : F64 := if F64.eq lat MathF.qd then lat - (MathF.qd / shift45) / 2 else lat

theorem geohash_scale_eq (lat lon : F64) :
    Geohash.scale lat lon =
      if F64.gt (F64.abs lat) MathF.qd then .error "lat" else
      if lat.isNaN || !lon.isFinite then .ok none else
      .ok (some ((Dy.floor (F64.floor (prepLon lon / (MathF.hd / shift45)) + shift45).toDy).toNat,
                 (Dy.floor (F64.floor (ghLat lat / (MathF.qd / shift45)) + shift45).toDy).toNat)) := rfl

theorem geohash_scaleExact_eq (lat lon : F64) :
    Geohash.scaleExact lat lon =
      if !(lat.isFinite && lon.isFinite) then none else
      some ((flExact (prepLon lon).toDy 180 + 2 ^ 45).toNat,
            (if F64.eq lat MathF.qd then 2 ^ 46 - 1 else flExact lat.toDy 90 + 2 ^ 45 : ℤ).toNat) := rfl

/-- **`scale_contains`, Geohash** (every accepted finite position).  Both `scaleExact` and `scale` succeed with
46-bit coordinates `n + 2^45`, `c + 2^45`; in longitude the exact index `nx = ⌊lon'·2^45/180⌋` and the coded one
`cx = ⌊rnd(lon'/loneps)⌋` are related by `CellRelQ` (`cx = nx`, or `cx = nx + 1` when the rounded quotient is exactly
that integer: class F2); in latitude the same away from the pole, and at `lat = 90` both give the last row `2^46 − 1`.
The additions of `2^45` and the constants `loneps = 180/2^45`, `lateps = 90/2^45` are exact. -/
theorem geohash_scale_contains (lat lon : F64) (h1 : F64.gt (F64.abs lat) MathF.qd = false)
    (h2 : (lat.isNaN || !lon.isFinite) = false) (hf : lon.isFinite = true) :
    ∃ nx ny cx cy : ℤ,
      Geohash.scaleExact lat lon = some ((nx + 2 ^ 45).toNat, (ny + 2 ^ 45).toNat) ∧
      Geohash.scale lat lon = .ok (some ((cx + 2 ^ 45).toNat, (cy + 2 ^ 45).toNat)) ∧
      (-(2:ℤ) ^ 45 ≤ nx ∧ nx < 2 ^ 45) ∧ (-(2:ℤ) ^ 45 ≤ ny ∧ ny < 2 ^ 45) ∧
      CellRelQ ((prepLon lon).val * (2:ℚ) ^ (45:ℕ) / 180) (prepLon lon / (MathF.hd / shift45)).val nx cx ∧
      (lat.val = 90 → ny = 2 ^ 45 - 1 ∧ cy = ny) ∧
      (lat.val ≠ 90 → CellRelQ (lat.val * (2:ℚ) ^ (45:ℕ) / 90) (lat / (MathF.qd / shift45)).val ny cy) := by
  obtain ⟨hlatf, hlb⟩ := lat_accepted lat h1 (finite_of_accepted h2).1
  have hfin : (!(lat.isFinite && lon.isFinite)) = false := by rw [hlatf, hf]; rfl
  obtain ⟨hpf, hlo, hhi, _⟩ := prepLon_spec lon hf
  obtain ⟨a1, a2, a3, _, a5⟩ := geohash_coord (⟨hpf, rfl⟩ : HasVal (prepLon lon) _) 180 (by norm_num) (by norm_num)
    (by rw [abs_le]; push_cast; constructor <;> linarith)
  have a5' := a5 (by push_cast; exact hhi)
  push_cast at a1
  rw [geohash_scaleExact_eq, geohash_scale_eq, h1, h2, hfin]
  simp only [Bool.false_eq_true, if_false]
  by_cases hE : F64.eq lat MathF.qd = true
  · -- the pole
    have hv : lat.val = 90 := by rw [(F64.eq_fin_iff _ _ hlatf rfl).mp hE, qd_val]
    have hpole := geohash_pole (⟨hlatf, hv⟩ : HasVal lat 90)
    refine ⟨flExact (prepLon lon).toDy 180, 2 ^ 45 - 1, divFloorCoded (prepLon lon) (MathF.hd / shift45), 2 ^ 45 - 1,
      ?_, ?_, ⟨a3, a5'⟩, ⟨by norm_num, by norm_num⟩, a1, fun _ => ⟨rfl, rfl⟩, fun hne => absurd hv hne⟩
    · rw [if_pos hE]; norm_num
    · unfold ghLat; rw [if_pos hE, C16.hd_eq, C16.qd_eq, hpole, a2]; norm_num
  · have hne : lat.val ≠ 90 := fun hc => hE ((F64.eq_fin_iff _ _ hlatf rfl).mpr (by rw [hc, qd_val]))
    obtain ⟨b1, b2, b3, _, b5⟩ := geohash_coord (⟨hlatf, rfl⟩ : HasVal lat _) 90 (by norm_num) (by norm_num)
      (by push_cast; exact hlb)
    have b5' := b5 (by push_cast; exact lt_of_le_of_ne (abs_le.mp hlb).2 hne)
    push_cast at b1
    refine ⟨flExact (prepLon lon).toDy 180, flExact lat.toDy 90, divFloorCoded (prepLon lon) (MathF.hd / shift45),
      divFloorCoded lat (MathF.qd / shift45), ?_, ?_, ⟨a3, a5'⟩, ⟨b3, b5'⟩, a1, fun hc => absurd hc hne, fun _ => b1⟩
    · rw [if_neg hE]
    · unfold ghLat; rw [if_neg hE, C16.hd_eq, C16.qd_eq, a2, b2]

example : F64.gt (F64.abs (.fin false 91 (-1))) MathF.qd = false ∧ (F64.fin false 1 (-2)).isFinite = true := by
  decide +kernel

/-- **OSGB, first scale step** (`xh = ⌊x / tile⌋`, one rounded division): for every finite easting/northing with
`|x| ≤ 10^7` m and `n = ⌊x / 10^5⌋` (exact), the coded 100 km tile index is `n`, or `n + 1` when the rounded quotient is
exactly `n + 1` (class F2).  What the whole of `GridReference` does with it is `osgb_scale_spec`. -/
theorem osgb_tile_contains (s : Bool) (m : ℕ) (e : ℤ) (hx : |(F64.fin s m e).val| ≤ 10000000) (n : ℤ)
    (h1 : (n:ℚ) ≤ (F64.fin s m e).val / 100000) (h2 : (F64.fin s m e).val / 100000 < (n:ℚ) + 1) :
    CellRelQ ((F64.fin s m e).val / 100000) ((F64.fin s m e) / F64.ofInt osgb_tile).val n
      (OSGB.fl ((F64.fin s m e) / F64.ofInt osgb_tile)) := by
  have hq : |(F64.fin s m e).val / 100000| ≤ 2 ^ 52 := by
    rw [abs_div, abs_of_pos (by norm_num : (0:ℚ) < 100000), div_le_iff₀ (by norm_num)]
    have : (10000000:ℚ) ≤ 2 ^ 52 * 100000 := by norm_num
    linarith
  exact (divFloor_cellRel (hasVal_fin s m e) OSGBScale.hasVal_tile (by norm_num) n hq h1 h2).2


end GeohashScale

/-! ### integer codec round trips (all inputs)

`readNum ∘ digitsW` for every table (`Proofs/Digits.lean`, by induction).  For GARS the two `for` loops of the decoder are
`readNum` (`GeorefLoop.forIn_readNum`), so `decodeInt ∘ encodeInt` reads the digit fields back and compares numerators. -/

/-- **digit strings read back**: for a table whose `lookup` inverts `chr` on `[0, b)`,
`readNum (toBytes (digitsW tbl b w n)) = some (n mod b^w)` (every width, every `n`) -/
theorem digits_readback (tbl : List Char) (b : Nat) (hb : 0 < b)
    (ht : ∀ k < b, lookup tbl (chr tbl k).toNat = some k) (w n : Nat) :
    readNum tbl b (toBytes (digitsW tbl b w n)) = some (n % b ^ w) :=
  Digits.readNum_digitsW tbl b hb ht w n

theorem gars_lon_readback (n : Nat) : readNum GARS.digits 10 (toBytes (digitsW GARS.digits 10 3 n)) = some (n % 1000) :=
  digits_readback _ 10 (by decide) gars_digits_lookup 3 n
theorem gars_lat_readback (n : Nat) : readNum GARS.letters 24 (toBytes (digitsW GARS.letters 24 2 n)) = some (n % 576) :=
  digits_readback _ 24 (by decide) gars_letters_lookup 2 n
theorem georef_digits_readback (w n : Nat) :
    readNum Georef.digits 10 (toBytes (digitsW Georef.digits 10 w n)) = some (n % 10 ^ w) :=
  digits_readback _ 10 (by decide) georef_digits_lookup w n
theorem osgb_digits_readback (w n : Nat) :
    readNum OSGB.digits 10 (toBytes (digitsW OSGB.digits 10 w n)) = some (n % 10 ^ w) :=
  digits_readback _ 10 (by decide) OSGBInt.digits_chr_lookup w n

/-- cells per degree at precision 0/1/2: 2, 4, 12 -/
def garsUnit (prec : Nat) : Int := 2 * (if prec > 0 then 2 else 1) * (if prec > 1 then 3 else 1)

/-- the quadrant digit `2·(1 − c) + a + 1 ∈ [1, 4]` (east half `a`, north half `c`) and what the decoder reads off it -/
theorem gars_quadrant_digit : ∀ a ≤ 1, ∀ c ≤ 1, 1 ≤ 2 * (1 - c) + a + 1 ∧ 2 * (1 - c) + a + 1 ≤ 4 ∧
    (((2 * (1 - c) + a + 1 : Nat) : Int) - 1) / gars_mult2 = 1 - c ∧
    (((2 * (1 - c) + a + 1 : Nat) : Int) - 1) % gars_mult2 = a := by decide
/-- the ninth digit `3·(2 − d) + b + 1 ∈ [1, 9]` (east third `b`, north third `d`) and what the decoder reads off it -/
theorem gars_ninth_digit : ∀ b ≤ 2, ∀ d ≤ 2, 1 ≤ 3 * (2 - d) + b + 1 ∧
    (((3 * (2 - d) + b + 1 : Nat) : Int) - 1) / gars_mult3 = 2 - d ∧
    (((3 * (2 - d) + b + 1 : Nat) : Int) - 1) % gars_mult3 = b := by decide
/-- the two digits as the encoder computes them from the position `3a + b`, `3c + d` inside the half-degree cell -/
theorem gars_encoded_digits : ∀ a ≤ 1, ∀ b ≤ 2, ∀ c ≤ 1, ∀ d ≤ 2,
    (2 * (2 - 1 - ((3 * c + d : Nat) : Int) / 3) + ((3 * a + b : Nat) : Int) / 3 + 1).toNat = 2 * (1 - c) + a + 1 ∧
    (3 * (3 - 1 - ((3 * c + d : Nat) : Int) % 3) + ((3 * a + b : Nat) : Int) % 3 + 1).toNat = 3 * (2 - d) + b + 1 := by
  decide

/-- `GARS.decodeInt` on a string it accepts: three digits `A` spelling `n ∈ [1, 720]`, two letters `B` spelling `l < 360`,
then `prec ≤ 2` more bytes (quadrant digit, ninth digit).  `lat`, `lon` are the numerators of the south-west corner in units
of `1 / garsUnit prec` degree. -/
theorem gars_decodeInt_ok (A B T : List Nat) (cp : Bool) (prec : Nat) (hA : A.length = 3) (hB : B.length = 2)
    (hT : T.length = prec) (hp : prec ≤ 2) (n l a c b d : Nat)
    (hn : readNum GARS.digits 10 A = some n) (hn1 : 1 ≤ n ∧ n ≤ 720)
    (hl : readNum GARS.letters 24 B = some l) (hl1 : l < 360)
    (ha : a ≤ 1) (hc : c ≤ 1) (hb : b ≤ 2) (hd : d ≤ 2)
    (h6 : 0 < prec → lookup GARS.digits (T.getD 0 0) = some (2 * (1 - c) + a + 1))
    (h7 : 1 < prec → lookup GARS.digits (T.getD 1 0) = some (3 * (2 - d) + b + 1)) (lat lon : Int)
    (hlat : lat = if prec = 0 then (l:Int) - 180 else if prec = 1 then 2 * ((l:Int) - 180) + c
      else 3 * (2 * ((l:Int) - 180) + c) + d)
    (hlon : lon = if prec = 0 then (n:Int) - 1 - 360 else if prec = 1 then 2 * ((n:Int) - 1 - 360) + a
      else 3 * (2 * ((n:Int) - 1 - 360) + a) + b) :
    GARS.decodeInt (A ++ B ++ T) cp =
      .ok ⟨if cp then 2 * lat + 1 else lat, if cp then 2 * lon + 1 else lon,
           if cp then garsUnit prec * 2 else garsUnit prec, prec⟩ := by
  obtain ⟨a', b', c', rfl⟩ := List.length_eq_three.mp hA
  obtain ⟨d', e', rfl⟩ := List.length_eq_two.mp hB
  have c1 : (n:Int) ≥ 1 ∧ (n:Int) ≤ 2 * Gen.MathC.td := ⟨by omega, by show (n:Int) ≤ 2 * 360; omega⟩
  have c2 : (l:Int) < Gen.MathC.td := by show (l:Int) < 360; omega
  generalize hk6 : 2 * (1 - c) + a + 1 = k6 at h6
  generalize hk7 : 3 * (2 - d) + b + 1 = k7 at h7
  obtain ⟨r6, s6, q6⟩ := gars_quadrant_digit a ha c hc
  obtain ⟨r7, q7⟩ := gars_ninth_digit b hb d hd
  rw [hk6] at r6 s6 q6
  rw [hk7] at r7 q7
  have c6 : k6 ≥ 1 ∧ (k6:Int) ≤ gars_mult2 * gars_mult2 := ⟨r6, by show (k6:Int) ≤ 2 * 2; omega⟩
  have hlen : ([a', b', c'] ++ [d', e'] ++ T).length = 5 + prec := by
    simp only [List.length_append, List.length_cons, List.length_nil]; omega
  generalize hs : [a', b', c'] ++ [d', e'] ++ T = s at hlen
  have hn' : readNumFrom GARS.digits 10 0 (s.take gars_lonlen.toNat) = some n := by rw [← hs]; exact hn
  have hl' : readNumFrom GARS.letters 24 0 ((s.drop gars_lonlen.toNat).take gars_latlen.toNat) = some l := by
    rw [← hs]; exact hl
  have g5 : s.getD gars_baselen.toNat 0 = T.getD 0 0 := by rw [← hs]; rfl
  have g6 : s.getD (gars_baselen.toNat + 1) 0 = T.getD 1 0 := by rw [← hs]; rfl
  have hq : s.length - gars_baselen.toNat = prec := by show s.length - 5 = prec; omega
  unfold GARS.decodeInt
  -- a `throw` ends the computation: the join points of the `do` block are not entered
  simp only [↓GeorefLoop.throw_bind]
  rw [if_neg (by show ¬ s.length < 5; omega), if_neg (by show ¬ s.length > 7; omega),
    GeorefLoop.forIn_readNum GARS.digits 10 _ _ (fun c r h => by rw [h]) (fun c r k h => by rw [h]; rfl) _ 0 0 rfl, hn',
    GeorefLoop.forIn_readNum GARS.letters 24 _ _ (fun c r h => by rw [h]) (fun c r k h => by rw [h]; rfl) _ 0 0 rfl, hl']
  simp only [GeorefLoop.ok_bind, c1, c2, hq, g5, g6, and_self, decide_true, Bool.not_true, Bool.false_eq_true, ↓reduceIte]
  -- centre or corner: the same numerators and unit on both sides
  have fin : ∀ A B u : Int, A = lat → B = lon → u = garsUnit prec →
      (if cp = true then pure ⟨2 * A + 1, 2 * B + 1, u * 2, prec⟩ else pure ⟨A, B, u, prec⟩ : Except Err GARS.Dec) =
      .ok ⟨if cp then 2 * lat + 1 else lat, if cp then 2 * lon + 1 else lon,
           if cp then garsUnit prec * 2 else garsUnit prec, prec⟩ := by
    intro A B u h1 h2 h3; rw [h1, h2, h3]; cases cp <;> rfl
  obtain rfl | rfl | rfl : prec = 0 ∨ prec = 1 ∨ prec = 2 := by omega
  · rw [if_pos rfl] at hlat hlon
    exact fin _ _ _ (by rw [hlat]; simp only [gars_latorig, gars_mult1]; omega)
      (by rw [hlon]; simp only [gars_lonorig, gars_mult1]; omega) rfl
  · rw [if_neg (by decide), if_pos rfl] at hlat hlon
    simp only [h6, c6, q6, and_self, decide_true, Bool.not_true, Bool.false_eq_true, ↓reduceIte, Nat.lt_irrefl,
      Nat.zero_lt_one, gt_iff_lt]
    exact fin _ _ _ (by rw [hlat]; simp only [gars_latorig, gars_mult1, gars_mult2]; omega)
      (by rw [hlon]; simp only [gars_lonorig, gars_mult1, gars_mult2]; omega) rfl
  · rw [if_neg (by decide), if_neg (by decide)] at hlat hlon
    simp only [h6, h7, c6, show k7 ≥ 1 from r7, q6, q7, and_self, decide_true, Bool.not_true, Bool.false_eq_true, ↓reduceIte,
      Nat.zero_lt_two, Nat.one_lt_two, gt_iff_lt]
    exact fin _ _ _ (by rw [hlat]; simp only [gars_latorig, gars_mult1, gars_mult2, gars_mult3]; omega)
      (by rw [hlon]; simp only [gars_lonorig, gars_mult1, gars_mult2, gars_mult3]; omega) rfl

theorem gars_encodeInt_eq (X Y : Int) (prec : Nat) :
    GARS.encodeInt X Y prec =
      let x := X - X * 2 / 12 * 12 / 2
      let y := Y - Y * 2 / 12 * 12 / 2
      digitsW GARS.digits 10 3 (X * 2 / 12 + 1).toNat ++ digitsW GARS.letters 24 2 (Y * 2 / 12).toNat ++
      (if prec > 0 then [chr GARS.digits (2 * (2 - 1 - y / 3) + x / 3 + 1).toNat] else []) ++
      (if prec > 1 then [chr GARS.digits (3 * (3 - 1 - y % 3) + x % 3 + 1).toNat] else []) := rfl

theorem gars_split (X N : Int) (hX : 0 ≤ X ∧ X < N * 12) :
    ∃ i a b : Nat, X = 6 * i + 3 * a + b ∧ (i : Int) < 2 * N ∧ a ≤ 1 ∧ b ≤ 2 := by
  obtain ⟨n, rfl⟩ := Int.eq_ofNat_of_zero_le hX.1
  exact ⟨n / 6, n % 6 / 3, n % 3, by omega, by omega, by omega, by omega⟩

theorem gars_encodeInt_digits (i a b j c d : Nat) (ha : a ≤ 1) (hb : b ≤ 2) (hc : c ≤ 1) (hd : d ≤ 2) (prec : Nat) :
    GARS.encodeInt (6 * i + 3 * a + b) (6 * j + 3 * c + d) prec =
      digitsW GARS.digits 10 3 (i + 1) ++ digitsW GARS.letters 24 2 j ++
      (if prec > 0 then [chr GARS.digits (2 * (1 - c) + a + 1)] else []) ++
      (if prec > 1 then [chr GARS.digits (3 * (2 - d) + b + 1)] else []) := by
  have ex : (6 * i + 3 * a + b : Int) * 2 / 12 = i ∧ (6 * i + 3 * a + b : Int) - i * 12 / 2 = (3 * a + b : Nat) := by omega
  have ey : (6 * j + 3 * c + d : Int) * 2 / 12 = j ∧ (6 * j + 3 * c + d : Int) - j * 12 / 2 = (3 * c + d : Nat) := by omega
  obtain ⟨e6, e7⟩ := gars_encoded_digits a ha b hb c hc d hd
  rw [gars_encodeInt_eq]
  simp only [ex, ey, e6, e7, Int.toNat_natCast, show ((i : Int) + 1).toNat = i + 1 by omega]

/-- **`decode_encode_int`, GARS** (all cells, all precisions, both `centerp`): decoding the code of the finest-level
cell `(X, Y)` returns the precision and the cell of `(X, Y)` at that precision — `lon1 = ⌊X / (m/u)⌋ + lonorig·u`
in units of `1/u` degree, `u = garsUnit prec` (or the centre `2·lon1 + 1` in units `1/(2u)`). -/
theorem gars_decode_encode (X Y : Int) (hX : 0 ≤ X ∧ X < 360 * GARS.m) (hY : 0 ≤ Y ∧ Y < 180 * GARS.m)
    (prec : Nat) (hp : prec ≤ 2) (cp : Bool) :
    GARS.decodeInt (toBytes (GARS.encodeInt X Y prec)) cp =
      let u := garsUnit prec
      let lat1 := Y / (GARS.m / u) + gars_latorig * u
      let lon1 := X / (GARS.m / u) + gars_lonorig * u
      .ok ⟨if cp then 2 * lat1 + 1 else lat1, if cp then 2 * lon1 + 1 else lon1, if cp then u * 2 else u, prec⟩ := by
  have hm : GARS.m = 12 := rfl
  obtain ⟨i, a, b, rfl, hi, ha, hb⟩ := gars_split X 360 hX
  obtain ⟨j, c, d, rfl, hj, hc, hd⟩ := gars_split Y 180 hY
  rw [gars_encodeInt_digits i a b j c d ha hb hc hd, List.append_assoc (_ ++ _), Digits.toBytes_append, Digits.toBytes_append]
  have k6 := gars_digits_lookup (2 * (1 - c) + a + 1) (by omega)
  have k7 := gars_digits_lookup (3 * (2 - d) + b + 1) (by omega)
  have lA := Digits.toBytes_digitsW_length GARS.digits 10 3 (i + 1)
  have lB := Digits.toBytes_digitsW_length GARS.letters 24 2 j
  have hn := gars_lon_readback (i + 1)
  have hl := gars_lat_readback j
  rw [Nat.mod_eq_of_lt (by omega)] at hn hl
  have n1 : 1 ≤ i + 1 ∧ i + 1 ≤ 720 := by omega
  have l1 : j < 360 := by omega
  obtain rfl | rfl | rfl : prec = 0 ∨ prec = 1 ∨ prec = 2 := by omega
  · exact gars_decodeInt_ok _ _ _ cp 0 lA lB rfl hp _ _ a c b d hn n1 hl l1 ha hc hb hd
      (fun h => absurd h (by decide)) (fun h => absurd h (by decide)) _ _
      (by rw [if_pos rfl]; simp only [show garsUnit 0 = 2 from rfl, hm, gars_latorig]; omega)
      (by rw [if_pos rfl]; simp only [show garsUnit 0 = 2 from rfl, hm, gars_lonorig]; omega)
  · exact gars_decodeInt_ok _ _ _ cp 1 lA lB rfl hp _ _ a c b d hn n1 hl l1 ha hc hb hd
      (fun _ => by exact k6) (fun h => absurd h (by decide)) _ _
      (by rw [if_neg (by decide), if_pos rfl]; simp only [show garsUnit 1 = 4 from rfl, hm, gars_latorig]; omega)
      (by rw [if_neg (by decide), if_pos rfl]; simp only [show garsUnit 1 = 4 from rfl, hm, gars_lonorig]; omega)
  · exact gars_decodeInt_ok _ _ _ cp 2 lA lB rfl hp _ _ a c b d hn n1 hl l1 ha hc hb hd
      (fun _ => by exact k6) (fun _ => by exact k7) _ _
      (by rw [if_neg (by decide), if_neg (by decide)]; simp only [show garsUnit 2 = 12 from rfl, hm, gars_latorig]; omega)
      (by rw [if_neg (by decide), if_neg (by decide)]; simp only [show garsUnit 2 = 12 from rfl, hm, gars_lonorig]; omega)

example : (match GARS.decodeInt (toBytes (GARS.encodeInt 2167 1085 2)) true with
    | .ok d => decide (d = ⟨2 * (1085 - 1080) + 1, 2 * (2167 - 2160) + 1, 24, 2⟩) | .error _ => false) = true := by decide +kernel

/-- **`decode_encode_int`, Geohash** (every cell, every length `≤ 18`): decoding the hash of `(ulon, ulat)` returns
the length and the top `⌈5·len/2⌉` bits of `ulon` and the top `⌊5·len/2⌋` bits of `ulat` (as 46-bit numbers) -/
theorem geohash_decode_encode (ulon ulat len : Nat) (hlen : len ≤ 18) :
    Geohash.decodeInt (toBytes (Geohash.encodeInt ulon ulat len)) =
      .ok ⟨ulon / 2 ^ (46 - (5 * len + 1) / 2) % 2 ^ ((5 * len + 1) / 2),
           ulat / 2 ^ (46 - 5 * len / 2) % 2 ^ (5 * len / 2), len⟩ := by
  obtain ⟨h1, h2⟩ := GeohashBits.go_encodeInt ulon ulat len hlen
  unfold Geohash.decodeInt
  have hmin : min Geohash.maxlen (toBytes (Geohash.encodeInt ulon ulat len)).length = len := by
    rw [h1]; show min 18 len = len
    omega
  simp only [hmin]
  rw [List.take_of_length_le (by rw [h1]), h2]
  rfl

/-- for 46-bit cell coordinates the decoded numbers are plain right shifts -/
theorem geohash_decode_encode46 (ulon ulat len : Nat) (hlen : len ≤ 18) (h1 : ulon < 2 ^ 46) (h2 : ulat < 2 ^ 46) :
    Geohash.decodeInt (toBytes (Geohash.encodeInt ulon ulat len)) =
      .ok ⟨ulon >>> (46 - (5 * len + 1) / 2), ulat >>> (46 - 5 * len / 2), len⟩ := by
  rw [geohash_decode_encode ulon ulat len hlen, Nat.shiftRight_eq_div_pow, Nat.shiftRight_eq_div_pow]
  have key : ∀ u k : Nat, u < 2 ^ 46 → k ≤ 46 → u / 2 ^ (46 - k) % 2 ^ k = u / 2 ^ (46 - k) := by
    intro u k hu hk
    apply Nat.mod_eq_of_lt
    rw [Nat.div_lt_iff_lt_mul (Nat.pos_of_ne_zero (by simp))]
    rw [← Nat.pow_add, show k + (46 - k) = 46 by omega]; exact hu
  rw [key ulon _ h1 (by omega), key ulat _ h2 (by omega)]

example : (match Geohash.decodeInt (toBytes (Geohash.encodeInt (2^45 + 12345678901) (2^45 + 333) 7)) with
    | .ok d => decide (d = ⟨(2^45 + 12345678901) >>> 28, (2^45 + 333) >>> 29, 7⟩) | .error _ => false) = true := by decide +kernel

/-! ### Georef: `decodeInt ∘ encodeInt` for every cell and every precision (tile, degree, and the digit loop) -/

/-- one step of the digit loop of `Georef::Reverse` on known digits -/
def georefStep (xd yd : Nat → Nat) (i : Nat) (st : Int × Int × Int) : Int × Int × Int :=
  ((if i ≠ 0 then 10 else 6) * st.1 + (xd i : Int), (if i ≠ 0 then 10 else 6) * st.2.1 + (yd i : Int),
   st.2.2 * (if i ≠ 0 then 10 else 6))

theorem georef_decode_long (s : List Nat) (cp : Bool) (k0 k1 k2 k3 p : Nat) (hp2 : 2 ≤ p) (hp11 : p ≤ 11)
    (hlen : s.length = 4 + 2 * p)
    (h0 : lookup Georef.lontile (s.getD 0 0) = some k0) (h1 : lookup Georef.lattile (s.getD 1 0) = some k1)
    (h2 : lookup Georef.degrees (s.getD 2 0) = some k2) (h3 : lookup Georef.degrees (s.getD 3 0) = some k3)
    (hdig : ((s.drop 4).any fun c => !decide (48 ≤ c ∧ c ≤ 57)) = false)
    (xd yd : Nat → Nat)
    (hxd : ∀ i, i < p → lookup Georef.digits (s.getD (4 + i) 0) = some (xd i))
    (hyd : ∀ i, i < p → lookup Georef.digits (s.getD (4 + i + p) 0) = some (yd i))
    (h6 : xd 0 < 6 ∧ yd 0 < 6) :
    Georef.decodeInt s cp =
      .ok (let st := (List.range p).foldl (fun st i => georefStep xd yd i st)
              (((k0:Int) + -180 / 15) * 15 + k2, ((k1:Int) + -90 / 15) * 15 + k3, 1 * 15)
           ⟨if cp then 2 * st.2.1 + 1 else st.2.1, if cp then 2 * st.1 + 1 else st.1,
            if cp then st.2.2 * 2 else st.2.2, p⟩) := by
  have hlenI : (s.length : Int) = 4 + 2 * p := by exact_mod_cast hlen
  have hprec : (2 + (4 + 2 * (p:Int)) - 4) / 2 - 1 = p := by omega
  have c1 : ¬ (4 + 2 * (p:Int) < 4 - 2) := by omega
  have c2 : 4 + 2 * (p:Int) > 2 := by omega
  have c3 : ¬ (4 + 2 * (p:Int) < 4) := by omega
  have c4 : 4 + 2 * (p:Int) > 4 := by omega
  have c5 : ¬ ((4 + 2 * (p:Int)) % 2 ≠ 0) := by omega
  have c6 : ¬ ((p:Int) = 1) := by omega
  have c7 : ¬ ((p:Int) > 11) := by omega
  have ht : Int.toNat 4 = 4 := rfl
  unfold Georef.decodeInt
  simp only [hlenI, georef_baselen, georef_tile, georef_lonorig, georef_latorig, georef_maxprec, georef_base, h0, h1, h2, h3, hprec,
    c1, c2, c3, c4, c5, c6, c7, ht, hdig, if_true, if_false, Int.toNat_natCast, Bool.false_eq_true, pure_bind]
  rw [GeorefLoop.forIn_yield _ _ _ (georefStep xd yd) (by
    intro i hi st
    have hi' : i < p := List.mem_range.mp hi
    rw [hxd i hi', hyd i hi']
    by_cases h : i = 0
    · subst h
      have a1 : ((xd 0 : Nat) : Int) < 6 := by exact_mod_cast h6.1
      have a2 : ((yd 0 : Nat) : Int) < 6 := by exact_mod_cast h6.2
      simp [georefStep, a1, a2, pure, Except.pure]
    · simp [georefStep, h, pure, Except.pure])]
  cases cp <;> rfl


/-- minutes-and-decimals weight after `j` digits: `1, 6, 60, 600, …` -/
def georefW (j : Nat) : Int := if j = 0 then 1 else 6 * 10 ^ (j - 1)

theorem georefW_succ : ∀ j : Nat, georefW (j + 1) = (if j ≠ 0 then 10 else 6) * georefW j
  | 0 => rfl
  | k + 1 => by
    show (6:Int) * 10 ^ (k + 1) = 10 * (6 * 10 ^ k)
    rw [Int.pow_succ]; omega

theorem georef_fold (p x y : Nat) (hp : 1 ≤ p) (hx : x < 6 * 10 ^ (p - 1)) (hy : y < 6 * 10 ^ (p - 1))
    (lon0 lat0 u0 : Int) (j : Nat) (hj : j ≤ p) :
    (List.range j).foldl (fun st i => georefStep (fun i => x / 10 ^ (p - 1 - i) % 10) (fun i => y / 10 ^ (p - 1 - i) % 10) i st)
        (lon0, lat0, u0)
      = (lon0 * georefW j + ((x / 10 ^ (p - j) : Nat) : Int), lat0 * georefW j + ((y / 10 ^ (p - j) : Nat) : Int),
         u0 * georefW j) := by
  have h10 : (10:Nat) ^ p = 10 * 10 ^ (p - 1) := by
    conv_lhs => rw [show p = (p - 1) + 1 by omega]
    rw [Nat.pow_succ, Nat.mul_comm]
  -- one coordinate: nothing before the first step, then Horner's rule on the digits of `z`, the leading digit being `< 6`
  have start : ∀ z, z < 6 * 10 ^ (p - 1) → ∀ v : Int, v = v * georefW 0 + ((z / 10 ^ (p - 0) : Nat) : Int) := by
    intro z hz v
    rw [Nat.sub_zero, Nat.div_eq_of_lt (by omega), show georefW 0 = 1 from rfl]; omega
  have step : ∀ z, z < 6 * 10 ^ (p - 1) → ∀ (v : Int) (j : Nat), j < p →
      (if j ≠ 0 then 10 else 6) * (v * georefW j + ((z / 10 ^ (p - j) : Nat) : Int)) + ((z / 10 ^ (p - 1 - j) % 10 : Nat) : Int)
        = v * georefW (j + 1) + ((z / 10 ^ (p - (j + 1)) : Nat) : Int) := by
    intro z hz v j hj
    rw [georefW_succ, show p - j = (p - 1 - j) + 1 by omega, Nat.pow_succ, ← Nat.div_div_eq_div_mul,
      show p - (j + 1) = p - 1 - j by omega, Int.mul_left_comm v]
    have hq : j = 0 → z / 10 ^ (p - 1 - j) < 6 := by
      rintro rfl; rw [Nat.sub_zero, Nat.div_lt_iff_lt_mul (by positivity)]; exact hz
    generalize z / 10 ^ (p - 1 - j) = q at hq ⊢
    generalize v * georefW j = V
    by_cases h0 : j = 0
    · have := hq h0
      simp only [h0, ne_eq, not_true_eq_false, if_false]; omega
    · simp only [ne_eq, h0, not_false_eq_true, if_true]; omega
  induction j with
  | zero => rw [List.range_zero, List.foldl_nil, ← start x hx, ← start y hy, show georefW 0 = 1 from rfl, Int.mul_one]
  | succ j ih =>
    rw [List.range_succ, List.foldl_append, ih (by omega)]
    simp only [List.foldl_cons, List.foldl_nil, georefStep]
    rw [step x hx _ j (by omega), step y hy _ j (by omega), georefW_succ]
    rw [Int.mul_assoc u0, Int.mul_comm (georefW j)]

theorem georef_digit_bytes : ∀ k < 10, 48 ≤ (chr Georef.digits k).toNat ∧ (chr Georef.digits k).toNat ≤ 57 := by decide +kernel

theorem georef_digits_any (w n : Nat) :
    ∀ c ∈ toBytes (digitsW Georef.digits 10 w n), 48 ≤ c ∧ c ≤ 57 := by
  intro c hc
  simp only [toBytes, List.mem_map] at hc
  obtain ⟨ch, hch, rfl⟩ := hc
  obtain ⟨k, hk, rfl⟩ := Digits.digitsW_mem Georef.digits 10 (by norm_num) w n ch hch
  exact georef_digit_bytes k hk

theorem getD_four (a b c d : Nat) (rest : List Nat) (i : Nat) : (a :: b :: c :: d :: rest).getD (4 + i) 0 = rest.getD i 0 := by
  rw [Nat.add_comm]; rfl

/-! `Georef.encodeInt` by cases of the precision (`m = 6·10^10` units per degree, 15° tiles) -/

theorem georef_encodeInt_neg (X Y p : ℤ) (hp : p < 0) :
    Georef.encodeInt X Y p =
      [chr Georef.lontile (X / 60000000000 / 15).toNat, chr Georef.lattile (Y / 60000000000 / 15).toNat] := by
  unfold Georef.encodeInt
  simp only [hp, if_true, show Georef.m = 60000000000 from rfl, georef_tile]

theorem georef_encodeInt_zero (X Y : ℤ) :
    Georef.encodeInt X Y 0 =
      [chr Georef.lontile (X / 60000000000 / 15).toNat, chr Georef.lattile (Y / 60000000000 / 15).toNat] ++
      [chr Georef.degrees (X / 60000000000 % 15).toNat, chr Georef.degrees (Y / 60000000000 % 15).toNat] := by
  unfold Georef.encodeInt
  simp only [show Georef.m = 60000000000 from rfl, georef_tile, Int.lt_irrefl, if_false, if_true]

theorem georef_encodeInt_pos (X Y : ℤ) (p : ℕ) (hp : 1 ≤ p) :
    Georef.encodeInt X Y p =
      [chr Georef.lontile (X / 60000000000 / 15).toNat, chr Georef.lattile (Y / 60000000000 / 15).toNat] ++
      [chr Georef.degrees (X / 60000000000 % 15).toNat, chr Georef.degrees (Y / 60000000000 % 15).toNat] ++
      digitsW Georef.digits 10 p ((X - 60000000000 * (X / 60000000000)) / 10 ^ (11 - p)).toNat ++
      digitsW Georef.digits 10 p ((Y - 60000000000 * (Y / 60000000000)) / 10 ^ (11 - p)).toNat := by
  have hpn : ¬ ((p:Int) < 0) := by omega
  have hp0 : ¬ ((p:Int) = 0) := by omega
  unfold Georef.encodeInt
  simp only [hpn, hp0, if_false, show Georef.m = 60000000000 from rfl, georef_tile, georef_base, georef_maxprec,
    Int.toNat_natCast]
  rw [show ((11:Int) - p).toNat = 11 - p by omega]
  rfl

theorem georef_coord (X N O : ℤ) (hX : 0 ≤ X ∧ X < N * 15 * 60000000000) (hO : O % 15 = 0) (p : ℕ) (hp2 : 2 ≤ p)
    (hp11 : p ≤ 11) :
    let i := X / 60000000000
    let xN := ((X - 60000000000 * i) / 10 ^ (11 - p)).toNat
    (0 ≤ i / 15 ∧ i / 15 < N ∧ 0 ≤ i % 15 ∧ i % 15 < 15) ∧ xN < 6 * 10 ^ (p - 1) ∧
    (((((i / 15).toNat : ℕ) : ℤ) + O / 15) * 15 + (((i % 15).toNat : ℕ) : ℤ)) * (6 * 10 ^ (p - 1)) + (xN : ℤ)
      = X / 10 ^ (11 - p) + O * (6 * 10 ^ (p - 1)) := by
  intro i xN
  have hpow : (6:ℤ) * 10 ^ (p - 1) * 10 ^ (11 - p) = 60000000000 := by
    rw [Int.mul_assoc, ← Int.pow_add, show p - 1 + (11 - p) = 10 by omega]; norm_num
  have hpowpos : (0:ℤ) < 10 ^ (11 - p) := by positivity
  have r0 : 0 ≤ X - 60000000000 * i ∧ X - 60000000000 * i < 60000000000 := by omega
  have hq0 : 0 ≤ (X - 60000000000 * i) / 10 ^ (11 - p) := Int.ediv_nonneg r0.1 hpowpos.le
  have hq : (X - 60000000000 * i) / 10 ^ (11 - p) < 6 * 10 ^ (p - 1) :=
    Int.ediv_lt_of_lt_mul hpowpos (by rw [hpow]; exact r0.2)
  have hxN : (xN : ℤ) = (X - 60000000000 * i) / 10 ^ (11 - p) := Int.toNat_of_nonneg hq0
  have key : X / 10 ^ (11 - p) = (X - 60000000000 * i) / 10 ^ (11 - p) + i * (6 * 10 ^ (p - 1)) := by
    have : X = (X - 60000000000 * i) + (i * (6 * 10 ^ (p - 1))) * 10 ^ (11 - p) := by
      rw [Int.mul_assoc, hpow]; omega
    conv_lhs => rw [this]
    rw [Int.add_mul_ediv_right _ _ (ne_of_gt hpowpos)]
  have fx : ((((i / 15).toNat : ℕ) : ℤ) + O / 15) * 15 + (((i % 15).toNat : ℕ) : ℤ) = i + O := by omega
  refine ⟨by omega, ?_, ?_⟩
  · have : ((xN : ℕ) : ℤ) < ((6 * 10 ^ (p - 1) : ℕ) : ℤ) := by rw [hxN]; push_cast; exact hq
    exact_mod_cast this
  · rw [fx, hxN, key]; ring

/-- **`decode_encode_int`, Georef, minutes and finer** (`2 ≤ prec ≤ 11`, every cell, both `centerp`): the decoded
numerators are `⌊X / 10^(11−prec)⌋ + lonorig·W`, `W = 6·10^(prec−1)` cells per degree, over `unit = 15·W` -/
theorem georef_decode_encode_long (X Y : Int) (hX : 0 ≤ X ∧ X < 360 * Georef.m) (hY : 0 ≤ Y ∧ Y < 180 * Georef.m)
    (p : Nat) (hp2 : 2 ≤ p) (hp11 : p ≤ 11) (cp : Bool) :
    Georef.decodeInt (toBytes (Georef.encodeInt X Y p)) cp =
      let W := georefW p
      let lat1 := Y / 10 ^ (11 - p) + georef_latorig * W
      let lon1 := X / 10 ^ (11 - p) + georef_lonorig * W
      .ok ⟨if cp then 2 * lat1 + 1 else lat1, if cp then 2 * lon1 + 1 else lon1,
           if cp then 15 * W * 2 else 15 * W, p⟩ := by
  have hm : Georef.m = 60000000000 := rfl
  rw [hm] at hX hY
  obtain ⟨ix, hxlt, hxe⟩ := georef_coord X 24 georef_lonorig (by omega) (by decide) p hp2 hp11
  obtain ⟨iy, hylt, hye⟩ := georef_coord Y 12 georef_latorig (by omega) (by decide) p hp2 hp11
  rw [georef_encodeInt_pos X Y p (by omega)]
  set ilon := X / 60000000000 with hilon
  set ilat := Y / 60000000000 with hilat
  set xN := ((X - 60000000000 * ilon) / 10 ^ (11 - p)).toNat with hxN
  set yN := ((Y - 60000000000 * ilat) / 10 ^ (11 - p)).toNat with hyN
  simp only [toBytes, List.map_append, List.cons_append, List.nil_append, List.map_cons]
  have hdx : (List.map Char.toNat (digitsW Georef.digits 10 p xN)) = toBytes (digitsW Georef.digits 10 p xN) := rfl
  have hdy : (List.map Char.toNat (digitsW Georef.digits 10 p yN)) = toBytes (digitsW Georef.digits 10 p yN) := rfl
  rw [hdx, hdy]
  have lx : (toBytes (digitsW Georef.digits 10 p xN)).length = p := by simp [toBytes, Digits.digitsW_length]
  have ly : (toBytes (digitsW Georef.digits 10 p yN)).length = p := by simp [toBytes, Digits.digitsW_length]
  rw [georef_decode_long ((chr Georef.lontile (ilon / 15).toNat).toNat ::
        (chr Georef.lattile (ilat / 15).toNat).toNat ::
          (chr Georef.degrees (ilon % 15).toNat).toNat ::
            (chr Georef.degrees (ilat % 15).toNat).toNat ::
              (toBytes (digitsW Georef.digits 10 p xN) ++ toBytes (digitsW Georef.digits 10 p yN)))
    cp (ilon / 15).toNat (ilat / 15).toNat (ilon % 15).toNat (ilat % 15).toNat p hp2 hp11
    (by simp only [List.length_cons, List.length_append, lx, ly]; omega)
    (georef_lontile_lookup _ (by omega)) (georef_lattile_lookup _ (by omega))
    (georef_degrees_lookup _ (by omega)) (georef_degrees_lookup _ (by omega))
    (by
      simp only [List.drop_succ_cons, List.drop_zero]
      rw [List.any_eq_false]
      intro c hc
      rcases List.mem_append.mp hc with h | h
      · have := georef_digits_any p xN c h; simp [this]
      · have := georef_digits_any p yN c h; simp [this])
    (fun i => xN / 10 ^ (p - 1 - i) % 10) (fun i => yN / 10 ^ (p - 1 - i) % 10)
    (by
      intro i hi
      rw [getD_four, List.getD_eq_getElem?_getD, List.getElem?_append_left (by rw [lx]; exact hi),
        ← List.getD_eq_getElem?_getD, GeorefLoop.digitsW_getD _ _ _ _ _ hi]
      exact georef_digits_lookup _ (Nat.mod_lt _ (by norm_num)))
    (by
      intro i hi
      rw [Nat.add_assoc, getD_four, List.getD_eq_getElem?_getD, List.getElem?_append_right (by rw [lx]; omega), lx,
        show i + p - p = i by omega, ← List.getD_eq_getElem?_getD, GeorefLoop.digitsW_getD _ _ _ _ _ hi]
      exact georef_digits_lookup _ (Nat.mod_lt _ (by norm_num)))
    (by
      have lead : ∀ n, n < 6 * 10 ^ (p - 1) → n / 10 ^ (p - 1 - 0) % 10 < 6 := by
        intro n hn
        have : n / 10 ^ (p - 1) < 6 := by rw [Nat.div_lt_iff_lt_mul (by positivity)]; exact hn
        rw [Nat.sub_zero, Nat.mod_eq_of_lt (by omega)]; exact this
      exact ⟨lead xN hxlt, lead yN hylt⟩)]
  rw [georef_fold p xN yN (by omega) hxlt hylt _ _ _ p (Nat.le_refl _)]
  have hW : georefW p = 6 * 10 ^ (p - 1) := by unfold georefW; rw [if_neg (by omega)]
  simp only [georef_latorig, georef_lonorig] at hxe hye ⊢
  rw [Nat.sub_self, Nat.pow_zero, Nat.div_one, Nat.div_one, hW, hxe, hye, Int.one_mul]

/-- the last step of `Georef::Reverse`, `if (centerp)`, on the components -/
theorem georef_centre (cp : Bool) (lat lon u p : Int) :
    (if cp = true then pure ⟨2 * lat + 1, 2 * lon + 1, u * 2, p⟩ else pure ⟨lat, lon, u, p⟩ : Except Err Georef.Dec) =
      .ok ⟨if cp then 2 * lat + 1 else lat, if cp then 2 * lon + 1 else lon, if cp then u * 2 else u, p⟩ := by
  cases cp <;> rfl

/-- `lat`, `lon` are the numerators in units of 15° -/
theorem georef_decodeInt_tile (s : List Nat) (cp : Bool) (hl : s.length = 2) (k0 k1 : Nat)
    (h0 : lookup Georef.lontile (s.getD 0 0) = some k0) (h1 : lookup Georef.lattile (s.getD 1 0) = some k1)
    (lat lon : Int) (hlat : lat = k1 + georef_latorig / georef_tile) (hlon : lon = k0 + georef_lonorig / georef_tile) :
    Georef.decodeInt s cp =
      .ok ⟨if cp then 2 * lat + 1 else lat, if cp then 2 * lon + 1 else lon, if cp then 2 else 1, -1⟩ := by
  have a1 : ¬ ((s.length : Int) < georef_baselen - 2) := by show ¬ ((s.length : Int) < 4 - 2); omega
  have a2 : ¬ ((s.length : Int) > 2) := by omega
  have hp : (2 + (s.length : Int) - georef_baselen) / 2 - 1 = -1 := by show (2 + (s.length : Int) - 4) / 2 - 1 = -1; omega
  unfold Georef.decodeInt
  simp only [a1, a2, hp, h0, h1, pure_bind, ↓reduceIte, ← hlat, ← hlon]
  exact georef_centre cp lat lon 1 (-1)

/-- `lat`, `lon` are the numerators in degrees (`unit = 15` per 15°) -/
theorem georef_decodeInt_degree (s : List Nat) (cp : Bool) (hl : s.length = 4) (k0 k1 k2 k3 : Nat)
    (h0 : lookup Georef.lontile (s.getD 0 0) = some k0) (h1 : lookup Georef.lattile (s.getD 1 0) = some k1)
    (h2 : lookup Georef.degrees (s.getD 2 0) = some k2) (h3 : lookup Georef.degrees (s.getD 3 0) = some k3)
    (lat lon : Int) (hlat : lat = (k1 + georef_latorig / georef_tile) * georef_tile + k3)
    (hlon : lon = (k0 + georef_lonorig / georef_tile) * georef_tile + k2) :
    Georef.decodeInt s cp =
      .ok ⟨if cp then 2 * lat + 1 else lat, if cp then 2 * lon + 1 else lon, if cp then 30 else 15, 0⟩ := by
  have a1 : ¬ ((s.length : Int) < georef_baselen - 2) := by show ¬ ((s.length : Int) < 4 - 2); omega
  have a2 : (s.length : Int) > 2 := by omega
  have a3 : ¬ ((s.length : Int) < 4) := by omega
  have a4 : ¬ ((s.length : Int) > georef_baselen) := by show ¬ ((s.length : Int) > 4); omega
  have hp : (2 + (s.length : Int) - georef_baselen) / 2 - 1 = 0 := by show (2 + (s.length : Int) - 4) / 2 - 1 = 0; omega
  unfold Georef.decodeInt
  simp only [a1, a2, a3, a4, hp, h0, h1, h2, h3, pure_bind, ↓reduceIte, ← hlat, ← hlon]
  exact georef_centre cp lat lon 15 0

/-- **`decode_encode_int`, Georef, 15° tiles** (`prec < 0`): 2 letters, `unit = 1` (per 15°), precision `−1` -/
theorem georef_decode_encode_tile (X Y : Int) (hX : 0 ≤ X ∧ X < 360 * Georef.m) (hY : 0 ≤ Y ∧ Y < 180 * Georef.m)
    (prec : Int) (hp : prec < 0) (cp : Bool) :
    Georef.decodeInt (toBytes (Georef.encodeInt X Y prec)) cp =
      let lat1 := Y / (15 * Georef.m) + georef_latorig / 15
      let lon1 := X / (15 * Georef.m) + georef_lonorig / 15
      .ok ⟨if cp then 2 * lat1 + 1 else lat1, if cp then 2 * lon1 + 1 else lon1, if cp then 2 else 1, -1⟩ := by
  have hm : Georef.m = 60000000000 := rfl
  rw [hm] at hX hY
  rw [georef_encodeInt_neg X Y prec hp, hm]
  have l0 := georef_lontile_lookup (X / 60000000000 / 15).toNat (by omega)
  have l1 := georef_lattile_lookup (Y / 60000000000 / 15).toNat (by omega)
  exact georef_decodeInt_tile _ cp rfl _ _ (by exact l0) (by exact l1) _ _
    (by simp only [georef_tile]; omega) (by simp only [georef_tile]; omega)

/-- **`decode_encode_int`, Georef, degrees** (`prec = 0`): 4 letters, `unit = 15` (per 15°), precision `0` -/
theorem georef_decode_encode_degree (X Y : Int) (hX : 0 ≤ X ∧ X < 360 * Georef.m) (hY : 0 ≤ Y ∧ Y < 180 * Georef.m)
    (cp : Bool) :
    Georef.decodeInt (toBytes (Georef.encodeInt X Y 0)) cp =
      let lat1 := Y / Georef.m + georef_latorig
      let lon1 := X / Georef.m + georef_lonorig
      .ok ⟨if cp then 2 * lat1 + 1 else lat1, if cp then 2 * lon1 + 1 else lon1, if cp then 30 else 15, 0⟩ := by
  have hm : Georef.m = 60000000000 := rfl
  rw [hm] at hX hY
  rw [georef_encodeInt_zero, hm]
  have l0 := georef_lontile_lookup (X / 60000000000 / 15).toNat (by omega)
  have l1 := georef_lattile_lookup (Y / 60000000000 / 15).toNat (by omega)
  have l2 := georef_degrees_lookup (X / 60000000000 % 15).toNat (by omega)
  have l3 := georef_degrees_lookup (Y / 60000000000 % 15).toNat (by omega)
  exact georef_decodeInt_degree _ cp rfl _ _ _ _ (by exact l0) (by exact l1) (by exact l2) (by exact l3) _ _
    (by simp only [georef_latorig, georef_tile]; omega) (by simp only [georef_lonorig, georef_tile]; omega)

example : (match Georef.decodeInt (toBytes (Georef.encodeInt (183 * 60000000000 + 12345678901) (95 * 60000000000 + 7) 5)) false with
    | .ok d => decide (d = ⟨(95 * 60000000000 + 7) / 10 ^ 6 - 90 * 60000, (183 * 60000000000 + 12345678901) / 10 ^ 6 - 180 * 60000,
        15 * 60000, 5⟩) | .error _ => false) = true := by decide +kernel

/-! ### end to end on the exact cell: `Reverse ∘ ForwardExact` contains the point -/

theorem ediv_bracket (X D : ℤ) (hD : 0 < D) (z : ℚ) (h1 : (X:ℚ) ≤ z * D) (h2 : z * D < (X:ℚ) + 1) :
    ((X / D : ℤ) : ℚ) ≤ z ∧ z < ((X / D : ℤ) : ℚ) + 1 := by
  have hDq : (0:ℚ) < (D:ℚ) := by exact_mod_cast hD
  have a1 : ((X / D : ℤ) : ℚ) * D ≤ X := by exact_mod_cast Int.ediv_mul_le X (ne_of_gt hD)
  have a2 : (X:ℚ) + 1 ≤ (((X / D : ℤ) : ℚ) + 1) * D := by
    have := Int.lt_ediv_add_one_mul_self X hD
    exact_mod_cast (by omega : X + 1 ≤ (X / D + 1) * D)
  exact ⟨le_of_mul_le_mul_right (by linarith) hDq, lt_of_mul_lt_mul_right (by linarith) hDq.le⟩

theorem cell_coarsen (X D W B m : ℤ) (hm : W * D = m) (hD : 0 < D) (hW : 0 < W) (a : ℚ)
    (h1 : ((X + B * m : ℤ) : ℚ) ≤ a * (m:ℚ)) (h2 : a * (m:ℚ) < ((X + B * m : ℤ) : ℚ) + 1) :
    ((X / D + B * W : ℤ) : ℚ) / (W:ℚ) ≤ a ∧ a < (((X / D + B * W : ℤ) : ℚ) + 1) / (W:ℚ) := by
  have hWq : (0:ℚ) < (W:ℚ) := by exact_mod_cast hW
  subst hm
  push_cast at h1 h2
  have e : (a - B) * W * D = a * (W * D) - B * (W * D) := by ring
  obtain ⟨e1, e2⟩ := ediv_bracket X D hD ((a - B) * W) (by rw [e]; linarith) (by rw [e]; linarith)
  rw [div_le_iff₀ hWq, lt_div_iff₀ hWq]
  push_cast
  constructor <;> linarith

/-- **the decoded cell of the exact code contains the point** (GARS, every accepted finite position, every precision):
`Reverse(ForwardExact(lat, lon, prec))` on the integer level is the cell `[lon1/u, (lon1+1)/u) × [lat1/u, (lat1+1)/u)`
(degrees, `u = garsUnit prec`) and it contains the prepared position `(prepLon lon, prepLat lat)`.
(`Forward` itself codes this cell or — in the circumstance described by `gars_scale_contains` — a neighbour: F2.) -/
theorem gars_cell_contains (lat lon : F64) (h1 : F64.gt (F64.abs lat) MathF.qd = false)
    (h2 : (lat.isNaN || !lon.isFinite) = false) (hf : lon.isFinite = true) (prec : Nat) (hp : prec ≤ 2) :
    ∃ X Y : ℤ, GARS.scaleExact lat lon = .ok (some (X, Y)) ∧
      ∃ d : GARS.Dec, GARS.decodeInt (toBytes (GARS.encodeInt X Y prec)) false = .ok d ∧
        d.prec = prec ∧ d.unit = garsUnit prec ∧
        (d.lon1 : ℚ) / d.unit ≤ (prepLon lon).val ∧ (prepLon lon).val < ((d.lon1 : ℚ) + 1) / d.unit ∧
        (d.lat1 : ℚ) / d.unit ≤ (prepLat lat).val ∧ (prepLat lat).val < ((d.lat1 : ℚ) + 1) / d.unit := by
  obtain ⟨X, Y, X', Y', hE, _, hX, _, hY, hY0, hY1⟩ := gars_scale_contains lat lon h1 h2
  obtain ⟨⟨⟨cx1, cx2⟩, _⟩, hX0, hX1⟩ := hX hf
  obtain ⟨⟨cy1, cy2⟩, _⟩ := hY
  rw [(F64.hasVal_ofInt GARS.m).2] at cx1 cx2 cy1 cy2
  have hu : garsUnit prec * (GARS.m / garsUnit prec) = GARS.m ∧ 0 < GARS.m / garsUnit prec ∧ 0 < garsUnit prec := by
    obtain rfl | rfl | rfl : prec = 0 ∨ prec = 1 ∨ prec = 2 := by omega
    all_goals decide
  obtain ⟨a1, a2⟩ := cell_coarsen X _ _ gars_lonorig GARS.m hu.1 hu.2.1 hu.2.2 _ cx1 cx2
  obtain ⟨b1, b2⟩ := cell_coarsen Y _ _ gars_latorig GARS.m hu.1 hu.2.1 hu.2.2 _ cy1 cy2
  exact ⟨X, Y, hE, _, gars_decode_encode X Y ⟨hX0, hX1⟩ ⟨hY0, hY1⟩ prec hp false, rfl, rfl, a1, a2, b1, b2⟩

/-- **the decoded cell of the exact code contains the point** (Georef, minutes and finer, `2 ≤ prec ≤ 11`):
the decoded numerators over `W = 6·10^(prec−1)` cells per degree bracket the prepared position. -/
theorem georef_cell_contains (lat lon : F64) (h1 : F64.gt (F64.abs lat) MathF.qd = false)
    (h2 : (lat.isNaN || !lon.isFinite) = false) (hf : lon.isFinite = true) (p : Nat) (hp2 : 2 ≤ p) (hp11 : p ≤ 11) :
    ∃ X Y : ℤ, Georef.scaleExact lat lon = .ok (some (X, Y)) ∧
      ∃ d : Georef.Dec, Georef.decodeInt (toBytes (Georef.encodeInt X Y p)) false = .ok d ∧
        d.prec = p ∧ d.unit = 15 * georefW p ∧
        (d.lon1 : ℚ) / (georefW p : ℚ) ≤ (prepLon lon).val ∧ (prepLon lon).val < ((d.lon1 : ℚ) + 1) / (georefW p : ℚ) ∧
        (d.lat1 : ℚ) / (georefW p : ℚ) ≤ (prepLat lat).val ∧ (prepLat lat).val < ((d.lat1 : ℚ) + 1) / (georefW p : ℚ) := by
  obtain ⟨X, Y, X', Y', hE, _, hX, _, hY, hY0, hY1⟩ := georef_scale_contains lat lon h1 h2
  obtain ⟨⟨⟨cx1, cx2⟩, _⟩, hX0, hX1⟩ := hX hf
  obtain ⟨⟨cy1, cy2⟩, _⟩ := hY
  rw [(F64.hasVal_ofInt Georef.m).2] at cx1 cx2 cy1 cy2
  have hW : georefW p = 6 * 10 ^ (p - 1) := by unfold georefW; rw [if_neg (by omega)]
  have hm : georefW p * 10 ^ (11 - p) = Georef.m := by
    rw [hW, mul_assoc, ← pow_add, show p - 1 + (11 - p) = 10 by omega]; rfl
  have hWpos : 0 < georefW p := by rw [hW]; positivity
  obtain ⟨a1, a2⟩ := cell_coarsen X _ _ georef_lonorig Georef.m hm (by positivity) hWpos _ cx1 cx2
  obtain ⟨b1, b2⟩ := cell_coarsen Y _ _ georef_latorig Georef.m hm (by positivity) hWpos _ cy1 cy2
  exact ⟨X, Y, hE, _, georef_decode_encode_long X Y ⟨hX0, hX1⟩ ⟨hY0, hY1⟩ p hp2 hp11 false, rfl, rfl, a1, a2, b1, b2⟩

section GeohashCell
open F64

theorem shift_cell (n : ℤ) (h1 : -(2:ℤ) ^ 45 ≤ n) (h2 : n < 2 ^ 45) :
    ∃ U : ℕ, U = (n + 2 ^ 45).toNat ∧ (U:ℚ) = (n:ℚ) + (2:ℚ) ^ 45 ∧ U < 2 ^ 46 ∧
      ∀ j : ℕ, (((U >>> j : ℕ) : ℚ) * (2:ℚ) ^ j ≤ (U:ℚ)) ∧ ((U:ℚ) + 1 ≤ (((U >>> j : ℕ) : ℚ) + 1) * (2:ℚ) ^ j) := by
  refine ⟨(n + 2 ^ 45).toNat, rfl, ?_, by omega, fun j => ?_⟩
  · have a3 : (((n + 2 ^ 45).toNat : ℕ) : ℤ) = n + 2 ^ 45 := by omega
    have := congrArg (Int.cast : ℤ → ℚ) a3
    simp only [Int.cast_add, Int.cast_pow, Int.cast_ofNat, Int.cast_natCast] at this
    exact this
  · generalize (n + 2 ^ 45).toNat = U
    rw [Nat.shiftRight_eq_div_pow]
    have hp : 0 < 2 ^ j := Nat.pos_of_ne_zero (by simp)
    have c1 : U / 2 ^ j * 2 ^ j ≤ U := Nat.div_mul_le_self _ _
    have c2 : U + 1 ≤ (U / 2 ^ j + 1) * 2 ^ j := by
      have := Nat.lt_div_mul_add (a := U) hp
      rw [Nat.add_mul, Nat.one_mul]; omega
    constructor
    · exact_mod_cast c1
    · exact_mod_cast c2

/-- **the decoded cell of the exact hash contains the point** (Geohash, every accepted finite position, every length):
with `z = lon'·2^45/180` (the longitude in units of `loneps`, `lon' = prepLon lon`) the decoded column `d.ulon` of
`2^(46−k)` units, `k = ⌈5·len/2⌉`, satisfies `d.ulon·2^(46−k) − 2^45 ≤ z < (d.ulon+1)·2^(46−k) − 2^45`; the same in
latitude with `k = ⌊5·len/2⌋` away from the pole, and the pole is in the last row. -/
theorem geohash_cell_contains (lat lon : F64) (h1 : F64.gt (F64.abs lat) MathF.qd = false)
    (h2 : (lat.isNaN || !lon.isFinite) = false) (hf : lon.isFinite = true) (len : Nat) (hlen : len ≤ 18) :
    ∃ ulon ulat : ℕ, Geohash.scaleExact lat lon = some (ulon, ulat) ∧
      ∃ d : Geohash.Dec, Geohash.decodeInt (toBytes (Geohash.encodeInt ulon ulat len)) = .ok d ∧ d.len = len ∧
        ((d.ulon : ℚ) * (2:ℚ) ^ (46 - (5 * len + 1) / 2) - (2:ℚ) ^ 45 ≤ (prepLon lon).val * (2:ℚ) ^ (45:ℕ) / 180 ∧
         (prepLon lon).val * (2:ℚ) ^ (45:ℕ) / 180 < ((d.ulon : ℚ) + 1) * (2:ℚ) ^ (46 - (5 * len + 1) / 2) - (2:ℚ) ^ 45) ∧
        (lat.val ≠ 90 →
         (d.ulat : ℚ) * (2:ℚ) ^ (46 - 5 * len / 2) - (2:ℚ) ^ 45 ≤ lat.val * (2:ℚ) ^ (45:ℕ) / 90 ∧
         lat.val * (2:ℚ) ^ (45:ℕ) / 90 < ((d.ulat : ℚ) + 1) * (2:ℚ) ^ (46 - 5 * len / 2) - (2:ℚ) ^ 45) ∧
        (lat.val = 90 → d.ulat = (2 ^ 46 - 1) >>> (46 - 5 * len / 2)) := by
  obtain ⟨nx, ny, cx, cy, hE, _, ⟨x1, x2⟩, ⟨y1, y2⟩, ⟨⟨zx1, zx2⟩, _⟩, hpole, hnp⟩ :=
    geohash_scale_contains lat lon h1 h2 hf
  obtain ⟨U, hU, uq, ult, ucell⟩ := shift_cell nx x1 x2
  obtain ⟨V, hV, vq, vlt, vcell⟩ := shift_cell ny y1 y2
  rw [← hU, ← hV] at hE
  refine ⟨U, V, hE, _, geohash_decode_encode46 U V len hlen ult vlt, rfl, ?_, ?_, ?_⟩
  · obtain ⟨c1, c2⟩ := ucell (46 - (5 * len + 1) / 2)
    constructor
    · show ((U >>> (46 - (5 * len + 1) / 2) : ℕ) : ℚ) * _ - _ ≤ _
      linarith only [c1, uq, zx1]
    · show _ < (((U >>> (46 - (5 * len + 1) / 2) : ℕ) : ℚ) + 1) * _ - _
      linarith only [c2, uq, zx2]
  · intro hne
    obtain ⟨⟨zy1, zy2⟩, _⟩ := hnp hne
    obtain ⟨c1, c2⟩ := vcell (46 - 5 * len / 2)
    constructor
    · show ((V >>> (46 - 5 * len / 2) : ℕ) : ℚ) * _ - _ ≤ _
      linarith only [c1, vq, zy1]
    · show _ < (((V >>> (46 - 5 * len / 2) : ℕ) : ℚ) + 1) * _ - _
      linarith only [c2, vq, zy2]
  · intro hv
    obtain ⟨e1, _⟩ := hpole hv
    show V >>> (46 - 5 * len / 2) = _
    have : V = 2 ^ 46 - 1 := by rw [hV, e1]; rfl
    rw [this]

end GeohashCell

/-! ### Georef: prefix law across all precisions -/

/-- **prefix law, Georef, tiles → degrees → minutes**: the 2-letter code is a prefix of the 4-letter code, which is a
prefix of every finer code (all cells) -/
theorem georef_prefix_coarse (X Y : ℤ) (p : ℤ) (hp : 0 ≤ p) :
    Georef.encodeInt X Y (-1) <+: Georef.encodeInt X Y 0 ∧ Georef.encodeInt X Y 0 <+: Georef.encodeInt X Y p := by
  obtain ⟨k, rfl⟩ := Int.eq_ofNat_of_zero_le hp
  refine ⟨by rw [georef_encodeInt_neg X Y (-1) (by norm_num), georef_encodeInt_zero]; exact List.prefix_append _ _, ?_⟩
  rcases Nat.eq_zero_or_pos k with rfl | hk
  · exact List.prefix_refl _
  · rw [georef_encodeInt_zero, georef_encodeInt_pos X Y k hk, List.append_assoc]
    exact List.prefix_append _ _

/-- **prefix law, Georef, minutes and decimals** (`2 ≤ p`, `p + 1 ≤ 11`, every cell): tile, degree letters and easting
digits at precision `p` are a prefix of the code at `p + 1`; the northing digits are a prefix of the finer northing digits -/
theorem georef_prefix (X Y : ℤ) (p : ℕ) (hp2 : 2 ≤ p) (hp : p + 1 ≤ 11) :
    (Georef.encodeInt X Y p).take (4 + p) <+: Georef.encodeInt X Y (p + 1 : ℕ) ∧
    (Georef.encodeInt X Y p).drop (4 + p) <+: (Georef.encodeInt X Y (p + 1 : ℕ)).drop (4 + (p + 1)) := by
  rw [georef_encodeInt_pos X Y p (by omega), georef_encodeInt_pos X Y (p + 1) (by omega),
    show 11 - p = 11 - (p + 1) + 1 by omega]
  set ilon := X / 60000000000
  set ilat := Y / 60000000000
  set D : ℤ := 10 ^ (11 - (p + 1)) with hD
  have hDpos : 0 < D := by positivity
  have hpow : (10:ℤ) ^ (11 - (p + 1) + 1) = D * 10 := by rw [pow_succ]
  rw [hpow]
  have key : ∀ a : ℤ, (a / (D * 10)).toNat = (a / D).toNat / 10 := by
    intro a
    rw [← Int.ediv_ediv_of_nonneg (le_of_lt hDpos)]
    generalize a / D = q
    rcases lt_or_ge q 0 with h | h
    · have h1 : q / 10 < 0 := Int.ediv_neg_of_neg_of_pos h (by norm_num)
      rw [Int.toNat_of_nonpos (le_of_lt h1), Int.toNat_of_nonpos (le_of_lt h)]
    · obtain ⟨k, rfl⟩ := Int.eq_ofNat_of_zero_le h
      norm_cast
  rw [key, key]
  set xq := ((X - 60000000000 * ilon) / D).toNat
  set yq := ((Y - 60000000000 * ilat) / D).toNat
  exact GeorefLoop.fields_prefix [chr Georef.lontile (ilon / 15).toNat, chr Georef.lattile (ilat / 15).toNat,
    chr Georef.degrees (ilon % 15).toNat, chr Georef.degrees (ilat % 15).toNat] Georef.digits 10 p xq yq

example : String.ofList (Georef.encodeInt (183 * 60000000000 + 12345678901) (95 * 60000000000 + 7) 3) = "NGDF123000" ∧
    String.ofList (Georef.encodeInt (183 * 60000000000 + 12345678901) (95 * 60000000000 + 7) 4) = "NGDF12340000" := by decide +kernel

/-! ### resolution / precision helper functions; values returned by the decoders (`centerp` arithmetic) -/
section Helpers
open GridHelpers F64

/-- `Geohash::LatitudeResolution / LongitudeResolution`: `180/2^⌊5c/2⌋`, `360/2^⌈5c/2⌉`, `c` = length clamped to `[0, 18]`; exact -/
theorem geohash_resolution_val (len : ℤ) :
    (Geohash.latRes len).val = 180 / (2:ℚ) ^ (5 * Geohash.clampLen len / 2) ∧
    (Geohash.lonRes len).val = 360 / (2:ℚ) ^ (5 * Geohash.clampLen len - 5 * Geohash.clampLen len / 2) := by
  unfold Geohash.latRes Geohash.lonRes
  rw [show MathF.hd.toDy.m.toNat = 180 from rfl, show MathF.td.toDy.m.toNat = 360 from rfl, val_fin, val_fin]
  simp only [Bool.false_eq_true, if_false]
  constructor <;> rw [zpow_neg, zpow_natCast] <;> push_cast <;> rw [div_eq_mul_inv]
/-- both resolutions are non-increasing in the length (all integers, clamping included) -/
theorem geohash_resolution_antitone (a b : ℤ) (h : a ≤ b) :
    (Geohash.latRes b).val ≤ (Geohash.latRes a).val ∧ (Geohash.lonRes b).val ≤ (Geohash.lonRes a).val := by
  obtain ⟨a1, a2⟩ := geohash_resolution_val a
  obtain ⟨b1, b2⟩ := geohash_resolution_val b
  have hc := clampLen_mono h
  rw [a1, a2, b1, b2]
  constructor
  · apply div_le_div_of_nonneg_left (by norm_num) (by positivity)
    exact pow_le_pow_right₀ (by norm_num) (by omega)
  · apply div_le_div_of_nonneg_left (by norm_num) (by positivity)
    exact pow_le_pow_right₀ (by norm_num) (by omega)
/-- the resolutions are the extents of the cells of `geohash_cell_contains`: `2^(46−k)` units of `180/2^45` (longitude,
`k = ⌈5·len/2⌉` bits) resp. `90/2^45` (latitude, `k = ⌊5·len/2⌋` bits) -/
theorem geohash_resolution_is_cell (len : ℕ) (h : len ≤ 18) :
    (Geohash.lonRes len).val = (2:ℚ) ^ (46 - (5 * len + 1) / 2) * (180 / (2:ℚ) ^ (45:ℕ)) ∧
    (Geohash.latRes len).val = (2:ℚ) ^ (46 - 5 * len / 2) * (90 / (2:ℚ) ^ (45:ℕ)) := by
  obtain ⟨a1, a2⟩ := geohash_resolution_val len
  have hc : Geohash.clampLen (len : ℤ) = len := by
    have := clampLen_eq len
    omega
  rw [a1, a2, hc]
  have k1 : 5 * len - 5 * len / 2 = (5 * len + 1) / 2 := by omega
  rw [k1]
  constructor
  · have : (2:ℚ) ^ (45:ℕ) * 2 = (2:ℚ) ^ (46 - (5 * len + 1) / 2) * (2:ℚ) ^ ((5 * len + 1) / 2) := by
      rw [← pow_add, show 46 - (5 * len + 1) / 2 + (5 * len + 1) / 2 = 46 by omega]; norm_num
    field_simp
    linear_combination 180 * this
  · have : (2:ℚ) ^ (45:ℕ) * 2 = (2:ℚ) ^ (46 - 5 * len / 2) * (2:ℚ) ^ (5 * len / 2) := by
      rw [← pow_add, show 46 - 5 * len / 2 + 5 * len / 2 = 46 by omega]; norm_num
    field_simp
    linear_combination 90 * this
/-- **`GeohashLength(res)` is the least length whose longitude resolution is `≤ |res|`**, 18 if there is none below 18
(every `res`, including NaN, ±∞, 0) -/
theorem geohash_length_is_least (res : F64) :
    let L := Geohash.lengthFor res
    0 ≤ L ∧ L ≤ 18 ∧ (L < 18 → F64.le (Geohash.lonRes L) (F64.abs res) = true) ∧
    ∀ l : ℕ, (l : ℤ) < L → F64.le (Geohash.lonRes l) (F64.abs res) = false := by
  intro L
  have hl : Geohash.lens = [0, 1, 2, 3, 4, 5, 6, 7, 8, 9, 10, 11, 12, 13, 14, 15, 16, 17] := by decide +kernel
  obtain ⟨hmem, hok, hlow⟩ := firstOr_least (fun len => F64.le (Geohash.lonRes len) (F64.abs res)) Geohash.lens
    (Geohash.maxlen : ℤ) (by rw [hl]; decide)
  change L ∈ _ at hmem
  change L ≠ _ → F64.le (Geohash.lonRes L) _ = true at hok
  change ∀ a ∈ _, a < L → _ at hlow
  rw [hl] at hmem hlow
  rw [show ((Geohash.maxlen : ℕ) : ℤ) = 18 from rfl] at hmem hok
  simp only [List.mem_append, List.mem_cons, List.not_mem_nil, or_false] at hmem hlow
  exact ⟨by omega, by omega, fun h => hok (by omega), fun l hlt => hlow l (by omega) hlt⟩
/-- `GeohashLength(LongitudeResolution(l)) = l` and `GeohashLength(LatitudeResolution(l), LongitudeResolution(l)) = l`, `l = 0..18` -/
theorem geohash_length_of_resolution : ∀ l : Fin 19,
    Geohash.lengthFor (Geohash.lonRes (l.val : ℤ)) = l.val ∧
    Geohash.lengthFor2 (Geohash.latRes (l.val : ℤ)) (Geohash.lonRes (l.val : ℤ)) = l.val := by decide +kernel
/-- `DecimalPrecision(len) = −⌊log₁₀(180/2^⌊5·len/2⌋)⌋`, in integers, `len = 0..18` -/
theorem geohash_decimal_precision : ∀ l : Fin 19,
    let d := Geohash.decimalPrecision (l.val : ℤ)
    let k := 5 * l.val / 2
    (if 0 ≤ d then 2 ^ k ≤ 180 * 10 ^ d.toNat else 2 ^ k * 10 ^ (-d).toNat ≤ 180) ∧
    (if 1 ≤ d then 180 * 10 ^ (d - 1).toNat < 2 ^ k else 180 < 2 ^ k * 10 ^ (1 - d).toNat) :=
  geohash_decimal_precision_spec

/-- `GARS::Resolution`: `1/2`, `1/4` exactly; `1/12` correctly rounded -/
theorem gars_resolution (prec : ℤ) :
    (prec ≤ 0 → (GARS.resolution prec).val = 1 / 2) ∧ (prec = 1 → (GARS.resolution prec).val = 1 / 4) ∧
    (2 ≤ prec → IsRN 53 (-1074) (1 / 12) (GARS.resolution prec).val) := by
  refine ⟨fun h => ?_, fun h => ?_, fun h => ?_⟩
  · have : GARS.resolution prec = F64.ofInt 1 / F64.ofInt 2 := by
      unfold GARS.resolution; rw [if_pos h]; rfl
    rw [this]
    obtain ⟨r, _, hv, hex⟩ := int_div_val 1 2 (by norm_num) (by norm_num [abs_le])
    rw [hv.2, hex 1 (-1) (by norm_num) (by norm_num) (by rw [zpow_neg]; norm_num)]
    norm_num
  · have : GARS.resolution prec = F64.ofInt 1 / F64.ofInt 4 := by
      unfold GARS.resolution; rw [if_neg (by omega), if_pos h]; rfl
    rw [this]
    obtain ⟨r, _, hv, hex⟩ := int_div_val 1 4 (by norm_num) (by norm_num [abs_le])
    rw [hv.2, hex 1 (-2) (by norm_num) (by norm_num) (by rw [zpow_neg]; norm_num)]
    norm_num
  · have : GARS.resolution prec = (1 : F64) / F64.ofInt 12 := by
      unfold GARS.resolution; rw [if_neg (by omega), if_neg (by omega)]; rfl
    rw [this]
    obtain ⟨r, hr, hv⟩ := (hasVal_div_rn hasVal_one (hasVal_ofInt 12) (by norm_num)).small (by norm_num [abs_le])
    rw [show ((12:ℤ):ℚ) = 12 by norm_num] at hr
    rw [hv.2]; exact hr
/-- `GARS::Precision(res)` is the least precision whose resolution is `≤ |res|`, 2 if neither 0 nor 1 is -/
theorem gars_precision_is_least (res : F64) :
    let P := GARS.precision res
    0 ≤ P ∧ P ≤ 2 ∧ (P < 2 → F64.le (GARS.resolution P) (F64.abs res) = true) ∧
    ∀ q : ℕ, (q : ℤ) < P → F64.le (GARS.resolution q) (F64.abs res) = false := by
  intro P
  obtain ⟨hmem, hok, hlow⟩ := firstOr_least (fun p => F64.le (GARS.resolution p) (F64.abs res)) [0, 1] 2 (by decide)
  change P ∈ _ at hmem
  change P ≠ _ → F64.le (GARS.resolution P) _ = true at hok
  change ∀ a ∈ _, a < P → _ at hlow
  simp only [List.mem_append, List.mem_cons, List.not_mem_nil, or_false] at hmem hlow
  exact ⟨by omega, by omega, fun h => hok (by omega), fun q hlt => hlow q (by omega) hlt⟩
theorem gars_precision_resolution (p : ℤ) : GARS.precision (GARS.resolution p) = max 0 (min 2 p) := by
  rcases (by omega : p ≤ 0 ∨ p = 1 ∨ 2 ≤ p) with h | h | h
  · have : GARS.resolution p = GARS.resolution 0 := by unfold GARS.resolution; rw [if_pos h, if_pos (le_refl _)]
    rw [this, show max 0 (min 2 p) = 0 by omega]; decide +kernel
  · rw [h]; decide +kernel
  · have : GARS.resolution p = GARS.resolution 2 := by
      unfold GARS.resolution; rw [if_neg (by omega), if_neg (by omega), if_neg (by norm_num), if_neg (by norm_num)]
    rw [this, show max 0 (min 2 p) = 2 by omega]; decide +kernel
/-- `Georef::Resolution`: 15, 1, or the correctly rounded `1/(60·10^(c−2))`, `c` = `prec` clamped to `[2, 11]` -/
theorem georef_resolution (prec : ℤ) :
    (prec < 0 → (Georef.resolution prec).val = 15) ∧ (prec = 0 → (Georef.resolution prec).val = 1) ∧
    (1 ≤ prec → IsRN 53 (-1074) (1 / (60 * 10 ^ ((max 2 (min 11 prec)) - 2).toNat)) (Georef.resolution prec).val) := by
  refine ⟨fun h => ?_, fun h => ?_, fun h => ?_⟩
  · have : Georef.resolution prec = F64.ofInt 15 := by
      unfold Georef.resolution; rw [if_pos (by omega), if_pos h]; rfl
    rw [this, (hasVal_ofInt 15).2]; norm_num
  · have : Georef.resolution prec = 1 := by
      unfold Georef.resolution; rw [if_pos (by omega), if_neg (by omega)]
    rw [this, hasVal_one.2]
  · set c := max 2 (min 11 prec) with hc
    have hres : Georef.resolution prec = (1 : F64) / (F64.ofInt 60 * F64.ofInt (10 ^ (c - 2).toNat)) := by
      unfold Georef.resolution; rw [if_neg (by omega)]; rfl
    rw [hres]
    have hk : (c - 2).toNat ≤ 9 := by omega
    have hpow : ((10:ℤ) ^ (c - 2).toNat : ℤ) ≤ 10 ^ 9 := pow_le_pow_right₀ (by norm_num) hk
    have hpos : (0:ℤ) < 10 ^ (c - 2).toNat := by positivity
    have hmul : HasVal (F64.ofInt 60 * F64.ofInt (10 ^ (c - 2).toNat)) (60 * 10 ^ (c - 2).toNat) := by
      have := (hasVal_mul_rn (hasVal_ofInt 60) (hasVal_ofInt (10 ^ (c - 2).toNat))).exact (60 * 10 ^ (c - 2).toNat) 0
        (by rw [abs_of_pos (by positivity)]; omega) (by norm_num) (by push_cast; ring) (by
          have : ((60:ℤ):ℚ) * (((10:ℤ) ^ (c - 2).toNat : ℤ) : ℚ) ≤ 60 * 10 ^ 9 := by
            have : (((10:ℤ) ^ (c - 2).toNat : ℤ) : ℚ) ≤ ((10 ^ 9 : ℤ) : ℚ) := by exact_mod_cast hpow
            push_cast at this ⊢; linarith
          rw [abs_of_nonneg (by positivity)]
          have h2 : (60:ℚ) * 10 ^ 9 ≤ 2 ^ 52 := by norm_num
          push_cast at this ⊢; linarith)
      push_cast at this; exact this
    have hne : (60:ℚ) * 10 ^ (c - 2).toNat ≠ 0 := by positivity
    have hsmall : |(1:ℚ) / (60 * 10 ^ (c - 2).toNat)| ≤ 2 ^ 52 := by
      rw [abs_of_pos (by positivity), div_le_iff₀ (by positivity)]
      have : (1:ℚ) ≤ 10 ^ (c - 2).toNat := one_le_pow₀ (by norm_num)
      nlinarith
    obtain ⟨r, hr, hv⟩ := (hasVal_div_rn hasVal_one hmul hne).small hsmall
    rw [hv.2]; exact hr
theorem georef_precision_resolution : ∀ p : Fin 12, p.val ≠ 1 →
    Georef.precision (Georef.resolution (p.val : ℤ)) = p.val := by decide +kernel
/-- `Georef::Precision` is in `[0, 11]` and never 1 (so never −1 either) -/
theorem georef_precision_in_range (res : F64) :
    0 ≤ Georef.precision res ∧ Georef.precision res ≤ 11 ∧ Georef.precision res ≠ 1 := by
  have hmem := (firstOr_least (fun p => F64.le (Georef.resolution p) (F64.abs res)) [0, 2, 3, 4, 5, 6, 7, 8, 9, 10] 11
    (by decide)).1
  change Georef.precision res ∈ _ at hmem
  simp only [List.mem_append, List.mem_cons, List.not_mem_nil, or_false] at hmem
  omega

theorem abs_div_le_of_one_le {N u B : ℚ} (hN : |N| ≤ B) (hu : 1 ≤ u) : |N / u| ≤ B := by
  have hu0 : (0:ℚ) < u := by linarith
  rw [abs_div, abs_of_pos hu0, div_le_iff₀ hu0]
  exact hN.trans (le_mul_of_one_le_right ((abs_nonneg N).trans hN) hu)

/-- **`GARS::Reverse` value** (`lat1/unit`, both `centerp`): one binary64 division — the correctly rounded rational; exact
for `unit ∈ {2, 4, 8}`, i.e. precisions 0 and 1, corner and centre (at precision 2, `unit` 12 or 24, thirds appear) -/
theorem gars_reverse_val (lat1 unit : ℤ) (hl : |lat1| ≤ 2 ^ 40) (hu : 0 < unit ∧ unit ≤ 24) :
    ∃ r : ℚ, IsRN 53 (-1074) ((lat1:ℚ) / unit) r ∧ HasVal (F64.ofInt lat1 / F64.ofInt unit) r ∧
      ((unit = 2 ∨ unit = 4 ∨ unit = 8) → r = (lat1:ℚ) / unit) := by
  have hq : |(lat1:ℚ) / unit| ≤ 2 ^ 52 :=
    abs_div_le_of_one_le ((by exact_mod_cast hl : |(lat1:ℚ)| ≤ 2 ^ 40).trans (by norm_num))
      (by exact_mod_cast (by omega : (1:ℤ) ≤ unit))
  obtain ⟨r, hr, hv, hex⟩ := int_div_val lat1 unit (by omega) hq
  refine ⟨r, hr, hv, fun h => ?_⟩
  have h53 : |lat1| ≤ 2 ^ 53 := le_trans hl (by norm_num)
  rcases h with rfl | rfl | rfl
  · exact hex lat1 (-1) h53 (by norm_num) (by rw [zpow_neg]; norm_num; ring)
  · exact hex lat1 (-2) h53 (by norm_num) (by rw [zpow_neg]; norm_num; ring)
  · exact hex lat1 (-3) h53 (by norm_num) (by rw [zpow_neg]; norm_num; ring)
/-- **`Georef::Reverse` value** (`(15·lat1)/unit`): the correctly rounded rational; exact for tiles (`unit` 1, 2) and
degree cells (`unit` 15, 30), corner and centre; from the minutes on (`unit = 15·6·10^(p−2)·(1|2)`) one rounding -/
theorem georef_reverse_val (lat1 unit : ℤ) (hl : |lat1| ≤ 2 ^ 47) (hu : 0 < unit) :
    ∃ r : ℚ, IsRN 53 (-1074) ((15 * lat1 : ℤ) / (unit:ℚ)) r ∧ HasVal (F64.ofInt (15 * lat1) / F64.ofInt unit) r ∧
      ((unit = 1 ∨ unit = 2 ∨ unit = 15 ∨ unit = 30) → r = (15 * lat1 : ℤ) / (unit:ℚ)) := by
  have hb := abs_le.mp hl
  have h15 : |15 * lat1| ≤ 2 ^ 51 := by rw [abs_le]; constructor <;> omega
  have hq : |((15 * lat1 : ℤ) : ℚ) / unit| ≤ 2 ^ 52 :=
    abs_div_le_of_one_le ((by exact_mod_cast h15 : |((15 * lat1 : ℤ) : ℚ)| ≤ 2 ^ 51).trans (by norm_num))
      (by exact_mod_cast (by omega : (1:ℤ) ≤ unit))
  obtain ⟨r, hr, hv, hex⟩ := int_div_val (15 * lat1) unit (by omega) hq
  refine ⟨r, hr, hv, fun h => ?_⟩
  have h53 : |15 * lat1| ≤ 2 ^ 53 := le_trans h15 (by norm_num)
  rcases h with rfl | rfl | rfl | rfl
  · exact hex (15 * lat1) 0 h53 (by norm_num) (by norm_num)
  · exact hex (15 * lat1) (-1) h53 (by norm_num) (by rw [zpow_neg]; norm_num; ring)
  · exact hex lat1 0 (by rw [abs_le]; constructor <;> omega) (by norm_num) (by push_cast; field_simp)
  · exact hex lat1 (-1) (by rw [abs_le]; constructor <;> omega) (by norm_num) (by push_cast; rw [zpow_neg]; field_simp; ring)
/-- every string `Geohash::Reverse` accepts: `len = min 18 |s|`, `ulon < 2^⌈5·len/2⌉`, `ulat < 2^⌊5·len/2⌋` -/
theorem geohash_decode_bounds (s : List ℕ) (d : Geohash.Dec) (h : Geohash.decodeInt s = .ok d) :
    d.len = min 18 s.length ∧ d.ulon < 2 ^ ((5 * d.len + 1) / 2) ∧ d.ulat < 2 ^ (5 * d.len / 2) :=
  GeohashDecode.decodeInt_bounds s d h
/-- **`Geohash::Reverse` is exact** for every accepted string, every length, centre and south-west corner: the half-cell
offset is one more bit of the integer, the product by `180/2^45` (`90/2^45`) and the subtraction involve no rounding -/
theorem geohash_reverse_exact (s : List ℕ) (cp : Bool) (d : Geohash.Dec) (h : Geohash.decodeInt s = .ok d)
    (hinv : Geohash.isInvalid s = false) :
    ∃ lat lon : F64, Geohash.reverse s cp = .ok (.val lat lon d.len) ∧
      HasVal lon ((((2 * d.ulon + (if cp then 1 else 0)) <<< (5 * (18 - d.len) / 2) : ℕ) : ℚ) * (180 / (2:ℚ) ^ (45:ℕ)) - 180) ∧
      HasVal lat ((((2 * d.ulat + (if cp then 1 else 0)) <<< (5 * (18 - d.len) - 5 * (18 - d.len) / 2) : ℕ) : ℚ) * (90 / (2:ℚ) ^ (45:ℕ)) - 90) := by
  obtain ⟨b1, b2⟩ := GeohashDecode.shifted_bounds s d h (if cp then 1 else 0) (by cases cp <;> simp)
  have v1 := geohash_reverse_value _ (lt_trans b1 (by norm_num)) 180 (Or.inl rfl)
  have v2 := geohash_reverse_value _ (lt_trans b2 (by norm_num)) 90 (Or.inr rfl)
  simp only [Nat.cast_ofNat] at v1 v2
  refine ⟨F64.ofInt (((2 * d.ulat + (if cp then 1 else 0)) <<< (5 * (18 - d.len) - 5 * (18 - d.len) / 2) : ℕ) : ℤ) *
            (F64.fin false 90 0 / shift45) - F64.fin false 90 0,
          F64.ofInt (((2 * d.ulon + (if cp then 1 else 0)) <<< (5 * (18 - d.len) / 2) : ℕ) : ℤ) *
            (F64.fin false 180 0 / shift45) - F64.fin false 180 0, ?_, v1, v2⟩
  unfold Geohash.reverse
  simp only [hinv, Bool.false_eq_true, if_false, h, bind, Except.bind, pure, Except.pure]
  rfl
/-- **`geohash_accept_iff`**: accepted (after the "INV"/"NAN" test) ⇔ each of the first 18 characters is in the base-32
alphabet (either case); anything after the 18th character is ignored, as documented -/
theorem geohash_accept_iff (s : List ℕ) :
    (∃ d, Geohash.decodeInt s = .ok d) ↔ ∀ c ∈ s.take 18, (lookup Geohash.uc c).isSome = true := by
  have hgo : ∀ (cs : List Nat) (x y j : Nat), (∃ r, Geohash.decodeInt.go cs x y j = .ok r) ↔ ∀ c ∈ cs, (lookup Geohash.uc c).isSome = true := by
    intro cs
    induction cs with
    | nil => intro x y j; simp [Geohash.decodeInt.go]
    | cons c cs ih =>
      intro x y j
      cases hl : lookup Geohash.uc c with
      | none =>
        rw [GeohashDecode.go_error c cs x y j hl]
        simp [hl]
      | some byte =>
        rw [GeohashDecode.go_step c cs x y j byte hl, ih]
        simp [hl]
  have hm : Geohash.maxlen = 18 := rfl
  have ht : s.take (min 18 s.length) = s.take 18 := by
    rcases Nat.le_total 18 s.length with h | h
    · rw [Nat.min_eq_left h]
    · rw [Nat.min_eq_right h, List.take_of_length_le (le_refl _), List.take_of_length_le h]
  rw [← hgo (s.take 18) 0 0 0]
  unfold Geohash.decodeInt
  simp only [hm, ht]
  constructor
  · rintro ⟨d, hd⟩
    cases hg : Geohash.decodeInt.go (s.take 18) 0 0 0 with
    | error e => rw [hg] at hd; cases hd
    | ok r => exact ⟨r, rfl⟩
  · rintro ⟨r, hr⟩
    rw [hr]
    obtain ⟨a, b, j'⟩ := r
    exact ⟨_, rfl⟩

/-! non-vacuity -/
example : F64.le (Geohash.lonRes 7) (F64.abs (F64.fin true 1 (-9))) = true ∧ Geohash.lengthFor (F64.fin true 1 (-9)) = 7 := by
  decide +kernel
example : Geohash.isInvalid (toBytes "ezs42".toList) = false ∧
    (match Geohash.decodeInt (toBytes "ezs42".toList) with | .ok d => decide (d.len = 5) | .error _ => false) = true := by decide +kernel
example : GARS.precision (F64.fin false 1 (-2)) = 1 ∧ Georef.precision (F64.fin false 1 (-10)) = 4 := by decide +kernel

end Helpers

/-! ### OSGB grid references: the integer codec (all inputs), the floating part (all inputs), constants of the projection -/
section OSGB
open OSGBInt OSGBScale F64

/-- **`decode∘encode`, OSGB** (every 100 km square of the grid, every pair of digit indices, every precision `≤ 11`):
the decoder returns the square, the precision and the `p` decimal digits of the combined in-tile indices
`i1·10^(p−5) + i2` (`OSGBInt.cellIndex`; their value is `osgb_decoded_value`) -/
theorem osgb_decode_encode (sx sy : OSGB.Sc) (p : ℕ) (hp : p ≤ 11) (hx : -10 ≤ sx.h ∧ sx.h < 15) (hy : -5 ≤ sy.h ∧ sy.h < 20)
    (h2x : sx.i2.toNat < 10 ^ (p - 5)) (h2y : sy.i2.toNat < 10 ^ (p - 5)) :
    OSGB.decodeInt (toBytes (OSGB.encodeInt sx sy p)) =
      .ok ⟨sx.h, sy.h, natDigits p (cellIndex sx p), natDigits p (cellIndex sy p), p⟩ := by
  rw [encodeInt_eq_cell sx sy p h2x h2y]
  exact decode_encodeCell sx.h sy.h _ _ p hp hx hy

/-- the decoded digit list has the value of the index modulo `10^p` (so: the index itself when it is `< 10^p`) -/
theorem osgb_decoded_value (p X : ℕ) : digitsVal (natDigits p X) = X % 10 ^ p := digitsVal_natDigits p X

/-- **prefix law, OSGB** (integer level, every square and precision): letters + easting digits of the parent square's
reference are a prefix of the finer reference; its northing digits are a prefix of the finer northing digits -/
theorem osgb_prefix (xh yh : ℤ) (X Y p : ℕ) :
    (encodeCell xh yh (X / 10) (Y / 10) p).take (2 + p) <+: encodeCell xh yh X Y (p + 1) ∧
    (encodeCell xh yh (X / 10) (Y / 10) p).drop (2 + p) <+: (encodeCell xh yh X Y (p + 1)).drop (2 + (p + 1)) :=
  GeorefLoop.fields_prefix (OSGB.tileLetters xh yh) OSGB.digits 10 p X Y

/-- **re-encode law, OSGB** (integer level, every accepted string): the reference of the decoded square at the decoded
precision is the input upper-cased with white space removed -/
theorem osgb_reencode (s : List ℕ) (d : OSGB.Dec) (h : OSGB.decodeInt s = .ok d) :
    toBytes (encodeCell d.xh d.yh (digitsVal d.xd) (digitsVal d.yd) d.prec) = (s.filter (fun c => !OSGB.isSpace c)).map upper :=
  reencode s d h

/-- the decoded square is one of the 25 × 25 squares of the grid and the precision is at most 11 -/
theorem osgb_decoded_range (s : List ℕ) (d : OSGB.Dec) (h : OSGB.decodeInt s = .ok d) :
    -10 ≤ d.xh ∧ d.xh < 15 ∧ -5 ≤ d.yh ∧ d.yh < 20 ∧ d.prec ≤ 11 ∧ d.xd.length = d.prec ∧ d.yd.length = d.prec := by
  obtain ⟨lx, ly, _, _, a, b, c, e, hp⟩ := OSGBReverse.dec_digits s d h
  exact ⟨a, b, c, e, hp, lx, ly⟩

/-- **`osgb_accept_iff`**: `ReadGridReference` (after the "IN…" test) accepts exactly the strings that, with white space
removed, have even length in `[2, 24]`, begin with two letters `A–Z` other than `I` (either case) and continue with decimal
digits only; everything else is rejected with the library's exception -/
theorem osgb_accept_iff (s : List ℕ) :
    (∃ d, OSGB.decodeInt s = .ok d) ↔
      (let g := s.filter (fun c => !OSGB.isSpace c)
       2 ≤ g.length ∧ g.length ≤ 24 ∧ g.length % 2 = 0 ∧ isLetter (g.getD 0 0) = true ∧ isLetter (g.getD 1 0) = true ∧
       ∀ c ∈ g.drop 2, isDigit c = true) := by
  constructor
  · rintro ⟨d, h⟩
    obtain ⟨i, j, hlen, hp, hi, hj, _, _, hx, hy⟩ := decodeInt_ok s d h
    simp only []
    set g := s.filter (fun c => !OSGB.isSpace c) with hg
    refine ⟨by omega, by omega, by omega, ?_, ?_, ?_⟩
    · rw [← letters_isSome, hi]; rfl
    · rw [← letters_isSome, hj]; rfl
    · intro c hc
      have hsplit : g.drop 2 = (g.drop 2).take d.prec ++ g.drop (2 + d.prec) := by
        rw [← List.drop_drop, List.take_append_drop]
      rw [hsplit] at hc
      rcases List.mem_append.mp hc with h1 | h1
      · exact (readDigits_isSome_iff _).mp (by rw [hx]; rfl) c h1
      · exact (readDigits_isSome_iff _).mp (by rw [hy]; rfl) c h1
  · simp only []
    set g := s.filter (fun c => !OSGB.isSpace c) with hg
    rintro ⟨h2, h24, hev, l0, l1, hdig⟩
    rw [← letters_isSome] at l0 l1
    obtain ⟨i, hi⟩ := Option.isSome_iff_exists.mp l0
    obtain ⟨j, hj⟩ := Option.isSome_iff_exists.mp l1
    have hx : (OSGB.readDigits OSGB.digits ((g.drop 2).take ((g.length - 2) / 2))).isSome = true :=
      (readDigits_isSome_iff _).mpr (fun c hc => hdig c (List.mem_of_mem_take hc))
    have hy : (OSGB.readDigits OSGB.digits (g.drop (2 + (g.length - 2) / 2))).isSome = true :=
      (readDigits_isSome_iff _).mpr (fun c hc => hdig c (by
        rw [← List.drop_drop] at hc; exact List.mem_of_mem_drop hc))
    obtain ⟨xd, hxd⟩ := Option.isSome_iff_exists.mp hx
    obtain ⟨yd, hyd⟩ := Option.isSome_iff_exists.mp hy
    refine ⟨⟨(OSGB.letterStep (OSGB.letterStep (0, 0) i) j).1 - osgb_tileoffx, (OSGB.letterStep (OSGB.letterStep (0, 0) i) j).2 - osgb_tileoffy,
      xd, yd, (g.length - 2) / 2⟩, ?_⟩
    unfold OSGB.decodeInt
    simp only []
    have e11 : osgb_maxprec.toNat = 11 := rfl
    rw [e11, ← hg, if_neg (by omega), if_neg (by omega), if_neg (by omega), hi, hj]
    simp only [hxd, hyd]

/-- `GridReference(string)`: "IN…" (either case) gives NaN; otherwise the outcome (exception or values, precision) is that
of the integer decoder followed by the floating accumulation -/
theorem osgb_reverse_shape (s : List ℕ) (cp : Bool) :
    OSGB.reverse s cp =
      if s.length ≥ 2 && upper (s.getD 0 0) = 73 && upper (s.getD 1 0) = 78 then .ok .nan
      else match OSGB.decodeInt s with
        | .error e => .error e
        | .ok d => .ok (.val (OSGB.reverseVal d cp).1 (OSGB.reverseVal d cp).2 d.prec) := by
  unfold OSGB.reverse
  by_cases h : (s.length ≥ 2 && upper (s.getD 0 0) = 73 && upper (s.getD 1 0) = 78) = true
  · simp only [h, if_true]; rfl
  · simp only [h, Bool.false_eq_true, if_false]
    cases OSGB.decodeInt s <;> rfl

/-- **decoding is case-insensitive** (OSGB) -/
theorem osgb_case_insensitive (s : List ℕ) : OSGB.decodeInt (s.map upper) = OSGB.decodeInt s := by
  have hf : (s.map upper).filter (fun c => !OSGB.isSpace c) = (s.filter (fun c => !OSGB.isSpace c)).map upper := by
    rw [List.filter_map]
    congr 1
    apply List.filter_congr
    intro c _
    simp [Function.comp, isSpace_upper]
  unfold OSGB.decodeInt
  simp only [hf, List.length_map]
  have g0 : ∀ i, lookup OSGB.letters (((s.filter (fun c => !OSGB.isSpace c)).map upper).getD i 0) =
      lookup OSGB.letters ((s.filter (fun c => !OSGB.isSpace c)).getD i 0) := by
    intro i
    rw [List.getD_eq_getElem?_getD, List.getD_eq_getElem?_getD, List.getElem?_map]
    cases h : (s.filter (fun c => !OSGB.isSpace c))[i]? with
    | none => rfl
    | some c => simp [lookup_upper]
  rw [g0 0, g0 1]
  simp only [← List.map_drop, ← List.map_take, readDigits_upper]

/-- **`osgb_scale_spec`** — the floating part of `GridReference(x, y, prec)` for one coordinate, every finite
`x = ±m·2^e` (`m < 2^53`, `−1074 ≤ e ≤ 0`), `|x| ≤ 10^7` m, every precision `p ≤ 11`; `n = ⌊x/10^5⌋` exactly.
Either `n = −1` and the code is tile 0, digits 0 — the square adjoining the position — in exactly two circumstances:
(class U) the quotient `x/10^5` underflows to `−0`, `|x| ≤ 10^5·2^(−1075)`; or `−2^(−37) ≤ x` and the sum `x + 10^5`
rounds to the tile size, which the carry `if (xf >= tile_) { xf = 0; ++xh; }` (finding F74) turns into the start of the next tile
(theorem `osgb_offset_wrap`; a sliver of at most `2^(−37)` m, class F75).  Otherwise the tile index is exact and the
computed in-tile offset `t' < 10^5` is

* the exact offset `x − 10^5·n` (every tile but `−1`, and tile `−1` for `x ≤ −50 km`), or
* only for `n = −1`, `−50 km < x < 0`: the correctly rounded sum `x + 10^5` (`IsRN`, error `≤ 2^(−37)` m) — class F75;

and the digit indices are: for `p ≤ 5` exactly `i1 = ⌊t'/10^(5−p)⌋` (no rounding effect at all: `divFloor_nonneg`),
for `p > 5` `i1 = ⌊t'⌋` exactly, the fractional part `t' − ⌊t'⌋` exactly, and `i2` from **one** rounded multiplication
`frac·10^(p−5)` followed by `floor` — `CellRelQ`: the exact index, or the next one when the rounded product is that
integer (class F2). -/
theorem osgb_scale_spec (s : Bool) (m : ℕ) (e : ℤ) (hm : m < 2 ^ 53) (he1 : -1074 ≤ e) (he0 : e ≤ 0) (p : ℕ) (hp : p ≤ 11)
    (hb : |(F64.fin s m e).val| ≤ 10 ^ 7) (n : ℤ)
    (hn1 : (n:ℚ) ≤ (F64.fin s m e).val / 100000) (hn2 : (F64.fin s m e).val / 100000 < (n:ℚ) + 1) :
    let x := F64.fin s m e
    let sc := OSGB.scaleCoord x p
    (n = -1 ∧ (-(x.val / 100000) ≤ (2:ℚ) ^ (-(1075:ℤ)) ∨
        (-(2:ℚ) ^ (-(37:ℤ)) ≤ x.val ∧ IsRN 53 (-1074) (x.val + 100000) 100000)) ∧ sc = ⟨0, 0, 0⟩) ∨
    (sc.h = n ∧ ∃ t' : ℚ, OffsetRel x.val n t' ∧ 0 ≤ t' ∧ t' < 100000 ∧
      ∃ pv : ℚ, DigitRel t' p sc.i1 sc.i2 pv) :=
  scaleCoord_spec_val (hasVal_fin s m e) (onGrid_fin s m e hm he1 he0) p hp hb n hn1 hn2

/-- **the coded square is the square that contains the position** — down to 1 m (`p ≤ 5`), every tile except the part
`−50 km < x < 0` of tile `−1` (which contains the rounded-offset and the two adjoining-square classes): tile index and
digit index are the exact floors -/
theorem osgb_contains_le5 (s : Bool) (m : ℕ) (e : ℤ) (hm : m < 2 ^ 53) (he1 : -1074 ≤ e) (he0 : e ≤ 0) (p : ℕ) (hp : p ≤ 5)
    (hb : |(F64.fin s m e).val| ≤ 10 ^ 7) (n : ℤ)
    (hn1 : (n:ℚ) ≤ (F64.fin s m e).val / 100000) (hn2 : (F64.fin s m e).val / 100000 < (n:ℚ) + 1)
    (htile : n ≠ -1 ∨ (F64.fin s m e).val ≤ -50000) :
    OSGB.scaleCoord (F64.fin s m e) p = ⟨n, ⌊((F64.fin s m e).val - 100000 * n) / 10 ^ (5 - p)⌋, 0⟩ := by
  obtain ⟨t', hrel, hsc⟩ := scaleCoord_le5 (hasVal_fin s m e) (onGrid_fin s m e hm he1 he0) p hp hb n hn1 hn2
    (htile.imp_right fun h => by linarith)
  rcases hrel with ⟨ht, _⟩ | ⟨h1, h2, _⟩
  · rw [hsc, ht]
  · rcases htile with h | h
    · exact absurd h1 h
    · linarith

/-- **`−2^(−37) ≤ x < 0`** (finding F74, fix f3f841a; every precision `≤ 11`): the
result is tile `0`, all digit indices `0` — the square `[0, 10^(5−p))` m whose edge the position misses by at most
`2^(−37)` m ≈ 7·10^(−12) m.  Two mechanisms lead there: the quotient `x/10^5` underflows to `−0` (tile 0 directly, negative
offset clamped: sliver class F2/U), or tile `−1` is selected, `x + 10^5` rounds to the tile size and the carry
`if (xf >= tile_) { xf = 0; ++xh; }` moves the point to the start of the next tile (sliver class F75).  Without that carry the
second mechanism gives tile `−1` with digits `0…0`, the square 100 km away. -/
theorem osgb_offset_wrap (s : Bool) (m : ℕ) (e : ℤ) (hm : m < 2 ^ 53) (he1 : -1074 ≤ e) (he0 : e ≤ 0) (p : ℕ) (hp : p ≤ 11)
    (h1 : -(2:ℚ) ^ (-(37:ℤ)) ≤ (F64.fin s m e).val) (h2 : (F64.fin s m e).val < 0) :
    OSGB.scaleCoord (F64.fin s m e) p = ⟨0, 0, 0⟩ := by
  set v := (F64.fin s m e).val with hv
  have h37 := two_zpow_neg_lt_one (k := -37) (by norm_num)
  have hb : |v| ≤ 10 ^ 7 := by rw [abs_le]; constructor <;> norm_num <;> linarith
  have hn1 : (((-1:ℤ)):ℚ) ≤ v / 100000 := by push_cast; rw [le_div_iff₀ (by norm_num)]; linarith
  have hn2 : v / 100000 < (((-1:ℤ)):ℚ) + 1 := by push_cast; rw [div_lt_iff₀ (by norm_num)]; linarith
  rcases osgb_scale_spec s m e hm he1 he0 p hp hb (-1) hn1 hn2 with ⟨_, _, hsc⟩ | ⟨_, t', hrel, _, hlt, _⟩
  · exact hsc
  · -- the regular case is excluded: the offset would be `x + 10^5` rounded, which is the tile size
    exfalso
    rcases hrel with ⟨_, hc⟩ | ⟨_, _, hr, _⟩
    · rcases hc with hc | hc
      · exact hc rfl
      · linarith
    · have := IsRN.unique (by norm_num) hr (isRN_wrap v h1 h2)
      linarith

/-- `CheckCoords`: accepted ⇔ each coordinate is NaN or a finite number in the half-open documented range
`[−1000 km, 1500 km) × [−500 km, 2000 km)` (limits from `Gen.Grid`); ±∞ is rejected -/
theorem osgb_checkCoords_iff (x y : F64) :
    OSGB.checkCoords x y = .ok () ↔
      (x.isNaN = true ∨ (x.isFinite = true ∧ (osgb_minx : ℚ) ≤ x.val ∧ x.val < (osgb_maxx : ℚ))) ∧
      (y.isNaN = true ∨ (y.isFinite = true ∧ (osgb_miny : ℚ) ≤ y.val ∧ y.val < (osgb_maxy : ℚ))) := by
  have key : ∀ (a : F64) (lo hi : ℤ), (F64.lt a (F64.ofInt lo) || F64.ge a (F64.ofInt hi)) = false ↔
      (a.isNaN = true ∨ (a.isFinite = true ∧ (lo:ℚ) ≤ a.val ∧ a.val < (hi:ℚ))) := by
    intro a lo hi
    cases a with
    | nan => simp [F64.lt, F64.ge, F64.le, F64.ofInt, F64.ofDy, F64.isNaN]
    | inf sgn => cases sgn <;> simp [F64.lt, F64.ge, F64.le, F64.ofInt, F64.ofDy, F64.isNaN, F64.isFinite]
    | fin sa ma ea =>
      have h1 := lt_of_hasVal (hasVal_fin sa ma ea) (hasVal_ofInt lo)
      have h2 : F64.ge (F64.fin sa ma ea) (F64.ofInt hi) = true ↔ (hi:ℚ) ≤ (F64.fin sa ma ea).val :=
        le_of_hasVal (hasVal_ofInt hi) (hasVal_fin sa ma ea)
      simp only [F64.isNaN, F64.isFinite, Bool.false_eq_true, false_or, true_and, ← Bool.not_eq_true,
        Bool.or_eq_true, not_or, h1, h2, not_lt, not_le]
  unfold OSGB.checkCoords
  rw [← key x osgb_minx osgb_maxx, ← key y osgb_miny osgb_maxy]
  cases hx : (F64.lt x (F64.ofInt osgb_minx) || F64.ge x (F64.ofInt osgb_maxx)) <;>
  cases hy : (F64.lt y (F64.ofInt osgb_miny) || F64.ge y (F64.ofInt osgb_maxy)) <;>
  simp [bind, Except.bind, throw, throwThe, MonadExceptOf.throw, pure, Except.pure]

/-- the documented ranges -/
theorem osgb_ranges : osgb_minx = -1000000 ∧ osgb_maxx = 1500000 ∧ osgb_miny = -500000 ∧ osgb_maxy = 2000000 ∧
    osgb_tile = 100000 ∧ osgb_tilegrid = 5 ∧ osgb_tileoffx = 2 * osgb_tilegrid ∧ osgb_tileoffy = osgb_tilegrid ∧
    osgb_maxprec = 11 ∧ osgb_base = 10 ∧ osgb_tilelevel = 5 := by decide

/-- `GridReference(x, y, prec)` as a whole: range check, precision check `0 ≤ prec ≤ 11`, NaN ↦ "INVALID", otherwise the
integer encoder applied to the floating parts of the two coordinates -/
theorem osgb_gridReference_eq (x y : F64) (prec : ℤ) (hc : OSGB.checkCoords x y = .ok ()) :
    OSGB.gridReference x y prec =
      if ¬ (0 ≤ prec ∧ prec ≤ 11) then .error "prec"
      else if x.isNaN || y.isNaN then .ok "INVALID".toList
      else .ok (OSGB.encodeInt (OSGB.scaleCoord x prec.toNat) (OSGB.scaleCoord y prec.toNat) prec.toNat) := by
  unfold OSGB.gridReference
  have e11 : osgb_maxprec = 11 := rfl
  rw [hc, e11]
  by_cases hp : 0 ≤ prec ∧ prec ≤ 11
  · by_cases hn : (x.isNaN || y.isNaN) = true
    · simp [hp, hn, bind, Except.bind, pure, Except.pure]
    · simp [hp, hn, bind, Except.bind, pure, Except.pure]
  · simp [hp, bind, Except.bind, throw, throwThe, MonadExceptOf.throw]

/-- **`ReadGridReference` is exact down to 1 m**: for every accepted string of precision `≤ 5`, the returned easting is
exactly `10^5·xh + X·10^(5−p)` (south-west corner) resp. `+ 10^(5−p)/2` (centre), `X` the decoded digits; same for northing -/
theorem osgb_reverse_exact_le5 (s : List ℕ) (d : OSGB.Dec) (h : OSGB.decodeInt s = .ok d) (hp : d.prec ≤ 5) (cp : Bool) :
    HasVal (OSGB.reverseVal d cp).1 ((100000 * d.xh + digitsVal d.xd * 10 ^ (5 - d.prec) : ℤ) + (if cp then (10:ℚ) ^ (5 - d.prec) / 2 else 0)) ∧
    HasVal (OSGB.reverseVal d cp).2 ((100000 * d.yh + digitsVal d.yd * 10 ^ (5 - d.prec) : ℤ) + (if cp then (10:ℚ) ^ (5 - d.prec) / 2 else 0)) := by
  obtain ⟨lx, ly, dx, dy, a, b, c, e, _⟩ := OSGBReverse.dec_digits s d h
  exact OSGBReverse.reverseVal_exact d hp lx ly dx dy (by rw [abs_le]; constructor <;> omega) (by rw [abs_le]; constructor <;> omega) cp

/-- **re-encode law through the floating values, down to 1 m**: for every accepted string of precision `≤ 5`,
`GridReference(ReadGridReference(s, centerp = true), prec)` is the string upper-cased with white space removed — the
binary64 centre is computed exactly, passes the range check, and its tile index, offset and digits are exact -/
theorem osgb_reencode_le5 (s : List ℕ) (d : OSGB.Dec) (h : OSGB.decodeInt s = .ok d) (hp : d.prec ≤ 5) :
    (OSGB.gridReference (OSGB.reverseVal d true).1 (OSGB.reverseVal d true).2 d.prec).map toBytes =
      .ok ((s.filter (fun c => !OSGB.isSpace c)).map upper) := by
  obtain ⟨lx, ly, dx, dy, a, b, c, e, _⟩ := OSGBReverse.dec_digits s d h
  obtain ⟨vx, vy⟩ := osgb_reverse_exact_le5 s d h hp true
  simp only [if_true] at vx vy
  have hDx := OSGBReverse.digitsVal_lt d.xd dx
  have hDy := OSGBReverse.digitsVal_lt d.yd dy
  rw [lx] at hDx
  rw [ly] at hDy
  have sx := OSGBReverse.scaleCoord_centre d.xh (digitsVal d.xd) d.prec hp (by rw [abs_le]; constructor <;> omega) hDx vx
  have sy := OSGBReverse.scaleCoord_centre d.yh (digitsVal d.yd) d.prec hp (by rw [abs_le]; constructor <;> omega) hDy vy
  have k5 : d.prec + (5 - d.prec) = 5 := by omega
  have hpk : (10:ℚ) ^ d.prec * (10:ℚ) ^ (5 - d.prec) = 100000 := by rw [← pow_add, k5]; norm_num
  have hkpos : (0:ℚ) < (10:ℚ) ^ (5 - d.prec) := by positivity
  have rng : ∀ (hh lo hi : ℤ) (D : ℕ), lo ≤ hh → hh + 1 ≤ hi → D < 10 ^ d.prec →
      ((100000 * lo : ℤ) : ℚ) ≤ ((100000 * hh + D * 10 ^ (5 - d.prec) : ℤ) : ℚ) + (10:ℚ) ^ (5 - d.prec) / 2 ∧
      ((100000 * hh + D * 10 ^ (5 - d.prec) : ℤ) : ℚ) + (10:ℚ) ^ (5 - d.prec) / 2 < ((100000 * hi : ℤ) : ℚ) := by
    intro hh lo hi D hlo hhi hD
    have hDq : (D:ℚ) + 1 ≤ (10:ℚ) ^ d.prec := by exact_mod_cast hD
    have h0 : (0:ℚ) ≤ (D:ℚ) * (10:ℚ) ^ (5 - d.prec) := by positivity
    have h1 : (D:ℚ) * (10:ℚ) ^ (5 - d.prec) + (10:ℚ) ^ (5 - d.prec) ≤ 100000 := by
      rw [← hpk, ← add_one_mul]; exact mul_le_mul_of_nonneg_right hDq hkpos.le
    have lq : (lo:ℚ) ≤ hh := by exact_mod_cast hlo
    have hq : (hh:ℚ) + 1 ≤ hi := by exact_mod_cast hhi
    push_cast
    constructor <;> linarith
  have hc : OSGB.checkCoords (OSGB.reverseVal d true).1 (OSGB.reverseVal d true).2 = .ok () := by
    rw [osgb_checkCoords_iff]
    obtain ⟨x1, x2⟩ := rng d.xh (-10) 15 _ a (by omega) hDx
    obtain ⟨y1, y2⟩ := rng d.yh (-5) 20 _ c (by omega) hDy
    refine ⟨Or.inr ⟨vx.1, ?_, ?_⟩, Or.inr ⟨vy.1, ?_, ?_⟩⟩
    · rw [vx.2]; exact x1
    · rw [vx.2]; exact x2
    · rw [vy.2]; exact y1
    · rw [vy.2]; exact y2
  rw [osgb_gridReference_eq _ _ _ hc]
  have hpr : (0:ℤ) ≤ (d.prec:ℤ) ∧ (d.prec:ℤ) ≤ 11 := by omega
  have hnan : ((OSGB.reverseVal d true).1.isNaN || (OSGB.reverseVal d true).2.isNaN) = false := by
    obtain ⟨s1, m1, e1, r1, _⟩ := vx.fin
    obtain ⟨s2, m2, e2, r2, _⟩ := vy.fin
    rw [r1, r2]; rfl
  simp only [hpr, not_true_eq_false, if_false, hnan, Bool.false_eq_true, Int.toNat_natCast, and_self]
  rw [sx, sy]
  have h0 : d.prec - 5 = 0 := by omega
  rw [encodeInt_eq_cell _ _ _ (by simp [h0]) (by simp [h0])]
  simp only [cellIndex, h0, pow_zero, Nat.mul_one, Int.toNat_natCast, Int.toNat_zero, Nat.add_zero, Except.map]
  rw [osgb_reencode s d h]

/-! #### the constants of the OSGB36 projection as written in `OSGB.hpp` (re-extracted on every run: `Gen.OSGBC`) -/

/-- **defining constants** (Ordnance Survey, *A guide to coordinate systems in Great Britain*): Airy 1830 semi-axes
`a = 20923713 ft`, `b = 20853810 ft` with `log₁₀(m/ft) = 0.48401603 − 1`; `log₁₀ F₀ = 9.9998268 − 10`; true origin 49°N 2°W;
false origin `E₀ = 400 000 m`, `N₀ = −100 000 m` -/
theorem osgb_constants_documented :
    Gen.OSGBC.a_base = 10 ∧ Gen.OSGBC.a_lognum = 48401603 - 100000000 ∧ Gen.OSGBC.a_logden = 100000000 ∧
    Gen.OSGBC.a_mul = 20923713 ∧ Gen.OSGBC.f_num = 20923713 - 20853810 ∧ Gen.OSGBC.f_den = 20923713 ∧
    Gen.OSGBC.k0_base = 10 ∧ Gen.OSGBC.k0_lognum = 9998268 - 10000000 ∧ Gen.OSGBC.k0_logden = 10000000 ∧ Gen.OSGBC.k0_mul = 1 ∧
    Gen.OSGBC.lat0 = 49 ∧ Gen.OSGBC.lon0 = -2 ∧ Gen.OSGBC.falseNorthing = -100000 ∧ Gen.OSGBC.falseEasting = 400000 := by
  decide

/-- the flattening is `7767/2324857`, i.e. `1/f = 299.32496459…` (the header's comment says 1/299.32496459) -/
theorem osgb_flattening_value :
    (Gen.OSGBC.f_num : ℚ) / Gen.OSGBC.f_den = 7767 / 2324857 ∧
    (29932496459 : ℚ) / 100000000 < (Gen.OSGBC.f_den : ℚ) / Gen.OSGBC.f_num ∧
    (Gen.OSGBC.f_den : ℚ) / Gen.OSGBC.f_num < 29932496460 / 100000000 := by
  have h1 : (Gen.OSGBC.f_num : ℚ) = 69903 := by norm_num [Gen.OSGBC.f_num]
  have h2 : (Gen.OSGBC.f_den : ℚ) = 20923713 := by norm_num [Gen.OSGBC.f_den]
  rw [h1, h2]
  norm_num

/-- the false origin is a corner of the 100 km grid: the letters of `GridReference` and the projection agree on the
origin of the coordinates (`FalseEasting = 4 tiles`, `FalseNorthing = −1 tile`) -/
theorem osgb_false_origin_on_grid :
    Gen.OSGBC.falseEasting = 4 * osgb_tile ∧ Gen.OSGBC.falseNorthing = -1 * osgb_tile := by decide

/-- the wrapper: `Forward` adds the false easting and the north offset, `Reverse` subtracts them (binary64 operations) -/
theorem osgb_wrap_shape (fe no tx ty : F64) :
    OSGB.forwardWrap fe no tx ty = (tx + fe, ty + no) ∧ OSGB.reverseWrap fe no tx ty = (tx - fe, ty - no) ∧
    OSGB.northOffset fe ty = fe - ty := ⟨rfl, rfl, rfl⟩

/-! non-vacuity of the hypotheses of the OSGB theorems -/
/-- `x = 651409.903` (the OS worked example): `m < 2^53`, `e = −33`, tile 6, offset exact -/
example : (5595568465256579 : ℕ) < 2 ^ 53 ∧ (-1074 : ℤ) ≤ -33 ∧ (-33 : ℤ) ≤ 0 := by decide
example : OSGB.scaleCoord (F64.fin false 5595568465256579 (-33)) 3 = ⟨6, 514, 0⟩ := by decide +kernel
example : OSGB.scaleCoord (F64.fin false 5595568465256579 (-33)) 8 = ⟨6, 51409, 903⟩ := by decide +kernel
/-- the carry (F74): `x = −2^(−40)` is coded into tile 0, digits 0; `x = −2^(−36)` is regular -/
example : OSGB.scaleCoord (F64.fin true 1 (-40)) 5 = ⟨0, 0, 0⟩ := by decide +kernel
example : OSGB.scaleCoord (F64.fin true 1 (-36)) 5 = ⟨-1, 99999, 0⟩ := by decide +kernel
/-- class U: `x = −2^(−1074)` -/
example : OSGB.scaleCoord (F64.fin true 1 (-1074)) 5 = ⟨0, 0, 0⟩ := by decide +kernel
/-- class F2 in the digits beyond 1 m: `x = 0.3` (the double, `< 3/10`), `p = 6`: digit 3 -/
example : OSGB.scaleCoord (F64.fin false 5404319552844595 (-54)) 6 = ⟨0, 0, 3⟩ := by decide +kernel
example : (match OSGB.decodeInt (toBytes "tg 51409 13177".toList) with
    | .ok d => decide (d = ⟨6, 3, [5, 1, 4, 0, 9], [1, 3, 1, 7, 7], 5⟩) | .error _ => false) = true := by decide +kernel
example : String.ofList (OSGB.encodeInt ⟨6, 51409, 903⟩ ⟨3, 13177, 270⟩ 8) = "TG5140990313177270" := by decide +kernel
example : OSGB.checkCoords (F64.ofInt 651409) (F64.ofInt 313177) = .ok () := by decide +kernel

end OSGB

/-! ### non-vacuity: concrete codes -/
example : String.ofList (GARS.encodeInt (4320 / 2 + 7) (2160 / 2 + 5) 2) = "362HN12" := by decide +kernel
example : (match GARS.decodeInt (toBytes "361HN47".toList) false with
    | .ok d => decide (d = ⟨0, 3, 12, 2⟩) | .error _ => false) = true := by decide +kernel
example : (match Georef.decodeInt (toBytes "QJMJN".toList) false with | .ok _ => false | .error _ => true) = true := by decide +kernel
example : String.ofList (Geohash.encodeInt (2^45 + 12345678901) (2^45 + 333) 7) = "s00012j" := by decide +kernel

end GeoVerif.Props.C18
