import GeoVerif.Model.Overloads
import GeoVerif.Proofs.LineState
import GeoVerif.Proofs.MaskInverse
/-!
# C12 — output masks and line capabilities

The enums are those of `Gen.Mask`, extracted from the headers.  `GenPosition`, `GenInverse` and the rhumb solvers are
dataflow models (the term each output is assigned); the third point of a line is in addition a state machine over
arbitrary histories.  `Fnn` are the ids of `/verif/known_findings.json`.
-/
namespace GeoVerif.Props.C12
open GeoVerif GeoVerif.Mask Gen.Mask

/-- documented bit layout of `Geodesic::mask` / `GeodesicExact::mask`: the output part of each flag is a single bit
    in 7..15, `LATITUDE` and `AZIMUTH` carry no capability bit (bits 0..6), and `OUT_MASK`, `OUT_ALL` are as documented -/
theorem enum_layout :
    (∀ e ∈ [geod, geodx],
      e.outMask = 0xFF80 ∧ e.outAll = 0x7F80 ∧
      (∀ o ∈ Out.all, e.flag o &&& e.outMask = 1 <<< o.bit) ∧
      e.distanceIn &&& e.outMask = 1 <<< distanceInBit ∧
      e.longUnroll = 1 <<< longUnrollBit ∧
      e.latitude &&& 0x7F = 0 ∧ e.azimuth &&& 0x7F = 0) ∧
    geod_ALL = 0x7F9F ∧ geodx_ALL = 0x7F9F ∧
    geod_STANDARD = geod_LATITUDE ||| geod_LONGITUDE ||| geod_AZIMUTH ||| geod_DISTANCE ∧
    rhumb_ALL = 0x7F80 ∧ rhumb_LATITUDE = 1 <<< 7 ∧ rhumb_LONGITUDE = 1 <<< 8 ∧ rhumb_AZIMUTH = 1 <<< 9 ∧
    rhumb_DISTANCE = 1 <<< 10 ∧ rhumb_AREA = 1 <<< 14 ∧ rhumb_LONG_UNROLL = 1 <<< 15 := by decide

/-- an output is written iff the point is locatable and its bit is both requested and among the
    line's capabilities -/
theorem written_spec (e : Enum) (he : e = geod ∨ e = geodx) (caps outmask : Nat) (arcmode : Bool) (o : Out) :
    o ∈ written e caps outmask arcmode ↔
      locatable e caps arcmode = true ∧ outmask.testBit o.bit = true ∧ (lineCaps e caps).testBit o.bit = true := by
  rw [mem_written_iff, want_effective (Enum.layout_of he), Bool.and_eq_true]

/-- nothing is written when a distance is asked of a line without `DISTANCE_IN` -/
theorem not_locatable_writes_nothing (e : Enum) (caps outmask : Nat) (h : locatable e caps false = false) :
    written e caps outmask false = [] := by
  unfold written; simp [h]

/-- latitude, azimuth and longitude unrolling are always among a line's capabilities -/
theorem default_caps (e : Enum) (he : e = geod ∨ e = geodx) (caps : Nat) :
    (lineCaps e caps).testBit Out.lat2.bit = true ∧ (lineCaps e caps).testBit Out.azi2.bit = true ∧
    (lineCaps e caps).testBit longUnrollBit = true := by
  simp only [lineCaps_testBit (Enum.layout_of he)]
  exact ⟨Bool.or_true _, Bool.or_true _, Bool.or_true _⟩

/-- the outputs written for a union of masks are the union of the outputs written for each -/
theorem written_or (e : Enum) (he : e = geod ∨ e = geodx) (caps m1 m2 : Nat) (arcmode : Bool) (o : Out) :
    o ∈ written e caps (m1 ||| m2) arcmode ↔ o ∈ written e caps m1 arcmode ∨ o ∈ written e caps m2 arcmode := by
  simp only [written_spec e he, Nat.testBit_or, Bool.or_eq_true]
  rw [or_and_right, and_or_left]

/-- extra capabilities never remove an output -/
theorem written_caps_mono (e : Enum) (he : e = geod ∨ e = geodx) (caps extra outmask : Nat) (arcmode : Bool) (o : Out)
    (h : o ∈ written e caps outmask arcmode) : o ∈ written e (caps ||| extra) outmask arcmode := by
  have hL := Enum.layout_of he
  simp only [written_spec e he, locatable_eq hL, lineCaps_testBit hL, Nat.testBit_or, Bool.or_eq_true] at h ⊢
  exact ⟨h.1.imp_right .inl, h.2.1, h.2.2.imp_left .inl⟩

/-- non-vacuity: a line created with `DISTANCE_IN | AREA` asked for everything writes lat2, azi2, S12 only -/
example : written geod (geod_DISTANCE_IN ||| geod_AREA) geod_ALL false = [.lat2, .azi2, .S12] := by decide

/-- the line's capabilities contain all of a flag (output bit and the `CAP_x` bits it carries) -/
def Covers (lc flag : Nat) : Prop := lc &&& flag = flag
instance (lc flag : Nat) : Decidable (Covers lc flag) := by unfold Covers; infer_instance

/-- for two masks under which output `o` is written (for `lon2`: which agree on
    `LONG_UNROLL`), the dataflow model of `GenPosition` assigns the *same term* to `o`, whatever else is requested —
    both line classes, arc and distance mode, with and without the Newton correction -/
theorem value_mask_independent (e : Enum) (exact : Bool) (caps m1 m2 : Nat) (arcmode bigf : Bool) (x : T) (o : Out)
    (h1 : o ∈ written e caps m1 arcmode) (h2 : o ∈ written e caps m2 arcmode)
    (hu : o = .lon2 → wantUnroll e (effective e caps m1) = wantUnroll e (effective e caps m2)) :
    genPosition e exact caps m1 arcmode bigf x o = genPosition e exact caps m2 arcmode bigf x o := by
  rw [mem_written_iff] at h1 h2
  unfold genPosition
  rw [if_pos h1.1, if_pos h1.1]
  cases exact
  · exact genPosG_mask_independent e _ _ _ arcmode bigf x o h1.2 h2.2 hu
  · exact genPosX_mask_independent e _ _ _ arcmode x o h1.2 h2.2 hu

/-- an output that is written is assigned a term, one that is not written is not -/
theorem genPosition_isSome_iff (e : Enum) (exact : Bool) (caps m : Nat) (arcmode bigf : Bool) (x : T) (o : Out) :
    (genPosition e exact caps m arcmode bigf x o).isSome = true ↔ o ∈ written e caps m arcmode := by
  rw [mem_written_iff, genPosition_isSome, Bool.and_eq_true]

/-- with capabilities that contain the whole flag of `o` (as every union of the
    documented constants that contains its output bit does), and the whole of `DISTANCE_IN` in distance mode, the
    term assigned to `o` reads no field left unset by `LineInit`: it is the term of a line with all
    capabilities (`31` = the five `CAP_x` bits) -/
theorem value_caps_independent (exact : Bool) (caps m : Nat) (arcmode bigf : Bool) (x : T) (o : Out)
    (hc : Covers (lineCaps (if exact then geodx else geod) caps) ((if exact then geodx else geod).flag o))
    (hd : arcmode = false → Covers (lineCaps (if exact then geodx else geod) caps) (if exact then geodx else geod).distanceIn) :
    (if exact then genPosX geodx (lineCaps geodx caps) m arcmode x o else genPosG geod (lineCaps geod caps) m arcmode bigf x o) =
    (if exact then genPosX geodx (lineCaps geodx caps ||| 31) m arcmode x o
     else genPosG geod (lineCaps geod caps ||| 31) m arcmode bigf x o) := by
  cases exact
  · exact genPosG_caps 31 m bigf x (and_eq_right_iff.mp hc) (fun ha => and_eq_right_iff.mp (hd ha))
  · exact genPosX_caps 31 m x (and_eq_right_iff.mp hc) (fun ha => and_eq_right_iff.mp (hd ha))

/-- the flags of the current headers carry exactly the capability bits the model's `fld` tests assume -/
theorem cap_bits :
    geod.longitude &&& 31 = 8 ∧ geod.distance &&& 31 = 1 ∧ geod.distanceIn &&& 31 = 3 ∧ geod.reducedlength &&& 31 = 5 ∧
    geod.geodesicscale &&& 31 = 5 ∧ geod.area &&& 31 = 16 ∧ geod.latitude &&& 31 = 0 ∧ geod.azimuth &&& 31 = 0 ∧
    geodx.longitude &&& 31 = 8 ∧ geodx.distance &&& 31 = 1 ∧ geodx.distanceIn &&& 31 = 1 ∧ geodx.reducedlength &&& 31 = 4 ∧
    geodx.geodesicscale &&& 31 = 4 ∧ geodx.area &&& 31 = 16 ∧ geodx.latitude &&& 31 = 0 ∧ geodx.azimuth &&& 31 = 0 := by
  decide

/-- non-vacuity: a line made with `DISTANCE_IN | REDUCEDLENGTH` covers `m12` and `DISTANCE_IN`; with masks
    `REDUCEDLENGTH` and `ALL` the output `m12` is written in both cases -/
example : Covers (lineCaps geod (geod_DISTANCE_IN ||| geod_REDUCEDLENGTH)) (geod.flag .m12) ∧
    Covers (lineCaps geod (geod_DISTANCE_IN ||| geod_REDUCEDLENGTH)) geod.distanceIn ∧
    Out.m12 ∈ written geod (geod_DISTANCE_IN ||| geod_REDUCEDLENGTH) geod_REDUCEDLENGTH false ∧
    Out.m12 ∈ written geod (geod_DISTANCE_IN ||| geod_REDUCEDLENGTH) geod_ALL false := by decide

/-- third point by distance (the first two by definition of `setDistance`): after `SetDistance(s)`, `Distance()` is `s` and `Arc()` is exactly the value that
    `Position(Distance(), …)` (any mask) returns as `a12` — both calls address the same σ₁₂; a line without
    `DISTANCE_IN` gets `a13 = NaN` -/
theorem third_point_distance (e : Enum) (bigf : Bool) (L : Line) (s : T) :
    (setDistance e bigf L s).s13 = some s ∧
    (setDistance e bigf L s).a13 = genPositionRet e L.exact L.caps false bigf s ∧
    (locatable e L.caps false = false → (setDistance e bigf L s).a13 = none) := by
  refine ⟨rfl, rfl, ?_⟩
  intro h; simp [setDistance, genPositionRet, h]

/-- third point by arc: after `SetArc(a)`, `Arc()` is `a`, which is what `ArcPosition(Arc(), …)` returns as `a12`;
    `Distance()` is the very term any `ArcPosition(a, mask ∋ DISTANCE)` assigns to `s12`, and NaN when the line
    lacks the `DISTANCE` capability -/
theorem third_point_arc (e : Enum) (he : e = geod ∨ e = geodx) (bigf : Bool) (L : Line) (a : T) :
    (setArc e bigf L a).a13 = some a ∧
    genPositionRet e L.exact L.caps true bigf a = some a ∧
    (∀ m, Out.s12 ∈ written e L.caps m true →
      genPosition e L.exact L.caps m true bigf a .s12 = (setArc e bigf L a).s13 ∧ (setArc e bigf L a).s13.isSome = true) ∧
    ((lineCaps e L.caps).testBit Out.s12.bit = false → (setArc e bigf L a).s13 = none) := by
  have hs : (setArc e bigf L a).s13.isSome = (lineCaps e L.caps).testBit Out.s12.bit :=
    genPosition_distance_isSome (Enum.layout_of he) L.exact L.caps bigf a
  refine ⟨rfl, by simp [genPositionRet, locatable], ?_, ?_⟩
  · intro m hm
    have hb := hs.trans ((written_spec e he _ _ _ _).mp hm).2.2
    have hd := (genPosition_isSome_iff e L.exact L.caps e.distance true bigf a .s12).mp hb
    exact ⟨value_mask_independent e L.exact L.caps m e.distance true bigf a .s12 hm hd (by intro h; cases h), hb⟩
  · intro hb
    exact Option.not_isSome_iff_eq_none.mp (by rw [hs, hb]; exact Bool.false_ne_true)

/-- **`InverseLine`**: the line's `a13` is the `a12` of the inverse problem, and when the requested capabilities
    include `DISTANCE_IN`, `DISTANCE` is added so that `s13` is set (to the `s12` term of arc `a12`) -/
theorem inverseLine_third_point (e : Enum) (he : e = geod ∨ e = geodx) (exact bigf : Bool) (caps : Nat) (a12 : T) :
    (inverseLine e exact bigf caps a12).a13 = some a12 ∧
    (caps.testBit distanceInBit = true → (inverseLine e exact bigf caps a12).s13.isSome = true) := by
  have hL := Enum.layout_of he
  refine ⟨rfl, fun hb => ?_⟩
  show (genPosition e exact (if (caps &&& (e.outMask &&& e.distanceIn)) != 0 then caps ||| e.distance else caps)
    e.distance true bigf a12 .s12).isSome = true
  rw [distanceIn_test hL, if_pos hb, genPosition_distance_isSome hL, lineCaps_testBit hL, Nat.testBit_or,
    distance_testBit hL, Bool.or_true, Bool.true_or]

/-- `DirectLine` / `ArcDirectLine`: point 3 is point 2 of the direct problem (by definition of `directLine`) -/
theorem directLine_third_point (e : Enum) (exact bigf : Bool) (caps : Nat) (x : T) :
    (directLine e exact bigf caps false x).s13 = some x ∧ (directLine e exact bigf caps true x).a13 = some x :=
  ⟨rfl, rfl⟩

/-! ### the third point of a line object: a state machine over arbitrary histories (`Model/LineState.lean`)

The machine is the one the driver executes against the implementation (op `linehist` of `Corr/C12.lean`): constructors, `SetDistance`, `SetArc`,
`GenSetDistance`, `Distance()`, `Arc()`, `GenDistance`, around the abstract kernels `arcOf` / `distOf`.  All theorems hold
for *every* kernel and every value type. -/

section ThirdPoint
open GeoVerif.LineState
variable {α : Type}

/-- **history independence**: after any history of setter calls, reader calls and copies, the line object is in the state
    that a fresh line (same capabilities, third point never set) reaches from the *last* setter call alone; if no setter
    was called the state is unchanged (the last two conjuncts unfold `fromLastSet`) -/
theorem history_independent (e : Enum) (K : Kern α) (st : St α) (h : List (Ev α)) :
    (run e K st h).1 = fromLastSet e K st h ∧
    (∀ o, lastSet h = some o → fromLastSet e K st h = step e K (fresh K st.caps) o) ∧
    (lastSet h = none → fromLastSet e K st h = st) := by
  refine ⟨run_state e K st h, ?_, ?_⟩
  · intro o ho; unfold fromLastSet; rw [ho]; rfl
  · intro ho; unfold fromLastSet; rw [ho]

/-- every value a reader returns in the course of a history is the value it returns on the line that has seen only the
    last setter call before it -/
theorem reader_history_independent (e : Enum) (K : Kern α) (st : St α) (h1 h2 : List (Ev α)) (r : Rd) :
    (run e K st (h1 ++ .get r :: h2)).2 =
      (run e K st h1).2 ++ LineState.read K (fromLastSet e K st h1) r :: (run e K (fromLastSet e K st h1) h2).2 := by
  rw [run_append]; simp only [run]; rw [run_state]

/-- the capabilities of a line never change -/
theorem caps_invariant (e : Enum) (K : Kern α) (st : St α) (h : List (Ev α)) : (run e K st h).1.caps = st.caps :=
  run_caps e K st h

/-- the two guards in terms of the capability bits the user passed to the constructor: a line can turn a distance into
    an arc iff it was given the `DISTANCE_IN` bit (bit 11), and `SetArc` obtains a distance iff it was given the
    `DISTANCE` bit (bit 10); by arc every initialised line can locate the point -/
theorem guards_spec (e : Enum) (he : e = geod ∨ e = geodx) (caps : Nat) :
    canLocate e (lineCaps e caps) false = caps.testBit distanceInBit ∧
    canLocate e (lineCaps e caps) true = true ∧
    assignsS12 e (lineCaps e caps) = caps.testBit Out.s12.bit :=
  have h := Enum.layout_of he
  ⟨canLocate_lineCaps h caps false, canLocate_lineCaps h caps true, assignsS12_lineCaps h caps⟩

/-- **`SetDistance`**: `Distance()` becomes the value given, whatever the capabilities; `Arc()` becomes the arc of that
    distance if the line has `DISTANCE_IN` and NaN otherwise (`GenPosition` returns NaN before doing anything) -/
theorem setDistance_spec (e : Enum) (he : e = geod ∨ e = geodx) (K : Kern α) (caps : Nat) (a0 s0 s : α) :
    (LineState.setDistance e K ⟨lineCaps e caps, a0, s0⟩ s).s13 = s ∧
    (LineState.setDistance e K ⟨lineCaps e caps, a0, s0⟩ s).a13 = (if caps.testBit distanceInBit then K.arcOf s else K.nan) := by
  rw [setDistance_lineCaps (Enum.layout_of he)]; exact ⟨rfl, rfl⟩

/-- **`SetArc`**: `Arc()` becomes the value given; `Distance()` becomes the distance of that arc if the line has the
    `DISTANCE` capability and **NaN otherwise — never the distance of an earlier third point** -/
theorem setArc_spec (e : Enum) (he : e = geod ∨ e = geodx) (K : Kern α) (caps : Nat) (a0 s0 a : α) :
    (LineState.setArc e K ⟨lineCaps e caps, a0, s0⟩ a).a13 = a ∧
    (LineState.setArc e K ⟨lineCaps e caps, a0, s0⟩ a).s13 = (if caps.testBit Out.s12.bit then K.distOf a else K.nan) := by
  rw [setArc_lineCaps (Enum.layout_of he)]; exact ⟨rfl, rfl⟩

/-- a default-constructed line: whatever is done to it, every reader returns NaN -/
theorem default_line_reads_nan (e : Enum) (K : Kern α) (h : List (Ev α)) (r : Rd) :
    LineState.read K (run e K (defaultLine K) h).1 r = K.nan := by
  have hc : (run e K (defaultLine K) h).1.caps = 0 := by rw [run_caps]; rfl
  cases r <;> simp [LineState.read, genDistance, St.init, hc]

/-- a line made by a constructor is initialised: its readers return the stored third point -/
theorem initialised_reads (e : Enum) (he : e = geod ∨ e = geodx) (K : Kern α) (caps : Nat) (a0 s0 : α) (h : List (Ev α)) :
    let st := (run e K ⟨lineCaps e caps, a0, s0⟩ h).1
    LineState.read K st .distance = st.s13 ∧ LineState.read K st .arc = st.a13 ∧
    (∀ am, LineState.read K st (.genDistance am) = if am then st.a13 else st.s13) := by
  intro st
  have hc : st.caps = lineCaps e caps := run_caps e K _ h
  have hi : st.init = true := by simp [St.init, hc, lineCaps_ne_zero (Enum.layout_of he) caps]
  refine ⟨?_, ?_, ?_⟩ <;> simp [LineState.read, genDistance, hi]

/-- **`Distance()` / `Arc()` consistency.**  Let `posD` / `posA` be the point `GenPosition` reaches for a distance / for
    an arc, and assume the kernel contract of the property ("a position specified by arc length and by the corresponding
    distance is the same point"): `posA (arcOf s) = posD s` and `posD (distOf a) = posA a`.  Then after *any* history on a
    line made by `Line(…, caps)`, whenever both `Arc()` and `Distance()` are numbers they address the same point. -/
theorem third_point_consistent {β : Type} (e : Enum) (he : e = geod ∨ e = geodx) (K : Kern α) (posD posA : α → β)
    (hDA : ∀ s, posA (K.arcOf s) = posD s) (hAD : ∀ a, posD (K.distOf a) = posA a)
    (caps : Nat) (h : List (Ev α)) :
    let st := (run e K (lineInit e K caps) h).1
    st.a13 ≠ K.nan → st.s13 ≠ K.nan → posA st.a13 = posD st.s13 := by
  intro st ha hs
  have hst : st = fromLastSet e K (lineInit e K caps) h := run_state e K _ h
  unfold fromLastSet at hst
  cases hl : lastSet h with
  | none => rw [hl] at hst; rw [hst] at ha; exact absurd rfl ha
  | some o =>
    rw [hl] at hst
    -- the state is the one the last setter leaves on the fresh line; the component it computes is a number only if
    -- the line has the capability, and then the kernel contract applies
    rcases step_lineCaps (Enum.layout_of he) K caps K.nan K.nan o with ⟨s, ho⟩ | ⟨a, ho⟩
    · rw [hst.trans ho] at ha ⊢
      cases hb : caps.testBit distanceInBit
      · rw [hb] at ha; exact absurd rfl ha
      · exact hDA s
    · rw [hst.trans ho] at hs ⊢
      cases hb : caps.testBit Out.s12.bit
      · rw [hb] at hs; exact absurd rfl hs
      · exact (hAD a).symm

/-- a kernel that meets the contract `hDA` of `third_point_consistent`: integers with `none` as NaN, `arcOf s = s + 1`,
    `distOf a = a − 1`, `posD s = s`, `posA a = a − 1`; after `SetDistance 5; Arc(); SetArc 9` on a line with every capability both
    components are numbers -/
example :
    let K : Kern (Option Int) := ⟨none, fun s => s.map (· + 1), fun a => a.map (· - 1)⟩
    (∀ s, (fun a : Option Int => a.map (· - 1)) (K.arcOf s) = (fun s => s) s) ∧
    (run geod K (lineInit geod K geod_ALL) [.set (.setDistance (some 5)), .get .arc, .set (.setArc (some 9))]) =
      (⟨lineCaps geod geod_ALL, some 9, some 8⟩, [some 6]) := by
  constructor
  · intro s; cases s <;> simp
  · decide

/-- **`DirectLine(s12)`** (any requested capabilities; `DISTANCE_IN` is added): `Distance()` is `s12` — so
    `Position(Distance())` is the very call `Position(s12)` that defines point 2 — and `Arc()` is the arc of `s12` -/
theorem directLine_spec (e : Enum) (he : e = geod ∨ e = geodx) (K : Kern α) (caps : Nat) (s : α) :
    (LineState.directLine e K caps s).s13 = s ∧ (LineState.directLine e K caps s).a13 = K.arcOf s ∧
    (LineState.directLine e K caps s).caps = lineCaps e (caps ||| e.distanceIn) := by
  rw [directLine_eq (Enum.layout_of he)]; exact ⟨rfl, rfl, rfl⟩

/-- **`ArcDirectLine(a12)`**: `Arc()` is `a12` (so `ArcPosition(Arc())` is the defining call), `Distance()` is the
    distance of that arc when `DISTANCE` was requested and NaN otherwise; no capability is added -/
theorem arcDirectLine_spec (e : Enum) (he : e = geod ∨ e = geodx) (K : Kern α) (caps : Nat) (a : α) :
    (arcDirectLine e K caps a).a13 = a ∧
    (arcDirectLine e K caps a).s13 = (if caps.testBit Out.s12.bit then K.distOf a else K.nan) ∧
    (arcDirectLine e K caps a).caps = lineCaps e caps := by
  rw [arcDirectLine_eq (Enum.layout_of he)]; exact ⟨rfl, rfl, rfl⟩

/-- **`InverseLine`**: `Arc()` is the `a12` of the inverse problem; if `DISTANCE_IN` was requested, `DISTANCE` is added
    and `Distance()` is the distance of `a12`; if neither was requested `Distance()` is NaN -/
theorem inverseLine_spec (e : Enum) (he : e = geod ∨ e = geodx) (K : Kern α) (caps : Nat) (a12 : α) :
    (LineState.inverseLine e K caps a12).a13 = a12 ∧
    (caps.testBit distanceInBit = true → (LineState.inverseLine e K caps a12).s13 = K.distOf a12 ∧
        (LineState.inverseLine e K caps a12).caps = lineCaps e (caps ||| e.distance)) ∧
    (caps.testBit distanceInBit = false → (LineState.inverseLine e K caps a12).s13 = (if caps.testBit Out.s12.bit then K.distOf a12 else K.nan) ∧
        (LineState.inverseLine e K caps a12).caps = lineCaps e caps) := by
  rw [inverseLine_eq (Enum.layout_of he)]
  cases caps.testBit distanceInBit
  · exact ⟨rfl, fun hb => absurd hb Bool.false_ne_true, fun _ => ⟨rfl, rfl⟩⟩
  · exact ⟨rfl, fun _ => ⟨rfl, rfl⟩, fun hb => absurd hb.symm Bool.false_ne_true⟩

/-- with the kernel contract, the stored third point of every line constructor reproduces the end point that defined the
    line, by whichever of `Distance()` / `Arc()` is a number -/
theorem constructors_reproduce_endpoint {β : Type} (e : Enum) (he : e = geod ∨ e = geodx) (K : Kern α) (posD posA : α → β)
    (hDA : ∀ s, posA (K.arcOf s) = posD s) (hAD : ∀ a, posD (K.distOf a) = posA a) (caps : Nat) (x : α) :
    posD (LineState.directLine e K caps x).s13 = posD x ∧ posA (LineState.directLine e K caps x).a13 = posD x ∧
    posA (arcDirectLine e K caps x).a13 = posA x ∧
    (caps.testBit Out.s12.bit = true → posD (arcDirectLine e K caps x).s13 = posA x) ∧
    posA (LineState.inverseLine e K caps x).a13 = posA x ∧
    (caps.testBit distanceInBit = true → posD (LineState.inverseLine e K caps x).s13 = posA x) := by
  have hL := Enum.layout_of he
  rw [directLine_eq hL, arcDirectLine_eq hL, inverseLine_eq hL]
  refine ⟨rfl, hDA x, rfl, fun hb => ?_, ?_, fun hb => ?_⟩
  · rw [hb]; exact hAD x
  · cases caps.testBit distanceInBit <;> rfl
  · rw [hb]; exact hAD x

/-- `Capabilities(testcaps)` is true iff every *output* bit (7–14) of `testcaps` is among the line's capabilities;
    `LONG_UNROLL` and the `CAP_x` bits of `testcaps` are ignored -/
theorem capabilities_spec (e : Enum) (he : e = geod ∨ e = geodx) (st : St α) (testcaps : Nat) :
    capabilitiesTest e st testcaps = true ↔ ∀ k, 7 ≤ k → k ≤ 14 → testcaps.testBit k = true → st.caps.testBit k = true := by
  rw [capabilitiesTest, beq_iff_eq, and_eq_right_iff, (Enum.layout_of he).outAll]
  simp only [Nat.testBit_and, testBit_0x7F80, Bool.and_eq_true, decide_eq_true_eq]
  exact ⟨fun H k h7 h14 ht => H k ⟨ht, h7, h14⟩, fun H k ⟨ht, h7, h14⟩ => H k h7 h14 ht⟩

/-- `Capabilities()` of a constructed line: the capabilities requested plus `LATITUDE | AZIMUTH | LONG_UNROLL` -/
theorem capabilities_of_line (e : Enum) (K : Kern α) (caps : Nat) (h : List (Ev α)) :
    (run e K (lineInit e K caps) h).1.caps = caps ||| e.latitude ||| e.azimuth ||| e.longUnroll :=
  run_caps e K _ h

end ThirdPoint

/-- the kernels of the state machine read off the symbolic dataflow model of `GenPosition` (values are `Option T`,
    `none` = NaN): `arcOf s` = the returned `a12` of `GenPosition(false, s, 0u, …)`, `distOf a` = the term assigned to
    `s12` by `GenPosition(true, a, DISTANCE, …)` -/
def symKern (e : Enum) (exact : Bool) (caps : Nat) (bigf : Bool) : LineState.Kern (Option T) :=
  { nan := none
    arcOf := fun s => s.bind fun t => Mask.genPositionRet e exact caps false bigf t
    distOf := fun a => a.bind fun t => genPosition e exact caps e.distance true bigf t .s12 }

/-- **the executed state machine and the symbolic dataflow model describe the same `SetDistance` / `SetArc`**: run with the
    symbolic kernels, the state machine's third point is the one `Mask.setDistance` / `Mask.setArc` (the model of the
    theorems `third_point_distance`, `third_point_arc`, `inverseLine_third_point`) produce -/
theorem state_machine_matches_dataflow (e : Enum) (he : e = geod ∨ e = geodx) (exact bigf : Bool) (caps : Nat) (a0 s0 : Option T) (x : T) :
    let K := symKern e exact caps bigf
    let L : Mask.Line := { exact := exact, caps := caps }
    (LineState.setDistance e K ⟨lineCaps e caps, a0, s0⟩ (some x)).s13 = (Mask.setDistance e bigf L x).s13 ∧
    (LineState.setDistance e K ⟨lineCaps e caps, a0, s0⟩ (some x)).a13 = (Mask.setDistance e bigf L x).a13 ∧
    (LineState.setArc e K ⟨lineCaps e caps, a0, s0⟩ (some x)).a13 = (Mask.setArc e bigf L x).a13 ∧
    (LineState.setArc e K ⟨lineCaps e caps, a0, s0⟩ (some x)).s13 = (Mask.setArc e bigf L x).s13 := by
  intro K L
  have hL := Enum.layout_of he
  rw [LineState.setDistance_lineCaps hL, LineState.setArc_lineCaps hL]
  refine ⟨rfl, ?_, rfl, ?_⟩
  · show _ = Mask.genPositionRet e exact caps false bigf x
    cases hb : caps.testBit distanceInBit
    · rw [Mask.genPositionRet, locatable_eq hL, hb]; rfl
    · rfl
  · show _ = genPosition e exact caps e.distance true bigf x .s12
    have hs := genPosition_distance_isSome hL exact caps bigf x
    rw [lineCaps_testBit hL] at hs
    cases hb : caps.testBit Out.s12.bit
    · rw [hb] at hs; exact (Option.not_isSome_iff_eq_none.mp (by rw [hs]; exact Bool.false_ne_true)).symm
    · rfl

/-- **every inline overload** (table `Gen/Overloads.lean`, extracted from the five headers) of `Direct`,
    `ArcDirect`, `Inverse`, `Position`, `ArcPosition` of `Geodesic`, `GeodesicExact`,
    `GeodesicLine`, `GeodesicLineExact`, `Rhumb`, `RhumbLine` (and the two pass-through wrappers of `Rhumb`) satisfies
    `Overloads.rowOK`: the mask it passes to the general function is exactly the union of the flags of its reference
    parameters (so: an output is requested iff the overload has a parameter for it; no `LONG_UNROLL`, no `DISTANCE_IN`);
    every reference parameter is passed in the position of the quantity of the same name and every other position gets a
    scratch local; the inputs are passed unchanged and in order with `arcmode = false` for `Direct` / `Position` and `true` for
    `ArcDirect` / `ArcPosition`; the value of the general function is returned iff the overload returns `Math::real` -/
theorem overload_table_ok : Gen.Overloads.table.all Overloads.rowOK = true := by decide +kernel

/-- the `mask` enums of the three line classes repeat those of their solvers -/
theorem line_enums_agree : Overloads.lineEnumsAgree = true := by decide

/-- the table has the 20 + 20 + 13 + 13 + 6 + 2 overloads the headers declare, which call 9 general functions -/
example : Gen.Overloads.table.length = 74 ∧ Gen.Overloads.decls.length = 9 := by decide

/-! ### `GenInverse`: the masks handed to `Lengths` (`Gen/LengthMask.lean`, extracted from `Geodesic.cpp`, `GeodesicExact.cpp`) -/

section Inverse
open Gen.LengthMask

/-- **series**: for every union of the documented flag constants (all 2⁹ selections), the two masks `Geodesic::GenInverse`
    passes to `Lengths` — `outmask | DISTANCE | REDUCEDLENGTH` on the meridional branch, `lengthmask` after Newton's
    method — satisfy `Canon` -/
theorem geod_lengthmask_canonical : ∀ sel < 512, Canon cfgG (buildMask geod sel &&& geod_wrapperReduce) := by decide +kernel

/-- **exact**: the masks extracted from `GeodesicExact.cpp` satisfy the conditions the exact `Lengths` needs -/
theorem geodx_lengthmask_canonical : ∀ sel < 512, CanonX cfgX (buildMask geodx sel &&& geodx_wrapperReduce) := by decide +kernel

/-- the meridional `Lengths` call of `GeodesicExact::GenInverse` asks for `DISTANCE` under every mask: the short-line test
    reads `s12x` (the `| DISTANCE` of dc6d194, finding F67) -/
theorem geodx_meridian_distance_always : ∀ sel < 512,
    want geodx (geodx_meridian (buildMask geodx sel &&& geodx_wrapperReduce) &&& geodx_lengthsReduce) .s12 = true := by decide +kernel

/-- **`Geodesic::GenInverse`: the value of every output, and the returned `a12`, is independent of the mask** — all 2⁷
    output masks, with and without `LONG_UNROLL` and `DISTANCE_IN` (which `GenInverse` ignores), every branch -/
theorem geod_inverse_value_mask_independent (sel1 sel2 : Nat) (hs1 : sel1 < 512) (hs2 : sel2 < 512) (br : InvBranch) (o : Out)
    (w1 : o ∈ writtenInverse geod (buildMask geod sel1)) (w2 : o ∈ writtenInverse geod (buildMask geod sel2)) :
    genInverse cfgG geod_wrapperReduce br (buildMask geod sel1) o = genInverse cfgG geod_wrapperReduce br (buildMask geod sel2) o ∧
    genInverseRet cfgG geod_wrapperReduce br (buildMask geod sel1) = genInverseRet cfgG geod_wrapperReduce br (buildMask geod sel2) :=
  genInverseG_mask_independent cfgG rfl _ br _ _ o ((mem_writtenInverse_iff geod _ o).mp w1).2 ((mem_writtenInverse_iff geod _ o).mp w2).2
    (geod_lengthmask_canonical sel1 hs1) (geod_lengthmask_canonical sel2 hs2)

/-- the returned arc length of the series `GenInverse` does not depend on the mask at all (nothing need be requested) -/
theorem geod_inverse_a12_mask_independent (sel1 sel2 : Nat) (hs1 : sel1 < 512) (hs2 : sel2 < 512) (br : InvBranch) :
    genInverseRet cfgG geod_wrapperReduce br (buildMask geod sel1) = genInverseRet cfgG geod_wrapperReduce br (buildMask geod sel2) :=
  genInverseG_ret_mask_independent cfgG rfl _ br _ _ (geod_lengthmask_canonical sel1 hs1) (geod_lengthmask_canonical sel2 hs2)

/-- **`GeodesicExact::GenInverse`: the value of every output, and the returned `a12`, is independent of the mask**, as for the
    series solver.  On the meridional branch this needs `DISTANCE` among what `Lengths` is asked for (the short-line test
    reads `s12x`), which `geodx_meridian_distance_always` provides -/
theorem geodx_inverse_value_mask_independent (sel1 sel2 : Nat) (hs1 : sel1 < 512) (hs2 : sel2 < 512) (br : InvBranch) (o : Out)
    (w1 : o ∈ writtenInverse geodx (buildMask geodx sel1)) (w2 : o ∈ writtenInverse geodx (buildMask geodx sel2)) :
    genInverse cfgX geodx_wrapperReduce br (buildMask geodx sel1) o = genInverse cfgX geodx_wrapperReduce br (buildMask geodx sel2) o ∧
    genInverseRet cfgX geodx_wrapperReduce br (buildMask geodx sel1) = genInverseRet cfgX geodx_wrapperReduce br (buildMask geodx sel2) :=
  genInverseX_mask_independent cfgX rfl _ br _ _ o ((mem_writtenInverse_iff geodx _ o).mp w1).2 ((mem_writtenInverse_iff geodx _ o).mp w2).2
    (geodx_lengthmask_canonical sel1 hs1) (geodx_lengthmask_canonical sel2 hs2)
    (fun _ => ⟨geodx_meridian_distance_always sel1 hs1, geodx_meridian_distance_always sel2 hs2⟩)

/-- the same under the further hypothesis that on the meridional branch both selections contain `DISTANCE` (bit 3);
    the hypothesis is not used -/
theorem geodx_inverse_value_mask_independent_partial (sel1 sel2 : Nat) (hs1 : sel1 < 512) (hs2 : sel2 < 512) (br : InvBranch) (o : Out)
    (w1 : o ∈ writtenInverse geodx (buildMask geodx sel1)) (w2 : o ∈ writtenInverse geodx (buildMask geodx sel2))
    (hmer : br = .meridian → sel1.testBit 3 = true ∧ sel2.testBit 3 = true) :
    genInverse cfgX geodx_wrapperReduce br (buildMask geodx sel1) o = genInverse cfgX geodx_wrapperReduce br (buildMask geodx sel2) o ∧
    genInverseRet cfgX geodx_wrapperReduce br (buildMask geodx sel1) = genInverseRet cfgX geodx_wrapperReduce br (buildMask geodx sel2) :=
  geodx_inverse_value_mask_independent sel1 sel2 hs1 hs2 br o w1 w2

/-- requested ⇔ assigned for the extracted masks, both solvers, every flag union, every branch -/
theorem inverse_written_spec (sel : Nat) (hs : sel < 512) (br : InvBranch) (o : Out) :
    ((genInverse cfgG geod_wrapperReduce br (buildMask geod sel) o).isSome = true ↔ o ∈ writtenInverse geod (buildMask geod sel)) ∧
    ((genInverse cfgX geodx_wrapperReduce br (buildMask geodx sel) o).isSome = true ↔ o ∈ writtenInverse geodx (buildMask geodx sel)) := by
  exact ⟨genInverse_isSome_iff cfgG br _ o (geod_lengthmask_canonical sel hs).toX (lengthsG_scale ..) (lengthsG_scale ..),
    genInverse_isSome_iff cfgX br _ o (geodx_lengthmask_canonical sel hs) (lengthsX_scale ..) (lengthsX_scale ..)⟩

/-- no unassigned local is read, for the masks extracted from `Geodesic.cpp`: every flag union, every branch, every
    requested output -/
theorem geod_inverse_no_uninit (sel : Nat) (hs : sel < 512) (br : InvBranch) (o : Out) (w : o ∈ writtenInverse geod (buildMask geod sel)) :
    (genInverse cfgG geod_wrapperReduce br (buildMask geod sel) o).all (fun t => !t.hasUninit) = true ∧
    (genInverseRet cfgG geod_wrapperReduce br (buildMask geod sel)).hasUninit = false :=
  genInverseG_no_uninit cfgG rfl _ br _ o ((mem_writtenInverse_iff geod _ o).mp w).2 (geod_lengthmask_canonical sel hs)

end Inverse

/-- non-vacuity: `m12` is written both for `REDUCEDLENGTH` alone (selection 32) and for everything (selection 0xEF), and
    the Newton-branch term is the one formed with the `DISTANCE` series although selection 32 does not request `DISTANCE` -/
example : Out.m12 ∈ writtenInverse geod (buildMask geod 32) ∧ Out.m12 ∈ writtenInverse geod (buildMask geod 0xEF) ∧
    want geod (buildMask geod 32 &&& Gen.LengthMask.geod_wrapperReduce) .s12 = false ∧
    want geod (Gen.LengthMask.geod_newton (buildMask geod 32 &&& Gen.LengthMask.geod_wrapperReduce) &&& Gen.LengthMask.geod_lengthsReduce) .s12 = true := by decide

def rhumbFlag : Out → Nat
  | .lat2 => rhumb_LATITUDE | .lon2 => rhumb_LONGITUDE | .azi2 => rhumb_AZIMUTH | .s12 => rhumb_DISTANCE | .S12 => rhumb_AREA | _ => 0

/-- **rhumb direct, value independent of the mask**: two masks that both request `o` assign it the same term — for `lon2`
    provided they agree on `LONG_UNROLL` (which changes its documented meaning); in particular **`S12` does not depend on
    `LONG_UNROLL`** nor on whether `lat2` / `lon2` are requested (it is formed from the longitude difference before that is
    reduced or added to `lon1`), on either side of the pole -/
theorem rhumbPosition_mask_independent (m1 m2 : Nat) (pole : Bool) (o : Out)
    (h1 : (m1 &&& rhumbFlag o != 0) = true) (h2 : (m2 &&& rhumbFlag o != 0) = true)
    (hu : o = .lon2 → (m1 &&& rhumb_LONG_UNROLL != 0) = (m2 &&& rhumb_LONG_UNROLL != 0)) :
    rhumbPosition m1 pole o = rhumbPosition m2 pole o := by
  cases o
  case lat2 => simp only [rhumbFlag] at h1 h2; simp only [rhumbPosition, h1, h2]
  case lon2 => simp only [rhumbFlag] at h1 h2; simp only [rhumbPosition, h1, h2, hu rfl]
  case S12 => simp only [rhumbFlag] at h1 h2; simp only [rhumbPosition, h1, h2]
  all_goals rfl

/-- requested ⇔ assigned: the outputs `RhumbLine::GenPosition` assigns are those of the executed model
    `writtenRhumbDirect`; beyond the pole `lon2` and `S12` are *assigned* NaN, not left untouched -/
theorem rhumbPosition_isSome_iff (m : Nat) (pole : Bool) (o : Out) :
    (rhumbPosition m pole o).isSome = true ↔ o ∈ writtenRhumbDirect m := by
  rw [writtenRhumbDirect, mem_flagged]
  cases o <;> simp [rhumbPosition]

theorem rhumbInverse_mask_independent (m1 m2 : Nat) (o : Out)
    (h1 : (m1 &&& rhumbFlag o != 0) = true) (h2 : (m2 &&& rhumbFlag o != 0) = true) :
    rhumbInverse m1 o = rhumbInverse m2 o := by
  cases o
  case azi2 => simp only [rhumbFlag] at h1 h2; simp only [rhumbInverse, h1, h2]
  case s12 => simp only [rhumbFlag] at h1 h2; simp only [rhumbInverse, h1, h2]
  case S12 => simp only [rhumbFlag] at h1 h2; simp only [rhumbInverse, h1, h2]
  all_goals rfl

theorem rhumbInverse_isSome_iff (m : Nat) (o : Out) :
    (rhumbInverse m o).isSome = true ↔ o ∈ writtenRhumbInverse m := by
  rw [writtenRhumbInverse, mem_flagged]
  cases o <;> simp [rhumbInverse]

/-- non-vacuity: with and without `LONG_UNROLL`, `S12` is requested -/
example : ((rhumb_AREA ||| rhumb_LONG_UNROLL) &&& rhumbFlag .S12 != 0) = true ∧ (rhumb_ALL &&& rhumbFlag .S12 != 0) = true := by decide

end GeoVerif.Props.C12
