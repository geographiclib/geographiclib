import GeoVerif.Series.GeodSeries
import GeoVerif.Series.GeodTrig
import GeoVerif.Spec.RealInst
import GeoVerif.Proofs.GeodLine
import GeoVerif.Proofs.GeodLineExact
import GeoVerif.Props.C01
import Mathlib.Tactic.FieldSimp
import Mathlib.Tactic.Linarith
import Mathlib.Tactic.NormNum
import Mathlib.Tactic.Positivity
import Mathlib.Tactic.LinearCombination
import Mathlib.Tactic.Ring
/-!
# C03 — reduced length, geodesic scales, area

Mask independence of `Geodesic::Lengths`, the certificate of the area table `C4coeff`, agreement of `GenPosition` with `Lengths`,
reversal law, addition rules and Wronskian of the coded scale formulas, the sum behind `DST::integral`, and the authalic radius
of the two solvers.
-/
namespace GeoVerif.Props.C03
open GeoVerif GeoVerif.Clenshaw GeoVerif.GeodLengths GeoVerif.Series GeoVerif.Series.Geod

theorem clen_linear (ar a b : ℝ) (xs ys : List ℝ) (h : xs.length = ys.length) :
    clen ar (List.zipWith (fun x y => a * x - b * y) xs ys) =
      (a * (clen ar xs).1 - b * (clen ar ys).1, a * (clen ar xs).2 - b * (clen ar ys).2) := by
  induction xs generalizing ys with
  | nil => cases ys with
    | nil => simp [clen, ofNat_real]
    | cons y ys => simp at h
  | cons x xs ih =>
    cases ys with
    | nil => simp at h
    | cons y ys =>
      have hl : xs.length = ys.length := by simpa using h
      simp only [List.zipWith_cons_cons, clen, ih ys hl, Prod.mk.injEq]
      exact ⟨by ring, trivial⟩

theorem sinCosSeries_linear (sinx cosx a b : ℝ) (xs ys : List ℝ) (h : xs.length = ys.length) :
    sinCosSeries true sinx cosx (List.zipWith (fun x y => a * x - b * y) xs ys) =
      a * sinCosSeries true sinx cosx xs - b * sinCosSeries true sinx cosx ys := by
  unfold sinCosSeries
  simp only [if_true, clen_linear _ a b xs ys h]
  ring

/-- mask equivalence of `J12`: the two code paths of `Geodesic::Lengths` (DISTANCE requested or not) give the same value, the
    Clenshaw sum being linear in the coefficient vector -/
theorem lengths_mask_equiv (m0x sig12 A1 A2 : ℝ) (ca cb : List ℝ) (h : ca.length = cb.length) (ssig1 csig1 ssig2 csig2 : ℝ) :
    j12WithDistance m0x sig12 A1 A2 ca cb ssig1 csig1 ssig2 csig2 =
      j12WithoutDistance m0x sig12 A1 A2 ca cb ssig1 csig1 ssig2 csig2 := by
  unfold j12WithDistance j12WithoutDistance
  dsimp only
  rw [sinCosSeries_linear _ _ A1 A2 ca cb h, sinCosSeries_linear _ _ A1 A2 ca cb h]
  ring

/-- hence m12, M12, M21 returned by `Lengths` do not depend on whether DISTANCE was requested -/
theorem lengths_outputs_mask_independent (ep2 eps sig12 ssig1 csig1 dn1 ssig2 csig2 dn2 cbet1 cbet2 : ℝ)
    (h : (c1f eps : List ℝ).length = (c2f eps : List ℝ).length) :
    (lengths ep2 eps sig12 ssig1 csig1 dn1 ssig2 csig2 dn2 cbet1 cbet2 true).m12b =
      (lengths ep2 eps sig12 ssig1 csig1 dn1 ssig2 csig2 dn2 cbet1 cbet2 false).m12b ∧
    (lengths ep2 eps sig12 ssig1 csig1 dn1 ssig2 csig2 dn2 cbet1 cbet2 true).M12 =
      (lengths ep2 eps sig12 ssig1 csig1 dn1 ssig2 csig2 dn2 cbet1 cbet2 false).M12 ∧
    (lengths ep2 eps sig12 ssig1 csig1 dn1 ssig2 csig2 dn2 cbet1 cbet2 true).M21 =
      (lengths ep2 eps sig12 ssig1 csig1 dn1 ssig2 csig2 dn2 cbet1 cbet2 false).M21 := by
  simp only [lengths, if_true, Bool.false_eq_true, if_false]
  rw [lengths_mask_equiv _ _ _ _ _ _ h]
  exact ⟨rfl, rfl, rfl⟩

/-- `S12 *= swapp * lonsign * latsign`: reversing the segment (swapp ↦ −swapp) or reflecting it in the equator or a
    meridian negates S12; doing two of these restores it -/
theorem s12_sign (S : ℝ) (swapp lonsign latsign : ℤ) :
    S * ((-swapp) * lonsign * latsign : ℤ) = -(S * (swapp * lonsign * latsign : ℤ)) ∧
    S * (swapp * (-lonsign) * latsign : ℤ) = -(S * (swapp * lonsign * latsign : ℤ)) ∧
    S * (swapp * lonsign * (-latsign) : ℤ) = -(S * (swapp * lonsign * latsign : ℤ)) := by
  refine ⟨?_, ?_, ?_⟩ <;> push_cast <;> ring

theorem a1_table : checkA1 = true := C01.a1_table
theorem c1_table : ((List.range N).all fun i => checkC1 (i + 1)) = true := C01.c1_table
theorem a2_table : checkA2 = true := C01.a2_table
theorem c2_table : ((List.range N).all fun i => checkC2 (i + 1)) = true := C01.c2_table

/-! `hk`, `hk_spec` are the mathematics behind the checker's `i4DividedDifference`; nothing ties them to it formally. -/

/-- the layout of `C4coeff`/`C4f` consumes the table exactly -/
theorem table_sizes4 : c4Size = Gen.GeodSeries.C4coeff.length := by decide +kernel

/-- `t(x) = x + √(1 + 1/x)·asinh √x = x + (1 + x) h(x)` where `h(x) = asinh(√x)/√(x(1 + x))` is the power-series solution
    of `2x(1 + x) h′ + (1 + 2x) h = 1`: the coefficients `hCoef` used below satisfy this ODE (mod `x^{N+1}`); no table involved -/
theorem t_series : checkH (N + 1) = true := by decide +kernel

/-- `h_k(x, y) = Σ_{i+j=k} x^i y^j` by the recursion used in `i4DividedDifference` -/
def hk (x y : ℝ) : ℕ → ℝ
  | 0 => 1
  | k + 1 => x * hk x y k + y ^ (k + 1)

/-- `(x − y)·h_k(x, y) = x^{k+1} − y^{k+1}`: so `[t(x) − t(y)]/(x − y) = Σ_{m ≥ 1} t_m h_{m−1}(x, y)` for `t = Σ t_m x^m` -/
theorem hk_spec (x y : ℝ) (k : ℕ) : (x - y) * hk x y k = x ^ (k + 1) - y ^ (k + 1) := by
  induction k with
  | zero => simp [hk]
  | succ k ih =>
    have : (x - y) * hk x y (k + 1) = x * ((x - y) * hk x y k) + (x - y) * y ^ (k + 1) := by simp only [hk]; ring
    rw [this, ih]; ring

/-- **C4** (Karney 2013, eq. 59–63; `computeI4` of `maxima/geod.mac`).  `I4(σ) = Σ_{l=0}^{N−1} C4_l cos((2l + 1)σ)` and
    `−dI4/dσ = [t(e′²) − t(k² sin²σ)]/(e′² − k² sin²σ) · sin σ/2` with `e′² = 4n/(1 − n)²`, `k² = 4ε/(1 − ε)²`, `t` as in `t_series`.
    The divided difference is expanded directly (`hk_spec`) as a trigonometric polynomial in `σ` with coefficients in
    `ℚ[n, ε]` modulo total degree `N` — the truncation `jtaylor(·, n, eps, N−1)` of the generator.  Certified:
    `Σ_l (2l + 1) C4_l sin((2l + 1)σ)` (table `C4coeff`, layout of `C4f`) **is** that expansion times `sin σ/2`.
    Full certificate of the 77-entry (N = 6) table: all its entries have total degree `≤ N − 1`. -/
theorem c4_table : checkC4Expansion = true := by decide +kernel

/-- second, independent route (no divided difference): multiplying out,
    `[Σ_l (2l + 1) C4_l sin((2l + 1)σ)] · (e′² − k² sin²σ) = [t(e′²) − t(k² sin²σ)] · sin σ/2` modulo total degree `N + 1`.
    The factor `e′² − k² sin²σ` has lowest-order part `4(n − ε sin²σ) ≠ 0` and the coefficient ring is an integral
    domain, so this relation alone also determines the first factor modulo total degree `N`. -/
theorem c4_relation : checkC4 = true := by decide +kernel

/-! `GeodesicLine::GenPosition` (direct problem, `Model/GeodLine.lean`) and `Geodesic::Lengths` (inverse problem,
`Model/GeodLengths.lean`) are separate code; over `ℝ` they compute the same `s12`, `m12`, `M12`, `M21`. -/

section LineVsLengths
open GeoVerif.GeodLine GeoVerif.Proofs.GeodLine

/-- for a line whose series members are those `LineInit` computes from `eps` (`hA1 … hB2`, `hk`), in arc mode (so that
    `B12` is the direct series at `σ2`), at a non-degenerate end point: the outputs of `GenPosition` equal those of
    `Lengths` evaluated on the same arc (`σ12 = a12·degree`, the same `(ssig2, csig2, dn2)`), with `cos β_i` related to
    the arc by `cos²β = 1 − cos²α0 sin²σ`.  `GenPosition` uses `k²(sin²σ2 − sin²σ1)` where `Lengths` uses
    `e′²(cos²β1 − cos²β2)`, and the kernel value `cos σ12` where `Lengths` uses `cos σ1 cos σ2 + sin σ1 sin σ2`. -/
theorem line_lengths_agree (L : Line ℝ) (ep2 eps a12 sk ck cbet1 cbet2 : ℝ) (un : Bool)
    (hA1 : L.A1m1 = a1m1f eps) (hC1 : L.C1a = c1f eps) (hA2 : L.A2m1 = a2m1f eps) (hC2 : L.C2a = c2f eps)
    (hB1 : L.B11 = sinCosSeries true L.ssig1 L.csig1 L.C1a) (hB2 : L.B21 = sinCosSeries true L.ssig1 L.csig1 L.C2a)
    (hk : L.k2 = L.calp0 ^ 2 * ep2) (h1 : L.ssig1 ^ 2 + L.csig1 ^ 2 = 1)
    (hnd : RealLike.hypot L.salp0 (L.calp0 * (L.csig1 * ck - L.ssig1 * sk)) ≠ 0)
    (hb1 : cbet1 ^ 2 = 1 - (L.calp0 * L.ssig1) ^ 2)
    (hb2 : cbet2 ^ 2 = 1 - (L.calp0 * (L.ssig1 * ck + L.csig1 * sk)) ^ 2) :
    let P := genPosition L true a12 sk ck un
    let dn2 := Real.sqrt (1 + L.k2 * P.ssig2 ^ 2)
    let R := lengths ep2 eps (a12 * degree) L.ssig1 L.csig1 L.dn1 P.ssig2 P.csig2 dn2 cbet1 cbet2 true
    P.s12 = L.b * R.s12b ∧ P.m12 = L.b * R.m12b ∧ P.M12 = R.M12 ∧ P.M21 = R.M21 := by
  intro P dn2 R
  obtain ⟨hσ, hs2, hB12, hs12⟩ := genPosition_arc (P := P) rfl
  obtain ⟨_, hc2, _⟩ := genpos_nd L true a12 sk ck un hnd
  rw [csig2pre_arc] at hc2
  obtain ⟨hm, hM12, hM21⟩ := genPosition_scales (P := P) rfl
  obtain ⟨hRs, hRm, hRM12, hRM21⟩ := lengths_distance ep2 eps (a12 * degree) L.ssig1 L.csig1 L.dn1 P.ssig2 P.csig2 dn2 cbet1 cbet2
  -- `Lengths` forms `cos σ12` by the addition formula and `t` from `cos β`; `GenPosition` takes the kernel value and `k² sin²σ`
  have key1 : L.csig1 * P.csig2 + L.ssig1 * P.ssig2 = ck := by rw [hs2, hc2]; linear_combination ck * h1
  have key2 : L.k2 * (P.ssig2 - L.ssig1) * (P.ssig2 + L.ssig1) = ep2 * (cbet1 - cbet2) * (cbet1 + cbet2) := by
    rw [hs2, hk]; linear_combination (-ep2) * hb1 + ep2 * hb2
  -- the two `J12` are the same sums once the line's series members are those of `eps`
  have hB : P.B12 = sinCosSeries true P.ssig2 P.csig2 (c1f eps) := by rw [hB12, hs2, hc2, hC1]
  rw [hs12, hm, hM12, hM21, hRs, hRm, hRM12, hRM21, key1, key2, hB, hσ, hB1, hB2, hC1, hC2, hA1, hA2]
  exact ⟨by ring, rfl, rfl, rfl⟩

/-- non-vacuity: the equator of the unit sphere (`Proofs.GeodLine.exLine`), a quarter circuit -/
example : let L := GeoVerif.Proofs.GeodLine.exLine
    L.A1m1 = a1m1f 0 ∧ L.C1a = c1f 0 ∧ L.A2m1 = a2m1f 0 ∧ L.C2a = c2f 0 ∧
    L.B11 = sinCosSeries true L.ssig1 L.csig1 L.C1a ∧ L.B21 = sinCosSeries true L.ssig1 L.csig1 L.C2a ∧
    L.k2 = L.calp0 ^ 2 * 0 ∧ L.ssig1 ^ 2 + L.csig1 ^ 2 = 1 ∧
    RealLike.hypot L.salp0 (L.calp0 * (L.csig1 * 0 - L.ssig1 * 1)) ≠ 0 ∧
    (1 : ℝ) ^ 2 = 1 - (L.calp0 * L.ssig1) ^ 2 ∧ (1 : ℝ) ^ 2 = 1 - (L.calp0 * (L.ssig1 * 0 + L.csig1 * 1)) ^ 2 := by
  intro L
  refine ⟨rfl, rfl, rfl, rfl, rfl, rfl, ?_, ?_, ?_, ?_, ?_⟩ <;> simp [L, GeoVerif.Proofs.GeodLine.exLine, hypot_real]

end LineVsLengths

/-! `GeodesicLine::GenPosition` and `GeodesicLineExact::GenPosition` evaluate the same three expressions `m12f`, `M12f`, `M21f`
(`Model/GeodLineExact.lean`) on `(sin σ_i, cos σ_i, dn_i)` and an integral `J12`; the series line obtains `J12` from the `A1, C1, A2, C2`
series, the exact line from `D(σ)`.  The identities below hold for those expressions whatever `J12` is, given only that it is additive
along the line — so a wrong sign, a swapped argument or a lost term in the expressions themselves contradicts a theorem, while the accuracy
of `J12` is left to the oracle. -/

section Scales
open Real GeoVerif.GeodLine GeoVerif.GeodLineX GeoVerif.Proofs.GeodLine GeoVerif.Proofs.GeodLineX

/-- reversal law for the formulas as coded: exchanging the end points and negating `J` (`J21 = −J12`, an integral taken backwards)
    negates the signed `m12/b` — the reversed segment runs from 2 to 1 with `σ12 ↦ −σ12`, so the reduced length of the reversed
    *segment* is unchanged — and exchanges `M12` and `M21` -/
theorem scales_reversal (k2 s1 c1 d1 s2 c2 d2 J : ℝ) (h1 : Pt k2 s1 c1 d1) (h2 : Pt k2 s2 c2 d2) :
    m12f s2 c2 d2 s1 c1 d1 (-J) = -m12f s1 c1 d1 s2 c2 d2 J ∧
    M12f k2 s2 d2 s1 c1 d1 (c2 * c1 + s2 * s1) (-J) = M21f k2 s1 c1 d1 s2 d2 (c1 * c2 + s1 * s2) J ∧
    M21f k2 s2 c2 d2 s1 d1 (c2 * c1 + s2 * s1) (-J) = M12f k2 s1 d1 s2 c2 d2 (c1 * c2 + s1 * s2) J := by
  refine ⟨by unfold m12f; ring, ?_, ?_⟩
  · rw [M12f_eq k2 s2 c2 d2 s1 c1 d1 _ h2 h1, M21f_eq k2 s1 c1 d1 s2 c2 d2 J h1 h2]; ring
  · rw [M21f_eq k2 s2 c2 d2 s1 c1 d1 _ h2 h1, M12f_eq k2 s1 c1 d1 s2 c2 d2 J h1 h2]; ring

/-- addition rule for the reduced length, for the formulas as coded: for three points of one geodesic and `J13 = J12 + J23`,
    `m13 = m12 M23 + m23 M21` -/
theorem addition_rule_m (k2 s1 c1 d1 s2 c2 d2 s3 c3 d3 J12 J23 : ℝ) (h1 : Pt k2 s1 c1 d1) (h2 : Pt k2 s2 c2 d2) (h3 : Pt k2 s3 c3 d3) :
    m12f s1 c1 d1 s3 c3 d3 (J12 + J23) =
      m12f s1 c1 d1 s2 c2 d2 J12 * M12f k2 s2 d2 s3 c3 d3 (c2 * c3 + s2 * s3) J23 +
      m12f s2 c2 d2 s3 c3 d3 J23 * M21f k2 s1 c1 d1 s2 d2 (c1 * c2 + s1 * s2) J12 := by
  rw [M12f_eq k2 s2 c2 d2 s3 c3 d3 J23 h2 h3, M21f_eq k2 s1 c1 d1 s2 c2 d2 J12 h1 h2]
  have hd2 : d2 ≠ 0 := h2.pos.ne'
  unfold m12f
  -- cleared of the denominator `d2`, the difference of the two sides is a multiple of `s2² + c2² − 1`
  field_simp
  linear_combination (d2 * (J12 * c1 * c3 + J23 * c1 * c3 - c1 * d3 * s3 + c3 * d1 * s1)) * h2.unit

/-- the expression for `b · dM12/ds2` that differentiating the coded `M12` along the line gives by hand (`dσ/ds = 1/(b dn)`,
    `dJ/dσ = dn − 1/dn`); it is defined, not derived: no `HasDerivAt` statement links it to `M12f` -/
noncomputable def dM12f (s1 c1 d1 s2 c2 d2 J : ℝ) : ℝ := (d2 * s1 * c2 - d1 * c1 * s2 + s1 * s2 * J) / (d1 * d2)

/-- Wronskian identity for the formulas as coded: `M12 M21 − m12 · dM12/ds2 = 1` with `b·dM12/ds2 = dM12f` -/
theorem scales_wronskian (k2 s1 c1 d1 s2 c2 d2 J : ℝ) (h1 : Pt k2 s1 c1 d1) (h2 : Pt k2 s2 c2 d2) :
    M12f k2 s1 d1 s2 c2 d2 (c1 * c2 + s1 * s2) J * M21f k2 s1 c1 d1 s2 d2 (c1 * c2 + s1 * s2) J
      - m12f s1 c1 d1 s2 c2 d2 J * dM12f s1 c1 d1 s2 c2 d2 J = 1 := by
  rw [M12f_eq k2 s1 c1 d1 s2 c2 d2 J h1 h2, M21f_eq k2 s1 c1 d1 s2 c2 d2 J h1 h2]
  have hd1 : d1 ≠ 0 := h1.pos.ne'
  have hd2 : d2 ≠ 0 := h2.pos.ne'
  unfold m12f dM12f
  field_simp
  linear_combination (d1 * d2 * (c2 ^ 2 + s2 ^ 2)) * h1.unit + (d1 * d2) * h2.unit

/-- addition rule for the geodesic scale, for the formulas as coded: `M13 = M12 M23 − (1 − M12 M21) m23/m12`, stated without the
    division (`addition_rule_M_div` divides by `m12 ≠ 0`) -/
theorem addition_rule_M (k2 s1 c1 d1 s2 c2 d2 s3 c3 d3 J12 J23 : ℝ) (h1 : Pt k2 s1 c1 d1) (h2 : Pt k2 s2 c2 d2) (h3 : Pt k2 s3 c3 d3) :
    let m12 := m12f s1 c1 d1 s2 c2 d2 J12
    let m23 := m12f s2 c2 d2 s3 c3 d3 J23
    let M12 := M12f k2 s1 d1 s2 c2 d2 (c1 * c2 + s1 * s2) J12
    let M21 := M21f k2 s1 c1 d1 s2 d2 (c1 * c2 + s1 * s2) J12
    let M23 := M12f k2 s2 d2 s3 c3 d3 (c2 * c3 + s2 * s3) J23
    let M13 := M12f k2 s1 d1 s3 c3 d3 (c1 * c3 + s1 * s3) (J12 + J23)
    M13 * m12 = M12 * M23 * m12 - (1 - M12 * M21) * m23 := by
  intro m12 m23 M12 M21 M23 M13
  simp only [m12, m23, M12, M21, M23, M13]
  rw [M12f_eq k2 s1 c1 d1 s2 c2 d2 J12 h1 h2, M21f_eq k2 s1 c1 d1 s2 c2 d2 J12 h1 h2, M12f_eq k2 s2 c2 d2 s3 c3 d3 J23 h2 h3,
    M12f_eq k2 s1 c1 d1 s3 c3 d3 (J12 + J23) h1 h3]
  have hd1 : d1 ≠ 0 := h1.pos.ne'
  have hd2 : d2 ≠ 0 := h2.pos.ne'
  unfold m12f
  -- cofactors of `s1² + c1² − 1` and `s2² + c2² − 1` in `d1 d2 (lhs − rhs)`, from a computer algebra system
  field_simp
  linear_combination (-d1*d2*(-J12*c2^3*c3 - J12*c2*c3*s2^2 + J12*c2*c3 - J23*c2^3*c3 - J23*c2*c3*s2^2 + c2^3*d3*s3 + c2*d3*s2^2*s3 - c3*d2*s2)) * h1.unit +
      (d2*(-J12^2*c1*c2*c3*s1 - J12*J23*c1*c2*c3*s1 + J12*c1*c2*d3*s1*s3 + J12*c1*c3*d2*s1*s2 - 2*J12*c2*c3*d1*s1^2 + J12*c2*c3*d1 + J23*c1*c3*d2*s1*s2 - J23*c2*c3*d1*s1^2 + J23*c2*c3*d1 + c1*c2*c3*d1^2*s1 - c1*d2*d3*s1*s2*s3 + c2*d1*d3*s1^2*s3 - c2*d1*d3*s3 + c3*d1*d2*s1^2*s2)) * h2.unit

theorem addition_rule_M_div (k2 s1 c1 d1 s2 c2 d2 s3 c3 d3 J12 J23 : ℝ) (h1 : Pt k2 s1 c1 d1) (h2 : Pt k2 s2 c2 d2) (h3 : Pt k2 s3 c3 d3)
    (hm : m12f s1 c1 d1 s2 c2 d2 J12 ≠ 0) :
    M12f k2 s1 d1 s3 c3 d3 (c1 * c3 + s1 * s3) (J12 + J23) =
      M12f k2 s1 d1 s2 c2 d2 (c1 * c2 + s1 * s2) J12 * M12f k2 s2 d2 s3 c3 d3 (c2 * c3 + s2 * s3) J23 -
      (1 - M12f k2 s1 d1 s2 c2 d2 (c1 * c2 + s1 * s2) J12 * M21f k2 s1 c1 d1 s2 d2 (c1 * c2 + s1 * s2) J12) *
        m12f s2 c2 d2 s3 c3 d3 J23 / m12f s1 c1 d1 s2 c2 d2 J12 := by
  have h := addition_rule_M k2 s1 c1 d1 s2 c2 d2 s3 c3 d3 J12 J23 h1 h2 h3
  simp only at h
  rw [eq_sub_iff_add_eq, ← mul_left_inj' hm, add_mul, div_mul_cancel₀ _ hm]
  linear_combination h

/-- non-vacuity of `Pt`, `k² = 25/3` -/
example : Pt (25 / 3) (3 / 5) (4 / 5) 2 ∧ Pt (25 / 3) (-3 / 5) (4 / 5) 2 ∧ Pt (25 / 3) 0 (-1) 1 :=
  ⟨⟨by norm_num, by norm_num, by norm_num⟩, ⟨by norm_num, by norm_num, by norm_num⟩, ⟨by norm_num, by norm_num, by norm_num⟩⟩

/-- the executed model of `GeodesicLine::GenPosition` (series) uses exactly these expressions, for some `J12` -/
theorem genpos_scales_are_formulas (L : Line ℝ) (arcmode : Bool) (s sk ck : ℝ) (un : Bool) :
    let P := genPosition L arcmode s sk ck un
    ∃ dn2 J12 : ℝ, dn2 = Real.sqrt (1 + L.k2 * P.ssig2 ^ 2) ∧
      P.m12 = L.b * m12f L.ssig1 L.csig1 L.dn1 P.ssig2 P.csig2 dn2 J12 ∧
      P.M12 = M12f L.k2 L.ssig1 L.dn1 P.ssig2 P.csig2 dn2 (arcOf L arcmode s sk ck).2.2.1 J12 ∧
      P.M21 = M21f L.k2 L.ssig1 L.csig1 L.dn1 P.ssig2 dn2 (arcOf L arcmode s sk ck).2.2.1 J12 := by
  intro P
  refine ⟨?d, ?J, ?e0, ?e1, ?e2, ?e3⟩
  case e1 => exact rfl
  case e2 => exact rfl
  case e3 => exact rfl
  case e0 => simp only [sqrt_real, sq_real, lit_real, Nat.cast_one]; rfl

/-- `GeodesicLineExact::GenPosition`: the same three expressions, with `dn2 = Delta(σ2)` and `J12 = k² D0 (σ12 + deltaD(σ2) − D1)`, for every kernel -/
theorem xgenpos_scales_are_formulas (L : LineX ℝ) (K : Ell ℝ) (arcmode : Bool) (s sk ck : ℝ) (un : Bool) :
    let P := genPositionX L K arcmode s sk ck un
    P.m12 = L.b * m12f L.ssig1 L.csig1 L.dn1 P.ssig2 P.csig2 P.dn2 P.J12 ∧
    P.M12 = M12f L.k2 L.ssig1 L.dn1 P.ssig2 P.csig2 P.dn2 P.csig12 P.J12 ∧
    P.M21 = M21f L.k2 L.ssig1 L.csig1 L.dn1 P.ssig2 P.dn2 P.csig12 P.J12 := ⟨rfl, rfl, rfl⟩

theorem delta_sq (k2 sn cn : ℝ) (hu : sn ^ 2 + cn ^ 2 = 1) (hp : 0 ≤ 1 + k2 * sn ^ 2) : delta k2 (1 + k2) sn cn ^ 2 = 1 + k2 * sn ^ 2 := by
  rw [delta_eq_sqrt k2 sn cn hu, Real.sq_sqrt hp]

/-- the Wronskian identity on the executed model of the exact line, for every kernel, in arc mode at a non-degenerate end point -/
theorem xgenpos_wronskian (L : LineX ℝ) (K : Ell ℝ) (a12 sk ck : ℝ) (un : Bool)
    (h1 : Pt L.k2 L.ssig1 L.csig1 L.dn1) (hkp : L.kp2 = 1 + L.k2) (hk : sk ^ 2 + ck ^ 2 = 1)
    (hnd : NonDegenerateX L K true a12 sk ck) (hb : L.b ≠ 0)
    (hpos : 0 < 1 + L.k2 * (L.ssig1 * ck + L.csig1 * sk) ^ 2) :
    let P := genPositionX L K true a12 sk ck un
    P.M12 * P.M21 - P.m12 / L.b * dM12f L.ssig1 L.csig1 L.dn1 P.ssig2 P.csig2 P.dn2 P.J12 = 1 := by
  intro P
  -- in arc mode the end point is `σ1 + σ12` by the addition formulas on the kernel pair, and `csig12 = ck`
  obtain ⟨hs2, hc2, _⟩ := genposX_nd L K true a12 sk ck un hnd
  rw [ssig2ofX_arc] at hs2
  rw [csig2preX_arc] at hc2
  have hu2 : P.ssig2 ^ 2 + P.csig2 ^ 2 = 1 := by rw [hs2, hc2]; exact sig2_unit h1.unit hk
  have hdn : P.dn2 = Real.sqrt (1 + L.k2 * P.ssig2 ^ 2) := by
    rw [hs2, ← delta_eq_sqrt _ _ _ (sig2_unit h1.unit hk), ← hkp]; rfl
  have h2 : Pt L.k2 P.ssig2 P.csig2 P.dn2 :=
    ⟨hu2, by rw [hdn, Real.sq_sqrt (hs2 ▸ hpos.le)], by rw [hdn]; exact Real.sqrt_pos.mpr (hs2 ▸ hpos)⟩
  have hc12 : ck = L.csig1 * P.csig2 + L.ssig1 * P.ssig2 := by rw [hs2, hc2]; linear_combination (-ck) * h1.unit
  have hW := scales_wronskian L.k2 L.ssig1 L.csig1 L.dn1 P.ssig2 P.csig2 P.dn2 P.J12 h1 h2
  rw [← hc12, ← mul_div_cancel_left₀ (m12f L.ssig1 L.csig1 L.dn1 P.ssig2 P.csig2 P.dn2 P.J12) hb] at hW
  exact hW

/-- non-vacuity: the equator of the unit sphere with the sphere kernel, a quarter circuit -/
example : Pt exLineX.k2 exLineX.ssig1 exLineX.csig1 exLineX.dn1 ∧ exLineX.kp2 = 1 + exLineX.k2 ∧ (1 : ℝ) ^ 2 + 0 ^ 2 = 1 ∧
    NonDegenerateX exLineX exEll true 90 1 0 ∧ exLineX.b ≠ 0 ∧ 0 < 1 + exLineX.k2 * (exLineX.ssig1 * 0 + exLineX.csig1 * 1) ^ 2 := by
  refine ⟨⟨by simp [exLineX], by simp [exLineX], by simp [exLineX]⟩, by simp [exLineX], by norm_num, exLineX_nd _ _ _ _, by simp [exLineX], by simp [exLineX]⟩

end Scales

section DSTsec
open Real GeoVerif.GeodLine GeoVerif.GeodLineX GeoVerif.Proofs.GeodLineX

/-- `DST::integral(sin x, cos x, F, N) = −Σ_{i<N} F[i]/(2i+1) · cos((2i+1)x)` for every coefficient vector and every `x` (the area
    term `B4(σ)` of the exact line: `S12 = c² α12 + A4 (B42 − B41)`) -/
theorem dstIntegral_eq (x : ℝ) (F : List ℝ) : dstIntegral (sin x) (cos x) F = -dstSum x 0 F := by
  -- `DST::integral` is the cosine `SinCosSeries` of the weights `F[i]/(2i+1)`, with the opposite sign
  have hS : ∀ (k : ℕ) (G : List ℝ), C01.dsumCos x k (dstW k G) = dstSum x k G := by
    intro k G
    induction G generalizing k with
    | nil => rfl
    | cons c cs ih => simp only [dstW, C01.dsumCos, dstSum, ih]
  have hw := dstW_eq F 0
  simp only [Nat.add_zero] at hw
  rw [← hS, ← C01.sinCosSeries_cos, ← hw]
  unfold dstIntegral sinCosSeries
  simp only [Bool.false_eq_true, if_false, lit_real, Nat.cast_zero]
  rw [← mul_neg, neg_sub]

end DSTsec

section Authalic
open Real GeoVerif.GeodLine GeoVerif.GeodLineX GeoVerif.Proofs.GeodLineX

/-- both solvers hold the same authalic radius: for an oblate ellipsoid (`0 < f < 1`) `GeodesicExact`'s `_c2` (written with
    `asinh √e′²`) and `Geodesic`'s (written with `e·atanh e` through `Math::eatanhe`) are the same real number, `(a² + b² atanh(e)/e)/2`;
    `EllipsoidArea() = 4π c2` in both classes -/
theorem c2_exact_eq_series (a f tiny eps0 : ℝ) (h0 : 0 < f) (h1 : f < 1) :
    (geodesicX a f tiny eps0).c2 = (geodesic a f tiny eps0).c2 ∧
    (geodesic a f tiny eps0).c2 = (a ^ 2 + (a * (1 - f)) ^ 2 * (Real.log ((1 + Real.sqrt (f * (2 - f))) / (1 - Real.sqrt (f * (2 - f)))) / 2 / Real.sqrt (f * (2 - f)))) / 2 := by
  have hf1 : 0 < 1 - f := sub_pos.mpr h1
  have he2p : 0 < f * (2 - f) := mul_pos h0 (by linarith)
  -- `e = √(f(2 − f))`, `0 < e < 1`, `1 − e² = (1 − f)²`
  generalize he : Real.sqrt (f * (2 - f)) = e
  have hep : 0 < e := he ▸ Real.sqrt_pos.mpr he2p
  have hesq : e ^ 2 = f * (2 - f) := he ▸ Real.sq_sqrt he2p.le
  have hel : e < 1 := lt_of_pow_lt_pow_left₀ 2 zero_le_one (by rw [hesq]; linarith [pow_pos hf1 2])
  have hser : (geodesic a f tiny eps0).c2 = (a ^ 2 + (a * (1 - f)) ^ 2 * (Real.log ((1 + e) / (1 - e)) / 2 / e)) / 2 := by
    have hdiv (x : ℝ) : e * x / e ^ 2 = x / e := by rw [pow_two, mul_comm e x, mul_div_mul_right _ _ hep.ne']
    rw [geodesic_c2, if_neg he2p.ne', if_neg (not_lt.mpr h0.le), one_mul, abs_of_pos he2p, he, eatanhe1_pos e hep, ← hesq, hdiv]
  have hrt : Real.sqrt (f * (2 - f) / (1 - f) ^ 2) = e / Real.sqrt (1 - e ^ 2) := by
    rw [Real.sqrt_div he2p.le, he, hesq, show 1 - f * (2 - f) = (1 - f) ^ 2 by ring]
  refine ⟨?_, hser⟩
  rw [hser, geodesicX_c2, if_neg h0.ne', if_pos h0, abs_of_pos he2p, he, hrt, arsinh_eq_atanh e hep hel]

example : (0 : ℝ) < 1 / 298 ∧ (1 / 298 : ℝ) < 1 := by norm_num

end Authalic

end GeoVerif.Props.C03
