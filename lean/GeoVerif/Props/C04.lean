import GeoVerif.Model.UTMUPS
import GeoVerif.Props.C16
import Mathlib.Tactic.SplitIfs
import Mathlib.Tactic.Linarith
import Mathlib.Algebra.Order.Floor.Ring
import Mathlib.Data.Rat.Floor
/-! # C04 — property theorems (UTM/UPS discrete rules) -/
namespace GeoVerif.Props.C04
open GeoVerif GeoVerif.UTMUPS Gen.UTM

/-- C++ `/` truncates, but below −80 the band is clamped to −10 whichever way the quotient is rounded -/
theorem latitudeBandI_eq (ilat : Int) : latitudeBandI ilat = max (-10) (min 9 ((ilat + 80) / 8 - 10)) := by
  unfold latitudeBandI
  rw [Int.tdiv_eq_ediv, show (8 : Int).sign = 1 from rfl]
  split_ifs <;> omega

/-- the zone rule for `−180 ≤ ilon < 180`, with floor division (all dividends are positive there); the code's test
    `zone = 31 ∧ ilon ≥ 3` is `3 ≤ ilon < 6` -/
theorem utmZoneI_eq (band ilon : Int) (h : -180 ≤ ilon ∧ ilon < 180) :
    utmZoneI band ilon =
      if band = 7 ∧ 3 ≤ ilon ∧ ilon < 6 then 32
      else if band = 9 ∧ 0 ≤ ilon ∧ ilon < 42 then 2 * ((ilon + 183) / 12) + 1
      else (ilon + 180) / 6 + 1 := by
  have e1 : (ilon + 186).tdiv 6 = (ilon + 186) / 6 := Int.tdiv_eq_ediv_of_nonneg (by omega)
  have e2 : (ilon + 183).tdiv 12 = (ilon + 183) / 12 := Int.tdiv_eq_ediv_of_nonneg (by omega)
  have hne : ¬ ilon = 180 := by omega
  simp only [utmZoneI, Gen.MathC.hd, hne, if_false, e1, e2]
  split_ifs <;> omega

theorem svalbard_eq (ilon : Int) (h : 0 ≤ ilon ∧ ilon < 42) :
    2 * ((ilon + 183) / 12) + 1 = if ilon < 9 then 31 else if ilon < 21 then 33 else if ilon < 33 then 35 else 37 := by
  split_ifs <;> omega

/-- the code's special case: longitude 180 is treated as −180 -/
theorem utmZoneI_180 (band : Int) : utmZoneI band 180 = utmZoneI band (-180) := rfl

/-- zones are always in 1..60 -/
theorem zone_range (band ilon : Int) (h : -180 ≤ ilon ∧ ilon ≤ 180) :
    1 ≤ utmZoneI band ilon ∧ utmZoneI band ilon ≤ 60 := by
  have key : ∀ l, -180 ≤ l ∧ l < 180 → 1 ≤ utmZoneI band l ∧ utmZoneI band l ≤ 60 := by
    intro l hl
    rw [utmZoneI_eq band l hl]
    split_ifs <;> omega
  by_cases h180 : ilon = 180
  · rw [h180, utmZoneI_180]; exact key _ (by omega)
  · exact key _ (by omega)

/-- away from the exceptions the zone is the standard 6° zone `⌊(L+180)/6⌋ + 1` -/
theorem zone_standard (band ilon : Int) (h : -180 ≤ ilon ∧ ilon < 180)
    (hN : ¬ (band = 7 ∧ 3 ≤ ilon ∧ ilon < 6)) (hS : ¬ (band = 9 ∧ 0 ≤ ilon ∧ ilon < 42)) :
    utmZoneI band ilon = (ilon + 180) / 6 + 1 := by
  rw [utmZoneI_eq band ilon h, if_neg hN, if_neg hS]

/-- Norway: band V, 3° ≤ L < 6° goes to zone 32 -/
theorem zone_norway (ilon : Int) (h : 3 ≤ ilon ∧ ilon < 6) : utmZoneI 7 ilon = 32 := by
  rw [utmZoneI_eq 7 ilon (by omega), if_pos ⟨rfl, h⟩]

/-- Svalbard: band X, 0° ≤ L < 42° goes to 31, 33, 35, 37 with the 9/21/33 boundaries -/
theorem zone_svalbard (ilon : Int) (h : 0 ≤ ilon ∧ ilon < 42) :
    utmZoneI 9 ilon = (if ilon < 9 then 31 else if ilon < 21 then 33 else if ilon < 33 then 35 else 37) := by
  rw [utmZoneI_eq 9 ilon (by omega), if_neg (by omega), if_pos ⟨rfl, h⟩, svalbard_eq ilon h]

/-- latitude bands: 8° bands from −80, band X (index 9) extends from 72 to 84 and beyond; clamped to −10..9 -/
theorem band_spec (ilat : Int) (h : -80 ≤ ilat ∧ ilat < 72) : latitudeBandI ilat = (ilat + 80) / 8 - 10 := by
  rw [latitudeBandI_eq]; omega
theorem band_X (ilat : Int) (h : 72 ≤ ilat) : latitudeBandI ilat = 9 := by
  rw [latitudeBandI_eq]; omega
theorem band_C (ilat : Int) (h : ilat < -72) : latitudeBandI ilat = -10 := by
  rw [latitudeBandI_eq]; omega

/-- the six tables evaluate to the documented rectangles and false origins (index = 2·utm + north), and the two MGRS constants they are built from -/
theorem range_tables :
    utm_falseeasting = [2000000, 2000000, 500000, 500000] ∧
    utm_falsenorthing = [2000000, 2000000, 10000000, 0] ∧
    utm_mineasting = [800000, 1300000, 100000, 100000] ∧
    utm_maxeasting = [3200000, 2700000, 900000, 900000] ∧
    utm_minnorthing = [800000, 1300000, 1000000, -9000000] ∧
    utm_maxnorthing = [3200000, 2700000, 19500000, 9500000] ∧
    mgrs_utmNshift = 10000000 ∧ mgrs_tile = 100000 := by decide

theorem zone_consts : zINVALID = -4 ∧ zMATCH = -3 ∧ zUTM = -2 ∧ zSTANDARD = -1 ∧ zUPS = 0 ∧ zMINUTMZONE = 1 ∧ zMAXUTMZONE = 60 ∧
    zMINPSEUDOZONE = -4 ∧ zMAXZONE = 60 ∧ zMINZONE = 0 := by decide

/-- `DecodeZone (EncodeZone z n abbrev) = (z, n)` for every zone 0..60, both hemispheres, both styles -/
theorem zone_string_roundtrip :
    ∀ z ∈ List.range 61, ∀ n ∈ [true, false], ∀ a ∈ [true, false],
      (match encodeZone z n a with
       | .ok s => (match decodeZone s with | .ok (z', n') => decide (z' = z ∧ n' = n) | .error _ => false)
       | .error _ => false) = true := by decide +kernel

/-- the INVALID zone round-trips (hemisphere is reported as south) -/
theorem zone_string_invalid :
    ∀ n ∈ [true, false], ∀ a ∈ [true, false],
      (match encodeZone zINVALID n a with
       | .ok s => (match decodeZone s with | .ok (z', n') => decide (z' = zINVALID ∧ n' = false) | .error _ => false)
       | .error _ => false) = true := by decide +kernel

/-- "0n"-style strings, signs, three digits and out-of-range zones are rejected -/
theorem zone_string_rejects :
    ∀ s ∈ ["0n", "00s", "+5n", "-5n", "005n", "61n", "99s", "5", "5x", "n5", "", "5nn", " 5n", "12345678"],
      (match decodeZone (bytesOf s) with | .ok _ => false | .error _ => true) = true := by decide +kernel

/-- closed form of `DecodeEPSG` with the constants read from the source -/
theorem epsg_decode_spec (e : Int) :
    decodeEPSG e =
      if 32601 ≤ e ∧ e ≤ 32660 then (e - 32600, true)
      else if e = 32661 then (0, true)
      else if 32701 ≤ e ∧ e ≤ 32760 then (e - 32700, false)
      else if e = 32761 then (0, false) else (-4, false) := by
  have a : e - 32601 + 1 = e - 32600 := by omega
  have b : e - 32701 + 1 = e - 32700 := by omega
  simp only [decodeEPSG, epsg01N, epsg60N, epsgN, epsg01S, epsg60S, epsgS, zUPS, zMINUTMZONE, zINVALID, ge_iff_le, a, b]
  rfl

theorem epsg_encode_spec (z : Int) (n : Bool) :
    encodeEPSG z n = if z = 0 then (if n then 32661 else 32761)
      else if 1 ≤ z ∧ z ≤ 60 then (if n then z + 32600 else z + 32700) else -1 := by
  unfold encodeEPSG
  simp only [epsgN, epsg01S, epsgS, zUPS, zMINUTMZONE, zMAXUTMZONE, ge_iff_le]
  cases n
  · simp
    split_ifs <;> omega
  · simp
    split_ifs <;> omega

theorem epsg_roundtrip_inv (e z : Int) (n : Bool) (hd : decodeEPSG e = (z, n)) (h : z ≠ -4) : encodeEPSG z n = e := by
  rw [epsg_decode_spec] at hd
  rw [epsg_encode_spec]
  split_ifs at hd with h1 h2 h3 h4
  all_goals obtain ⟨rfl, rfl⟩ := Prod.mk.inj hd
  · rw [if_neg (by omega), if_pos (by omega), if_pos rfl]; omega
  · rw [if_pos rfl, if_pos rfl]; exact h2.symm
  · rw [if_neg (by omega), if_pos (by omega), if_neg (by simp)]; omega
  · rw [if_pos rfl, if_neg (by simp)]; exact h4.symm
  · exact absurd rfl h

theorem epsg_invalid (e : Int) (h : e < 32601 ∨ (32661 < e ∧ e < 32701) ∨ 32761 < e) : decodeEPSG e = (-4, false) := by
  rw [epsg_decode_spec, if_neg (by omega), if_neg (by omega), if_neg (by omega), if_neg (by omega)]

theorem epsg_roundtrip (z : Int) (n : Bool) (h : 0 ≤ z ∧ z ≤ 60) : decodeEPSG (encodeEPSG z n) = (z, n) := by
  rw [epsg_encode_spec]
  by_cases h0 : z = 0
  · subst h0; cases n <;> rfl
  · rw [if_neg h0, if_pos (by omega), epsg_decode_spec]
    cases n
    · simp only [Bool.false_eq_true, if_false]
      rw [if_neg (by omega), if_neg (by omega), if_pos (by omega), Int.add_sub_cancel]
    · simp only [if_true]
      rw [if_pos (by omega), Int.add_sub_cancel]

theorem val_ofInt (n : ℤ) : (F64.ofInt n).val = n := F64.val_ofInt n

theorem ofInt_fin (n : ℤ) : F64.ofInt n = F64.fin (decide (n < 0)) n.natAbs 0 := F64.ofInt_fin n

theorem lt_ofInt_fin (n : ℤ) (s : Bool) (m : ℕ) (e : ℤ) :
    F64.lt (F64.fin s m e) (F64.ofInt n) = true ↔ (F64.fin s m e).val < n := by
  rw [F64.lt_iff rfl rfl, val_ofInt]

/-- a coordinate passes a closed-interval test of `CheckCoords`: NaN, or finite with `lo ≤ v ≤ hi` -/
def InRange (v : F64) (lo hi : ℤ) : Prop := v.isNaN = true ∨ (v.isFinite = true ∧ (lo:ℚ) ≤ v.val ∧ v.val ≤ hi)

theorem inRange_iff (v : F64) (lo hi : ℤ) :
    (!(F64.lt v (F64.ofInt lo) || F64.gt v (F64.ofInt hi))) = true ↔ InRange v lo hi := by
  cases v with
  | nan => simp [InRange, F64.lt, F64.gt, F64.isNaN, ofInt_fin]
  | inf s => cases s <;> simp [InRange, F64.lt, F64.gt, F64.isNaN, F64.isFinite, ofInt_fin]
  | fin s m e =>
    rw [Bool.not_eq_true', Bool.or_eq_false_iff, ← Bool.not_eq_true, ← Bool.not_eq_true, F64.gt,
      F64.lt_iff rfl rfl, F64.lt_iff rfl rfl, val_ofInt, val_ofInt, not_lt, not_lt]
    simp [InRange, F64.isNaN, F64.isFinite]

/-- **`CheckCoords` accepts exactly the closed rectangles of the tables** (read from the source), widened by one MGRS
    tile (100 km) unless `mgrslimits`; NaN coordinates are accepted, infinities are not -/
theorem checkCoords_iff (utmp northp : Bool) (x y : F64) (mgrslimits : Bool) :
    checkCoords utmp northp x y mgrslimits = true ↔
      InRange x (utm_mineasting.getD (ind utmp northp) 0 - (if mgrslimits then 0 else mgrs_tile))
                (utm_maxeasting.getD (ind utmp northp) 0 + (if mgrslimits then 0 else mgrs_tile)) ∧
      InRange y (utm_minnorthing.getD (ind utmp northp) 0 - (if mgrslimits then 0 else mgrs_tile))
                (utm_maxnorthing.getD (ind utmp northp) 0 + (if mgrslimits then 0 else mgrs_tile)) := by
  unfold checkCoords
  simp only [Bool.and_eq_true]
  rw [inRange_iff, inRange_iff]

/-- the four rectangles with the numbers of the documentation (`s` = 100 km unless `mgrslimits`): UTM eastings
    [1, 9]·10⁵; northings north [−90, 95]·10⁵, south [10, 195]·10⁵; UPS north [13, 27]·10⁵, south [8, 32]·10⁵ in
    both coordinates -/
theorem checkCoords_rectangles (x y : F64) (mg : Bool) :
    (checkCoords true true x y mg = true ↔
      InRange x (100000 - (if mg then 0 else 100000)) (900000 + (if mg then 0 else 100000)) ∧
      InRange y (-9000000 - (if mg then 0 else 100000)) (9500000 + (if mg then 0 else 100000))) ∧
    (checkCoords true false x y mg = true ↔
      InRange x (100000 - (if mg then 0 else 100000)) (900000 + (if mg then 0 else 100000)) ∧
      InRange y (1000000 - (if mg then 0 else 100000)) (19500000 + (if mg then 0 else 100000))) ∧
    (checkCoords false true x y mg = true ↔
      InRange x (1300000 - (if mg then 0 else 100000)) (2700000 + (if mg then 0 else 100000)) ∧
      InRange y (1300000 - (if mg then 0 else 100000)) (2700000 + (if mg then 0 else 100000))) ∧
    (checkCoords false false x y mg = true ↔
      InRange x (800000 - (if mg then 0 else 100000)) (3200000 + (if mg then 0 else 100000)) ∧
      InRange y (800000 - (if mg then 0 else 100000)) (3200000 + (if mg then 0 else 100000))) := by
  refine ⟨?_, ?_, ?_, ?_⟩ <;> rw [checkCoords_iff] <;> rfl

/-- non-vacuity: the edges are accepted, one metre outside the widened rectangle is not, NaN is, +∞ is not -/
example : checkCoords true true (F64.ofInt 900000) (F64.ofInt (-9000000)) true = true ∧
    checkCoords true true (F64.ofInt 900001) (F64.ofInt 0) true = false ∧
    checkCoords true true (F64.ofInt 1000000) (F64.ofInt 0) false = true ∧
    checkCoords true true (F64.ofInt 1000001) (F64.ofInt 0) false = false ∧
    checkCoords false false F64.nan (F64.ofInt 800000) true = true ∧
    checkCoords false false (F64.inf false) (F64.ofInt 800000) true = false := by decide +kernel

/-- the northing shift applied when the hemisphere changes: ∓10 000 km (constant read from the source) -/
def nshift (northpout : Bool) : F64 := F64.ofInt (if northpout then -10000000 else 10000000)

theorem nshift_eq (nout : Bool) : F64.ofInt ((if nout then -1 else 1) * mgrs_utmNshift) = nshift nout := by
  cases nout <;> rfl

theorem transferSameZone_eq (zone : Int) (np : Bool) (x y : F64) (nout : Bool) :
    transferSameZone zone np x y nout =
      if zone = 0 ∧ np ≠ nout then .error "UPS between hemispheres"
      else .ok (x, if np ≠ nout then y + nshift nout else y, zone) := by
  unfold transferSameZone
  rw [nshift_eq]

/-- UPS cannot change hemisphere: the same-zone transfer of zone 0 to the other hemisphere is an error -/
theorem transfer_same_ups (np : Bool) (x y : F64) : (transferSameZone 0 np x y (!np)).toOption = none := by
  rw [transferSameZone_eq, if_pos ⟨rfl, by cases np <;> decide⟩]
  rfl

/-- **same zone**: the easting and the zone are returned unchanged; the northing is unchanged, or shifted by exactly
    ∓10⁷ m when the hemisphere changes; UPS cannot change hemisphere.  The kernels are not consulted. -/
theorem transfer_same (zone : Int) (nin nout : Bool) (x y : F64)
    (rev : Int → Bool → F64 → F64 → Except Err (F64 × F64)) (fwd : F64 → F64 → Int → Except Err FwdOut) :
    transfer zone nin x y zone nout rev fwd =
      if zone = 0 ∧ nin ≠ nout then .error "UPS between hemispheres"
      else .ok (x, if nin ≠ nout then y + nshift nout else y, zone) := by
  unfold transfer
  rw [if_neg (not_not.mpr rfl), transferSameZone_eq]

/-- **different zones**: `Transfer` is `Forward ∘ Reverse` (for every pair of kernels) with the requested zone
    (`MATCH` = keep the input zone), followed by the hemisphere bookkeeping on *Forward's* hemisphere -/
theorem transfer_diff (zin zout : Int) (nin nout : Bool) (x y lat lon : F64) (o : FwdOut)
    (rev : Int → Bool → F64 → F64 → Except Err (F64 × F64)) (fwd : F64 → F64 → Int → Except Err FwdOut)
    (h : zin ≠ zout) (hr : rev zin nin x y = .ok (lat, lon))
    (hf : fwd lat lon (if zout = zMATCH then zin else zout) = .ok o) :
    transfer zin nin x y zout nout rev fwd =
      if o.zone = 0 ∧ o.northp ≠ nout then .error "UPS between hemispheres"
      else .ok (o.x, if o.northp ≠ nout then o.y + nshift nout else o.y, o.zone) := by
  unfold transfer
  rw [if_pos h, hr]
  simp only [bind, Except.bind, hf, nshift_eq]
  by_cases hc : o.zone = 0 ∧ o.northp ≠ nout
  · rw [if_pos hc, if_pos hc]; rfl
  · rw [if_neg hc, if_neg hc]; rfl

/-- errors of the kernels propagate: nothing is returned when `Reverse` or `Forward` throws -/
theorem transfer_rev_error (zin zout : Int) (nin nout : Bool) (x y : F64) (e : Err)
    (rev : Int → Bool → F64 → F64 → Except Err (F64 × F64)) (fwd : F64 → F64 → Int → Except Err FwdOut)
    (h : zin ≠ zout) (hr : rev zin nin x y = .error e) :
    transfer zin nin x y zout nout rev fwd = .error e := by
  unfold transfer
  rw [if_pos h, hr]
  rfl

theorem transfer_fwd_error (zin zout : Int) (nin nout : Bool) (x y lat lon : F64) (e : Err)
    (rev : Int → Bool → F64 → F64 → Except Err (F64 × F64)) (fwd : F64 → F64 → Int → Except Err FwdOut)
    (h : zin ≠ zout) (hr : rev zin nin x y = .ok (lat, lon))
    (hf : fwd lat lon (if zout = zMATCH then zin else zout) = .error e) :
    transfer zin nin x y zout nout rev fwd = .error e := by
  unfold transfer
  rw [if_pos h, hr]
  simp only [bind, Except.bind, hf]

theorem hemisphere_ok (zone : Int) (np nout : Bool) (x y xo yo : F64) (zo : Int)
    (h : (if zone = 0 ∧ np ≠ nout then (.error "UPS between hemispheres" : Except Err (F64 × F64 × Int)) else .ok (x, y, zone)) =
      .ok (xo, yo, zo)) :
    zo = zone ∧ xo = x ∧ (zone = 0 → np = nout) ∧ yo = y := by
  by_cases hc : zone = 0 ∧ np ≠ nout
  · rw [if_pos hc] at h; cases h
  · rw [if_neg hc] at h
    cases h
    exact ⟨rfl, rfl, fun h0 => Classical.byContradiction fun hne => hc ⟨h0, hne⟩, rfl⟩

/-- a successful transfer never yields UPS coordinates labelled with the other hemisphere, and
    an UPS hemisphere change is always an error -/
theorem transfer_spec (zin zout : Int) (nin nout : Bool) (x y xo yo : F64) (zo : Int)
    (rev : Int → Bool → F64 → F64 → Except Err (F64 × F64)) (fwd : F64 → F64 → Int → Except Err FwdOut)
    (h : transfer zin nin x y zout nout rev fwd = .ok (xo, yo, zo)) :
    (zin = zout → zo = zin ∧ xo = x ∧ (zin = 0 → nin = nout) ∧ yo = (if nin ≠ nout then y + nshift nout else y)) ∧
    (zin ≠ zout → ∃ lat lon o, rev zin nin x y = .ok (lat, lon) ∧ fwd lat lon (if zout = zMATCH then zin else zout) = .ok o ∧
        zo = o.zone ∧ xo = o.x ∧ (o.zone = 0 → o.northp = nout) ∧
        yo = (if o.northp ≠ nout then o.y + nshift nout else o.y)) := by
  constructor
  · intro hz; subst hz
    rw [transfer_same] at h
    exact hemisphere_ok _ _ _ _ _ _ _ _ h
  · intro hz
    cases hr : rev zin nin x y with
    | error e => rw [transfer_rev_error zin zout nin nout x y e rev fwd hz hr] at h; cases h
    | ok p =>
      obtain ⟨lat, lon⟩ := p
      cases hf : fwd lat lon (if zout = zMATCH then zin else zout) with
      | error e => rw [transfer_fwd_error zin zout nin nout x y lat lon e rev fwd hz hr hf] at h; cases h
      | ok o =>
        rw [transfer_diff zin zout nin nout x y lat lon o rev fwd hz hr hf] at h
        obtain ⟨h1, h2, h3, h4⟩ := hemisphere_ok _ _ _ _ _ _ _ _ h
        exact ⟨lat, lon, o, rfl, hf, h1, h2, h3, h4⟩

theorem fl_eq_floor (x : F64) : fl x = ⌊x.val⌋ := (Int.floor_eq_iff.mpr (F64.intFloor_spec x)).symm

theorem fmin_val (a b : F64) (ha : a.isFinite = true) (hb : b.isFinite = true) :
    (F64.fmin a b).isFinite = true ∧ (F64.fmin a b).val = min a.val b.val := by
  unfold F64.fmin
  rw [F64.isNaN_of_isFinite a ha, F64.isNaN_of_isFinite b hb]
  simp only [Bool.false_eq_true, if_false]
  by_cases h : F64.lt b a = true
  · rw [if_pos h]; exact ⟨hb, (min_eq_right ((F64.lt_iff hb ha).mp h).le).symm⟩
  · rw [if_neg h]; exact ⟨ha, (min_eq_left (not_lt.mp (mt (F64.lt_iff hb ha).mpr h))).symm⟩

theorem fmax_val (a b : F64) (ha : a.isFinite = true) (hb : b.isFinite = true) :
    (F64.fmax a b).isFinite = true ∧ (F64.fmax a b).val = max a.val b.val := by
  unfold F64.fmax
  rw [F64.isNaN_of_isFinite a ha, F64.isNaN_of_isFinite b hb]
  simp only [Bool.false_eq_true, if_false]
  by_cases h : F64.lt a b = true
  · rw [if_pos h]; exact ⟨hb, (max_eq_right ((F64.lt_iff ha hb).mp h).le).symm⟩
  · rw [if_neg h]; exact ⟨ha, (max_eq_left (not_lt.mp (mt (F64.lt_iff ha hb).mpr h))).symm⟩

/-- the clamp to [−90, 90] in `LatitudeBand` does not change the value of a legal latitude -/
theorem latitudeBand_eq (lat : F64) (hf : lat.isFinite = true) (h1 : -90 ≤ lat.val) (h2 : lat.val ≤ 90) :
    latitudeBand lat = latitudeBandI ⌊lat.val⌋ := by
  obtain ⟨f, e⟩ := fmin_val (F64.ofInt 90) lat rfl hf
  unfold latitudeBand
  simp only [Gen.MathC.qd]
  rw [fl_eq_floor, (fmax_val _ _ rfl f).2, e, val_ofInt, val_ofInt]
  push_cast
  rw [min_eq_right h2, max_eq_right h1]

/-- the zone rule on real latitude `φ` and normalised longitude `L ∈ [−180, 180)` (UTM part) -/
def zoneQ (φ L : ℚ) : ℤ :=
  if 56 ≤ φ ∧ φ < 64 ∧ 3 ≤ L ∧ L < 6 then 32
  else if 72 ≤ φ ∧ 0 ≤ L ∧ L < 42 then (if L < 9 then 31 else if L < 21 then 33 else if L < 33 then 35 else 37)
  else ⌊(L + 180) / 6⌋ + 1

theorem floor_div6 (L : ℚ) : ⌊(L + 180) / 6⌋ = (⌊L⌋ + 180) / 6 := by
  rw [← Int.floor_add_ofNat]
  exact_mod_cast Int.floor_div_natCast (L + 180) 6

/-- every threshold of `zoneQ` is an integer -/
theorem zoneQ_floor (φ L : ℚ) :
    zoneQ φ L =
      if 56 ≤ ⌊φ⌋ ∧ ⌊φ⌋ < 64 ∧ 3 ≤ ⌊L⌋ ∧ ⌊L⌋ < 6 then 32
      else if 72 ≤ ⌊φ⌋ ∧ 0 ≤ ⌊L⌋ ∧ ⌊L⌋ < 42 then (if ⌊L⌋ < 9 then 31 else if ⌊L⌋ < 21 then 33 else if ⌊L⌋ < 33 then 35 else 37)
      else (⌊L⌋ + 180) / 6 + 1 := by
  unfold zoneQ
  rw [floor_div6]
  simp only [Int.le_floor, Int.floor_lt, Int.cast_ofNat, Int.cast_zero]

theorem utmZoneI_band (ip il : Int) (hl : -180 ≤ il ∧ il < 180) :
    utmZoneI (latitudeBandI ip) il =
      if 56 ≤ ip ∧ ip < 64 ∧ 3 ≤ il ∧ il < 6 then 32
      else if 72 ≤ ip ∧ 0 ≤ il ∧ il < 42 then (if il < 9 then 31 else if il < 21 then 33 else if il < 33 then 35 else 37)
      else (il + 180) / 6 + 1 := by
  have h7 : latitudeBandI ip = 7 ↔ 56 ≤ ip ∧ ip < 64 := by rw [latitudeBandI_eq]; omega
  have h9 : latitudeBandI ip = 9 ↔ 72 ≤ ip := by rw [latitudeBandI_eq]; omega
  simp only [utmZoneI_eq _ il hl, h7, h9, and_assoc]
  by_cases hS : 72 ≤ ip ∧ 0 ≤ il ∧ il < 42
  · rw [if_pos hS, if_pos hS, svalbard_eq il hS.2]
  · rw [if_neg hS, if_neg hS]

/-- the integer zone rule of the code, applied to `⌊φ⌋` and `⌊N⌋`, is the real-valued rule (the code's special case
    `⌊N⌋ = 180 ↦ −180` is the normalisation of `N = 180` to `−180`) -/
theorem utmZone_eq (φ N : ℚ) (hN : -180 ≤ N ∧ N ≤ 180) :
    (-180 ≤ (if N = 180 then -180 else N) ∧ (if N = 180 then -180 else N) < 180) ∧
    utmZoneI (latitudeBandI ⌊φ⌋) ⌊N⌋ = zoneQ φ (if N = 180 then -180 else N) := by
  by_cases h : N = 180
  · rw [if_pos h, h, zoneQ_floor]
    norm_num [utmZoneI_180, utmZoneI_band]
  · have hlt : N < 180 := lt_of_le_of_ne hN.2 h
    rw [if_neg h, zoneQ_floor, utmZoneI_band]
    · exact ⟨⟨hN.1, hlt⟩, rfl⟩
    · exact ⟨Int.le_floor.mpr (by exact_mod_cast hN.1), Int.floor_lt.mpr (by exact_mod_cast hlt)⟩

theorem zoneQ_range (φ L : ℚ) (hL : -180 ≤ L ∧ L < 180) : 1 ≤ zoneQ φ L ∧ zoneQ φ L ≤ 60 := by
  have c1 : -180 ≤ ⌊L⌋ := Int.le_floor.mpr (by exact_mod_cast hL.1)
  have c2 : ⌊L⌋ < 180 := Int.floor_lt.mpr (by exact_mod_cast hL.2)
  rw [zoneQ_floor, ← utmZoneI_band _ _ ⟨c1, c2⟩]
  exact zone_range _ _ ⟨c1, c2.le⟩

theorem utmBranch_spec (lat : F64) (hf : lat.isFinite = true) (h1 : -90 ≤ lat.val) (h2 : lat.val ≤ 90)
    (slon : Bool) (mlon : ℕ) (elon : ℤ) :
    ∃ L : ℚ, (-180 ≤ L ∧ L < 180) ∧ (∃ n : ℤ, L = (F64.fin slon mlon elon).val - 360 * n) ∧
      utmZoneI (latitudeBand lat) (fl (MathF.angNormalize (F64.fin slon mlon elon))) = zoneQ lat.val L := by
  obtain ⟨_, ⟨n, hn⟩, habs, _⟩ := C16.angNormalize_spec slon mlon elon
  obtain ⟨hL, hz⟩ := utmZone_eq lat.val _ (abs_le.mp habs)
  refine ⟨_, hL, ?_, by rw [latitudeBand_eq lat hf h1 h2, fl_eq_floor, hz]⟩
  by_cases h : (MathF.angNormalize (F64.fin slon mlon elon)).val = 180
  · rw [if_pos h]; exact ⟨n + 1, by push_cast; linarith⟩
  · rw [if_neg h]; exact ⟨n, hn⟩

/-- **`StandardZone` on real-valued coordinates** (`setzone` = STANDARD or MATCH): for every finite latitude in
    [−90, 90] and every finite longitude there is the normalised longitude `L ∈ [−180, 180)`, `L ≡ lon (mod 360)`
    exactly, such that the result is UPS (0) iff `lat < −80 ∨ lat ≥ 84`, and otherwise the 6° zone
    `⌊(L+180)/6⌋ + 1` with the Norway (band V, 3 ≤ L < 6 ↦ 32) and Svalbard (band X, 0 ≤ L < 42 ↦ 31/33/35/37 by the
    9/21/33 rule) exceptions — on the *values* of the binary64 arguments, not only on integer degrees -/
theorem standardZone_spec (slat slon : Bool) (mlat mlon : ℕ) (elat elon : ℤ) (sz : ℤ) (hsz : sz = zSTANDARD ∨ sz = zMATCH)
    (h1 : -90 ≤ (F64.fin slat mlat elat).val) (h2 : (F64.fin slat mlat elat).val ≤ 90) :
    ∃ L : ℚ, (-180 ≤ L ∧ L < 180) ∧ (∃ n : ℤ, L = (F64.fin slon mlon elon).val - 360 * n) ∧
      standardZone (F64.fin slat mlat elat) (F64.fin slon mlon elon) sz =
        .ok (if (F64.fin slat mlat elat).val < -80 ∨ 84 ≤ (F64.fin slat mlat elat).val then 0
             else zoneQ (F64.fin slat mlat elat).val L) := by
  obtain ⟨L, hL, hn, hz⟩ := utmBranch_spec (F64.fin slat mlat elat) rfl h1 h2 slon mlon elon
  refine ⟨L, hL, hn, ?_⟩
  have hcond : (F64.ge (F64.fin slat mlat elat) (F64.ofInt (-80)) && F64.lt (F64.fin slat mlat elat) (F64.ofInt 84)) = true ↔
      ¬ ((F64.fin slat mlat elat).val < -80 ∨ 84 ≤ (F64.fin slat mlat elat).val) := by
    rw [Bool.and_eq_true, F64.ge, F64.le_iff rfl rfl, F64.lt_iff rfl rfl, val_ofInt, val_ofInt, not_or, not_lt, not_le]
    push_cast; rfl
  have hsz' : ¬ (sz ≥ 0 ∨ sz = -4) ∧ sz ≠ -2 ∧ (sz ≥ -4 ∧ sz ≤ 60) := by
    rcases hsz with rfl | rfl <;> decide
  unfold standardZone
  simp only [zMINPSEUDOZONE, zMAXZONE, zMINZONE, zINVALID, zUTM, zUPS, hsz'.1, hsz'.2.1, hsz'.2.2, F64.isFinite, hz,
    and_self, decide_true, Bool.not_true, Bool.and_self, Bool.false_eq_true, if_false, false_or]
  by_cases hc : (F64.ge (F64.fin slat mlat elat) (F64.ofInt (-80)) && F64.lt (F64.fin slat mlat elat) (F64.ofInt 84)) = true
  · rw [if_pos hc, if_neg (hcond.mp hc)]
  · rw [if_neg hc, if_pos (not_not.mp (mt hcond.mpr hc))]

/-- `setzone = UTM` never gives UPS: the same rule without the polar cut (band X extends to the pole, band C to −90) -/
theorem standardZone_utm (slat slon : Bool) (mlat mlon : ℕ) (elat elon : ℤ)
    (h1 : -90 ≤ (F64.fin slat mlat elat).val) (h2 : (F64.fin slat mlat elat).val ≤ 90) :
    ∃ L : ℚ, (-180 ≤ L ∧ L < 180) ∧ (∃ n : ℤ, L = (F64.fin slon mlon elon).val - 360 * n) ∧
      standardZone (F64.fin slat mlat elat) (F64.fin slon mlon elon) zUTM = .ok (zoneQ (F64.fin slat mlat elat).val L) ∧
      1 ≤ zoneQ (F64.fin slat mlat elat).val L ∧ zoneQ (F64.fin slat mlat elat).val L ≤ 60 := by
  obtain ⟨L, hL, hn, hz⟩ := utmBranch_spec (F64.fin slat mlat elat) rfl h1 h2 slon mlon elon
  refine ⟨L, hL, hn, ?_, zoneQ_range _ _ hL⟩
  unfold standardZone
  simp only [zMINPSEUDOZONE, zMAXZONE, zMINZONE, zINVALID, zUTM, F64.isFinite, hz]
  rfl

/-- an explicit zone (0..60) or INVALID is returned as is; NaN or infinite coordinates give INVALID -/
theorem standardZone_explicit (lat lon : F64) (sz : ℤ) (h : (0 ≤ sz ∧ sz ≤ 60) ∨ sz = -4) :
    standardZone lat lon sz = .ok sz := by
  unfold standardZone
  simp only [zMINPSEUDOZONE, zMAXZONE, zMINZONE, zINVALID]
  have a : (sz ≥ -4 ∧ sz ≤ 60) := by omega
  have b : (sz ≥ 0 ∨ sz = -4) := by omega
  simp [a, b]

theorem standardZone_nonfinite (lat lon : F64) (sz : ℤ) (hsz : sz = -1 ∨ sz = -2 ∨ sz = -3)
    (h : lat.isFinite = false ∨ lon.isFinite = false) : standardZone lat lon sz = .ok (-4) := by
  unfold standardZone
  simp only [zMINPSEUDOZONE, zMAXZONE, zMINZONE, zINVALID]
  have a : (sz ≥ -4 ∧ sz ≤ 60) := by omega
  have b : ¬ (sz ≥ 0 ∨ sz = -4) := by omega
  have c : (lat.isFinite && lon.isFinite) = false := by rcases h with h | h <;> simp [h]
  simp [a, b, c]

/-- non-vacuity of `standardZone_spec` / `standardZone_utm`: (60.5°, 5.5°) is in the Norway window,
    (78°, 20.5° + 720°) in Svalbard's zone 33, (84°, 0°) is UPS, and zone 31 under `UTM` -/
example : standardZone (F64.fin false 121 (-1)) (F64.fin false 11 (-1)) (-1) = .ok 32 ∧
    standardZone (F64.fin false 78 0) (F64.fin false 1481 (-1)) (-1) = .ok 33 ∧
    standardZone (F64.fin false 84 0) (F64.fin false 0 0) (-1) = .ok 0 ∧
    standardZone (F64.fin false 84 0) (F64.fin false 0 0) (-2) = .ok 31 := by decide +kernel
example : -90 ≤ (F64.fin false 121 (-1)).val ∧ (F64.fin false 121 (-1)).val ≤ 90 := by
  rw [F64.val_fin]; norm_num

/-- the MGRS tile constants of MGRS.hpp — "the source of the range tables" — have the documented values: 100 km tiles, UTM columns 1..9,
    southern rows 10..100, northern rows 0..95, UPS indices 8..32 (south) and 13..27 (north), false eastings 5 (UTM) and 20 (UPS) tiles,
    and the hemisphere shift `(maxutmSrow − minutmNrow)·tile = 10⁷` -/
theorem mgrs_constants_documented :
    mgrs_base = 10 ∧ mgrs_tilelevel = 5 ∧ mgrs_tile = 10 ^ 5 ∧ mgrs_minutmcol = 1 ∧ mgrs_maxutmcol = 9 ∧ mgrs_minutmSrow = 10 ∧
    mgrs_maxutmSrow = 100 ∧ mgrs_minutmNrow = 0 ∧ mgrs_maxutmNrow = 95 ∧ mgrs_minupsSind = 8 ∧ mgrs_maxupsSind = 32 ∧
    mgrs_minupsNind = 13 ∧ mgrs_maxupsNind = 27 ∧ mgrs_upseasting = 20 ∧ mgrs_utmeasting = 5 ∧
    mgrs_utmNshift = (mgrs_maxutmSrow - mgrs_minutmNrow) * mgrs_tile ∧ mgrs_utmNshift = 10 ^ 7 ∧ zMAXPSEUDOZONE = -1 := by decide

/-- the six UTMUPS tables are the expressions of UTMUPS.cpp in those constants (index = 2·utm + north): false origins 20/20/5/5 tiles east,
    20/20/100/0 tiles north; limits from the UPS indices, the UTM columns and the UTM rows *continued across the equator* -/
theorem range_tables_from_constants :
    utm_falseeasting = [mgrs_upseasting * mgrs_tile, mgrs_upseasting * mgrs_tile, mgrs_utmeasting * mgrs_tile, mgrs_utmeasting * mgrs_tile] ∧
    utm_falsenorthing = [mgrs_upseasting * mgrs_tile, mgrs_upseasting * mgrs_tile, mgrs_maxutmSrow * mgrs_tile, mgrs_minutmNrow * mgrs_tile] ∧
    utm_mineasting = [mgrs_minupsSind * mgrs_tile, mgrs_minupsNind * mgrs_tile, mgrs_minutmcol * mgrs_tile, mgrs_minutmcol * mgrs_tile] ∧
    utm_maxeasting = [mgrs_maxupsSind * mgrs_tile, mgrs_maxupsNind * mgrs_tile, mgrs_maxutmcol * mgrs_tile, mgrs_maxutmcol * mgrs_tile] ∧
    utm_minnorthing = [mgrs_minupsSind * mgrs_tile, mgrs_minupsNind * mgrs_tile, mgrs_minutmSrow * mgrs_tile,
                       (mgrs_minutmNrow + mgrs_minutmSrow - mgrs_maxutmSrow) * mgrs_tile] ∧
    utm_maxnorthing = [mgrs_maxupsSind * mgrs_tile, mgrs_maxupsNind * mgrs_tile,
                       (mgrs_maxutmSrow + mgrs_maxutmNrow - mgrs_minutmNrow) * mgrs_tile, mgrs_maxutmNrow * mgrs_tile] := by decide

/-- the range tables of the two classes agree: UTMUPS's limits (with `mgrslimits`) are MGRS's tile limits times the tile size, so that
    "output of `UTMUPS::Forward(…, mgrslimits = true)` is legal input of `MGRS::Forward`" and vice versa -/
theorem range_tables_agree :
    utm_mineasting = mgrs_tbl_mineasting.map (· * mgrs_tile) ∧ utm_maxeasting = mgrs_tbl_maxeasting.map (· * mgrs_tile) ∧
    utm_minnorthing = mgrs_tbl_minnorthing.map (· * mgrs_tile) ∧ utm_maxnorthing = mgrs_tbl_maxnorthing.map (· * mgrs_tile) := by decide

/-- the continued ranges are the natural ones shifted by the hemisphere shift: a "northern" northing may go down to the southern minimum minus 10⁷,
    a "southern" one up to the northern maximum plus 10⁷ -/
theorem continued_ranges :
    utm_minnorthing.getD 3 0 = utm_minnorthing.getD 2 0 - mgrs_utmNshift ∧ utm_maxnorthing.getD 2 0 = utm_maxnorthing.getD 3 0 + mgrs_utmNshift := by decide

/-- `UTMUPS::UTMShift()` is exactly 10⁷ -/
theorem utmShift_documented : utmShift = F64.ofInt 10000000 ∧ utmShift.val = 10000000 := by
  refine ⟨rfl, ?_⟩
  show (F64.ofInt mgrs_utmNshift).val = _
  rw [val_ofInt]; rfl

/-- `EquatorialRadius()` is 6378137 exactly and `Flattening()` is the binary64 value of `1/(298257223563/10⁹)`: within 2⁻²⁰·10⁻⁹ relative of
    1/298.257223563 (evaluated exactly in dyadic arithmetic inside the kernel) -/
theorem wgs84_documented :
    wgs84a.val = 6378137 ∧
    Dy.le (Dy.abs (Dy.sub (Dy.mul wgs84f.toDy ⟨298257223563, 0⟩) ⟨1000000000, 0⟩)) ⟨1, -20⟩ = true := by
  refine ⟨?_, by decide +kernel⟩
  show (F64.ofInt 6378137).val = _
  rw [val_ofInt]; rfl

/-- the label agrees with the latitude (the equator and NaN agree with both) — the test of `GeoCoords::FixHemisphere` -/
def labelAgrees (lat : F64) (northp : Bool) : Bool :=
  F64.eq lat 0 || (northp && F64.ge lat 0) || (!northp && F64.lt lat 0) || lat.isNaN

/-- **`FixHemisphere`**: an agreeing label leaves the object alone; a contradicting one is flipped and the northing shifted by exactly
    `UTMShift()` (+10⁷ from the northern label, −10⁷ from the southern) for UTM, and is an error for UPS; nothing else changes -/
theorem fixHemisphere_spec (s : GeoState) :
    fixHemisphere s =
      if labelAgrees s.lat s.northp then .ok s
      else if s.zone ≠ 0 then .ok { s with northing := s.northing + (if s.northp then utmShift else -utmShift), northp := !s.northp }
      else .error "Hemisphere mixup" := by
  unfold fixHemisphere labelAgrees
  rfl

theorem ge_or_lt_zero (x : F64) (h : x.isNaN = false) : F64.ge x 0 = true ∨ F64.lt x 0 = true := by
  cases x with
  | nan => simp [F64.isNaN] at h
  | inf s => cases s <;> decide
  | fin s m e =>
    by_cases hv : (F64.fin s m e).val < 0
    · exact .inr ((F64.lt_iff rfl rfl).mpr (by rwa [F64.val_zero]))
    · exact .inl ((F64.le_iff rfl rfl).mpr (by rw [F64.val_zero]; exact not_lt.mp hv))

/-- after `FixHemisphere` the label agrees with the latitude, and fixing again changes nothing -/
theorem fixHemisphere_agrees (s t : GeoState) (h : fixHemisphere s = .ok t) :
    labelAgrees t.lat t.northp = true ∧ fixHemisphere t = .ok t := by
  rw [fixHemisphere_spec] at h
  have key : labelAgrees t.lat t.northp = true := by
    by_cases ha : labelAgrees s.lat s.northp = true
    · rw [if_pos ha] at h; cases h; exact ha
    · rw [if_neg ha] at h
      by_cases hz : s.zone ≠ 0
      · rw [if_pos hz] at h
        cases h
        show labelAgrees s.lat (!s.northp) = true
        unfold labelAgrees at ha ⊢
        simp only [Bool.or_eq_true, Bool.and_eq_true, not_or] at ha
        obtain ⟨⟨⟨h0, h1⟩, h2⟩, h3⟩ := ha
        have hn : s.lat.isNaN = false := by simpa using h3
        rcases ge_or_lt_zero s.lat hn with hg | hl
        · cases hnp : s.northp
          · simp [hg]
          · exact absurd ⟨hnp, hg⟩ h1
        · cases hnp : s.northp
          · exact absurd ⟨by simp [hnp], hl⟩ h2
          · simp [hl]
      · rw [if_neg hz] at h; cases h
  exact ⟨key, by rw [fixHemisphere_spec, if_pos key]⟩

/-- the constructor from UTM/UPS coordinates keeps zone and easting, and keeps label and northing or flips/shifts them as `FixHemisphere` says;
    the geographic coordinates, convergence and scale are those of `UTMUPS::Reverse` (kernel), whose exception propagates -/
theorem resetUTM_spec (zone : Int) (northp : Bool) (x y lat lon g k : F64) :
    resetUTM zone northp x y (.ok (lat, lon, g, k)) = fixHemisphere ⟨zone, northp, x, y, g, k, lat, lon⟩ ∧
    ∀ e, resetUTM zone northp x y (.error e) = .error e := ⟨rfl, fun _ => rfl⟩

/-- `SetAltZone(MATCH)` leaves the alternate coordinates alone -/
theorem setAltZone_match (s : GeoState) (alt : AltState) (fwd : F64 → F64 → Int → Except Err FwdOut) :
    setAltZone s alt zMATCH fwd = .ok alt := by
  unfold setAltZone; simp

/-- **`SetAltZone`** for a zone request other than MATCH, around an arbitrary `UTMUPS::Forward`: the request is resolved by `StandardZone`
    at the object's (lat, lon) (its exception propagates); if that is the object's own zone the alternate coordinates are the coordinates;
    otherwise they are what `Forward(lat, lon, setzone = that zone)` returns (its exception propagates) -/
theorem setAltZone_spec (s : GeoState) (alt : AltState) (zone : Int) (hz : zone ≠ zMATCH) (fwd : F64 → F64 → Int → Except Err FwdOut) :
    setAltZone s alt zone fwd =
      match standardZone s.lat s.lon zone with
      | .error e => .error e
      | .ok z => if z = s.zone then .ok (copyToAlt s)
                 else match fwd s.lat s.lon z with
                      | .error e => .error e
                      | .ok o => .ok ⟨o.zone, o.x, altNorthing o.zone s.northp o.northp o.y, o.gamma, o.k⟩ := by
  unfold setAltZone
  rw [if_neg hz]
  cases hs : standardZone s.lat s.lon zone with
  | error e => rfl
  | ok z =>
    simp only [bind, Except.bind]
    by_cases h : z = s.zone
    · simp only [h, if_true]; rfl
    · simp only [h, if_false]
      cases fwd s.lat s.lon z <;> rfl

/-- **the alternate coordinates are those of `UTMUPS::Forward` at the same (lat, lon) with `setzone` = the alternate zone** — for every
    `Forward` kernel under which the object's own coordinates are `Forward`'s for its own zone (`hmain`: true of an object built from
    geographic coordinates; for one built from UTM/UPS coordinates it holds to the closure tolerance only, which is what the harness checks).
    Zone, easting, convergence and scale are `Forward`'s; the northing is `Forward`'s re-expressed under the hemisphere label of the object
    (`altNorthing`: shifted by ∓10⁷ when `Forward`'s label differs, which happens only on the equator; the shift of fix 46b5aee). -/
theorem setAltZone_is_forward (s : GeoState) (alt a : AltState) (zone : Int) (hz : zone ≠ zMATCH)
    (fwd : F64 → F64 → Int → Except Err FwdOut)
    (hmain : fwd s.lat s.lon s.zone = .ok ⟨s.zone, s.northp, s.easting, s.northing, s.gamma, s.k⟩)
    (h : setAltZone s alt zone fwd = .ok a) :
    ∃ z o, standardZone s.lat s.lon zone = .ok z ∧ fwd s.lat s.lon z = .ok o ∧
      a = ⟨o.zone, o.x, altNorthing o.zone s.northp o.northp o.y, o.gamma, o.k⟩ := by
  rw [setAltZone_spec s alt zone hz fwd] at h
  cases hs : standardZone s.lat s.lon zone with
  | error e => rw [hs] at h; cases h
  | ok z =>
    rw [hs] at h
    simp only at h
    by_cases hzz : z = s.zone
    · rw [if_pos hzz] at h
      cases h
      refine ⟨z, _, rfl, by rw [hzz]; exact hmain, ?_⟩
      simp [copyToAlt, altNorthing]
    · rw [if_neg hzz] at h
      cases hf : fwd s.lat s.lon z with
      | error e => rw [hf] at h; cases h
      | ok o => rw [hf] at h; cases h; exact ⟨z, o, rfl, hf, rfl⟩

/-- the zone the alternate coordinates are expressed in is the one the request selects: the requested zone itself when it is 0..60, the standard
    zone of the point for STANDARD, the UTM zone for UTM (never UPS) — combine with `standardZone_spec` / `standardZone_utm` / `standardZone_explicit` -/
theorem setAltZone_zone (s : GeoState) (alt a : AltState) (zone z : Int) (hz : zone ≠ zMATCH)
    (fwd : F64 → F64 → Int → Except Err FwdOut)
    (hfz : ∀ lat lon zz o, fwd lat lon zz = .ok o → 0 ≤ zz → o.zone = zz)
    (hs : standardZone s.lat s.lon zone = .ok z) (hz0 : 0 ≤ z)
    (h : setAltZone s alt zone fwd = .ok a) : a.zone = z := by
  rw [setAltZone_spec s alt zone hz fwd, hs] at h
  simp only at h
  by_cases hzz : z = s.zone
  · rw [if_pos hzz] at h; cases h; exact hzz.symm
  · rw [if_neg hzz] at h
    cases hf : fwd s.lat s.lon z with
    | error e => rw [hf] at h; cases h
    | ok o => rw [hf] at h; cases h; exact hfz _ _ _ _ hf hz0

/-- `Forward` with the standard-zone request and `Forward` with that zone requested explicitly are the same conversion: the request enters
    `UTMUPS::Forward` only through `StandardZone` (same projection kernel) — the `hmain` hypothesis of `setAltZone_is_forward` for objects built
    by `GeoCoords(lat, lon)` -/
theorem forward_explicit_zone (lat lon : F64) (sz z : Int) (mg : Bool) (kern : F64 × F64 × F64 × F64)
    (hs : standardZone lat lon sz = .ok z) (hz : 0 ≤ z ∧ z ≤ 60) :
    forward lat lon sz mg kern = forward lat lon z mg kern := by
  have he := standardZone_explicit lat lon z (Or.inl hz)
  unfold forward
  rw [hs, he]

/-- the representation overloads with a hemisphere argument print the coordinates relabelled within the zone: unchanged for the object's own
    label, northing ∓10⁷ for the other one, an error for UPS -/
theorem relabel_spec (zone : Int) (np label : Bool) (x y : F64) :
    relabel zone np x y label =
      if zone = 0 ∧ np ≠ label then .error "UPS between hemispheres"
      else .ok (x, if np ≠ label then y + nshift label else y) := by
  unfold relabel
  rw [transferSameZone_eq]
  by_cases h : zone = 0 ∧ np ≠ label
  · rw [if_pos h, if_pos h]; rfl
  · rw [if_neg h, if_neg h]; rfl

/-- non-vacuity: the equator with the southern label agrees; latitude −1 with the northern label is flipped with northing + 10⁷;
    SetAltZone(STANDARD) of an object in its standard zone copies the coordinates -/
example : labelAgrees (F64.ofInt 0) false = true ∧
    (match fixHemisphere ⟨31, true, F64.ofInt 500000, F64.ofInt (-110000), 0, 1, F64.ofInt (-1), F64.ofInt 3⟩ with
     | .ok t => t.northp == false && F64.same t.northing (F64.ofInt 9890000) | .error _ => false) = true ∧
    (match setAltZone ⟨31, true, F64.ofInt 500000, F64.ofInt 110000, 0, 1, F64.ofInt 1, F64.ofInt 3⟩ ⟨0, 0, 0, 0, 0⟩ (-1) (fun _ _ _ => .error "unused") with
     | .ok a => a.zone == 31 && F64.same a.northing (F64.ofInt 110000) | .error _ => false) = true := by decide +kernel

end GeoVerif.Props.C04
