import GeoVerif.Model.MGRS
import GeoVerif.Props.C04
import GeoVerif.Proofs.Digits
import GeoVerif.Proofs.F64Div
import Mathlib.Tactic.SplitIfs
import Mathlib.Tactic.Linarith
import Mathlib.Tactic.NormNum
/-!
# C05 — property theorems (MGRS)

All tables are the ones extracted from `MGRS.cpp` / `MGRS.hpp` (`Gen.UTM`).
-/
namespace GeoVerif.Props.C05
open GeoVerif GeoVerif.MGRS GeoVerif.Grid GeoVerif.Digits Gen.UTM

/-- three column sets of eight distinct letters, twenty distinct row letters, UPS sets of the documented sizes,
    twenty latitude-band letters and four polar ones, and no I or O anywhere -/
theorem tables_wf :
    utmcols.length = 3 ∧ (∀ c ∈ utmcols, c.length = 8 ∧ c.Nodup) ∧ (utmcols.flatten).Nodup ∧
    utmrow.length = 20 ∧ utmrow.Nodup ∧
    upscols.map List.length = [12, 12, 7, 7] ∧ (∀ c ∈ upscols, c.Nodup) ∧
    upsrows.map List.length = [24, 14] ∧ (∀ c ∈ upsrows, c.Nodup) ∧
    latband.length = 20 ∧ latband.Nodup ∧ upsband.length = 4 ∧ upsband.Nodup ∧ (∀ c ∈ upsband, c ∉ latband) ∧
    (∀ t ∈ [utmrow, latband, upsband] ++ utmcols ++ upscols ++ upsrows, 'I' ∉ t ∧ 'O' ∉ t) ∧
    digits = "0123456789".toList := by decide +kernel

/-- what `Reverse` and `Decode` need of a letter table with `n` entries: every letter is found again at its own index (so `Reverse` reads
    back what `Forward` wrote) and is a letter of `alpha_` -/
def LetterTable (t : List Char) (n : Nat) : Prop :=
  TableOK t n ∧ ∀ i < n, inSet alpha (chr t i).toNat = true

theorem utmcols_ok : ∀ k < 3, LetterTable (utmcols.getD k []) 8 := by unfold LetterTable TableOK; decide +kernel
theorem utmrow_ok : LetterTable utmrow 20 := by unfold LetterTable TableOK; decide +kernel
theorem latband_ok : LetterTable latband 20 := by unfold LetterTable TableOK; decide +kernel
theorem upsband_ok : LetterTable upsband 4 := by unfold LetterTable TableOK; decide +kernel
theorem upscols_ok : ∀ k < 4, LetterTable (upscols.getD k []) (upscols.getD k []).length := by unfold LetterTable TableOK; decide +kernel
theorem upsrows_ok : ∀ k < 2, LetterTable (upsrows.getD k []) (upsrows.getD k []).length := by unfold LetterTable TableOK; decide +kernel
theorem digits_table_ok : TableOK digits 10 := by unfold TableOK; decide +kernel

/-- the row-letter shift for even zones is undone by `Reverse` -/
theorem row_shift_inverse (yh shift : Int) (hy : 0 ≤ yh) (hs : shift = 0 ∨ shift = 5) :
    Int.tmod (Int.tmod (yh + shift) 20 + 20 - shift) 20 = Int.tmod yh 20 := by
  have h1 : 0 ≤ yh + shift := by omega
  rw [Int.tmod_eq_emod_of_nonneg h1]
  have h2 : 0 ≤ (yh + shift) % 20 + 20 - shift := by omega
  rw [Int.tmod_eq_emod_of_nonneg h2, Int.tmod_eq_emod_of_nonneg hy]
  omega

/-- safe bounds tabulated in the source comment of `MGRS::UTMRow` (index `iband + 10`) -/
def minrowT : List Int := [-90, -80, -71, -63, -54, -45, -36, -27, -18, -9, 0, 8, 17, 26, 35, 44, 53, 62, 71, 80]
def maxrowT : List Int := [-81, -72, -63, -54, -45, -36, -27, -18, -9, -1, 8, 17, 26, 35, 44, 53, 62, 70, 79, 94]

def bands : List Int := (List.range 20).map fun (k : Nat) => (k : Int) - 10
def cols : List Int := (List.range 8).map fun (k : Nat) => (k : Int)
def irows : List Int := (List.range 20).map fun (k : Nat) => (k : Int)

/-- the binary64 expression `⌊100(8·iband+4)/90 − 4.3 − 0.1·northp⌋` (resp. `+ 4.4`) evaluates, in the exact
    softfloat model and inside the kernel, to the tabulated bounds for all twenty bands -/
theorem rowBounds_table :
    (bands.all fun b => decide (rowBoundsF b = (minrowT.getD (b + 10).toNat 0, maxrowT.getD (b + 10).toNat 0))) = true := by
  decide +kernel

/-- rows allowed for a band and column: the safe range widened by the four exceptions (rows 70, 71, 79, 80 of the
    band's own hemisphere) -/
def allowed (iband icol r : Int) : Bool :=
  let minrow := minrowT.getD (iband + 10).toNat 0
  let maxrow := maxrowT.getD (iband + 10).toNat 0
  (minrow ≤ r ∧ r ≤ maxrow) || (decide ((r ≥ 0) ↔ (iband ≥ 0)) && exceptionOK iband icol r)

/-- the result of `UTMRow` is the unique allowed row congruent to the row letter modulo 20, or 100 if there is none -/
def specOK (iband icol irow : Int) : Bool :=
  let cands := ((List.range 10).map fun (j : Nat) => irow + 20 * ((j : Int) - 5)).filter fun r => -90 ≤ r && r ≤ 94 && allowed iband icol r
  match cands with
  | [] => utmRow iband icol irow == 100
  | [r] => utmRow iband icol irow == r
  | _ => false

theorem utmRow_spec : (bands.all fun b => cols.all fun c => irows.all fun i => specOK b c i) = true := by
  decide +kernel

/-- `Forward`'s consistency test and `Reverse`'s disambiguation both call `utmRow` on (band, column, row mod period); the
    model has one `utmRow` for both, so the statement itself is a reflexivity -/
theorem utmRow_deterministic (iband icol yh : Int) : utmRow iband icol (Int.tmod yh period) = utmRow iband icol (Int.tmod yh period) := rfl

/-- the digits at precision `p` are obtained from those at `p + 1` by dropping the last one -/
theorem digits_prefix (a p : Nat) (hp : p < 11) :
    digitsW digits 10 p (a / 10 ^ (11 - p)) <+: digitsW digits 10 (p + 1) (a / 10 ^ (11 - (p + 1))) := by
  have h : a / 10 ^ (11 - p) = (a / 10 ^ (11 - (p + 1))) / 10 := by
    have : 11 - p = (11 - (p + 1)) + 1 := by omega
    rw [this, Nat.pow_succ, Nat.div_div_eq_div_mul]
  rw [h]
  exact Digits.digitsW_prefix _ _ _ _

/-- `Reverse` reads back exactly the truncated value: digits of `⌊a / 10^(11-p)⌋ mod 10^p` -/
theorem digits_readback (a p : Nat) :
    readNum digits 10 (toBytes (digitsW digits 10 p (a / 10 ^ (11 - p)))) = some ((a / 10 ^ (11 - p)) % 10 ^ p) :=
  readNum_digitsW digits 10 (by decide) digits_table_ok p _

/-- all emitted digit characters are decimal digits -/
theorem digits_alphabet (w n : Nat) : ∀ c ∈ digitsW digits 10 w n, c ∈ digits := by
  intro c hc
  obtain ⟨k, hk, rfl⟩ := digitsW_mem digits 10 (by decide) w n c hc
  have : ∀ k < 10, chr digits k ∈ digits := by decide
  exact this k hk

/-- the part of `ix = ⌊10⁶ x⌋` below the 100 km tile, truncated to precision `prec`: the number a digit group spells -/
def digitPart (ix : Int) (prec : Nat) : Int := (ix - 100000000000 * (ix / 100000000000)) / 10 ^ (11 - prec)

/-- the digit group `Forward` writes for a coordinate `ix = ⌊10⁶ x⌋` at precision `prec` -/
def digitGroup (ix : Int) (prec : Nat) : List Char :=
  digitsW digits 10 prec ((ix - 100000000000 * (ix / 100000000000)) / 10 ^ (11 - prec)).toNat

theorem tile_split (prec : Nat) (hp : prec ≤ 11) : (100000000000 : Int) = 10 ^ (11 - prec) * 10 ^ prec := by
  rw [← Int.pow_add, show 11 - prec + prec = 11 by omega]; rfl

theorem digitPart_eq (ix : Int) (prec : Nat) (hp : prec ≤ 11) :
    digitPart ix prec = ix / 10 ^ (11 - prec) - 10 ^ prec * (ix / 100000000000) := by
  have hD : (10 : Int) ^ (11 - prec) ≠ 0 := Int.ne_of_gt (Int.pow_pos (by decide))
  unfold digitPart
  rw [Int.sub_ediv_of_dvd _ ⟨10 ^ prec * (ix / 100000000000), by rw [← Int.mul_assoc, ← tile_split prec hp]⟩]
  rw [tile_split prec hp, Int.mul_assoc, Int.mul_ediv_cancel_left _ hD, ← tile_split prec hp]

theorem digitPart_bounds (ix : Int) (prec : Nat) (hp : prec ≤ 11) : 0 ≤ digitPart ix prec ∧ digitPart ix prec < 10 ^ prec := by
  have hD : (0 : Int) < 10 ^ (11 - prec) := Int.pow_pos (by decide)
  have h0 : 0 ≤ ix - 100000000000 * (ix / 100000000000) := by omega
  have h1 : ix - 100000000000 * (ix / 100000000000) < 10 ^ (11 - prec) * 10 ^ prec := by rw [← tile_split prec hp]; omega
  exact ⟨Int.ediv_nonneg h0 hD.le, Int.ediv_lt_of_lt_mul hD (by rw [Int.mul_comm (10 ^ prec)]; exact h1)⟩

theorem digitPart_toNat (ix : Int) (prec : Nat) (hp : prec ≤ 11) : ((digitPart ix prec).toNat : Int) = digitPart ix prec :=
  Int.toNat_of_nonneg (digitPart_bounds ix prec hp).1

theorem digitGroups_read (h s : List Nat) (ix iy : Int) (prec : Nat) (hp : prec ≤ 11)
    (hs : s = h ++ (toBytes (digitGroup ix prec) ++ toBytes (digitGroup iy prec))) :
    s.length = h.length + 2 * prec ∧
    readNum digits 10 ((s.drop h.length).take prec) = some (digitPart ix prec).toNat ∧
    readNum digits 10 ((s.drop (h.length + prec)).take prec) = some (digitPart iy prec).toNat := by
  have lt (i : Int) : (digitPart i prec).toNat < 10 ^ prec :=
    (Int.toNat_lt (digitPart_bounds i prec hp).1).mpr (by push_cast; exact (digitPart_bounds i prec hp).2)
  have := readNum_groups digits 10 (by decide) digits_table_ok h s prec (digitPart ix prec).toNat (digitPart iy prec).toNat hs
  rwa [Nat.mod_eq_of_lt (lt ix), Nat.mod_eq_of_lt (lt iy)] at this

/-- `Reverse` on a well-formed UTM string, given what its pieces look up to -/
theorem decode_utm (s : List Nat) (cp : Bool) (c1 c2 d1 d2 kb kc kr prec ex ny : Nat) (R : Int)
    (hinv : (decide (s.length ≥ 3) && (s.take 3).map upper == [73, 78, 86]) = false)
    (hds : (s.takeWhile (fun c => (lookup digits c).isSome)).take 3 = [c1, c2])
    (hd1 : lookup digits c1 = some d1) (hd2 : lookup digits c2 = some d2)
    (hz : 1 ≤ 10 * d1 + d2 ∧ 10 * d1 + d2 ≤ 60)
    (hlen : s.length = 5 + 2 * prec) (hprec : prec ≤ 11)
    (hband : lookup latband (s.getD 2 0) = some kb)
    (hcol : lookup (utmcols.getD (Int.tmod ((10 * d1 + d2 : Nat) - 1 : Int) 3).toNat []) (s.getD 3 0) = some kc)
    (hrow : lookup utmrow (s.getD 4 0) = some kr)
    (hR : utmRow ((kb:Int) - 10) kc
        (if ((10 * d1 + d2 : Nat) - 1 : Int) % 2 = 1 then Int.tmod ((kr:Int) + period - mgrs_utmevenrowshift) period else kr) = R)
    (hR100 : R ≠ maxS)
    (heast : readNum digits 10 ((s.drop 5).take prec) = some ex)
    (hnorth : readNum digits 10 ((s.drop (5 + prec)).take prec) = some ny) :
    decodeInt s cp = .ok (.cell
      ⟨(10 * d1 + d2 : Nat), decide ((kb:Int) ≥ 10),
       (if cp then 2 * (((kc:Int) + 1) * 10 ^ prec + ex) + 1 else ((kc:Int) + 1) * 10 ^ prec + ex),
       (if cp then 2 * ((if (kb:Int) ≥ 10 then R else R + 100) * 10 ^ prec + ny) + 1
          else (if (kb:Int) ≥ 10 then R else R + 100) * 10 ^ prec + ny),
       (if cp then 10 ^ prec * 2 else 10 ^ prec), prec⟩) := by
  have hzone : List.foldl (fun (a : Int) c => 10 * a + ((lookup digits c).getD 0 : Nat)) 0 [c1, c2] = ((10 * d1 + d2 : Nat) : Int) := by
    simp [hd1, hd2]
  have z1 : ¬ (10 * (d1:Int) + d2 = zUPS) := by show ¬ (_ = (0:Int)); omega
  have z2 : ¬ (10 * (d1:Int) + d2 < zMINUTMZONE ∨ zMAXUTMZONE < 10 * (d1:Int) + d2) := by show ¬ (_ < (1:Int) ∨ (60:Int) < _); omega
  have l1 : ¬ (5 + 2 * prec < 2 + 1) ∧ ¬ (2 + 1 = 5 + 2 * prec) ∧ ¬ (5 + 2 * prec < 2 + 1 + 2) := by omega
  have l6 : ¬ ((prec : Int) > mgrs_maxprec) := by show ¬ ((prec:Int) > 11); omega
  push_cast at hcol hR
  simp only [List.getD_eq_getElem?_getD] at hband hcol hrow
  have hinv' : ¬ (3 ≤ 5 + 2 * prec ∧ List.take 3 (List.map upper s) = [73, 78, 86]) := by
    intro h
    rw [hlen] at hinv
    simp [List.map_take, h.2] at hinv
    omega
  unfold decodeInt
  simp only [hds, hlen, hzone, List.length_cons, List.length_nil, Nat.zero_add]
  simp [z1, z2, hinv', l1, l6, hband, hcol, hrow, hR, hR100, heast, hnorth]
  cases cp <;> rfl

/-- on a non-negative coordinate C++'s truncating `/` is the floor division, for the tile index and for the digits below it -/
theorem tdiv_coord (ix : Int) (hix : 0 ≤ ix) :
    Int.tdiv ix 100000000000 = ix / 100000000000 ∧
    ∀ d : Int, (ix - 100000000000 * (ix / 100000000000)).tdiv d = (ix - 100000000000 * (ix / 100000000000)) / d :=
  ⟨Int.tdiv_eq_ediv_of_nonneg hix, fun _ => Int.tdiv_eq_ediv_of_nonneg (by omega)⟩

/-- the tail of `Forward`: no digits are written at precision 0, and the final truncation to `|head| + 3 + 2·prec` characters cuts nothing off -/
theorem take_digits (hd : List Char) (c d e : Char) (prec a b : Nat) :
    (hd ++ [c, d, e] ++ if (prec : Int) > 0 then digitsW digits 10 prec a ++ digitsW digits 10 prec b else []).take
        ((hd.length : Int) + 3 + 2 * prec).toNat =
      hd ++ [c, d, e] ++ digitsW digits 10 prec a ++ digitsW digits 10 prec b := by
  have e0 : (if (prec : Int) > 0 then digitsW digits 10 prec a ++ digitsW digits 10 prec b else []) =
      digitsW digits 10 prec a ++ digitsW digits 10 prec b := by
    cases prec with
    | zero => rfl
    | succ p => rw [if_pos (by omega)]
  rw [e0, ← List.append_assoc, List.take_of_length_le]
  simp only [List.length_append, List.length_cons, List.length_nil, digitsW_length]
  omega

/-- the UTM string written by `MGRS::Forward` (integer level) -/
def utmString (zone : Int) (ix iy iband : Int) (prec : Nat) : List Char :=
  let m : Int := 100000000000
  let xh := ix / m
  let yh := iy / m
  let d : Int := 10 ^ (11 - prec)
  [chr digits (zone / 10).toNat, chr digits (zone % 10).toNat,
   chr latband (10 + iband).toNat,
   chr (utmcols.getD ((zone - 1) % 3).toNat []) (xh - 1).toNat,
   chr utmrow ((yh + (if (zone - 1) % 2 = 1 then 5 else 0)) % 20).toNat] ++
  digitsW digits 10 prec ((ix - m * xh) / d).toNat ++ digitsW digits 10 prec ((iy - m * yh) / d).toNat

theorem encodeInt_utm (zone : Int) (hz : 1 ≤ zone ∧ zone ≤ 60) (northp : Bool) (ix iy : Int) (hix : 0 ≤ ix) (hiy : 0 ≤ iy)
    (iband : Int) (prec : Nat) (hprec : prec ≤ 11)
    (hrow : utmRow iband (ix / 100000000000 - 1) (iy / 100000000000 % 20) =
      iy / 100000000000 - (if northp then 0 else 100)) :
    encodeInt zone northp ix iy iband prec = .ok (utmString zone ix iy iband prec) := by
  have hz0 : zone ≠ 0 := by omega
  obtain ⟨e1, t6⟩ := tdiv_coord ix hix
  obtain ⟨e2, t7⟩ := tdiv_coord iy hiy
  have hmt : mgrs_mult * tile = 100000000000 := by decide
  have hper : period = 20 := rfl
  have yh0 : 0 ≤ iy / 100000000000 := Int.ediv_nonneg hiy (by omega)
  have t1 : (zone - 1).tmod 3 = (zone - 1) % 3 := Int.tmod_eq_emod_of_nonneg (by omega)
  have t2 : (iy / 100000000000).tmod 20 = iy / 100000000000 % 20 := Int.tmod_eq_emod_of_nonneg yh0
  have t3 : ∀ sh : Int, 0 ≤ sh → (iy / 100000000000 + sh).tmod 20 = (iy / 100000000000 + sh) % 20 :=
    fun sh h => Int.tmod_eq_emod_of_nonneg (by omega)
  have t4 : zone.tdiv 10 = zone / 10 := Int.tdiv_eq_ediv_of_nonneg (by omega)
  have t5 : zone.tmod 10 = zone % 10 := Int.tmod_eq_emod_of_nonneg (by omega)
  have hmp : (mgrs_maxprec - (prec:Int)).toNat = 11 - prec := by show ((11:Int) - prec).toNat = _; omega
  have t3' : (iy / 100000000000 + (if (zone - 1) % 2 = 1 then mgrs_utmevenrowshift else 0)).tmod 20
      = (iy / 100000000000 + (if (zone - 1) % 2 = 1 then 5 else 0)) % 20 := by
    by_cases h : (zone - 1) % 2 = 1
    · simp only [h, if_true]; exact t3 5 (by omega)
    · simp only [h, if_false]; exact t3 0 (by omega)
  have hrow' : utmRow iband (ix / 100000000000 - mgrs_minutmcol) (iy / 100000000000 % 20) =
      iy / 100000000000 - (if northp = true then mgrs_minutmNrow else mgrs_maxutmSrow) := hrow
  unfold encodeInt
  simp only [hz0, ne_eq, not_false_eq_true, if_true, hmt, e1, e2, hper, t1, t2, t3', t4, t5, t6, t7, hrow', not_true_eq_false,
    if_false, mgrs_base, hmp, Int.toNat_natCast, pure_bind]
  show Except.ok _ = Except.ok _
  rw [take_digits]
  rfl

/-- a digit is not `I` (so a UTM reference cannot start "INV"), is read as a digit by `Reverse`, and is in `Decode`'s digit set -/
theorem digit_facts : ∀ k < 10, upper (chr digits k).toNat ≠ 73 ∧ (lookup digits (chr digits k).toNat).isSome = true ∧
    inSet digits (chr digits k).toNat = true := by decide +kernel
theorem band_not_digit : ∀ k < 20, lookup digits (chr latband k).toNat = none := by decide +kernel

theorem zone_facts (zone : Int) (hz : 1 ≤ zone ∧ zone ≤ 60) :
    (zone / 10).toNat < 10 ∧ (zone % 10).toNat < 10 ∧ ((zone - 1) % 3).toNat < 3 ∧
    (((10 * (zone / 10).toNat + (zone % 10).toNat : Nat)) : Int) = zone ∧
    (1 ≤ 10 * (zone / 10).toNat + (zone % 10).toNat ∧ 10 * (zone / 10).toNat + (zone % 10).toNat ≤ 60) ∧
    0 ≤ zone - 1 := by omega

theorem band_facts (iband : Int) (hib : -10 ≤ iband ∧ iband < 10) :
    (10 + iband).toNat < 20 ∧ (((10 + iband).toNat : Nat) : Int) - 10 = iband ∧
    (((((10 + iband).toNat : Nat) : Int) ≥ 10) ↔ (iband ≥ 0)) := by omega

theorem col_facts (xh : Int) (hxh : 1 ≤ xh ∧ xh ≤ 8) :
    (xh - 1).toNat < 8 ∧ (((xh - 1).toNat : Nat) : Int) = xh - 1 := by omega

theorem row_facts (yh zone : Int) (_h0 : 0 ≤ yh) :
    ((yh + (if (zone - 1) % 2 = 1 then 5 else 0)) % 20).toNat < 20 ∧
    (if (zone - 1) % 2 = 1
      then Int.tmod (((((yh + (if (zone - 1) % 2 = 1 then 5 else 0)) % 20).toNat : Nat) : Int) + 20 - 5) 20
      else ((((yh + (if (zone - 1) % 2 = 1 then 5 else 0)) % 20).toNat : Nat) : Int)) = yh % 20 := by
  by_cases h : (zone - 1) % 2 = 1
  · simp only [h, if_true]
    have : ((((yh + 5) % 20).toNat : Nat) : Int) = (yh + 5) % 20 := by omega
    rw [this, Int.tmod_eq_emod_of_nonneg (by omega)]
    omega
  · simp only [h, if_false]
    omega

theorem utmString_bytes (zone ix iy iband : Int) (prec : Nat) :
    toBytes (utmString zone ix iy iband prec) =
      [(chr digits (zone / 10).toNat).toNat, (chr digits (zone % 10).toNat).toNat] ++ [(chr latband (10 + iband).toNat).toNat] ++
      [(chr (utmcols.getD ((zone - 1) % 3).toNat []) (ix / 100000000000 - 1).toNat).toNat,
       (chr utmrow ((iy / 100000000000 + (if (zone - 1) % 2 = 1 then 5 else 0)) % 20).toNat).toNat] ++
      toBytes (digitGroup ix prec) ++ toBytes (digitGroup iy prec) := by
  simp only [utmString, digitGroup, toBytes, List.map_append, List.map_cons, List.cons_append, List.nil_append]

/-- **`reverse_forward` on the integer level, UTM zones** (all zones, bands, precisions, `centerp`).
If the latitude band is consistent with the northing row (`hrow`, the test `Forward` itself makes), `Forward` writes
`utmString` and `Reverse` of it returns the zone, the hemisphere of the band, the precision, and tile + digits of the
same 100 km square: easting `⌊ix / 10^(11−prec)⌋`, northing `(row)·10^prec + digits` where `row` is the northing tile
re-expressed in the band's hemisphere (folding by 100 tiles = 10 000 km). -/
theorem reverse_forward_utm (zone : Int) (hz : 1 ≤ zone ∧ zone ≤ 60) (northp : Bool) (ix iy : Int) (hix : 0 ≤ ix) (hiy : 0 ≤ iy)
    (iband : Int) (hib : -10 ≤ iband ∧ iband < 10) (prec : Nat) (hprec : prec ≤ 11)
    (hxh : 1 ≤ ix / 100000000000 ∧ ix / 100000000000 ≤ 8)
    (hrow : utmRow iband (ix / 100000000000 - 1) (iy / 100000000000 % 20) =
      iy / 100000000000 - (if northp then 0 else 100))
    (hR : iy / 100000000000 - (if northp then 0 else 100) ≠ 100) (cp : Bool) :
    encodeInt zone northp ix iy iband prec = .ok (utmString zone ix iy iband prec) ∧
    decodeInt (toBytes (utmString zone ix iy iband prec)) cp =
      let d : Int := 10 ^ (11 - prec)
      let R := iy / 100000000000 - (if northp then 0 else 100)
      let x1 := (ix / 100000000000) * 10 ^ prec + (ix - 100000000000 * (ix / 100000000000)) / d
      let y1 := (if iband ≥ 0 then R else R + 100) * 10 ^ prec + (iy - 100000000000 * (iy / 100000000000)) / d
      .ok (.cell ⟨zone, decide (iband ≥ 0), if cp then 2 * x1 + 1 else x1, if cp then 2 * y1 + 1 else y1,
        if cp then 10 ^ prec * 2 else 10 ^ prec, prec⟩) := by
  refine ⟨encodeInt_utm zone hz northp ix iy hix hiy iband prec hprec hrow, ?_⟩
  have yh0 : 0 ≤ iy / 100000000000 := Int.ediv_nonneg hiy (by omega)
  obtain ⟨k1, k2, kcol, hzc, hzr, hz1⟩ := zone_facts zone hz
  obtain ⟨kbd, a1, hkb⟩ := band_facts iband hib
  obtain ⟨kc8, a2⟩ := col_facts (ix / 100000000000) hxh
  obtain ⟨kr20, hunshift⟩ := row_facts (iy / 100000000000) zone yh0
  have hS := utmString_bytes zone ix iy iband prec
  obtain ⟨hlen, heast, hnorth⟩ := digitGroups_read [_, _, _, _, _] _ ix iy prec hprec hS
  rw [hS] at hlen heast hnorth ⊢
  refine Eq.trans (decode_utm _ cp _ _ (zone / 10).toNat (zone % 10).toNat (10 + iband).toNat (ix / 100000000000 - 1).toNat
    ((iy / 100000000000 + (if (zone - 1) % 2 = 1 then 5 else 0)) % 20).toNat prec _ _
    (iy / 100000000000 - (if northp then 0 else 100)) ?_ ?_ (digits_table_ok _ k1) (digits_table_ok _ k2) hzr
    hlen hprec (latband_ok.1 _ kbd) ?_ (utmrow_ok.1 _ kr20) ?_ hR heast hnorth) ?_
  · have := (digit_facts _ k1).1
    simp [this]
  · simp [(digit_facts _ k1).2.1, (digit_facts _ k2).2.1, band_not_digit _ kbd]
  · rw [hzc, Int.tmod_eq_emod_of_nonneg hz1]; exact ((utmcols_ok _ kcol).1 _ kc8)
  · rw [hzc, a1, a2, ← hrow]
    congr 1
  · simp only [hzc, a2, digitPart_toNat _ _ hprec, hkb, Int.sub_add_cancel]
    rfl

/-- non-vacuity of the hypotheses: zone 38, band S (`iband = 4`), 444 km E, 3684 km N -/
example : utmRow 4 (444000000000 / 100000000000 - 1) (3684000000000 / 100000000000 % 20) =
    3684000000000 / 100000000000 - (if true then 0 else 100) := by decide +kernel
example : String.ofList (utmString 38 444000000000 3684000000000 4 2) = "38SMB4484" := by decide +kernel

/-- `Reverse` on a well-formed UPS string, given what its pieces look up to -/
theorem decode_ups (s : List Nat) (cp : Bool) (kb kc kr prec ex ny : Nat)
    (hinv : (decide (s.length ≥ 3) && (s.take 3).map upper == [73, 78, 86]) = false)
    (hds : (s.takeWhile (fun c => (lookup digits c).isSome)).take 3 = [])
    (hlen : s.length = 3 + 2 * prec) (hprec : prec ≤ 11)
    (hband : lookup upsband (s.getD 0 0) = some kb)
    (hcol : lookup (upscols.getD kb []) (s.getD 1 0) = some kc)
    (hrow : lookup (upsrows.getD (if (kb:Int) ≥ 2 then 1 else 0) []) (s.getD 2 0) = some kr)
    (heast : readNum digits 10 ((s.drop 3).take prec) = some ex)
    (hnorth : readNum digits 10 ((s.drop (3 + prec)).take prec) = some ny) :
    decodeInt s cp = .ok (.cell
      ⟨0, decide ((kb:Int) ≥ 2),
       (if cp then 2 * (((kc:Int) + (if (kb:Int) % 2 = 1 then 20 else (if (kb:Int) ≥ 2 then 13 else 8))) * 10 ^ prec + ex) + 1
          else ((kc:Int) + (if (kb:Int) % 2 = 1 then 20 else (if (kb:Int) ≥ 2 then 13 else 8))) * 10 ^ prec + ex),
       (if cp then 2 * (((kr:Int) + (if (kb:Int) ≥ 2 then 13 else 8)) * 10 ^ prec + ny) + 1
          else ((kr:Int) + (if (kb:Int) ≥ 2 then 13 else 8)) * 10 ^ prec + ny),
       (if cp then 10 ^ prec * 2 else 10 ^ prec), prec⟩) := by
  have l1 : ¬ (3 + 2 * prec < 0 + 1) ∧ ¬ (0 + 1 = 3 + 2 * prec) ∧ ¬ (3 + 2 * prec < 0 + 1 + 2) := by omega
  have l6 : ¬ ((prec : Int) > mgrs_maxprec) := by show ¬ ((prec:Int) > 11); omega
  have hk : (Int.toNat (kb:Int)) = kb := by omega
  simp only [List.getD_eq_getElem?_getD, ge_iff_le, Nat.ofNat_le_cast] at hband hcol hrow
  have hinv' : ¬ (List.take 3 (List.map upper s) = [73, 78, 86]) := by
    intro h
    rw [hlen] at hinv
    simp [List.map_take, h] at hinv
  unfold decodeInt
  simp only [hds, hlen, List.length_nil, List.foldl_nil]
  simp [zUPS, hinv', l1, l6, hband, hcol, hrow, heast, hnorth, hk]
  cases cp <;> rfl

/-- the UPS string written by `MGRS::Forward` (integer level) -/
def upsString (northp : Bool) (ix iy : Int) (prec : Nat) : List Char :=
  let m : Int := 100000000000
  let xh := ix / m
  let yh := iy / m
  let d : Int := 10 ^ (11 - prec)
  let eastp : Bool := decide (xh ≥ 20)
  let ib : Nat := (if northp then 2 else 0) + (if eastp then 1 else 0)
  [chr upsband ib,
   chr (upscols.getD ib []) (xh - (if eastp then 20 else (if northp then 13 else 8))).toNat,
   chr (upsrows.getD (if northp then 1 else 0) []) (yh - (if northp then 13 else 8)).toNat] ++
  digitsW digits 10 prec ((ix - m * xh) / d).toNat ++ digitsW digits 10 prec ((iy - m * yh) / d).toNat

theorem encodeInt_ups (northp : Bool) (ix iy : Int) (hix : 0 ≤ ix) (hiy : 0 ≤ iy) (iband : Int) (prec : Nat) (hprec : prec ≤ 11) :
    encodeInt 0 northp ix iy iband prec = .ok (upsString northp ix iy prec) := by
  obtain ⟨e1, t6⟩ := tdiv_coord ix hix
  obtain ⟨e2, t7⟩ := tdiv_coord iy hiy
  have hmt : mgrs_mult * tile = 100000000000 := by decide
  have hmp : (mgrs_maxprec - (prec:Int)).toNat = 11 - prec := by show ((11:Int) - prec).toNat = _; omega
  unfold encodeInt
  simp only [ne_eq, not_true_eq_false, if_false, hmt, e1, e2, t6, t7, mgrs_base, hmp, Int.toNat_natCast, pure_bind,
    mgrs_upseasting, mgrs_minupsNind, mgrs_minupsSind]
  show Except.ok _ = Except.ok _
  rw [take_digits]
  rfl

theorem upsband_facts : ∀ k < 4, upper (chr upsband k).toNat ≠ 73 ∧ (lookup digits (chr upsband k).toNat).isSome = false := by
  decide +kernel
theorem ups_table_sizes : (upscols.getD 0 []).length = 12 ∧ (upscols.getD 1 []).length = 12 ∧ (upscols.getD 2 []).length = 7 ∧
    (upscols.getD 3 []).length = 7 ∧ (upsrows.getD 0 []).length = 24 ∧ (upsrows.getD 1 []).length = 14 := by decide +kernel

/-- the three letters of a UPS reference in terms of the band index `ib = 2·north + east` (A, B, Y, Z), as `Reverse` recomputes
    the offsets from it -/
def upsLetters (ib : Nat) (xh yh : Int) : List Char :=
  [chr upsband ib,
   chr (upscols.getD ib []) (xh - (if (ib:Int) % 2 = 1 then 20 else (if (ib:Int) ≥ 2 then 13 else 8))).toNat,
   chr (upsrows.getD (if (ib:Int) ≥ 2 then 1 else 0) []) (yh - (if (ib:Int) ≥ 2 then 13 else 8)).toNat]

/-- the four cases (pole, side of the meridian plane) of `Forward`'s letter selection: within the UPS range the string is `upsLetters` of a
    band index that encodes the pole, and both letters exist in their tables -/
theorem upsString_letters (northp : Bool) (ix iy : Int) (prec : Nat)
    (hN : northp = true → (13 ≤ ix / 100000000000 ∧ ix / 100000000000 < 27) ∧ (13 ≤ iy / 100000000000 ∧ iy / 100000000000 < 27))
    (hS : northp = false → (8 ≤ ix / 100000000000 ∧ ix / 100000000000 < 32) ∧ (8 ≤ iy / 100000000000 ∧ iy / 100000000000 < 32)) :
    ∃ ib : Nat, ib < 4 ∧ decide ((ib:Int) ≥ 2) = northp ∧
      upsString northp ix iy prec = upsLetters ib (ix / 100000000000) (iy / 100000000000) ++ digitGroup ix prec ++ digitGroup iy prec ∧
      (0 ≤ ix / 100000000000 - (if (ib:Int) % 2 = 1 then 20 else (if (ib:Int) ≥ 2 then 13 else 8)) ∧
        (ix / 100000000000 - (if (ib:Int) % 2 = 1 then 20 else (if (ib:Int) ≥ 2 then 13 else 8))).toNat < (upscols.getD ib []).length) ∧
      (0 ≤ iy / 100000000000 - (if (ib:Int) ≥ 2 then 13 else 8) ∧
        (iy / 100000000000 - (if (ib:Int) ≥ 2 then 13 else 8)).toNat < (upsrows.getD (if (ib:Int) ≥ 2 then 1 else 0) []).length) := by
  obtain ⟨s0, s1, s2, s3, s4, s5⟩ := ups_table_sizes
  cases northp
  · obtain ⟨⟨x1, x2⟩, y1, y2⟩ := hS rfl
    by_cases he : ix / 100000000000 ≥ 20
    · exact ⟨1, by decide, rfl, by simp only [upsString, he, decide_true, decide_false]; rfl, ⟨by omega, by rw [s1]; omega⟩,
        by omega, by show _ < (upsrows.getD 0 []).length; rw [s4]; omega⟩
    · exact ⟨0, by decide, rfl, by simp only [upsString, he, decide_true, decide_false]; rfl, ⟨by omega, by rw [s0]; omega⟩,
        by omega, by show _ < (upsrows.getD 0 []).length; rw [s4]; omega⟩
  · obtain ⟨⟨x1, x2⟩, y1, y2⟩ := hN rfl
    by_cases he : ix / 100000000000 ≥ 20
    · exact ⟨3, by decide, rfl, by simp only [upsString, he, decide_true, decide_false]; rfl, ⟨by omega, by rw [s3]; omega⟩,
        by omega, by show _ < (upsrows.getD 1 []).length; rw [s5]; omega⟩
    · exact ⟨2, by decide, rfl, by simp only [upsString, he, decide_true, decide_false]; rfl, ⟨by omega, by rw [s2]; omega⟩,
        by omega, by show _ < (upsrows.getD 1 []).length; rw [s5]; omega⟩

/-- **`reverse_forward` on the integer level, UPS** (both poles, all tiles of the UPS range, precisions, `centerp`) -/
theorem reverse_forward_ups (northp : Bool) (ix iy : Int) (hix : 0 ≤ ix) (hiy : 0 ≤ iy) (iband : Int)
    (prec : Nat) (hprec : prec ≤ 11)
    (hN : northp = true → (13 ≤ ix / 100000000000 ∧ ix / 100000000000 < 27) ∧ (13 ≤ iy / 100000000000 ∧ iy / 100000000000 < 27))
    (hS : northp = false → (8 ≤ ix / 100000000000 ∧ ix / 100000000000 < 32) ∧ (8 ≤ iy / 100000000000 ∧ iy / 100000000000 < 32))
    (cp : Bool) :
    encodeInt 0 northp ix iy iband prec = .ok (upsString northp ix iy prec) ∧
    decodeInt (toBytes (upsString northp ix iy prec)) cp =
      let d : Int := 10 ^ (11 - prec)
      let x1 := (ix / 100000000000) * 10 ^ prec + (ix - 100000000000 * (ix / 100000000000)) / d
      let y1 := (iy / 100000000000) * 10 ^ prec + (iy - 100000000000 * (iy / 100000000000)) / d
      .ok (.cell ⟨0, northp, if cp then 2 * x1 + 1 else x1, if cp then 2 * y1 + 1 else y1,
        if cp then 10 ^ prec * 2 else 10 ^ prec, prec⟩) := by
  refine ⟨encodeInt_ups northp ix iy hix hiy iband prec hprec, ?_⟩
  obtain ⟨ib, hib, hnp, hstr, ⟨hx0, hcx⟩, hy0, hcy⟩ := upsString_letters northp ix iy prec hN hS
  have hrr : (if (ib:Int) ≥ 2 then 1 else 0) < 2 := by split_ifs <;> decide
  have hS : toBytes (upsString northp ix iy prec) =
      (chr upsband ib).toNat ::
      (chr (upscols.getD ib []) (ix / 100000000000 - (if (ib:Int) % 2 = 1 then 20 else (if (ib:Int) ≥ 2 then 13 else 8))).toNat).toNat ::
      (chr (upsrows.getD (if (ib:Int) ≥ 2 then 1 else 0) []) (iy / 100000000000 - (if (ib:Int) ≥ 2 then 13 else 8)).toNat).toNat ::
      (toBytes (digitGroup ix prec) ++ toBytes (digitGroup iy prec)) := by
    rw [hstr]
    simp only [upsLetters, toBytes, List.map_append, List.map_cons, List.map_nil, List.cons_append, List.nil_append]
  obtain ⟨hlen, heast, hnorth⟩ := digitGroups_read [_, _, _] _ ix iy prec hprec hS
  rw [hS] at hlen heast hnorth ⊢
  refine Eq.trans (decode_ups _ cp ib _ _ prec _ _ ?_ ?_ hlen hprec (upsband_ok.1 _ hib) ((upscols_ok _ hib).1 _ hcx)
    ((upsrows_ok _ hrr).1 _ hcy) heast hnorth) ?_
  · have := (upsband_facts _ hib).1
    simp [this]
  · simp [(upsband_facts _ hib).2]
  · simp only [Int.toNat_of_nonneg hx0, Int.toNat_of_nonneg hy0, digitPart_toNat _ _ hprec, Int.sub_add_cancel, hnp]
    rfl

example : String.ofList (upsString true 2000000000000 2000000000000 1) = "ZAH00" := by decide +kernel

theorem mgrs_range_tables :
    mgrs_tbl_mineasting = [8, 13, 1, 1] ∧ mgrs_tbl_maxeasting = [32, 27, 9, 9] ∧
    mgrs_tbl_minnorthing = [8, 13, 10, -90] ∧ mgrs_tbl_maxnorthing = [32, 27, 195, 95] ∧
    mgrs_mult = 1000000 ∧ mgrs_maxprec = 11 ∧ mgrs_utmrowperiod = 20 ∧ mgrs_utmevenrowshift = 5 := by decide

theorem malformed_rejected :
    ∀ s ∈ ["", "0", "00C", "61C", "001C", "123C", "1I", "1O", "33", "38S M", "38SM", "38SIB", "38SMO", "38SMB1", "38SMB123",
           "38SMB1x", "38SMB12345678901234567890123", "A", "AI", "AIA", "YA", "ZZZ", "B12", "38SMB1\x002"],
      (match decodeInt (toBytes s.toList) true with
       | .error _ => true
       | .ok (.gridzone ..) => s = "A"
       | .ok _ => false) = true := by decide +kernel

/-- non-vacuity: a well-formed string decodes -/
example : (match decodeInt (toBytes "38SMB4484".toList) false with
    | .ok (.cell d) => decide (d = ⟨38, true, 444, 3684, 100, 2⟩) | _ => false) = true := by decide +kernel

/-- the alphabet without I and O, and the UPS column alphabet: additionally without D, E, M, N, V, W -/
def A24 : List Char := "ABCDEFGHJKLMNPQRSTUVWXYZ".toList
def U18 : List Char := "ABCFGHJKLPQRSTUXYZ".toList

theorem letter_tables_documented :
    A24 = ("ABCDEFGHIJKLMNOPQRSTUVWXYZ".toList.filter fun c => c ≠ 'I' ∧ c ≠ 'O') ∧
    U18 = (A24.filter fun c => c ∉ "DEMNVW".toList) ∧
    utmcols = [A24.take 8, (A24.drop 8).take 8, A24.drop 16] ∧
    utmrow = A24.take 20 ∧
    latband = (A24.drop 2).take 20 ∧
    upsband = ['A', 'B', 'Y', 'Z'] ∧
    upscols = [U18.drop 6, U18.take 12, U18.drop 11, U18.take 7] ∧
    upsrows = [A24, A24.take 14] ∧
    hemispheres = ['S', 'N'] ∧
    digits = "0123456789".toList ∧
    alpha = A24 ++ A24.map Char.toLower := by decide +kernel

theorem scale_constants_documented :
    mgrs_base = 10 ∧ mgrs_tilelevel = 5 ∧ mgrs_tile = mgrs_base ^ mgrs_tilelevel.toNat ∧ mgrs_maxprec = mgrs_tilelevel + 6 ∧
    mgrs_mult * mgrs_tile = mgrs_base ^ mgrs_maxprec.toNat ∧ mgrs_utmrowperiod = 20 ∧ mgrs_utmevenrowshift = 5 ∧
    mgrs_maxutmSrow = 5 * mgrs_utmrowperiod := by decide

theorem digit_not_alpha (c : Nat) (h : inSet digits c = true) : inSet alpha c = false := by
  have hm : c ∈ digits.map Char.toNat := by
    unfold inSet at h
    rw [List.any_eq_true] at h
    obtain ⟨ch, hch, he⟩ := h
    rw [List.mem_map]; exact ⟨ch, hch, by simpa using he⟩
  have : ∀ c ∈ digits.map Char.toNat, inSet alpha c = false := by decide +kernel
  exact this c hm

theorem alpha_not_digit (c : Nat) (h : inSet alpha c = true) : inSet digits c = false := by
  cases hd : inSet digits c with
  | false => rfl
  | true => rw [digit_not_alpha c hd] at h; cases h

theorem ite_error_eq_ok {ε α} (c : Prop) [Decidable c] (e : ε) (x : Except ε α) (v : α) :
    (if c then .error e else x) = .ok v ↔ ¬ c ∧ x = .ok v := by
  by_cases h : c
  · rw [if_pos h]; exact ⟨fun h' => (nomatch h'), fun h' => absurd h h'.1⟩
  · rw [if_neg h]; exact ⟨fun h' => ⟨h, h'⟩, fun h' => h'.2⟩

/-- an accepted reference that is not "INV…", in terms of the cuts `Decode` makes: after the leading digits, and after the letters that follow the
    first letter -/
theorem decode_ok_iff (s : List Nat) (p : Parts)
    (hinv : (decide (s.length ≥ 3) && (s.take 3).map upper == [73, 78, 86]) = false) :
    decode s = .ok p ↔ ∃ a r, s.dropWhile (inSet digits) = a :: r ∧
      (s.takeWhile (inSet digits)).length ≤ 2 ∧ inSet alpha a = true ∧
      ((r.takeWhile (inSet alpha)).length = 0 ∨ (r.takeWhile (inSet alpha)).length = 2) ∧
      ¬ ((r.takeWhile (inSet alpha)).length = 0 ∧ r.dropWhile (inSet alpha) ≠ []) ∧
      (r.dropWhile (inSet alpha)).all (inSet digits) = true ∧ ¬ (r.dropWhile (inSet alpha)).length % 2 = 1 ∧
      ⟨s.takeWhile (inSet digits) ++ [a], r.takeWhile (inSet alpha),
        (r.dropWhile (inSet alpha)).take ((r.dropWhile (inSet alpha)).length / 2),
        (r.dropWhile (inSet alpha)).drop ((r.dropWhile (inSet alpha)).length / 2)⟩ = p := by
  unfold decode
  rw [hinv, if_neg Bool.false_ne_true]
  cases s.dropWhile (inSet digits) with
  | nil => exact ⟨fun h => (nomatch h), fun ⟨_, _, h, _⟩ => (nomatch h)⟩
  | cons a r =>
    simp only [ite_error_eq_ok, Except.ok.injEq, Bool.not_eq_false, decide_eq_true_eq, Bool.not_eq_eq_eq_not, Bool.not_true]
    exact ⟨fun h => ⟨a, r, rfl, h⟩, fun ⟨_, _, e, h⟩ => by cases e; exact h⟩

theorem dropWhile_head {α} (p : α → Bool) (l : List α) (a : α) (r : List α) (h : l.dropWhile p = a :: r) : p a = false := by
  have := List.head?_dropWhile_not p l
  rw [h] at this
  exact this

/-- an accepted reference that is not "INV…" is the concatenation of its four parts; the grid zone is 0–2 digits followed
    by one letter; the block is empty or two letters; easting and northing are digit strings of equal length, empty when the block is; and the
    parts are maximal (the byte after the leading digits is a letter, the one after the letters is not) -/
theorem decode_splits (s : List Nat) (p : Parts) (h : decode s = .ok p)
    (hinv : (decide (s.length ≥ 3) && (s.take 3).map upper == [73, 78, 86]) = false) :
    s = p.gridzone ++ p.block ++ p.easting ++ p.northing ∧
    (∃ d a, p.gridzone = d ++ [a] ∧ d.length ≤ 2 ∧ d.all (inSet digits) = true ∧ inSet alpha a = true) ∧
    (p.block.length = 0 ∨ p.block.length = 2) ∧ p.block.all (inSet alpha) = true ∧
    p.easting.length = p.northing.length ∧ p.easting.all (inSet digits) = true ∧ p.northing.all (inSet digits) = true ∧
    (p.block = [] → p.easting = [] ∧ p.northing = []) := by
  obtain ⟨a, r, hr, c1, c2, c3, c4, c5, c6, rfl⟩ := (decode_ok_iff s p hinv).mp h
  have hsplit := List.takeWhile_append_dropWhile (p := inSet digits) (l := s)
  have hr2 := List.takeWhile_append_dropWhile (p := inSet alpha) (l := r)
  have hal : (r.takeWhile (inSet alpha)).all (inSet alpha) = true := List.all_takeWhile
  rw [hr] at hsplit
  generalize r.takeWhile (inSet alpha) = al at *
  generalize r.dropWhile (inSet alpha) = t at *
  rw [List.all_eq_true] at c5
  refine ⟨?_, ⟨_, a, rfl, c1, List.all_takeWhile, c2⟩, c3, hal, ?_, ?_, ?_, ?_⟩
  · rw [List.append_assoc _ (List.take _ _), List.take_append_drop, List.append_assoc, List.append_assoc, hr2]
    exact hsplit.symm
  · rw [List.length_take, List.length_drop]; omega
  · rw [List.all_eq_true]; exact fun x hx => c5 x (List.mem_of_mem_take hx)
  · rw [List.all_eq_true]; exact fun x hx => c5 x (List.mem_of_mem_drop hx)
  · intro (hb : al = [])
    cases t with
    | nil => exact ⟨rfl, rfl⟩
    | cons x xs => exact absurd ⟨by rw [hb]; rfl, List.cons_ne_nil x xs⟩ c4

theorem takeWhile_dropWhile_append {α} (p : α → Bool) (l r : List α) (hl : l.all p = true) (hr : ∀ x ∈ r.head?, p x = false) :
    (l ++ r).takeWhile p = l ∧ (l ++ r).dropWhile p = r := by
  rw [List.takeWhile_append_of_pos (List.all_eq_true.mp hl), List.dropWhile_append_of_pos (List.all_eq_true.mp hl)]
  cases r with
  | nil => exact ⟨List.append_nil l, rfl⟩
  | cons x xs =>
    have hx : ¬ p x = true := by rw [hr x rfl]; exact Bool.false_ne_true
    rw [List.takeWhile_cons_of_neg hx, List.dropWhile_cons_of_neg hx]
    exact ⟨List.append_nil l, rfl⟩

/-- every byte string of the documented shape — 0–2 digits, a letter, nothing or two more letters and then two digit
    strings of equal length — is accepted and split into exactly those parts (I and O are not letters; a string beginning "INV" is the
    invalid marker instead) -/
theorem decode_complete (d : List Nat) (a : Nat) (blk e n : List Nat)
    (hd : d.length ≤ 2) (hda : d.all (inSet digits) = true) (ha : inSet alpha a = true)
    (hb : blk.length = 0 ∨ blk.length = 2) (hba : blk.all (inSet alpha) = true)
    (hen : e.length = n.length) (he : e.all (inSet digits) = true) (hn : n.all (inSet digits) = true)
    (hbe : blk = [] → e = [] ∧ n = [])
    (hinv : (decide ((d ++ [a] ++ blk ++ e ++ n).length ≥ 3) && ((d ++ [a] ++ blk ++ e ++ n).take 3).map upper == [73, 78, 86]) = false) :
    decode (d ++ [a] ++ blk ++ e ++ n) = .ok ⟨d ++ [a], blk, e, n⟩ := by
  have hall : (e ++ n).all (inSet digits) = true := by rw [List.all_append, he, hn]; rfl
  have e1 : d ++ [a] ++ blk ++ e ++ n = d ++ (a :: (blk ++ (e ++ n))) := by
    simp only [List.append_assoc, List.cons_append, List.nil_append]
  obtain ⟨t1, t2⟩ := takeWhile_dropWhile_append (inSet digits) d (a :: (blk ++ (e ++ n))) hda
    (fun x hx => by cases hx; exact alpha_not_digit _ ha)
  obtain ⟨u1, u2⟩ := takeWhile_dropWhile_append (inSet alpha) blk (e ++ n) hba
    (fun x hx => digit_not_alpha x (List.all_eq_true.mp hall x (List.mem_of_mem_head? hx)))
  rw [← e1] at t1 t2
  refine (decode_ok_iff _ _ hinv).mpr ⟨a, _, t2, ?_⟩
  rw [t1, u1, u2, List.length_append, show (e.length + n.length) / 2 = e.length by omega, List.take_left' rfl, List.drop_left' rfl]
  refine ⟨hd, ha, hb, ?_, hall, by omega, rfl⟩
  rintro ⟨h0, hne⟩
  obtain ⟨h1, h2⟩ := hbe (List.eq_nil_of_length_eq_zero h0)
  rw [h1, h2] at hne
  exact hne rfl

theorem digitGroup_inSet (ix : Int) (prec : Nat) : (toBytes (digitGroup ix prec)).all (inSet digits) = true := by
  rw [List.all_eq_true]
  intro c hc
  obtain ⟨ch, hch, rfl⟩ := List.mem_map.mp hc
  obtain ⟨k, hk, rfl⟩ := digitsW_mem digits 10 (by decide) _ _ ch hch
  exact (digit_facts k hk).2.2

theorem decode_groups (d : List Nat) (a : Nat) (blk : List Nat) (ix iy : Int) (prec : Nat)
    (hd : d.length ≤ 2) (hda : d.all (inSet digits) = true) (ha : inSet alpha a = true)
    (hb : blk.length = 2) (hba : blk.all (inSet alpha) = true)
    (hinv : (decide ((d ++ [a] ++ blk ++ toBytes (digitGroup ix prec) ++ toBytes (digitGroup iy prec)).length ≥ 3) &&
      ((d ++ [a] ++ blk ++ toBytes (digitGroup ix prec) ++ toBytes (digitGroup iy prec)).take 3).map upper == [73, 78, 86]) = false) :
    decode (d ++ [a] ++ blk ++ toBytes (digitGroup ix prec) ++ toBytes (digitGroup iy prec)) =
      .ok ⟨d ++ [a], blk, toBytes (digitGroup ix prec), toBytes (digitGroup iy prec)⟩ :=
  decode_complete d a blk _ _ hd hda ha (Or.inr hb) hba
    (by simp only [digitGroup, toBytes_digitsW_length]) (digitGroup_inSet ix prec) (digitGroup_inSet iy prec)
    (fun h => by rw [h] at hb; cases hb) hinv

/-- **UTM**: `Decode` of the string `Forward` writes returns zone digits + band letter, the two block letters and the digit groups -/
theorem decode_forward_utm (zone : Int) (hz : 1 ≤ zone ∧ zone ≤ 60) (ix iy : Int) (hiy : 0 ≤ iy) (iband : Int) (hib : -10 ≤ iband ∧ iband < 10)
    (prec : Nat) (hxh : 1 ≤ ix / 100000000000 ∧ ix / 100000000000 ≤ 8) :
    decode (toBytes (utmString zone ix iy iband prec)) =
      .ok ⟨toBytes ((utmString zone ix iy iband prec).take 3), toBytes (((utmString zone ix iy iband prec).drop 3).take 2),
           toBytes (digitsW digits 10 prec ((ix - 100000000000 * (ix / 100000000000)) / 10 ^ (11 - prec)).toNat),
           toBytes (digitsW digits 10 prec ((iy - 100000000000 * (iy / 100000000000)) / 10 ^ (11 - prec)).toNat)⟩ := by
  obtain ⟨k1, k2, kcol, _, _, _⟩ := zone_facts zone hz
  obtain ⟨kbd, _, _⟩ := band_facts iband hib
  obtain ⟨kc8, _⟩ := col_facts (ix / 100000000000) hxh
  obtain ⟨kr20, _⟩ := row_facts (iy / 100000000000) zone (Int.ediv_nonneg hiy (by omega))
  have hS := utmString_bytes zone ix iy iband prec
  have h3 : toBytes ((utmString zone ix iy iband prec).take 3) =
      [(chr digits (zone / 10).toNat).toNat, (chr digits (zone % 10).toNat).toNat] ++ [(chr latband (10 + iband).toNat).toNat] := by
    simp [utmString, toBytes]
  have h2 : toBytes (((utmString zone ix iy iband prec).drop 3).take 2) =
      [(chr (utmcols.getD ((zone - 1) % 3).toNat []) (ix / 100000000000 - 1).toNat).toNat,
       (chr utmrow ((iy / 100000000000 + (if (zone - 1) % 2 = 1 then 5 else 0)) % 20).toNat).toNat] := by
    simp [utmString, toBytes]
  rw [hS, h3, h2]
  refine decode_groups _ _ _ ix iy prec (by simp) ?_ (latband_ok.2 _ kbd) rfl ?_ ?_
  · show (inSet digits _ && (inSet digits _ && true)) = true
    rw [(digit_facts _ k1).2.2, (digit_facts _ k2).2.2]; rfl
  · show (inSet alpha _ && (inSet alpha _ && true)) = true
    rw [((utmcols_ok _ kcol).2 _ kc8), (utmrow_ok.2 _ kr20)]; rfl
  · have := (digit_facts _ k1).1
    simp [this]

/-- **UPS** likewise: the grid zone is the single letter A, B, Y or Z -/
theorem decode_forward_ups (northp : Bool) (ix iy : Int) (prec : Nat)
    (hN : northp = true → (13 ≤ ix / 100000000000 ∧ ix / 100000000000 < 27) ∧ (13 ≤ iy / 100000000000 ∧ iy / 100000000000 < 27))
    (hS : northp = false → (8 ≤ ix / 100000000000 ∧ ix / 100000000000 < 32) ∧ (8 ≤ iy / 100000000000 ∧ iy / 100000000000 < 32)) :
    decode (toBytes (upsString northp ix iy prec)) =
      .ok ⟨toBytes ((upsString northp ix iy prec).take 1), toBytes (((upsString northp ix iy prec).drop 1).take 2),
           toBytes (digitsW digits 10 prec ((ix - 100000000000 * (ix / 100000000000)) / 10 ^ (11 - prec)).toNat),
           toBytes (digitsW digits 10 prec ((iy - 100000000000 * (iy / 100000000000)) / 10 ^ (11 - prec)).toNat)⟩ := by
  obtain ⟨ib, hib, _, hstr, ⟨_, hcx⟩, _, hcy⟩ := upsString_letters northp ix iy prec hN hS
  have hrr : (if (ib:Int) ≥ 2 then 1 else 0) < 2 := by split_ifs <;> decide
  have hS : toBytes (upsString northp ix iy prec) =
      [] ++ [(chr upsband ib).toNat] ++ toBytes ((upsLetters ib (ix / 100000000000) (iy / 100000000000)).drop 1) ++
      toBytes (digitGroup ix prec) ++ toBytes (digitGroup iy prec) := by
    rw [hstr]
    simp only [upsLetters, toBytes, List.map_append, List.map_cons, List.map_nil, List.cons_append, List.nil_append, List.append_assoc,
      List.drop_succ_cons, List.drop_zero]
  have h1 : toBytes ((upsString northp ix iy prec).take 1) = [] ++ [(chr upsband ib).toNat] := by
    rw [hstr]; rfl
  have h2 : toBytes (((upsString northp ix iy prec).drop 1).take 2) =
      toBytes ((upsLetters ib (ix / 100000000000) (iy / 100000000000)).drop 1) := by
    rw [hstr]; rfl
  rw [hS, h1, h2]
  refine decode_groups _ _ _ ix iy prec (by simp) rfl (upsband_ok.2 _ hib) rfl ?_ ?_
  · show (inSet alpha _ && (inSet alpha _ && true)) = true
    rw [((upscols_ok _ hib).2 _ hcx), ((upsrows_ok _ hrr).2 _ hcy)]; rfl
  · have := (upsband_facts _ hib).1
    simp [upsLetters, this]

theorem utmString_parts (zone ix iy iband : Int) (prec : Nat) :
    utmString zone ix iy iband prec = (utmString zone ix iy iband 0) ++ digitGroup ix prec ++ digitGroup iy prec := by
  simp [utmString, digitGroup, digitsW]

theorem upsString_parts (northp : Bool) (ix iy : Int) (prec : Nat) :
    upsString northp ix iy prec = (upsString northp ix iy 0) ++ digitGroup ix prec ++ digitGroup iy prec := by
  simp [upsString, digitGroup, digitsW]

/-- the digit group at precision `p` is a prefix of the one at `p + 1` (truncation, not rounding) -/
theorem digitGroup_prefix (ix : Int) (p : Nat) (hp : p < 11) : digitGroup ix p <+: digitGroup ix (p + 1) := by
  unfold digitGroup
  have r0 : 0 ≤ ix - 100000000000 * (ix / 100000000000) := by omega
  obtain ⟨a, ha⟩ := Int.eq_ofNat_of_zero_le r0
  rw [ha]
  have e : ∀ k : Nat, ((a : Int) / 10 ^ k).toNat = a / 10 ^ k := by
    intro k
    have : ((a : Int) / 10 ^ k) = ((a / 10 ^ k : Nat) : Int) := by push_cast; rfl
    rw [this, Int.toNat_natCast]
  rw [e, e]
  exact digits_prefix a p hp

/-- **prefix law, UTM and UPS**: going from precision `p` to `p + 1` keeps the zone digits and the three letters and extends each digit
    group by one digit -/
theorem prefix_law_utm (zone ix iy iband : Int) (p : Nat) (hp : p < 11) :
    ∃ head, utmString zone ix iy iband p = head ++ digitGroup ix p ++ digitGroup iy p ∧
      utmString zone ix iy iband (p + 1) = head ++ digitGroup ix (p + 1) ++ digitGroup iy (p + 1) ∧ head.length = 5 ∧
      digitGroup ix p <+: digitGroup ix (p + 1) ∧ digitGroup iy p <+: digitGroup iy (p + 1) :=
  ⟨utmString zone ix iy iband 0, utmString_parts _ _ _ _ _, utmString_parts _ _ _ _ _, by simp [utmString, digitsW],
    digitGroup_prefix ix p hp, digitGroup_prefix iy p hp⟩

theorem prefix_law_ups (northp : Bool) (ix iy : Int) (p : Nat) (hp : p < 11) :
    ∃ head, upsString northp ix iy p = head ++ digitGroup ix p ++ digitGroup iy p ∧
      upsString northp ix iy (p + 1) = head ++ digitGroup ix (p + 1) ++ digitGroup iy (p + 1) ∧ head.length = 3 ∧
      digitGroup ix p <+: digitGroup ix (p + 1) ∧ digitGroup iy p <+: digitGroup iy (p + 1) :=
  ⟨upsString northp ix iy 0, upsString_parts _ _ _ _, upsString_parts _ _ _ _, by simp [upsString, digitsW],
    digitGroup_prefix ix p hp, digitGroup_prefix iy p hp⟩

/-- the centre (in units of 10⁻⁶ m, rounded down: what `⌊10⁶ x⌋` gives for the centre `Reverse` returns) of the square of `ix` at precision `prec` -/
def centre (ix : Int) (prec : Nat) : Int := (ix / 10 ^ (11 - prec)) * 10 ^ (11 - prec) + 10 ^ (11 - prec) / 2

theorem centre_div (ix : Int) (prec : Nat) : centre ix prec / 10 ^ (11 - prec) = ix / 10 ^ (11 - prec) := by
  have hD : (0 : Int) < 10 ^ (11 - prec) := Int.pow_pos (by decide)
  unfold centre
  rw [Int.add_comm, Int.add_mul_ediv_right _ _ (Int.ne_of_gt hD), Int.ediv_eq_zero_of_lt (by omega) (by omega), Int.zero_add]

theorem centre_tile (ix : Int) (prec : Nat) (hp : prec ≤ 11) : centre ix prec / 100000000000 = ix / 100000000000 := by
  have hD : (0 : Int) ≤ 10 ^ (11 - prec) := (Int.pow_pos (by decide)).le
  rw [tile_split prec hp, ← Int.ediv_ediv_of_nonneg hD, ← Int.ediv_ediv_of_nonneg hD, centre_div]

theorem centre_same_square (ix : Int) (hix : 0 ≤ ix) (prec : Nat) (hp : prec ≤ 11) :
    0 ≤ centre ix prec ∧ centre ix prec / 100000000000 = ix / 100000000000 ∧
    (centre ix prec - 100000000000 * (centre ix prec / 100000000000)) / 10 ^ (11 - prec) =
      (ix - 100000000000 * (ix / 100000000000)) / 10 ^ (11 - prec) := by
  have hD : (0 : Int) < 10 ^ (11 - prec) := Int.pow_pos (by decide)
  refine ⟨?_, centre_tile ix prec hp, ?_⟩
  · have := Int.mul_nonneg (Int.ediv_nonneg hix hD.le) hD.le
    unfold centre; omega
  · show digitPart (centre ix prec) prec = digitPart ix prec
    rw [digitPart_eq _ _ hp, digitPart_eq _ _ hp, centre_div, centre_tile ix prec hp]

/-- **re-encode law, UTM**: the centre of the square of (ix, iy) at precision `prec` lies in the same 100 km tile and has the same digit groups, so
    `Forward` of it — with any latitude band `iband'` that passes `Forward`'s own row-consistency test for that tile — writes the same string
    except for the band letter, which is that of `iband'` (the same string when the band is the same) -/
theorem reencode_utm (zone : Int) (hz : 1 ≤ zone ∧ zone ≤ 60) (northp : Bool) (ix iy : Int) (hix : 0 ≤ ix) (hiy : 0 ≤ iy)
    (iband iband' : Int) (prec : Nat) (hprec : prec ≤ 11)
    (hrow' : utmRow iband' (ix / 100000000000 - 1) (iy / 100000000000 % 20) = iy / 100000000000 - (if northp then 0 else 100)) :
    encodeInt zone northp (centre ix prec) (centre iy prec) iband' prec = .ok (utmString zone ix iy iband' prec) ∧
    utmString zone ix iy iband' prec = (utmString zone ix iy iband prec).set 2 (chr latband (10 + iband').toNat) ∧
    (iband' = iband → utmString zone ix iy iband' prec = utmString zone ix iy iband prec) := by
  obtain ⟨cx0, cx1, cx2⟩ := centre_same_square ix hix prec hprec
  obtain ⟨cy0, cy1, cy2⟩ := centre_same_square iy hiy prec hprec
  have cx3 := cx2; rw [cx1] at cx3
  have cy3 := cy2; rw [cy1] at cy3
  refine ⟨?_, ?_, fun h => by rw [h]⟩
  · have h := encodeInt_utm zone hz northp (centre ix prec) (centre iy prec) cx0 cy0 iband' prec hprec (by rw [cx1, cy1]; exact hrow')
    rw [h]
    unfold utmString
    simp only [cx1, cy1, cx3, cy3]
  · simp [utmString]

/-- **re-encode law, UPS**: `Forward` of the centre of the square writes the same string (there is no band letter to change) -/
theorem reencode_ups (northp : Bool) (ix iy : Int) (hix : 0 ≤ ix) (hiy : 0 ≤ iy) (iband : Int) (prec : Nat) (hprec : prec ≤ 11) :
    encodeInt 0 northp (centre ix prec) (centre iy prec) iband prec = .ok (upsString northp ix iy prec) := by
  obtain ⟨cx0, cx1, cx2⟩ := centre_same_square ix hix prec hprec
  obtain ⟨cy0, cy1, cy2⟩ := centre_same_square iy hiy prec hprec
  have cx3 := cx2; rw [cx1] at cx3
  have cy3 := cy2; rw [cy1] at cy3
  rw [encodeInt_ups northp (centre ix prec) (centre iy prec) cx0 cy0 iband prec hprec]
  unfold upsString
  simp only [cx1, cy1, cx3, cy3]

/-- what `Reverse` returns for the string is that centre: `(2·x1 + 1)/(2·10^prec)` tiles with `x1 = ⌊ix / 10^(11−prec)⌋` is `centre` up to the
    half micrometre lost at precision 11 (integer level of `reverse_forward_*` with `centerp`) -/
theorem centre_is_reverse (ix : Int) (hix : 0 ≤ ix) (prec : Nat) (hprec : prec ≤ 11) :
    let x1 := (ix / 100000000000) * 10 ^ prec + (ix - 100000000000 * (ix / 100000000000)) / 10 ^ (11 - prec)
    centre ix prec = (100000000000 * (2 * x1 + 1)) / (2 * 10 ^ prec) := by
  have hP : (0 : Int) < 10 ^ prec := Int.pow_pos (by decide)
  have hx : ix / 100000000000 * 10 ^ prec + digitPart ix prec = ix / 10 ^ (11 - prec) := by
    rw [digitPart_eq _ _ hprec, Int.mul_comm]; omega
  show centre ix prec = (100000000000 * (2 * (ix / 100000000000 * 10 ^ prec + digitPart ix prec) + 1)) / (2 * 10 ^ prec)
  -- 10¹¹·(2x + 1) / (2·10^prec) = 10^(11−prec)·(2x + 1) / 2 = 10^(11−prec)·x + 10^(11−prec) / 2
  rw [hx, tile_split prec hprec, Int.mul_comm _ (10 ^ prec), Int.mul_assoc, Int.mul_comm 2 (10 ^ prec), Int.mul_ediv_mul_of_pos _ _ hP]
  unfold centre
  rw [Int.mul_add, Int.mul_one, Int.mul_left_comm, Int.mul_comm (ix / 10 ^ (11 - prec))]
  omega

example : centre 444500000000 2 = 444500000000 ∧ centre 444123456789 2 = 444500000000 ∧ centre 444123456789 11 = 444123456789 := by decide +kernel

/-- **accepted ⇔** both coordinates are below 2³¹ in magnitude and each tile index lies in its half-open range or the coordinate sits exactly
    on the excluded upper end (tables re-extracted from MGRS.cpp; `ix = ⌊x / 10⁵⌋` in binary64) -/
theorem checkCoords_accept_iff (utmp northp : Bool) (x y : F64) :
    (∃ c, checkCoords utmp northp x y = .ok c) ↔
      (F64.lt (F64.abs x) (F64.ofInt 2147483647) && F64.lt (F64.abs y) (F64.ofInt 2147483647)) = true ∧
      (∃ x1, clampTile "easting out of range" (UTMUPS.fl (x / ftile)) (mgrs_tbl_mineasting.getD (UTMUPS.ind utmp northp) 0)
              (mgrs_tbl_maxeasting.getD (UTMUPS.ind utmp northp) 0) x = .ok x1) ∧
      (∃ y1, clampTile "northing out of range" (UTMUPS.fl (y / ftile)) (mgrs_tbl_minnorthing.getD (UTMUPS.ind utmp northp) 0)
              (mgrs_tbl_maxnorthing.getD (UTMUPS.ind utmp northp) 0)
              (if F64.lt y 0 && UTMUPS.fl (y / ftile) == 0 then 0 else y) = .ok y1) := by
  unfold checkCoords
  by_cases hb : (F64.lt (F64.abs x) (F64.ofInt 2147483647) && F64.lt (F64.abs y) (F64.ofInt 2147483647)) = true
  · simp only [hb, Bool.not_true, Bool.false_eq_true, if_false, true_and]
    cases hx : clampTile "easting out of range" (UTMUPS.fl (x / ftile)) (mgrs_tbl_mineasting.getD (UTMUPS.ind utmp northp) 0)
        (mgrs_tbl_maxeasting.getD (UTMUPS.ind utmp northp) 0) x with
    | error e => simp [bind, Except.bind]
    | ok x1 =>
      cases hy : clampTile "northing out of range" (UTMUPS.fl (y / ftile)) (mgrs_tbl_minnorthing.getD (UTMUPS.ind utmp northp) 0)
          (mgrs_tbl_maxnorthing.getD (UTMUPS.ind utmp northp) 0) (if F64.lt y 0 && UTMUPS.fl (y / ftile) == 0 then 0 else y) with
      | error e => simp [bind, Except.bind]
      | ok y1 => cases utmp <;> simp [bind, Except.bind, pure, Except.pure]
  · simp [hb, bind, Except.bind, throw, throwThe, MonadExceptOf.throw]

theorem ftile_fin : ftile = F64.fin false 100000 0 := rfl

/-- the tile index `⌊y / 10⁵⌋` as computed: one correctly rounded division (no overflow for `|y| ≤ 10⁷`), then `floor` -/
theorem tile_index (s : Bool) (m : ℕ) (e : ℤ) (h : |(F64.fin s m e).val| ≤ 10000000) :
    ∃ r : ℚ, IsRN 53 (-1074) ((F64.fin s m e).val / 100000) r ∧ UTMUPS.fl (F64.fin s m e / ftile) = ⌊r⌋ := by
  have hzabs : |(F64.fin s m e).val / ((100000:ℕ):ℚ)| ≤ 2 ^ 52 := by
    rw [abs_div, div_le_iff₀ (by norm_num)]; norm_num; linarith
  obtain ⟨r, hr, _, hv⟩ := (F64.hasVal_div_rn (F64.hasVal_fin s m e) (F64.hasVal_nat 100000) (by norm_num)).small hzabs
  rw [Nat.cast_ofNat] at hr
  exact ⟨r, hr, by rw [C04.fl_eq_floor, ftile_fin, hv]⟩

theorem tile_index_bounds (s : Bool) (m : ℕ) (e : ℤ) (h : |(F64.fin s m e).val| ≤ 10000000) (lo hi : ℤ)
    (hlo : |lo| ≤ 2 ^ 53) (hhi : |hi| ≤ 2 ^ 53) (h1 : (lo:ℚ) * 100000 ≤ (F64.fin s m e).val) (h2 : (F64.fin s m e).val ≤ hi * 100000) :
    lo ≤ UTMUPS.fl (F64.fin s m e / ftile) ∧ UTMUPS.fl (F64.fin s m e / ftile) ≤ hi := by
  obtain ⟨r, hr, hfl⟩ := tile_index s m e h
  have r1 := hr.int_le lo hlo (by rw [le_div_iff₀ (by norm_num)]; exact h1)
  have r2 := hr.le_int hi hhi (by rw [div_le_iff₀ (by norm_num)]; exact h2)
  rw [hfl]
  exact ⟨Int.le_floor.mpr r1, Int.lt_add_one_iff.mp (Int.floor_lt.mpr (by push_cast; linarith))⟩

/-- `h3`: the quotient by the tile size does not underflow to zero -/
theorem north_row (s : Bool) (m : ℕ) (e : ℤ) (h1 : -9000000 ≤ (F64.fin s m e).val) (h2 : (F64.fin s m e).val < 0)
    (h3 : UTMUPS.fl (F64.fin s m e / ftile) ≠ 0) :
    -90 ≤ UTMUPS.fl (F64.fin s m e / ftile) ∧ UTMUPS.fl (F64.fin s m e / ftile) < 0 := by
  obtain ⟨f1, f2⟩ := tile_index_bounds s m e (abs_le.mpr ⟨by linarith, by linarith⟩) (-90) 0 (by norm_num) (by norm_num)
    (by push_cast; linarith) (by push_cast; linarith)
  exact ⟨f1, lt_of_le_of_ne f2 h3⟩

/-- the folded northing `y + 10⁷` (one rounding) is a finite double in `[10⁶, 10⁷]`, and if it is below `10⁷` it is at most the double before `10⁷` -/
theorem folded_northing (s : Bool) (m : ℕ) (e : ℤ) (h1 : -9000000 ≤ (F64.fin s m e).val) (h2 : (F64.fin s m e).val < 0) :
    ∃ s' m' e', F64.fin s m e + F64.ofInt 10000000 = F64.fin s' m' e' ∧ 1000000 ≤ (F64.fin s' m' e').val ∧ (F64.fin s' m' e').val ≤ 10000000 ∧
      ((F64.fin s' m' e').val < 10000000 → (F64.fin s' m' e').val ≤ 10000000 - (2:ℚ) ^ (-29 : ℤ)) := by
  set z := (F64.fin s m e).val + 10000000 with hz
  have z1 : (1000000 : ℚ) ≤ z := by rw [hz]; linarith
  have z2 : z < 10000000 := by rw [hz]; linarith
  have hzabs : |z| ≤ 2 ^ 52 := by rw [abs_le]; constructor <;> norm_num <;> linarith
  obtain ⟨r, hr, hf, hv⟩ := (F64.hasVal_add_rn (F64.hasVal_fin s m e) (F64.hasVal_ofInt 10000000)).small
    (by push_cast; exact hzabs)
  push_cast at hr
  rw [← hz] at hr
  have r1 := hr.int_le 1000000 (by norm_num) (by push_cast; exact z1)
  have r2 := hr.le_int 10000000 (by norm_num) (by push_cast; exact le_of_lt z2)
  push_cast at r1 r2
  obtain ⟨s', m', e', hsum⟩ := F64.exists_fin_of_isFinite _ hf
  rw [hsum] at hv
  refine ⟨s', m', e', hsum, by rw [hv]; exact r1, by rw [hv]; exact r2, ?_⟩
  rw [hv]
  intro hlt
  by_cases h23 : (2:ℚ) ^ (23 : ℤ) ≤ r
  · -- a double in the binade [2²³, 2²⁴) is a multiple of 2⁻²⁹, and so is 10⁷ = (10⁷·2²⁹)·2⁻²⁹
    obtain ⟨j, hj⟩ := (RN.rep hr).onGrid_of_ge 24 (by rw [abs_of_pos (by linarith)]; exact h23)
    rw [show max ((24:ℤ) - 53) (-1074) = -29 by norm_num] at hj
    have hp : (0:ℚ) < (2:ℚ) ^ (-29 : ℤ) := by positivity
    have e29 : (10000000 : ℚ) = ((10000000 * 2 ^ 29 : ℤ) : ℚ) * (2:ℚ) ^ (-29 : ℤ) := by
      push_cast; norm_num [zpow_neg]
    rw [hj, e29] at hlt
    have hjlt : j < 10000000 * 2 ^ 29 := by exact_mod_cast lt_of_mul_lt_mul_right hlt hp.le
    have hjle : (j:ℚ) ≤ ((10000000 * 2 ^ 29 : ℤ) : ℚ) - 1 := by exact_mod_cast Int.le_sub_one_of_lt hjlt
    rw [hj, e29, ← sub_one_mul]
    exact mul_le_mul_of_nonneg_right hjle hp.le
  · have : (2:ℚ) ^ (23 : ℤ) ≤ 10000000 - (2:ℚ) ^ (-29 : ℤ) := by norm_num [zpow_neg]
    linarith

/-- the row of a southern northing in `[10⁶, 10⁷]`: 100 exactly on the equator, 10 … 99 below the last double before it -/
theorem south_row (s : Bool) (m : ℕ) (e : ℤ) (h1 : 1000000 ≤ (F64.fin s m e).val) (h2 : (F64.fin s m e).val ≤ 10000000) :
    ((F64.fin s m e).val = 10000000 → UTMUPS.fl (F64.fin s m e / ftile) = 100) ∧
    ((F64.fin s m e).val ≤ 10000000 - (2:ℚ) ^ (-29 : ℤ) → 10 ≤ UTMUPS.fl (F64.fin s m e / ftile) ∧ UTMUPS.fl (F64.fin s m e / ftile) < 100) := by
  have habs : |(F64.fin s m e).val| ≤ 10000000 := abs_le.mpr ⟨by linarith, h2⟩
  constructor
  · intro heq
    obtain ⟨f1, f2⟩ := tile_index_bounds s m e habs 100 100 (by norm_num) (by norm_num) (by rw [heq]; norm_num) (by rw [heq]; norm_num)
    exact le_antisymm f2 f1
  · intro hle
    refine ⟨(tile_index_bounds s m e habs 10 100 (by norm_num) (by norm_num) (by push_cast; linarith) (by push_cast; linarith)).1, ?_⟩
    -- the quotient is at most 100 − 2⁻⁴⁶, which is a double: so is its rounding
    obtain ⟨r, hr, hfl⟩ := tile_index s m e habs
    have hz' : (F64.fin s m e).val / 100000 ≤ 100 - (2:ℚ) ^ (-46 : ℤ) := by
      rw [div_le_iff₀ (by norm_num)]
      have : (2:ℚ) ^ (-29 : ℤ) ≥ (2:ℚ) ^ (-46 : ℤ) * 100000 := by norm_num [zpow_neg]
      linarith
    have hrep := IsRN.self_of_fits (p := 53) (by norm_num) (emin := -1074) (100 * 2 ^ 46 - 1) (-46) (by norm_num) (by norm_num)
    have e46 : (((100 * 2 ^ 46 - 1 : ℤ) : ℚ)) * (2:ℚ) ^ (-46 : ℤ) = 100 - (2:ℚ) ^ (-46 : ℤ) := by
      push_cast; norm_num [zpow_neg]
    rw [e46] at hrep
    have r4 := IsRN.mono (by norm_num) hr hrep hz'
    have hp : (0:ℚ) < (2:ℚ) ^ (-46 : ℤ) := by positivity
    rw [hfl, Int.floor_lt]; push_cast; linarith

theorem eq_ofInt_fin (n : ℤ) (s : Bool) (m : ℕ) (e : ℤ) : F64.eq (F64.fin s m e) (F64.ofInt n) = true ↔ (F64.fin s m e).val = n := by
  rw [F64.eq_fin_iff _ _ rfl rfl, F64.val_ofInt]

theorem abs_lt_imax (s : Bool) (m : ℕ) (e : ℤ) (h : |(F64.fin s m e).val| < 2147483647) :
    F64.lt (F64.abs (F64.fin s m e)) (F64.ofInt 2147483647) = true := by
  rw [F64.lt_iff rfl rfl, F64.val_abs, F64.val_ofInt]
  exact_mod_cast h

/-- **`CheckCoords` does not depend on which hemisphere label carries a UTM northing across the equator**: for a "northern" northing
    `y ∈ [−9·10⁶, 0)` (not so small that `y / 10⁵` underflows to zero) the call with the northern label and the call with the southern label and
    northing `y + 10⁷` (the binary64 sum) return the same folded coordinates -/
theorem checkCoords_labelling (x : F64) (s : Bool) (m : ℕ) (e : ℤ) (h1 : -9000000 ≤ (F64.fin s m e).val) (h2 : (F64.fin s m e).val < 0)
    (h3 : UTMUPS.fl (F64.fin s m e / ftile) ≠ 0) :
    checkCoords true true x (F64.fin s m e) = checkCoords true false x (F64.fin s m e + F64.ofInt 10000000) := by
  obtain ⟨n1, n2⟩ := north_row s m e h1 h2 h3
  obtain ⟨s', m', e', hsum, f1, f2, f3⟩ := folded_northing s m e h1 h2
  obtain ⟨c1, c2⟩ := south_row s' m' e' f1 f2
  rw [hsum]
  have gy : F64.lt (F64.abs (F64.fin s m e)) (F64.ofInt 2147483647) = true :=
    abs_lt_imax s m e (by rw [abs_lt]; constructor <;> linarith)
  have gy' : F64.lt (F64.abs (F64.fin s' m' e')) (F64.ofInt 2147483647) = true :=
    abs_lt_imax s' m' e' (by rw [abs_lt]; constructor <;> linarith)
  have ylt : F64.lt (F64.fin s' m' e') 0 = false := by
    have z : (0 : F64) = F64.ofInt 0 := rfl
    rw [z, Bool.eq_false_iff, Ne, C04.lt_ofInt_fin]; push_cast; linarith
  have ne0 : (UTMUPS.fl (F64.fin s m e / ftile) == 0) = false := by simpa using h3
  have tE : mgrs_tbl_mineasting.getD (UTMUPS.ind true true) 0 = mgrs_tbl_mineasting.getD (UTMUPS.ind true false) 0 ∧
      mgrs_tbl_maxeasting.getD (UTMUPS.ind true true) 0 = mgrs_tbl_maxeasting.getD (UTMUPS.ind true false) 0 := by decide
  have tN : mgrs_tbl_minnorthing.getD (UTMUPS.ind true true) 0 = -90 ∧ mgrs_tbl_maxnorthing.getD (UTMUPS.ind true true) 0 = 95 ∧
      mgrs_tbl_minnorthing.getD (UTMUPS.ind true false) 0 = 10 ∧ mgrs_tbl_maxnorthing.getD (UTMUPS.ind true false) 0 = 195 := by decide
  have hsh : F64.fin s m e + F64.ofInt mgrs_utmNshift = F64.fin s' m' e' := hsum
  have hS : mgrs_maxutmSrow * tile = 10000000 := by decide
  unfold checkCoords
  simp only [gy, gy', Bool.and_true, ylt, ne0, Bool.and_false, Bool.false_and, Bool.false_eq_true, if_false, tE.1, tE.2, tN.1, tN.2.1, tN.2.2.1, tN.2.2.2,
    if_true]
  cases hx : clampTile "easting out of range" (UTMUPS.fl (x / ftile)) (mgrs_tbl_mineasting.getD (UTMUPS.ind true false) 0)
      (mgrs_tbl_maxeasting.getD (UTMUPS.ind true false) 0) x with
  | error er => cases hgx : F64.lt (F64.abs x) (F64.ofInt 2147483647) <;> simp [bind, Except.bind, throw, throwThe, MonadExceptOf.throw]
  | ok x1 =>
    cases hgx : F64.lt (F64.abs x) (F64.ofInt 2147483647)
    · simp [bind, Except.bind, throw, throwThe, MonadExceptOf.throw]
    · have k1 : clampTile "northing out of range" (UTMUPS.fl (F64.fin s m e / ftile)) (-90) 95 (F64.fin s m e) = .ok (F64.fin s m e) := by
        unfold clampTile; rw [if_pos ⟨n1, by omega⟩]
      by_cases heq : (F64.fin s' m' e').val = 10000000
      · have r100 := c1 heq
        have k2 : clampTile "northing out of range" 100 10 195 (F64.fin s' m' e') = .ok (F64.fin s' m' e') := by
          unfold clampTile; rw [if_pos ⟨by omega, by omega⟩]
        have hS' : (100 : ℤ) * tile = 10000000 := by decide
        have eqt : F64.eq (F64.fin s' m' e') (F64.ofInt (100 * tile)) = true := by
          rw [hS', eq_ofInt_fin]; exact_mod_cast heq
        simp [bind, Except.bind, pure, Except.pure, k1, k2, foldNorthing, n2, mgrs_minutmNrow, hsh, eqt, r100, mgrs_maxutmSrow]
      · have hlt : (F64.fin s' m' e').val < 10000000 := lt_of_le_of_ne f2 heq
        obtain ⟨r10, r99⟩ := c2 (f3 hlt)
        have k2 : clampTile "northing out of range" (UTMUPS.fl (F64.fin s' m' e' / ftile)) 10 195 (F64.fin s' m' e') = .ok (F64.fin s' m' e') := by
          unfold clampTile; rw [if_pos ⟨by omega, by omega⟩]
        have eqf : F64.eq (F64.fin s' m' e') (F64.ofInt (mgrs_maxutmSrow * tile)) = false := by
          rw [hS, Bool.eq_false_iff, Ne, eq_ofInt_fin]; exact_mod_cast heq
        have nge : ¬ (UTMUPS.fl (F64.fin s' m' e' / ftile) ≥ mgrs_maxutmSrow) := by show ¬ (_ ≥ (100:ℤ)); omega
        simp [bind, Except.bind, pure, Except.pure, k1, k2, foldNorthing, n2, mgrs_minutmNrow, hsh, eqf, nge]

/-- **equivalent labelling** (MGRS.hpp: "UTM northings can be continued across the equator"): on the binary64 model, for every UTM zone, easting,
    latitude argument and precision, `Forward(zone, north, x, y, lat, prec)` with `−9·10⁶ ≤ y < 0` is `Forward(zone, south, x, y + 10⁷, lat, prec)`
    — the same string or the same exception — where `y + 10⁷` is the binary64 sum (also when that sum rounds to `10⁷`: the case of fix d94b3ac).
    Excluded: `|y|` so small that `y / 10⁵` underflows to zero (below about 10⁻³¹⁸ m; the point is then taken to be on the equator, band N). -/
theorem equivalent_labelling (zone : Int) (hz : zone ≠ 0) (x lat : F64) (prec : Int) (s : Bool) (m : ℕ) (e : ℤ)
    (h1 : -9000000 ≤ (F64.fin s m e).val) (h2 : (F64.fin s m e).val < 0) (h3 : UTMUPS.fl (F64.fin s m e / ftile) ≠ 0) :
    forwardLat zone true x (F64.fin s m e) lat prec = forwardLat zone false x (F64.fin s m e + F64.ofInt 10000000) lat prec := by
  have hc := checkCoords_labelling x s m e h1 h2 h3
  obtain ⟨s', m', e', hsum, _, _, _⟩ := folded_northing s m e h1 h2
  unfold forwardLat
  have n1 : (F64.fin s m e).isNaN = false := rfl
  have n2 : (F64.fin s m e + F64.ofInt 10000000).isNaN = false := by rw [hsum]; rfl
  have hu : decide (zone ≠ 0) = true := by simpa using hz
  simp only [n1, n2, hu, hc]

/-- the overload without a latitude argument: the same, whenever the cheap latitude estimates of the two labellings select the same latitude
    (they are computed from `y` resp. `(y + 10⁷) − 10⁷`, which differ by the rounding of the sum) -/
theorem equivalent_labelling_auto (zone : Int) (hz : zone > 0) (x : F64) (prec : Int) (k : Except MGRS.Err F64) (s : Bool) (m : ℕ) (e : ℤ)
    (h1 : -9000000 ≤ (F64.fin s m e).val) (h2 : (F64.fin s m e).val < 0) (h3 : UTMUPS.fl (F64.fin s m e / ftile) ≠ 0)
    (hl : latEstimate true (F64.fin s m e) = latEstimate false (F64.fin s m e + F64.ofInt 10000000)) :
    forward zone true x (F64.fin s m e) prec k = forward zone false x (F64.fin s m e + F64.ofInt 10000000) prec k := by
  unfold forward
  simp only [hz, if_true, hl]
  cases latEstimate false (F64.fin s m e + F64.ofInt 10000000) with
  | some l => simp only [bind, Except.bind, pure, Except.pure]; exact equivalent_labelling zone (by omega) x l prec s m e h1 h2 h3
  | none =>
    cases k with
    | error er => rfl
    | ok l => simp only [bind, Except.bind]; exact equivalent_labelling zone (by omega) x l prec s m e h1 h2 h3

/-- non-vacuity: y = −1234567.25 m (row −13) and y = −2⁻⁴⁰ m (the sum rounds to 10⁷) satisfy the hypotheses; zone 31, 500 km east, precision 5 -/
example : (-9000000 : ℚ) ≤ (F64.fin true 4938269 (-2)).val ∧ (F64.fin true 4938269 (-2)).val < 0 := by
  rw [F64.val_fin]; norm_num [zpow_neg]
example : UTMUPS.fl (F64.fin true 4938269 (-2) / ftile) = -13 ∧ UTMUPS.fl (F64.fin true 1 (-40) / ftile) = -1 := by decide +kernel
example : (match forwardLat 31 true (F64.ofInt 500000) (F64.fin true 1 (-40)) (F64.fin true 1 (-60)) 5,
                 forwardLat 31 false (F64.ofInt 500000) (F64.fin true 1 (-40) + F64.ofInt 10000000) (F64.fin true 1 (-60)) 5 with
    | .ok a, .ok b => a == b && a == "31MEV0000099999".toList | _, _ => false) = true := by decide +kernel

end GeoVerif.Props.C05
